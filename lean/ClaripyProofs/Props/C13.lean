import ClaripyProofs.Lemmas.Solver.Independent
/-!
# C13 — replacement and hybrid solvers are exact; approximate modes over-approximate

ReplacementFrontend keeps a map `old ↦ new` learnt from added constraints (`x == 5`, `Not(b)`), rewrites later
constraints and queries with it and hands them to an actual frontend.  What makes that exact:
  * every replacement is implied by the constraints held by the actual frontend (`AgreeOn`, `AgreeOnC`);
  * the constraint a replacement was learnt from reaches the actual frontend UNREPLACED (rewriting it into `5 == 5` and
    dropping it is the defect repaired in /repo; `C13_dropping_definition_unsound` is its witness).
-/
namespace Claripy.Props.C13
open Claripy.Solver

/-- two expressions agree on every model of the constraints (what a valid replacement `old ↦ new` means) -/
def AgreeOn (cs : List Con) (e e' : Exp) : Prop := ∀ a, Models cs a → e.val a = e'.val a

def AgreeOnC (cs : List Con) (c c' : Con) : Prop := ∀ a, Models cs a → c.sem a = c'.sem a

/-- querying the replaced expression gives the feasible values of the original one -/
theorem C13_replaced_query_exact (cs : List Con) (e e' : Exp) (h : AgreeOn cs e e') (v : Nat) :
    Feasible cs e v ↔ Feasible cs e' v := by
  constructor
  · rintro ⟨a, ha, hv⟩; exact ⟨a, ha, by rw [← h a ha]; exact hv⟩
  · rintro ⟨a, ha, hv⟩; exact ⟨a, ha, by rw [h a ha]; exact hv⟩

/-- … and the same optimum -/
theorem C13_replaced_optimum_exact (cs : List Con) (e e' : Exp) (h : AgreeOn cs e e') (hb : e.bits = e'.bits)
    (isMax signed : Bool) (i : Int) : IsOpt isMax signed cs e i ↔ IsOpt isMax signed cs e' i := by
  simp only [IsOpt, C13_replaced_query_exact cs e e' h, hb]

/-- adding the rewritten form of a constraint is adding the constraint, PROVIDED the constraints the rewriting
relies on (`defs`, those the replacements were learnt from) are kept -/
theorem C13_actual_equiv (defs rest rest' : List Con)
    (hlen : rest.length = rest'.length)
    (h : ∀ i (hi : i < rest.length), AgreeOnC defs rest[i] (rest'[i]'(hlen ▸ hi))) (a : Asg) :
    Models (defs ++ rest') a ↔ Models (defs ++ rest) a := by
  rw [models_append, models_append]
  refine and_congr_right fun hd => ?_
  constructor
  · intro hr c hc
    obtain ⟨i, hi, rfl⟩ := List.getElem_of_mem hc
    rw [h i hi a hd]
    exact hr _ (List.getElem_mem _)
  · intro hr c hc
    obtain ⟨i, hi, rfl⟩ := List.getElem_of_mem hc
    have hi' : i < rest.length := hlen ▸ hi
    rw [← h i hi' a hd]
    exact hr _ (List.getElem_mem _)

/-- the defect repaired in /repo: if the defining constraint itself is rewritten (into `true`) and dropped, the
actual frontend is NOT equivalent — witness `y == x + 1` then `x == 5` over 3-bit values -/
theorem C13_dropping_definition_unsound :
    ¬ (∀ (defs rest : List Con) (a : Asg), Models rest a → Models (defs ++ rest) a) := by
  intro h
  have := h [{ id := 2, vars := [0], sem := fun a => decide (a 0 = 5) }]
            [{ id := 1, vars := [0, 1], sem := fun a => decide (a 1 = (a 0 + 1) % 8) }]
            (fun v => if v = 1 then 1 else 0)
            (by intro c hc; simp at hc; subst hc; decide)
  have h2 := this { id := 2, vars := [0], sem := fun a => decide (a 0 = 5) } (by simp)
  revert h2; decide

/-- approximate mode: an answer set that contains the approximate frontend's over-approximation of the values
contains every value that exists -/
theorem C13_over_approx (cs : List Con) (e : Exp) (approx : List Nat)
    (hsound : ∀ v, Feasible cs e v → v ∈ approx) (answer : List Nat) (hall : ∀ v ∈ approx, v ∈ answer) :
    ∀ v, Feasible cs e v → v ∈ answer := fun v hv => hall v (hsound v hv)

/-- non-vacuity of `AgreeOn`: under `x == 5` the expression `x + 1` agrees with the constant 6 -/
example : AgreeOn [{ id := 1, vars := [0], sem := fun a => decide (a 0 = 5) }]
    { id := 1, bits := 3, vars := [0], val := fun a => (a 0 + 1) % 8 } { id := 2, bits := 3, vars := [], val := fun _ => 6 } := by
  intro a ha
  have := ha _ (List.mem_singleton.mpr rfl)
  simp at this ⊢
  simp [this]

end Claripy.Props.C13

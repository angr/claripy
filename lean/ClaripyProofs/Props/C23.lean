import ClaripyProofs.Lemmas.VSA.Lift
import ClaripyProofs.Lemmas.VSA.SetQueries
import ClaripyProofs.Lemmas.VSA.Lub
import Claripy.VSA.Conc
import ClaripyProofs.Lemmas.VSA.ValueSetSound
/-!
# C23 — discrete interval sets and region value sets are sound abstractions

The set-level operations of `DiscreteStridedIntervalSet` are `apply_on_each_si` liftings of the interval operations
followed by `normalize` (which may `collapse`).  The theorems below are *generic*: whatever interval operation is
sound on every pair of members (C21) is sound on sets, for every iteration order of the Python sets involved; the
join used by `collapse` enters as the hypothesis `JoinOK` (C22: `pseudo_join` contains both arguments).
For value sets the same holds region by region.
-/
namespace Claripy.Props.C23
open Claripy.VSA

/-- lifting of a binary operation (`__add__`, `__and__`, `__lshift__`, …) -/
theorem C23_lift2 (P : SI → Prop) (hJ : JoinOK P) (op : SI → SI → R SI) (f : Nat → Nat → Nat)
    (a : DSIS) (bs : List SI) (order : List Nat) (v : Val)
    (hop : ∀ s t r x y, s ∈ a.sis → t ∈ bs → s.mem x → t.mem y → op s t = .ok r → r.mem (f x y))
    (hPr : ∀ s t r, s ∈ a.sis → t ∈ bs → op s t = .ok r → P r)
    (h : a.lift2 op bs order = .ok v) (x y : Nat) (hx : a.mem x) (hy : memL bs y) : v.mem (f x y) :=
  lift2_sound P hJ op f a bs order v hop hPr h x y hx hy

/-- lifting of a unary operation (`__neg__`, `__invert__`, `zero_extend`, `sign_extend`, …) -/
theorem C23_lift1 (P : SI → Prop) (hJ : JoinOK P) (op : SI → R SI) (f : Nat → Nat)
    (a : DSIS) (order : List Nat) (v : Val)
    (hop : ∀ s r x, s ∈ a.sis → s.mem x → op s = .ok r → r.mem (f x))
    (hPr : ∀ s r, s ∈ a.sis → op s = .ok r → P r)
    (h : a.lift1 op order = .ok v) (x : Nat) (hx : a.mem x) : v.mem (f x) :=
  lift1_sound P hJ op f a order v hop hPr h x hx

/-- `collapse()` contains every member of the set -/
theorem C23_collapse (P : SI → Prop) (hJ : JoinOK P) (d : DSIS) (r : SI) (hP : ∀ s, s ∈ d.sis → P s)
    (h : d.collapse = .ok r) (x : Nat) (hx : d.mem x) : r.mem x :=
  collapse_sound P hJ d r hP h x hx

/-- `normalize()` (collapse above 256 values, unwrap a singleton set) keeps every member -/
theorem C23_normalize (P : SI → Prop) (hJ : JoinOK P) (d : DSIS) (v : Val) (hP : ∀ s, s ∈ d.sis → P s)
    (h : d.normalize = .ok v) (x : Nat) (hx : d.mem x) : v.mem x :=
  normalize_sound P hJ d v hP h x hx

/-- value sets: an operation with an interval operand is sound in every region separately -/
theorem C23_valueset_per_region (v v' : VS) (op : SI → R SI) (f : Nat → Nat)
    (hop : ∀ s r x, s.mem x → op s = .ok r → r.mem (f x))
    (h : v.mapRegions op = .ok v') (region : String) (x : Nat) (hx : v.memAt region x) : v'.memAt region (f x) :=
  mapRegions_sound v v' op f hop h region x hx

/-- an instance with the per-member theorem already proved: `+` on sets of intervals is sound (given `JoinOK`) -/
theorem C23_dsis_add_sound (hJ : JoinOK (fun s => s.WF)) (a : DSIS) (bs : List SI) (order : List Nat) (v : Val)
    (hwa : ∀ s, s ∈ a.sis → s.WF ∧ s.bits = a.bits) (hwb : ∀ t, t ∈ bs → t.WF ∧ t.bits = a.bits)
    (hPr : ∀ s t, s ∈ a.sis → t ∈ bs → (s.add t).WF)
    (h : a.lift2 (fun s t => pure (s.add t)) bs order = .ok v) (x y : Nat) (hx : a.mem x) (hy : memL bs y) :
    v.mem ((x + y) % 2 ^ a.bits) :=
  dsis_add (fun s => s.WF) hJ a.bits a bs order v hwa hwb hPr h x y hx hy

/-! ### with the join obligation discharged (C22_pseudo_join_sup) -/

/-- `collapse()` contains every member — unconditionally, for sets of well-formed intervals of one width -/
theorem C23_collapse_sound (w : Nat) (d : DSIS) (r : SI) (hP : ∀ s, s ∈ d.sis → s.WF ∧ s.bits = w)
    (h : d.collapse = .ok r) (x : Nat) (hx : d.mem x) : r.mem x :=
  collapse_sound (WFw w) (joinOK w) d r hP h x hx

/-- `normalize()` keeps every member — unconditionally -/
theorem C23_normalize_sound (w : Nat) (d : DSIS) (v : Val) (hP : ∀ s, s ∈ d.sis → s.WF ∧ s.bits = w)
    (h : d.normalize = .ok v) (x : Nat) (hx : d.mem x) : v.mem x :=
  normalize_sound (WFw w) (joinOK w) d v hP h x hx

/-- `dsis + (dsis | interval)` is sound — unconditionally (add_sound + lifting + join) -/
theorem C23_dsis_add (a : DSIS) (bs : List SI) (order : List Nat) (v : Val)
    (hwa : ∀ s, s ∈ a.sis → s.WF ∧ s.bits = a.bits) (hwb : ∀ t, t ∈ bs → t.WF ∧ t.bits = a.bits)
    (hPr : ∀ s t, s ∈ a.sis → t ∈ bs → (s.add t).WF ∧ (s.add t).bits = a.bits)
    (h : a.lift2 (fun s t => pure (s.add t)) bs order = .ok v) (x y : Nat) (hx : a.mem x) (hy : memL bs y) :
    v.mem ((x + y) % 2 ^ a.bits) :=
  dsis_add (WFw a.bits) (joinOK a.bits) a.bits a bs order v hwa hwb hPr h x y hx hy

/-- `min()` / `max()` of a discrete set (as repaired: taken over the members) bound every value of every member
interval, wrapping members included -/
theorem C23_dsis_min_max_bound (d : DSIS) (s : SI) (x : Nat) (hs : s ∈ d.sis) (hw : s.WF) (hx : s.mem x) :
    (∀ m, d.minQ false = .ok (some m) → m ≤ x) ∧ (∀ m, d.maxQ false = .ok (some m) → (x : Int) ≤ m) :=
  ⟨fun m h => dsis_min_le d m s x hs hw hx h, fun m h => dsis_le_max d m s x hs hw hx h⟩

/-- non-vacuity: `{ 1[14,2], 1[6,8] }` at 4 bits (a member that wraps around 0) -/
example : let d : DSIS := { bits := 4, sis := [SI.new 4 1 14 2, SI.new 4 1 6 8] }
    d.minQ false = .ok (some 0) ∧ d.maxQ false = .ok (some 15) ∧ (SI.new 4 1 14 2).mem 15 := by decide

/-! ## every operation of `DiscreteStridedIntervalSet`, with the interval theorems of C21/C22 plugged in

`NE w s`: a non-empty well-formed member of width `w`; `NEn`: … in constructor-normal form; `NEa`: … and aligned (the guard of
the interval `*` and of the interval meet, hence of `==`, `!=`, `intersection`; alignment is an invariant of all interval
operations except `widen`, C21/C22 `…_aligned`).  Every theorem holds for every iteration order of the Python sets involved
(`order`). -/

/-- the binary liftings `- | ^ & << LShR >> concat` -/
theorem C23_dsis_binops (w : Nat) (a : DSIS) (bs : List SI) (order : List Nat) (v : Val) (x y : Nat) (hx : a.mem x)
    (hy : memL bs y) :
    ((∀ s, s ∈ a.sis → NE w s) → (∀ t, t ∈ bs → NE w t) → a.lift2 (fun s t => pure (s.sub t)) bs order = .ok v →
      v.mem ((x + 2 ^ w - y) % 2 ^ w)) ∧
    ((∀ s, s ∈ a.sis → NE w s) → (∀ t, t ∈ bs → NE w t) → a.lift2 SI.bitwiseOr bs order = .ok v → v.mem (x ||| y)) ∧
    ((∀ s, s ∈ a.sis → NE w s) → (∀ t, t ∈ bs → NE w t) → a.lift2 SI.bitwiseXor bs order = .ok v → v.mem (x ^^^ y)) ∧
    ((∀ s, s ∈ a.sis → NEn w s) → (∀ t, t ∈ bs → NEn w t) → a.lift2 SI.bitwiseAnd bs order = .ok v → v.mem (x &&& y)) ∧
    ((∀ s, s ∈ a.sis → NE w s) → (∀ t, t ∈ bs → t.WF) → a.lift2 SI.lshift bs order = .ok v → v.mem (Conc.shl w x y)) ∧
    ((∀ s, s ∈ a.sis → NE w s) → (∀ t, t ∈ bs → t.WF) → a.lift2 SI.rshiftLogical bs order = .ok v → v.mem (Conc.lshr w x y)) ∧
    ((∀ s, s ∈ a.sis → NEn w s) → (∀ t, t ∈ bs → t.WF) → a.lift2 SI.rshiftArith bs order = .ok v → v.mem (Conc.ashr w x y)) ∧
    (∀ wb, (∀ s, s ∈ a.sis → NE w s) → (∀ t, t ∈ bs → NE wb t) → a.lift2 SI.concat bs order = .ok v →
      v.mem (Conc.concat wb x y)) :=
  ⟨fun ha hb h => dsis_sub w a bs order v ha hb h x y hx hy, fun ha hb h => dsis_or w a bs order v ha hb h x y hx hy,
   fun ha hb h => dsis_xor w a bs order v ha hb h x y hx hy, fun ha hb h => dsis_and w a bs order v ha hb h x y hx hy,
   fun ha hb h => dsis_shl w a bs order v ha hb h x y hx hy, fun ha hb h => dsis_lshr w a bs order v ha hb h x y hx hy,
   fun ha hb h => dsis_ashr w a bs order v ha hb h x y hx hy,
   fun wb ha hb h => dsis_concat w wb a bs order v ha hb h x y hx hy⟩

/-- `*` and `%` on sets — `*` under the alignment guard of the interval operation (members aligned and normal; the unguarded
statement is false already on one-member sets: `C21.mul_unaligned_unsound`), `%` for all members (division by zero exempt) -/
theorem C23_dsis_mul_mod (w : Nat) (a : DSIS) (bs : List SI) (order : List Nat) (v : Val) (x y : Nat) (hx : a.mem x)
    (hy : memL bs y) :
    ((∀ s, s ∈ a.sis → NEa w s) → (∀ t, t ∈ bs → NEa w t) → a.lift2 SI.mul bs order = .ok v → v.mem ((x * y) % 2 ^ w)) ∧
    ((∀ s, s ∈ a.sis → NE w s) → (∀ t, t ∈ bs → NE w t) → a.lift2 SI.mod bs order = .ok v → y ≠ 0 →
      v.mem (x % y)) :=
  ⟨fun ha hb h => dsis_mul w a bs order v ha hb h x y hx hy, fun ha hb h hy0 => dsis_mod w a bs order v ha hb h x y hx hy hy0⟩

/-- the unary liftings `- ~ ZeroExt SignExt` and `extract` -/
theorem C23_dsis_unops (w : Nat) (a : DSIS) (order : List Nat) (v : Val) (x : Nat) (hx : a.mem x) :
    ((∀ s, s ∈ a.sis → NE w s) → a.lift1 (fun s => pure s.neg) order = .ok v → v.mem ((2 ^ w - x) % 2 ^ w)) ∧
    ((∀ s, s ∈ a.sis → NE w s) → a.lift1 SI.bitwiseNot order = .ok v → v.mem (2 ^ w - 1 - x)) ∧
    (∀ nl, w ≤ nl → (∀ s, s ∈ a.sis → NE w s) → a.lift1 (fun s => s.zeroExtend nl) order = .ok v → v.mem x) ∧
    (∀ nl, w ≤ nl → (∀ s, s ∈ a.sis → NEn w s) → a.lift1 (fun s => s.signExtend nl) order = .ok v → v.mem (Conc.sext w nl x)) ∧
    (∀ hi lo, lo ≤ hi → hi < w → (∀ s, s ∈ a.sis → NE w s) → a.extract hi lo order = .ok v → v.mem (Conc.extract hi lo x)) :=
  ⟨fun ha h => dsis_neg w a order v ha h x hx, fun ha h => dsis_not w a order v ha h x hx,
   fun nl hnl ha h => dsis_zext w nl hnl a order v ha h x hx, fun nl hnl ha h => dsis_sext w nl hnl a order v ha h x hx,
   fun hi lo hlo hhi ha h => dsis_extract w hi lo hlo hhi a order v ha h x hx⟩

/-- the eight orderings of a set against a set or an interval (both operands are collapsed first) -/
theorem C23_dsis_orderings (w : Nat) (hw : 0 < w) (op : CmpOp) (a : DSIS) (b : Val) (br : BoolRes)
    (h : a.cmp (fun ca cb => applyCmp op { si := ca } { si := cb }) b = .ok br) (x y : Nat) (hx : a.mem x) (hy : b.mem y) :
    ((op = .ult ∨ op = .ule ∨ op = .ugt ∨ op = .uge) → Vok w (WFw w) (.ds a) → Vok w (WFw w) b →
      br.has (concCmp op w x y) = true) ∧
    ((op = .slt ∨ op = .sle ∨ op = .sgt ∨ op = .sge) → Vok w (fun s => WFw w s ∧ Nrm s) (.ds a) →
      Vok w (fun s => WFw w s ∧ Nrm s) b → br.has (concCmp op w x y) = true) :=
  ⟨fun hop ha hb => dsis_ucmp w hw op hop a b br ha hb h x y hx hy,
   fun hop ha hb => dsis_scmp w hw op hop a b br ha hb h x y hx hy⟩

/-- `==` / `!=` of a set — members aligned and normal (`collapse()` keeps both); unguarded it inherits `C21.eq_unaligned_unsound` -/
theorem C23_dsis_eq (w : Nat) (hw : 0 < w) (a : DSIS) (b : Val) (br : BoolRes)
    (ha : Vok w (fun s => WFw w s ∧ Nrm s ∧ s.Aligned) (.ds a)) (hb : Vok w (fun s => WFw w s ∧ Nrm s ∧ s.Aligned) b)
    (h : a.cmp SI.eq b = .ok br) (x y : Nat) (hx : a.mem x) (hy : b.mem y) :
    br.has (decide (x = y)) = true ∧ br.not.has (decide (x ≠ y)) = true :=
  dsis_eq w hw a b br ha hb h x y hx hy

/-- the reflected operations `o - set`, `o // set`, `o % set` (`o + set`, `o * set`, `o & set` … are the lifted operation itself) -/
theorem C23_dsis_reflected (w : Nat) (hw : 0 < w) (a : DSIS) (o : SI) (hab : a.bits = w) (ho : NE w o)
    (x y : Nat) (hx : a.mem x) (hy : o.mem y) :
    (∀ o1 o2 v, (∀ s, s ∈ a.sis → NE w s) → a.rsub o o1 o2 = .ok v → v.mem ((y + 2 ^ w - x) % 2 ^ w)) ∧
    (∀ order r, (∀ s, s ∈ a.sis → WFw w s) → a.rudiv o order = .ok r → x ≠ 0 → r.mem (y / x)) ∧
    (∀ r, (∀ s, s ∈ a.sis → WFw w s) → a.rmod o = .ok r → x ≠ 0 → r.mem (y % x)) :=
  ⟨fun o1 o2 v ha h => dsis_rsub w hw a o o1 o2 v hab ha ho h x y hx hy,
   fun order r ha h hx0 => dsis_rudiv w hw a o order r hab ha ho h x y hx hy hx0,
   fun r ha h hx0 => dsis_rmod w hw a o r hab ha ho h x y hx hy hx0⟩

/-- `eval(n)` draws members only, and all of them once `n` covers every member interval -/
theorem C23_dsis_eval (d : DSIS) (n : Nat) (l : List Int) (hd : ∀ s, s ∈ d.sis → s.WF ∧ s.bottom = false)
    (h : d.evalCandidates n = .ok l) :
    (∀ v, v ∈ l → ∃ x : Nat, v = (x : Int) ∧ d.mem x) ∧
    ((∀ s, s ∈ d.sis → s.members.length ≤ n) → ∀ x, d.mem x → (x : Int) ∈ l) :=
  dsis_eval d n l hd h

/-- `eval(n)` as written (`DSIS.eval`: the early exit of the loop, the Python set of integers, the cut to `n`): the list that is
returned holds members of the set only, and at most `n` values — for every recorded iteration order of the integer set -/
theorem C23_dsis_eval_list (d : DSIS) (n : Nat) (order : List Nat) (l : List Int)
    (hd : ∀ s, s ∈ d.sis → s.WF ∧ s.bottom = false) (h : d.eval n order = .ok l) :
    (∀ v, v ∈ l → ∃ x : Nat, v = (x : Int) ∧ d.mem x) ∧ l.length ≤ n :=
  dsis_eval_list d n order l hd h

/-- non-vacuity: `{ 2[1,5], {6} }.eval(4)` with the integer set iterated as 6, 1, 3, 5; `eval(2)` stops after the first member -/
example : let d : DSIS := { bits := 3, sis := [SI.new 3 2 1 5, SI.new 3 0 6 6] }
    d.eval 4 [3, 0, 1, 2] = .ok [6, 1, 3, 5] ∧ d.eval 2 [1, 0] = .ok [3, 1] := by decide

/-- `union` of a set with an interval and with a set contains the members of both -/
theorem C23_dsis_union (w : Nat) (a : DSIS) (hab : a.bits = w) (ha : ∀ m, m ∈ a.sis → NE w m) :
    (∀ s order v, WFw w s → a.unionSI s order = .ok v → ∀ x, (a.mem x ∨ s.mem x) → v.mem x) ∧
    (∀ b orders v, (∀ m, m ∈ b.sis → WFw w m) → a.unionDS b orders = .ok v → ∀ x, (a.mem x ∨ b.mem x) → v.mem x) :=
  ⟨fun s order v hs h => (dsis_unionSI w a s order v hab ha hs h).2,
   fun b orders v hb h => dsis_unionDS w a b orders v hab ha hb h⟩

/-- `intersection` of a set with an interval and with a set contains every common member — members aligned and normal (the
guard of the interval meet; unguarded it inherits `C22.meet_unaligned_unsound`) -/
theorem C23_dsis_intersection (w : Nat) (hw : 0 < w) (a : DSIS) (hab : a.bits = w) (ha : ∀ m, m ∈ a.sis → NEa w m) :
    (∀ s order v, NEa w s → a.meetSI s order = .ok v → ∀ x, a.mem x → s.mem x → v.mem x) ∧
    (∀ b orders order v, (∀ m, m ∈ b.sis → NEa w m) → a.meetDS b orders order = .ok v → ∀ x, a.mem x → b.mem x → v.mem x) :=
  ⟨fun s order v hs h => (dsis_meetSI w hw a s order v hab ha hs h).2,
   fun b orders order v hb h => dsis_meetDS w hw a b orders order v hab ha hb h⟩

/-- `set // set`: the lifting of `udiv` (every per-pair call has its own recorded set order); division by zero exempt -/
theorem C23_dsis_udiv (w : Nat) (a : DSIS) (bs : List SI) (orders : List (List Nat)) (order : List Nat) (v : Val)
    (ha : ∀ s, s ∈ a.sis → NE w s) (hb : ∀ t, t ∈ bs → NE w t)
    (h : a.udivSet bs orders order = .ok v) (x y : Nat) (hx : a.mem x) (hy : memL bs y) (hy0 : y ≠ 0) : v.mem (x / y) :=
  dsis_udiv w a bs orders order v ha hb h x y hx hy hy0

/-- `valueset + interval`, `- interval`, `% interval` are sound region by region -/
theorem C23_valueset_arith (w : Nat) (v v' : VS) (b : SI) (hv : ∀ p, p ∈ v.regions → NE w p.2) (hb : NE w b) (region : String)
    (x y : Nat) (hx : v.memAt region x) (hy : b.mem y) :
    (v.mapRegions (fun s => pure (s.add b)) = .ok v' → v'.memAt region ((x + y) % 2 ^ w)) ∧
    (v.mapRegions (fun s => pure (s.sub b)) = .ok v' → v'.memAt region ((x + 2 ^ w - y) % 2 ^ w)) ∧
    (v.mapRegions (fun s => s.mod b) = .ok v' → y ≠ 0 → v'.memAt region (x % y)) :=
  vs_arith w v v' b hv hb region x y hx hy

/-- full statement for `widen` of a set (`self.collapse().widen(b)`) -/
def C23_dsis_widen_full : Prop :=
  ∀ (w : Nat) (a : DSIS) (b : Val) (r : SI), Vok w (NE w) (.ds a) → Vok w (NE w) b → a.widen b = .ok r →
    ∀ x, (a.mem x ∨ b.mem x) → r.mem x

/-- it inherits the unsound interval `widen` (C22 findings): `{ {1} }.widen({0}) = {1}` at 1 bit -/
theorem dsis_widen_unsound : ¬ C23_dsis_widen_full := by
  intro h
  have := h 1 { bits := 1, sis := [SI.new 1 0 1 1] } (.si (SI.new 1 0 0 0)) (SI.new 1 0 1 1)
    ⟨rfl, fun t ht => by rw [List.mem_singleton] at ht; rw [ht]; exact ⟨by decide, by decide, by decide⟩⟩
    ⟨by decide, by decide, by decide⟩ (by decide) 0 (Or.inr (show (SI.new 1 0 0 0).mem 0 by decide))
  exact absurd this (by decide)

/-- `union` of a value set with an interval / a value set, and `intersection` with an interval, region by region -/
theorem C23_valueset_union_meet (w : Nat) (v : VS) (region : String) (x : Nat) :
    (∀ b v', (∀ p, p ∈ v.regions → WFw w p.2) → WFw w b → v.unionSI b = .ok v' →
      (v.memAt region x ∨ ((∃ p, p ∈ v.regions ∧ p.1 = region) ∧ b.mem x)) → v'.memAt region x) ∧
    (∀ b r, (∀ q, q ∈ v.regions → WFw w q.2) → (∀ q, q ∈ b.regions → WFw w q.2) → v.unionVS b = .ok r →
      (v.memAt region x ∨ b.memAt region x) → r.memAt region x) ∧
    (∀ b v', (∀ p, p ∈ v.regions → NEa w p.2) → NEa w b → v.meetSI b = .ok v' → v.memAt region x → b.mem x →
      v'.memAt region x) :=
  ⟨fun b v' hv hb h hx => vs_unionSI w v v' b hv hb h region x hx,
   fun b r hv hb h hx => vs_unionVS w v b r hv hb h region x hx,
   fun b v' hv hb h hx hbx => vs_meetSI w v v' b hv hb h region x hx hbx⟩

/-- the intersection of two value sets keeps, region by region, every offset both operands hold (aligned normal intervals;
the keys of a dict are distinct; regions of `self` that the operand does not hold are kept by the code — an
over-approximation) -/
def C23_valueset_meetVS_full : Prop :=
  ∀ (w : Nat) (v b r : VS), (∀ p, p ∈ v.regions → NEa w p.2) → (∀ p, p ∈ b.regions → NEa w p.2) →
    (b.regions.map (·.1)).Nodup → v.meetVS b = .ok r →
    ∀ region x, v.memAt region x → b.memAt region x → r.memAt region x

theorem C23_valueset_meetVS : C23_valueset_meetVS_full :=
  fun w v b r hv hb hnd h region x hx hbx => vs_meetVS w v b r hv hb hnd h region x hx hbx

/-- non-vacuity: a set with a wrapping member, joined with / intersected by an interval; a value-set union -/
example : let a : DSIS := { bits := 4, sis := [SI.new 4 1 14 2, SI.new 4 2 6 8] }
    (∀ m, m ∈ a.sis → NEa 4 m) ∧ a.unionSI (SI.new 4 0 11 11) [0, 1, 2] = .ok (.ds { bits := 4, sis := [SI.new 4 1 14 2, SI.new 4 2 6 8, SI.new 4 0 11 11] }) ∧
    (∃ v, a.meetSI (SI.new 4 3 0 15) [0, 1] = .ok v ∧ v.mem 0 ∧ v.mem 6) := by
  refine ⟨?_, by decide, ⟨_, rfl, ?_, ?_⟩⟩
  · intro m hm
    simp only [List.mem_cons, List.mem_nil_iff, or_false] at hm
    rcases hm with h | h <;> subst h <;>
      exact ⟨⟨by decide, by decide, by decide⟩, nrm_new _ _ _ _ (by decide), by decide⟩
  · exact ⟨_, List.mem_cons_self, by decide⟩
  · exact ⟨_, List.mem_cons_of_mem _ List.mem_cons_self, by decide⟩

/-- non-vacuity / bounded sanity fact: `{ {1}, 2[0,2] } + {1}` at 2 bits is `{ {2}, 2[1,3] }` -/
theorem test_lift_example :
    (DSIS.lift2 (fun s t => pure (s.add t)) { bits := 2, sis := [SI.new 2 0 1 1, SI.new 2 2 0 2] } [SI.new 2 0 1 1] [0, 1])
      = .ok (.ds { bits := 2, sis := [SI.new 2 0 2 2, SI.new 2 2 1 3] }) := by decide

end Claripy.Props.C23

import Claripy.VSA.Conc
import ClaripyProofs.Lemmas.VSA.Lub
import ClaripyProofs.Lemmas.VSA.Members
import ClaripyProofs.Lemmas.VSA.MinMax
import ClaripyProofs.Lemmas.VSA.EvalExact
import ClaripyProofs.Lemmas.VSA.MeetFinal
import ClaripyProofs.Lemmas.VSA.Good
/-!
# C22 — joins, meets, widening and queries agree with the members

Full statements are kept as `def … : Prop`; what is false on the code has a negation with a concrete witness
(replayed on the real code by the check); proved parts are theorems for all widths.
-/
namespace Claripy.Props.C22
open Claripy.VSA

/-- the result of a join-like operation contains both operands -/
def JoinSound (op : SI → SI → R SI) (guard : SI → SI → Prop) : Prop :=
  ∀ (a b r : SI) (x : Nat), a.WF → b.WF → a.bits = b.bits → guard a b → (a.mem x ∨ b.mem x) → op a b = .ok r → r.mem x

/-- the result of a meet contains every common member -/
def MeetSound (op : SI → SI → R SI) (guard : SI → SI → Prop) : Prop :=
  ∀ (a b r : SI) (x : Nat), a.WF → b.WF → a.bits = b.bits → guard a b → a.mem x → b.mem x → op a b = .ok r → r.mem x

def noGuard : SI → SI → Prop := fun _ _ => True
def bothAligned : SI → SI → Prop := fun a b => a.Aligned ∧ b.Aligned

/-- `top` contains every value of its width -/
theorem C22_top_mem (w x : Nat) : (SI.top w).mem x ↔ x < 2 ^ w := mem_top w x

/-- membership in a freshly constructed (normalised) interval: normalisation (singleton → stride 0, full circle →
`[0, 2^w - 1]`) does not change the member set -/
theorem C22_new_mem (b s : Nat) (l u : Int) (x : Nat) :
    (SI.new b s l u).mem x ↔ x < 2 ^ b ∧ cd (2 ^ b) (imod l b) x ≤ cd (2 ^ b) (imod l b) (imod u b) ∧
      (if s = 0 then cd (2 ^ b) (imod l b) x = 0 else cd (2 ^ b) (imod l b) x % s = 0) := mem_new b s l u x

/-- `pseudo_join(a, b, smart_join)` is well formed, keeps the width and contains both operands — for both settings
of `smart_join`, wrapping or not, aligned or not -/
theorem C22_pseudo_join_sup (w : Nat) (a b : SI) (smart : Bool) (ha : a.WF ∧ a.bits = w) (hb : b.WF ∧ b.bits = w) :
    ((pseudoJoin a b smart).WF ∧ (pseudoJoin a b smart).bits = w) ∧
      ∀ x, (a.mem x ∨ b.mem x) → (pseudoJoin a b smart).mem x :=
  pseudoJoin_ok w a b ha hb smart

/-- `least_upper_bound(*intervals)` (one, two or more arguments: sorted, every rotation joined in order, the candidate
with the fewest values picked) contains every argument -/
theorem C22_lub_sup (w : Nat) (l : List SI) (r : SI) (hP : ∀ s, s ∈ l → s.WF ∧ s.bits = w)
    (h : leastUpperBound l = .ok r) : (r.WF ∧ r.bits = w) ∧ ∀ x, memL l x → r.mem x :=
  lub_sup w l r hP h

/-- `union` contains both operands: `JoinSound` without any guard -/
theorem C22_union_sup : JoinSound SI.union noGuard := by
  intro a b r x ha hb hbits _ hx h
  exact (union_sup a.bits a b r ⟨ha, rfl⟩ ⟨hb, hbits.symm⟩ h).2 x hx

/-- non-vacuity: a wrapping and a non-wrapping operand -/
example : (SI.new 4 3 14 4).WF ∧ (SI.new 4 2 5 9).WF ∧ (SI.new 4 3 14 4).mem 1 ∧
    SI.union (SI.new 4 3 14 4) (SI.new 4 2 5 9) = .ok (SI.new 4 1 14 9) := by decide

/-- the member list (`lb, lb + stride, …` modulo `2^bits`) is exactly the member set, without repetitions -/
theorem C22_members_exact (s : SI) (hw : s.WF) : s.members.Nodup ∧ ∀ x, x ∈ s.members ↔ s.mem x :=
  ⟨members_nodup s hw, mem_members s hw⟩

/-- `cardinality` equals the number of members -/
theorem C22_cardinality_exact (s : SI) (hw : s.WF) : s.cardinality = .ok s.members.length :=
  cardinality_exact s hw

/-- `solution(v)` agrees with the member set (aligned or not, wrapping or not) -/
theorem C22_solution_exact (s : SI) (hw : s.WF) (hnb : s.bottom = false) (v : Nat) (hv : v < 2 ^ s.bits) :
    (s.solution (v : Int) = .ok true ∧ s.mem v) ∨ (s.solution (v : Int) = .ok false ∧ ¬ s.mem v) :=
  solution_exact s hw hnb v hv

example : (SI.new 4 5 13 7).members = [13, 2, 7] ∧ (SI.new 4 5 13 7).cardinality = .ok 3 ∧
    (SI.new 4 5 13 7).solution 2 = .ok true ∧ (SI.new 4 5 13 7).solution 3 = .ok false := by decide

/-- `eval(n)` (unsigned) returns exactly the first `n` entries of the member list: no repetition, nothing that is not a
member, and all members once `n` reaches the cardinality -/
theorem C22_eval_exact (s : SI) (n : Nat) (l : List Int) (hs : s.WF) (hnb : s.bottom = false) (h : s.eval n false = .ok l) :
    l = (s.members.take n).map (fun (v : Nat) => (v : Int)) ∧
    (s.members.length ≤ n → ∀ x, s.mem x → (x : Int) ∈ l) := by
  have he := eval_exact s n l hs hnb h
  exact ⟨he, fun hn x hx => mem_map_take s hs _ n l he hn x hx⟩

/-- non-vacuity: a wrapping interval, fewer values requested than there are -/
example : (SI.new 4 5 13 7).eval 2 false = .ok [13, 2] ∧ (SI.new 4 5 13 7).eval 9 false = .ok [13, 2, 7] := by decide

/-- `eval(n, signed=True)` returns exactly the SIGNED values of the first `n` entries of the member list (the pieces of
`_nsplit` are visited in order, each from its lower bound upwards — which is the member-list order): no repetition, nothing that
is not a member, and all members once `n` reaches the cardinality (interval in constructor-normal form) -/
theorem C22_eval_signed_exact (s : SI) (n : Nat) (l : List Int) (hs : s.WF) (hnb : s.bottom = false) (hn : s.renorm = s)
    (h : s.eval n true = .ok l) :
    l = (s.members.take n).map (fun (v : Nat) => Conc.toInt s.bits v) ∧
    (s.members.length ≤ n → ∀ x, s.mem x → Conc.toInt s.bits x ∈ l) := by
  have he := eval_signed_exact s n l hs hnb hn h
  exact ⟨he, fun hn' x hx => mem_map_take s hs _ n l he hn' x hx⟩

/-- non-vacuity: an interval straddling both poles (two pieces), fewer values requested than there are -/
example : (SI.new 4 3 6 1).renorm = SI.new 4 3 6 1 ∧ (SI.new 4 3 6 1).members = [6, 9, 12, 15] ∧
    (SI.new 4 3 6 1).eval 3 true = .ok [6, -7, -4] ∧ (SI.new 4 3 6 1).eval 9 true = .ok [6, -7, -4, -1] := by decide

/-- unsigned `min` / `max` bound every member (any well-formed interval, aligned or not, wrapping or not) -/
theorem C22_min_max_bound (s : SI) (x : Nat) (hs : s.WF) (hx : s.mem x) :
    (∀ m, s.min false = .ok (some m) → m ≤ x) ∧ (∀ m, s.max false = .ok (some m) → (x : Int) ≤ m) :=
  ⟨fun m h => min_le s m x hs hx h, fun m h => le_max s m x hs hx h⟩

/-- the unsigned minimum is attained (it is a member), hence exact; `max` is exact for aligned intervals only
(`C22_max_exact_aligned`, `max_unaligned_wrong`) -/
theorem C22_min_exact (s : SI) (m : Int) (hs : s.WF) (hnb : s.bottom = false) (h : s.min false = .ok (some m)) :
    (∃ x, s.mem x ∧ (x : Int) = m) ∧ ∀ y, s.mem y → m ≤ y :=
  ⟨min_attained s m hs hnb h, fun y hy => min_le s m y hs hy h⟩

/-- the unsigned maximum of an ALIGNED interval (its upper bound is a member) is attained, hence exact -/
theorem C22_max_exact_aligned (s : SI) (m : Int) (hs : s.WF) (hnb : s.bottom = false) (hal : s.Aligned)
    (h : s.max false = .ok (some m)) :
    (∃ x, s.mem x ∧ (x : Int) = m) ∧ ∀ y, s.mem y → (y : Int) ≤ m :=
  ⟨max_attained s m hs hnb hal h, fun y hy => le_max s m y hs hy h⟩

/-- signed `min` / `max` bound the signed value of every member (interval in constructor-normal form) -/
theorem C22_signed_min_max_bound (s : SI) (x : Nat) (hs : s.WF) (hn : s.renorm = s) (hx : s.mem x) :
    (∀ m, s.min true = .ok (some m) → m ≤ Conc.toInt s.bits x) ∧
    (∀ m, s.max true = .ok (some m) → Conc.toInt s.bits x ≤ m) :=
  ⟨fun m h => smin_le s m x hs hn hx h, fun m h => le_smax s m x hs hn hx h⟩

/-- non-vacuity: a wrapping interval with an odd stride -/
example : (SI.new 4 3 13 6).WF ∧ (SI.new 4 3 13 6).min false = .ok (some 0) ∧ (SI.new 4 3 13 6).max false = .ok (some 13) ∧
    (SI.new 4 3 13 6).min true = .ok (some (-3)) ∧ (SI.new 4 3 13 6).max true = .ok (some 6) ∧ (SI.new 4 3 13 6).mem 0 := by decide

def C22_widen_full : Prop := JoinSound SI.widen noGuard

/-- `widen({1}, {0}) = {1}` at 1 bit: the lower bound is extrapolated to the signed minimum (1 = -1). -/
theorem widen_unsound : ¬ C22_widen_full := by
  intro h
  have := h (SI.new 1 0 1 1) (SI.new 1 0 0 0) (SI.new 1 0 1 1) 0
    (by decide) (by decide) (by decide) trivial (by decide) (by decide)
  exact absurd this (by decide)

/-- even without extrapolating the lower bound: `widen({0}, 1[3,0]) = {0}` (raw bounds of a wrapping operand) -/
theorem widen_wrap_unsound :
    ¬ JoinSound SI.widen (fun a b => a.Aligned ∧ b.Aligned ∧ a.lb ≤ b.lb) := by
  intro h
  have := h (SI.new 2 0 0 0) (SI.new 2 1 3 0) (SI.new 2 0 0 0) 3
    (by decide) (by decide) (by decide) (by decide) (by decide) (by decide)
  exact absurd this (by decide)

/-- and without wrapping: `widen({0}, 2[1,3]) = 2[0,2]` (the offset between the lower bounds is ignored) -/
theorem widen_offset_unsound :
    ¬ JoinSound SI.widen (fun a b => a.Aligned ∧ b.Aligned ∧ a.lb ≤ b.lb ∧ a.lb ≤ a.ub ∧ b.lb ≤ b.ub) := by
  intro h
  have := h (SI.new 2 0 0 0) (SI.new 2 2 1 3) (SI.new 2 2 0 2) 1
    (by decide) (by decide) (by decide) (by decide) (by decide) (by decide)
  exact absurd this (by decide)

/-! ## intersection — false when an upper bound is not a member (finding C22-meet-unaligned) -/

def C22_meet_full : Prop := MeetSound SI.intersection noGuard

/-- `2[2,3]` and `3[2,0]` both are `{2}` at 2 bits; their intersection is computed as empty. -/
theorem meet_unaligned_unsound : ¬ C22_meet_full := by
  intro h
  have := h { bits := 2, stride := 2, lb := 2, ub := 3 } { bits := 2, stride := 3, lb := 2, ub := 0 } (SI.empty 2) 2
    (by decide) (by decide) (by decide) trivial (by decide) (by decide) (by decide)
  exact absurd this (by decide)

/-- aligned operands in the form the constructor returns (`renorm` is the identity: a full circle with stride 1 is
written `[0, 2^w - 1]` — the only form Python can hold) -/
def alignedNormal : SI → SI → Prop := fun a b => a.Aligned ∧ b.Aligned ∧ a.renorm = a ∧ b.renorm = b

/-- **`intersection` contains every common member of aligned operands**, for every width: the seven configurations of
`_multi_valued_intersection` (`Lemmas/VSA/MeetFinal.lean`), `_minimal_common_integer` over the pieces of `_ssplit`
(`MeetMin.lean`) and `diop_natural_solution_linear` returning the least natural solution (`MeetDiop.lean`) -/
theorem C22_meet_aligned : MeetSound SI.intersection alignedNormal := by
  intro a b r x ha hb hbits hg hx hy h
  obtain ⟨hA, hB, nA, nB⟩ := hg
  exact (meet_sound a.bits a b r ⟨ha, rfl⟩ ⟨hb, hbits.symm⟩ hx.1 hy.1 hA hB nA nB h).2 x hx hy

/-- closure of `intersection` on such operands -/
theorem C22_meet_closed (a b r : SI) (ha : a.WF) (hb : b.WF) (hbits : a.bits = b.bits) (hab : a.bottom = false)
    (hbb : b.bottom = false) (hg : alignedNormal a b) (h : a.intersection b = .ok r) : r.WF ∧ r.bits = a.bits :=
  (meet_sound a.bits a b r ⟨ha, rfl⟩ ⟨hb, hbits.symm⟩ hab hbb hg.1 hg.2.1 hg.2.2.1 hg.2.2.2 h).1

/-- non-vacuity: two wrapping operands whose arcs overlap at both ends (two partial results, joined) -/
example : alignedNormal (SI.new 4 3 11 4) (SI.new 4 2 4 12) ∧ (SI.new 4 3 11 4).mem 14 ∧ (SI.new 4 2 4 12).mem 4 ∧
    (∃ r, (SI.new 4 3 11 4).intersection (SI.new 4 2 4 12) = .ok r ∧ r.mem 4 ∧ ¬ r.mem 14) := by
  refine ⟨by unfold alignedNormal; decide, by decide, by decide, ⟨_, rfl, by decide, by decide⟩⟩

/-- what the proof of the meet actually uses instead of alignment: **every wrapping operand splits into two pieces at the south
pole** (it has a member after the pole).  Alignment implies it; it is void for non-wrapping operands.  The only operands left
out are wrapping intervals whose upper bound is not a member AND that have no member after the pole (like `3[2,0]` in
`meet_unaligned_unsound`). -/
def splitsInTwo : SI → SI → Prop := fun a b =>
  (a.ub < a.lb → TwoPieces a) ∧ (b.ub < b.lb → TwoPieces b) ∧ a.renorm = a ∧ b.renorm = b

theorem C22_meet_two_pieces : MeetSound SI.intersection splitsInTwo := by
  intro a b r x ha hb hbits hg hx hy h
  obtain ⟨hA, hB, nA, nB⟩ := hg
  exact (meet_sound_tp a.bits a b r ⟨ha, rfl⟩ ⟨hb, hbits.symm⟩ hx.1 hy.1 hA hB nA nB h).2 x hx hy

/-- **`intersection` is sound on ALL non-wrapping operands**, aligned or not (constructor-normal form) -/
theorem C22_meet_nonwrapping :
    MeetSound SI.intersection (fun a b => a.lb ≤ a.ub ∧ b.lb ≤ b.ub ∧ a.renorm = a ∧ b.renorm = b) := by
  intro a b r x ha hb hbits hg hx hy h
  obtain ⟨hA, hB, nA, nB⟩ := hg
  exact (meet_sound_nowrap a.bits a b r ⟨ha, rfl⟩ ⟨hb, hbits.symm⟩ hx.1 hy.1 hA hB nA nB h).2 x hx hy

/-- non-vacuity: two UNALIGNED non-wrapping operands, `3[1,12]` = {1,4,7,10} and `4[2,13]` = {2,6,10}; common member 10 -/
example : let a : SI := { bits := 4, stride := 3, lb := 1, ub := 12 }
    let b : SI := { bits := 4, stride := 4, lb := 2, ub := 13 }
    ¬ a.Aligned ∧ ¬ b.Aligned ∧ a.renorm = a ∧ b.renorm = b ∧ a.mem 10 ∧ b.mem 10 ∧
    (∃ r, a.intersection b = .ok r ∧ r.mem 10) := by
  refine ⟨by decide, by decide, by decide, by decide, by decide, by decide, ⟨_, rfl, by decide⟩⟩

/-- the normal form is part of the guard: on the model a full circle written `1[5, 4]` (which the Python constructor
would rewrite to `[0, 15]`) makes `_is_surrounded` answer "top" while `_minimal_common_integer` still splits it at 5, and
the common member 2 is lost.  Not reachable through the constructor of the real class. -/
theorem meet_nonnormal_unsound : ¬ MeetSound SI.intersection bothAligned := by
  intro h
  have := h { bits := 4, stride := 3, lb := 2, ub := 11 } { bits := 4, stride := 1, lb := 5, ub := 4 }
    (SI.new 4 3 5 11) 2 (by decide) (by decide) (by decide) (by unfold bothAligned; decide) (by decide) (by decide) (by decide)
  exact absurd this (by decide)

/-- the joins keep alignment: `pseudo_join` (both settings), `least_upper_bound` (any arity), `union` -/
theorem C22_join_aligned (w : Nat) :
    (∀ (a b : SI) (smart : Bool), a.WF ∧ a.bits = w → b.WF ∧ b.bits = w → a.Aligned → b.Aligned →
      (pseudoJoin a b smart).Aligned) ∧
    (∀ (l : List SI) (r : SI), (∀ s, s ∈ l → (s.WF ∧ s.bits = w) ∧ s.Aligned) → leastUpperBound l = .ok r → r.Aligned) ∧
    (∀ (a b r : SI), a.WF ∧ a.bits = w → b.WF ∧ b.bits = w → a.Aligned → b.Aligned → a.union b = .ok r → r.Aligned) :=
  ⟨fun a b smart ha hb ala alb => pseudoJoin_aligned a b smart ha.1 hb.1 (by rw [ha.2, hb.2]) ala alb,
   fun l r hP h => lub_aligned w l r hP h,
   fun a b r ha hb ala alb h => union_aligned w a b r ha hb ala alb h⟩

/-- every partial result of `_multi_valued_intersection` is aligned WHATEVER the operands are (it ends at the last multiple
of the new stride), so `intersection` never hands an unaligned interval on -/
theorem C22_meet_result_aligned (w : Nat) (a b : SI) (ha : a.WF ∧ a.bits = w) (hb : b.WF ∧ b.bits = w)
    (hab : a.bottom = false) (hbb : b.bottom = false) :
    (∀ l, a.multiMeet b = .ok l → ∀ r, r ∈ l → r.Aligned) ∧
    (alignedNormal a b → ∀ r, a.intersection b = .ok r → r.Aligned) :=
  ⟨fun l h => multiMeet_aligned w a b ha hb hab hbb l h,
   fun hg r h => meet_aligned w a b r ha hb hab hbb hg.1 hg.2.1 hg.2.2.1 hg.2.2.2 h⟩

/-- full statement for `widen` -/
def C22_widen_keeps_aligned : Prop :=
  ∀ (a b r : SI), a.WF → b.WF → a.bits = b.bits → a.Aligned → b.Aligned → a.widen b = .ok r → r.Aligned

/-- `widen` is the one interval operation that turns aligned operands into an unaligned result: `widen(3[1,0], {0}) = 3[2,0]`
at 2 bits (`3[1,0]` is `{1,0}`; the result's upper bound 0 is at distance 2 from 2).  On the real code every such instance found
(widths ≤ 4) is at the same time an instance of the open `C22/widen/unsound/…` findings. -/
theorem widen_breaks_alignment : ¬ C22_widen_keeps_aligned := by
  intro h
  have := h (SI.new 2 3 1 0) (SI.new 2 0 0 0) { bits := 2, stride := 3, lb := 2, ub := 0 }
    (by decide) (by decide) (by decide) (by decide) (by decide) (by decide)
  exact absurd this (by decide)

/-- non-vacuity: joins of aligned wrapping operands -/
example : (SI.new 4 3 14 4).Aligned ∧ (SI.new 4 2 5 9).Aligned ∧
    (∃ r, SI.union (SI.new 4 3 14 4) (SI.new 4 2 5 9) = .ok r ∧ r.Aligned) ∧
    (∃ r, leastUpperBound [SI.new 4 3 14 4, SI.new 4 2 5 9, SI.new 4 0 11 11] = .ok r ∧ r.Aligned) := by
  refine ⟨by decide, by decide, ⟨_, rfl, by decide⟩, ⟨_, rfl, by decide⟩⟩

/-! ## max — wrong when the upper bound is not a member (finding C22-max-unaligned, D20) -/

/-- `max` returns the greatest member (unsigned) -/
def C22_max_full : Prop :=
  ∀ (a : SI) (v : Int), a.WF → a.max false = .ok (some v) → (∃ x : Nat, v = x ∧ a.mem x) ∧ ∀ y, a.mem y → (y : Int) ≤ v

/-- `max(2[0,1]) = 1`, which is not a member (`2[0,1]` is `{0}`). -/
theorem max_unaligned_wrong : ¬ C22_max_full := by
  intro h
  have := (h { bits := 2, stride := 2, lb := 0, ub := 1 } 1 (by decide) (by decide)).1
  obtain ⟨x, hx, hm⟩ := this
  have : x = 1 := by omega
  subst this
  exact absurd hm (by decide)

/-! ## bounded tests (not theorems) -/

theorem test_join_example : pseudoJoin (SI.new 8 0 3 3) (SI.new 8 0 9 9) = SI.new 8 6 3 9 := by decide

end Claripy.Props.C22

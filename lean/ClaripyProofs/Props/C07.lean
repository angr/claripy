import Claripy.Anno.Model
import ClaripyProofs.Lemmas.Anno.Carrier
/-!
# C07 — annotations survive rewriting as the annotation contract promises

The contract is enforced in ONE place: `_handle_annotations` gates every simplifier proposal (after the
`fix:` commits also those of `If` and of the Concat-part extraction).  The theorems below are about that
gate and hold for ANY proposal a simplifier may make — present or future rules alike — and any tree:

* `C07_handle_unelim`  — an accepted proposal contains every non-eliminatable, non-relocatable annotation
  reachable in any argument (so a sub-expression carrying one is never removed: the rewrite is skipped instead);
* `C07_handle_reloc`   — every relocatable annotation carried by an argument is present on the accepted result;
* `C07_carrier_kept_partial` — the statement about the SUB-EXPRESSION itself: when the annotation sits on one
  sub-expression only and the proposal puts non-eliminatable annotations only on sub-expressions of the arguments
  (it builds no new node that carries one), the accepted result contains that very sub-expression.  Both premises
  are needed: `C07_carrier_shared_removed` (the open finding C07-shared-annotation-carrier) and
  `C07_carrier_moved_accepted` (the repaired defect of `bitwise_sub_simplifier`, which copied the annotations of
  the sum onto a new sum) are accepted by the gate although the carrier is gone.  The second premise is a fact about
  the simplifiers, not about the gate: the correspondence check watches it on every real rewrite;
* `C07_build`          — the same two facts for whatever `_op` returns (accepted proposal or plain node);
* `C07_simplify`       — explicit simplification keeps the top annotations and the direct arguments' relocatable ones;
* `C07_frontend_simplify` — a solver never hands a constraint with a simplification-avoidance annotation to the rewriter
  and keeps it verbatim.
-/
namespace Claripy.Props.C07
open Claripy.Anno

theorem annos_appendAnno (e : AExpr) (a : Anno) : (e.appendAnno a).annos = e.annos ++ [a] := by
  cases e; rfl

theorem unelim_appendAnno (e : AExpr) (a u : Anno) (h : u ∈ e.unelim) : u ∈ (e.appendAnno a).unelim := by
  cases e with
  | mk t as an =>
    simp only [AExpr.appendAnno, AExpr.unelim, List.mem_append, List.filter_append] at h ⊢
    rcases h with h | h
    · exact Or.inl (Or.inl h)
    · exact Or.inr h

def Mono (s s' : AExpr) : Prop := (∀ u, u ∈ s.unelim → u ∈ s'.unelim) ∧ (∀ a, a ∈ s.annos → a ∈ s'.annos)

theorem Mono.refl (s : AExpr) : Mono s s := ⟨fun _ h => h, fun _ h => h⟩
theorem Mono.trans {a b c : AExpr} (h1 : Mono a b) (h2 : Mono b c) : Mono a c :=
  ⟨fun u h => h2.1 u (h1.1 u h), fun x h => h2.2 x (h1.2 x h)⟩
theorem Mono.append (s : AExpr) (a : Anno) : Mono s (s.appendAnno a) :=
  ⟨fun u h => unelim_appendAnno s a u h, fun x h => by rw [annos_appendAnno]; exact List.mem_append_left _ h⟩

theorem relocateFrom_spec (preserved : List Anno) (l : List Anno) (s : AExpr) (rel : List Anno)
    (hinv : ∀ x ∈ rel, x ∈ s.annos) :
    let r := relocateFrom preserved l (s, rel)
    Mono s r.1 ∧ (∀ x ∈ r.2, x ∈ r.1.annos) ∧ (∀ x ∈ rel, x ∈ r.2) ∧
    (∀ oa ∈ l, oa ∈ preserved ∨ oa ∈ r.2) := by
  induction l generalizing s rel with
  | nil => simp [relocateFrom]; exact ⟨Mono.refl s, hinv⟩
  | cons oa rest ih =>
    simp only [relocateFrom]
    split
    · rename_i hc
      obtain ⟨m, i1, i2, i3⟩ := ih s rel hinv
      refine ⟨m, i1, i2, ?_⟩
      intro x hx
      rcases List.mem_cons.mp hx with rfl | hx
      · simp only [Bool.or_eq_true, List.contains_iff_mem] at hc
        rcases hc with hc | hc
        · exact Or.inl hc
        · exact Or.inr (i2 _ hc)
      · exact i3 x hx
    · have hinv' : ∀ x ∈ oa :: rel, x ∈ (s.appendAnno oa).annos := by
        intro x hx
        rw [annos_appendAnno]
        rcases List.mem_cons.mp hx with rfl | hx
        · simp
        · exact List.mem_append_left _ (hinv x hx)
      obtain ⟨m, i1, i2, i3⟩ := ih (s.appendAnno oa) (oa :: rel) hinv'
      refine ⟨Mono.trans (Mono.append s oa) m, i1, fun x hx => i2 x (List.mem_cons_of_mem _ hx), ?_⟩
      intro x hx
      rcases List.mem_cons.mp hx with rfl | hx
      · exact Or.inr (i2 _ (by simp))
      · exact i3 x hx

theorem hfold_spec (preserved : List Anno) (args : List AExpr) (s : AExpr) (rel : List Anno) (bad : Nat)
    (hinv : ∀ x ∈ rel, x ∈ s.annos) :
    let r := args.foldl (hstep preserved) (s, rel, bad)
    Mono s r.1 ∧ bad ≤ r.2.2 ∧
    (r.2.2 = bad → ∀ a ∈ args, (∀ u ∈ a.unelim, u ∈ r.1.unelim) ∧
        (∀ oa ∈ a.relocs, oa ∈ preserved ∨ oa ∈ r.1.annos)) := by
  induction args generalizing s rel bad with
  | nil => simp; exact Mono.refl s
  | cons aa rest ih =>
    simp only [List.foldl]
    obtain ⟨m1, j1, j2, j3⟩ := relocateFrom_spec preserved aa.relocs s rel hinv
    rw [hstep_eq]
    obtain ⟨m2, k1, k2⟩ := ih (relocateFrom preserved aa.relocs (s, rel)).1 (relocateFrom preserved aa.relocs (s, rel)).2
      (bad + (aa.unelim.filter fun u => !(relocateFrom preserved aa.relocs (s, rel)).1.unelim.contains u).length) j1
    refine ⟨Mono.trans m1 m2, by omega, ?_⟩
    intro hbad a ha
    have hlost : (aa.unelim.filter fun u => !(relocateFrom preserved aa.relocs (s, rel)).1.unelim.contains u).length = 0 := by
      omega
    have hrest := k2 (by omega)
    rcases List.mem_cons.mp ha with rfl | ha
    · constructor
      · intro u hu
        have : u ∉ (a.unelim.filter fun u => !(relocateFrom preserved a.relocs (s, rel)).1.unelim.contains u) := by
          rw [List.length_eq_zero_iff.mp hlost]; simp
        have hin : u ∈ (relocateFrom preserved a.relocs (s, rel)).1.unelim := by
          by_cases hc : u ∈ (relocateFrom preserved a.relocs (s, rel)).1.unelim
          · exact hc
          · exfalso; apply this
            simp [List.mem_filter, hu, hc]
        exact m2.1 u hin
      · intro oa hoa
        rcases j3 oa hoa with h | h
        · exact Or.inl h
        · exact Or.inr (m2.2 _ (j1 _ h))
    · exact hrest a ha

/-- **C07 (gate, non-eliminatable)**: whatever rewrite result `simp` a simplifier proposes, if
`_handle_annotations` accepts it then every non-eliminatable, non-relocatable annotation reachable in any
argument is still reachable in the result. -/
theorem C07_handle_unelim (simp : AExpr) (args : List AExpr) (r : AExpr) (h : handle simp args = some r) :
    ∀ a ∈ args, ∀ u ∈ a.unelim, u ∈ r.unelim := by
  obtain ⟨hb, rfl⟩ := handle_some h
  exact fun a ha => ((hfold_spec simp.relocs args simp [] 0 (by simp)).2.2 hb a ha).1

/-- **C07 (gate, relocatable)**: every relocatable annotation carried by an argument is on the accepted result. -/
theorem C07_handle_reloc (simp : AExpr) (args : List AExpr) (r : AExpr) (h : handle simp args = some r) :
    ∀ a ∈ args, ∀ oa ∈ a.relocs, oa ∈ r.annos := by
  obtain ⟨hb, rfl⟩ := handle_some h
  intro a ha oa hoa
  have spec := hfold_spec simp.relocs args simp [] 0 (by simp)
  -- an annotation the proposal already carries stays on it; any other was appended
  rcases (spec.2.2 hb a ha).2 oa hoa with hp | hp
  · exact spec.1.2 oa (List.mem_filter.1 hp).1
  · exact hp

/-- **C07 (gate, the annotated sub-expression itself) — partial**: `c` is the only sub-expression of the arguments
carrying the non-eliminatable, non-relocatable annotation `u`, and every node of the proposal that carries such an
annotation is a sub-expression of some argument.  Then an accepted proposal contains `c`, and what is returned is the
proposal with the same operator and arguments (only relocatable annotations were added on top).
Partial: without either premise the conclusion fails (`C07_carrier_shared_removed`, `C07_carrier_moved_accepted`). -/
theorem C07_carrier_kept_partial (simp : AExpr) (args : List AExpr) (r : AExpr) (h : handle simp args = some r)
    (c : AExpr) (u : Anno) (hu : isUnelim u = true)
    (hc : ∃ a ∈ args, c ∈ a.subterms) (huc : u ∈ c.annos)
    (huniq : ∀ a ∈ args, ∀ n ∈ a.subterms, u ∈ n.annos → n = c)
    (hold : ∀ n ∈ simp.subterms, ∀ v ∈ n.annos, isUnelim v = true → ∃ a ∈ args, n ∈ a.subterms) :
    c ∈ simp.subterms ∧ r.tag = simp.tag ∧ r.args = simp.args := by
  obtain ⟨a0, ha0, hca0⟩ := hc
  have htop := handle_topOnly simp args r h
  have hur : u ∈ r.unelim := by
    apply C07_handle_unelim simp args r h a0 ha0
    -- u is reachable in a0 because it sits on c
    have : ∀ (e : AExpr), c ∈ e.subterms → u ∈ e.unelim := by
      intro e he
      exact mem_unelim_of_carrier e c u he huc hu
    exact this a0 hca0
  have hus : u ∈ simp.unelim := htop.2.2 u hur
  obtain ⟨n, hn, hun, _⟩ := unelim_carrier simp u hus
  obtain ⟨a, ha, hna⟩ := hold n hn u hun hu
  have : n = c := huniq a ha n hna hun
  exact ⟨this ▸ hn, htop.1, htop.2.1⟩

/-- the first premise is needed: one annotation on two sub-expressions, the proposal keeps only one of them
(`(x | y)[k] & 3[k] ⇒ (x | y)[k]`) — accepted, and no node of the result is the literal that carried `k`.  Open finding
C07-shared-annotation-carrier; replayed on the real code by the check. -/
theorem C07_carrier_shared_removed :
    let k : Anno := { id := 1, elim := false, reloc := false }
    let xy : AExpr := .mk "or" [.mk "x" [] [], .mk "y" [] []] [k]
    let lit : AExpr := .mk "3" [] [k]
    (handle xy [xy, lit]).map (fun r => r.subterms.map AExpr.tag) = some ["or", "x", "y"] := by decide

/-- the second premise is needed: a proposal that copies the annotation onto a NEW node
(`(x + y + 1)[k] - 2 ⇒ (x + y + 255)[k]`, the defect repaired in `bitwise_sub_simplifier`) passes the gate: the
result carries `k` on its top node, and the sum that carried it (it has the operand `1`) is not part of it. -/
theorem C07_carrier_moved_accepted :
    let k : Anno := { id := 1, elim := false, reloc := false }
    let sum : AExpr := .mk "add" [.mk "x" [] [], .mk "y" [] [], .mk "1" [] []] [k]
    let sum' : AExpr := .mk "add" [.mk "x" [] [], .mk "y" [] [], .mk "255" [] []] [k]
    (handle sum' [sum, .mk "2" [] []]).map (fun r => (r.subterms.map AExpr.tag, r.annos))
      = some (["add", "x", "y", "255"], [k]) := by decide

theorem unelimList_mem (args : List AExpr) (a : AExpr) (ha : a ∈ args) (u : Anno) (hu : u ∈ a.unelim) :
    u ∈ AExpr.unelimList args := by
  induction args with
  | nil => simp at ha
  | cons b bs ih =>
    simp only [AExpr.unelimList, List.mem_append]
    rcases List.mem_cons.mp ha with rfl | ha
    · exact Or.inl hu
    · exact Or.inr (ih ha)

theorem mkNode_contract (tag : String) (args : List AExpr) (annos : List Anno) :
    (∀ a ∈ args, ∀ u ∈ a.unelim, u ∈ (mkNode tag args annos).unelim) ∧
    (∀ a ∈ args, ∀ oa ∈ a.relocs, oa ∈ (mkNode tag args annos).annos) := by
  constructor
  · intro a ha u hu
    simp only [mkNode, AExpr.unelim, List.mem_append]
    exact Or.inr (unelimList_mem args a ha u hu)
  · intro a ha oa hoa
    simp only [mkNode, AExpr.annos, List.mem_eraseDups, List.mem_append, List.mem_flatMap]
    exact Or.inr ⟨a, ha, hoa⟩

/-- **C07 (construction)**: for every operation, argument list and simplifier proposal, what `_op` returns
keeps the non-eliminatable annotations of all arguments reachable and carries their relocatable ones. -/
theorem C07_build (tag : String) (args : List AExpr) (proposal : Option AExpr) :
    (∀ a ∈ args, ∀ u ∈ a.unelim, u ∈ (buildOp tag args proposal).unelim) ∧
    (∀ a ∈ args, ∀ oa ∈ a.relocs, oa ∈ (buildOp tag args proposal).annos) := by
  unfold buildOp
  cases proposal with
  | none => exact mkNode_contract tag args []
  | some s =>
    simp only
    cases h : handle s args with
    | none => exact mkNode_contract tag args []
    | some r => exact ⟨C07_handle_unelim s args r h, C07_handle_reloc s args r h⟩

/-- **C07 (explicit simplification)**: the result of `claripy.simplify` carries the annotations attached to the
top of the original and the relocatable annotations of its direct arguments. -/
theorem C07_simplify (expr simplified : AExpr) (hne : expr.annos ≠ []) :
    (∀ a ∈ expr.annos, a ∈ (simplifyAnnos expr simplified).annos) ∧
    (∀ x ∈ expr.args, ∀ oa ∈ x.relocs, oa ∈ (simplifyAnnos expr simplified).annos) := by
  have he : expr.annos.isEmpty = false := by
    cases h : expr.annos with
    | nil => exact absurd h hne
    | cons _ _ => rfl
  unfold simplifyAnnos
  rw [he]
  cases simplified with
  | mk t as an =>
    simp only [Bool.false_eq_true, if_false, AExpr.annos, List.mem_eraseDups, List.mem_append, List.mem_flatMap]
    exact ⟨fun a ha => Or.inr ha, fun x hx oa hoa => Or.inl ⟨x, hx, hoa⟩⟩

/-- **C07 (solver)**: for any rewriter, a constraint with a simplification-avoidance annotation is never given to it
and stays in the constraint list verbatim. -/
theorem C07_frontend_simplify (constraints : List AExpr) (rewriter : List AExpr → List AExpr) :
    (∀ c ∈ constraints.filter (fun c => !hasAvoid c), hasAvoid c = false) ∧
    (∀ c ∈ constraints, hasAvoid c = true → c ∈ frontendSimplify constraints rewriter) := by
  constructor
  · intro c hc
    simp only [List.mem_filter, Bool.not_eq_eq_eq_not, Bool.not_true] at hc
    exact hc.2
  · intro c hc ha
    unfold frontendSimplify
    simp only
    split
    · exact hc
    · exact List.mem_append_left _ (List.mem_filter.mpr ⟨hc, ha⟩)

/-- non-vacuity: a proposal that drops an argument carrying a Keep annotation is rejected; one that keeps it,
with a relocatable annotation to move, is accepted and re-annotated -/
def keep1 : Anno := { id := 1, elim := false, reloc := false }
def rel2 : Anno := { id := 2, elim := false, reloc := true }
def xk : AExpr := .mk "x" [] [keep1]
def yr : AExpr := .mk "y" [] [rel2]
example : handle (.mk "y" [] []) [xk, yr] = none := by decide
example : (handle xk [xk, yr]).map AExpr.annos = some [keep1, rel2] := by decide
/-- non-vacuity of `C07_carrier_kept_partial`: `x & y[k] ⇒ y[k]`-shaped proposal, all premises hold -/
example : (handle xk [.mk "z" [] [], xk]).map (fun r => (r.subterms.map AExpr.tag, r.annos)) = some (["x"], [keep1]) := by decide

end Claripy.Props.C07

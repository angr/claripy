import ClaripyProofs.Lemmas.Solver.CachelessHistory
import ClaripyProofs.Lemmas.Solver.SolverConsistent
import ClaripyProofs.Lemmas.Solver.Strings
import ClaripyProofs.Lemmas.Solver.SolverChildHistory
import ClaripyProofs.Lemmas.Solver.L1Hooked
/-!
# C11 — solver answers after any history (Solver, SolverCacheless, SolverStrings)

The classes are the mixin layers composed in the order of `Claripy.Gen.SolverMro.mro`, which is regenerated
from `claripy/solvers.py` on every run.  `Judge` (Claripy/Solver/Spec.lean) is the property statement.

Proved here, for EVERY oracle that is exact when it answers (`OracleExact`), every solver-object state and every
model callback that only touches the frontend record (`HookOk`):
  * `C11_satisfiable_exact` — `_satisfiable`
  * `C11_batch_eval_correct` — `_batch_eval`: feasible, pairwise distinct, complete when fewer than `n` exist, and
    the assertion frames of the solver object are restored (push/pop balance)
  * `C11_extrema_correct` — `_extrema`: the binary search returns the true optimum in the requested signedness
    (loop invariant `lo ≤ opt ≤ hi`; `bits + 1` iterations suffice)
  * every model handed to the callback is a partial model of the assertions (what `MCInv.valid` needs).
The full refinement statement is `C11_full`; see design_notes/C11.md for what is covered by proof and what by the
trace correspondence only.

Whole histories over trees of branched solvers: `C11_cacheless_refines` (class SolverCacheless) and `C11_solver_refines`
(the caching class `Solver`: ModelCacheMixin, SatCacheMixin, ConstraintExpansionMixin, SimplifyHelperMixin on top).  The
invariant of ModelCacheMixin's state is `MCInv`; `C11_modelcache_*` say that every operation of the mixin keeps it given
that the rest of the MRO answers as specified, `C11_cache_*_fast` that answers served from the cache are allowed answers.
-/
namespace Claripy.Props.C11
open Claripy.Solver Claripy.Gen.SolverMro LayerName

/-- Tie: the method resolution orders the model composes are the ones the source has now. -/
theorem C11_mro_solver : mro .Solver =
    [ConcreteHandlerMixin, EagerResolutionMixin, ConstraintFilterMixin, ConstraintDeduplicatorMixin,
     SimplifySkipperMixin, SatCacheMixin, ModelCacheMixin, ConstraintExpansionMixin, SimplifyHelperMixin,
     FullFrontend, ConstrainedFrontend, Frontend] := by decide

theorem C11_mro_cacheless : mro .SolverCacheless =
    [ConcreteHandlerMixin, EagerResolutionMixin, ConstraintFilterMixin, ConstraintDeduplicatorMixin,
     SimplifySkipperMixin, FullFrontend, ConstrainedFrontend, Frontend] := by decide

theorem C11_mro_strings : mro .SolverStrings =
    [ConcreteHandlerMixin, ConstraintFilterMixin, ConstraintDeduplicatorMixin, EagerResolutionMixin,
     FullFrontend, ConstrainedFrontend, Frontend] := by decide

/-- The full statement (refinement `answers ⊑ Spec`) for the three classes of the property: over every environment
satisfying the named hypotheses (`SolverHyps`: `Reg`, `OracleExact`, `SimpOn`, `SimpVars`, `CheapSound`, `PickOk`, `ExpReg`,
`EvalComplete`, `TrivOk`, `BuildOn`, `ZidFaithful` — all relative to the registries `R` / `RE` of the constraints and expressions of the run;
the absolute forms `BuildExact`, `SimplifyEquiv`, `NoGiveUp` of Basic.lean are inconsistent with `OracleExact` and `PickValid`
is unsatisfiable by itself, which would make the statement vacuous), for EVERY configuration (`track`, `reuse_z3_solver`) and
every history of calls in scope on a tree of branched solvers, each outcome is one the stateless reference `Judge` allows for
the constraints the user had added to that solver at that moment, or the give-up error after the backend did give up. -/
def C11_full : Prop :=
  ∀ cls ∈ [SolverClass.Solver, SolverClass.SolverCacheless, SolverClass.SolverStrings],
  ∀ (E : Env) (R : Con → Prop) (RE : Exp → Prop), SolverHyps R RE E →
  ∀ (track reuse : Bool) (hist : List (Nat × Op)), HistOkS R RE 1 hist →
    ∀ x ∈ runHist E cls (World.init track reuse) [[]] hist, JudgeOrGiveUp E x.1 x.2.1 x.2.2

/-- what is proved of `C11_full`: the caching class `Solver`, tracked or not, `reuse_z3_solver` off, every history in scope
(`C11_solver_refines_or_gives_up`).  MISSING: `reuse = true` (one Z3 object shared by all frontends and reset at every query:
the invariant "the object referred to asserts the constraints" does not hold between calls); for SolverCacheless and
SolverStrings tracking and the calls `batch_eval` / pickle round trips inside a history (`C11_cacheless_refines`,
`C11_strings_refines` cover the other calls, untracked); `unsat_core` is outside `Judge`. -/
theorem C11_full_partial {E : Env} {R : Con → Prop} {RE : Exp → Prop} (H : SolverHyps R RE E) (track : Bool)
    (hist : List (Nat × Op)) (hok : HistOkS R RE 1 hist) :
    ∀ x ∈ runHist E .Solver (World.init track false) [[]] hist, JudgeOrGiveUp E x.1 x.2.1 x.2.2 :=
  sol_hist_giveup H hist _ _ (tinvS_init R RE E track) hok

example : ∀ x ∈ runHist cEnv .Solver (World.init true false) [[]] cHist, JudgeOrGiveUp cEnv x.1 x.2.1 x.2.2 :=
  C11_full_partial cHyps true cHist cHist_ok

/-- `_satisfiable` over an exact oracle is exact and leaves the solver object's frames alone -/
theorem C11_satisfiable_exact {E : Env} (hE : OracleExact E) {hook : PModel → M Unit} {A : List ZCon}
    {P : Frontend → Prop} (hh : HookOk hook A P) (r : Nat) (extra : List ZCon) (s : St)
    (hA : ∀ c ∈ A, c ∈ (objAt s r).asserted) :
    match z3Satisfiable E r extra hook s with
    | (.ok b, s') => (b = true ↔ ∃ a, SatBy ((objAt s r).asserted ++ extra) a) ∧ L1Step r P s s' ∧
                     (objAt s' r).frames = (objAt s r).frames
    | (.error e, s') => IsGiveUp E e ∧ L1Step r P s s' ∧ (objAt s' r).frames = (objAt s r).frames :=
  wp.elim (z3Satisfiable E r extra hook s) (z3Satisfiable_run hE hh r extra s hA) (fun _ _ h => h) fun _ _ h => h

/-- `_batch_eval n`: every tuple is attained, tuples are pairwise distinct, at most `n`, and if fewer than `n` are
returned then every attained tuple is among them; frames restored -/
theorem C11_batch_eval_correct {E : Env} (hE : OracleExact E) {hook : PModel → M Unit} {A : List ZCon}
    {P : Frontend → Prop} (hh : HookOk hook A P) (r : Nat) (exprs : List Exp) (n : Nat) (extra : List ZCon) (s : St)
    (hr : r < s.objs.length) (hne : (objAt s r).frames ≠ []) (hA : ∀ c ∈ A, c ∈ (objAt s r).asserted) :
    match z3BatchEval E r exprs n extra hook s with
    | (.ok ts, s') =>
        (∀ t ∈ ts, Realises ((objAt s r).asserted ++ extra) exprs t) ∧ ts.Nodup ∧ ts.length ≤ n ∧
        (ts.length < n → ∀ a, SatBy ((objAt s r).asserted ++ extra) a → exprs.map (·.val a) ∈ ts) ∧
        L1Step r P s s' ∧ (objAt s' r).frames = (objAt s r).frames
    | (.error e, s') => IsGiveUp E e ∧ L1Step r P s s' ∧ (objAt s' r).frames = (objAt s r).frames :=
  wp.elim (z3BatchEval E r exprs n extra hook s) (z3BatchEval_run (E := E) hh hh.toRec r exprs n extra s)
    (fun _ _ ⟨_, hst, h⟩ =>
      let ⟨h1, h2, h3, h4, hp, h5⟩ := h hE hr hne hA
      ⟨h1, h2, h3, h4, ⟨hst.toObjStep, hp⟩, h5⟩)
    fun _ _ ⟨he, hst, h⟩ =>
      let ⟨hp, hfr⟩ := h hE hr hne hA
      ⟨he, ⟨hst.toObjStep, hp⟩, hfr⟩

/-- `_extrema`: the true optimum, as an integer in the range of the requested signedness -/
theorem C11_extrema_correct {E : Env} (hE : OracleExact E) {hook : PModel → M Unit} {A : List ZCon}
    {P : Frontend → Prop} (hh : HookOk hook A P) (r : Nat) (isMax : Bool) (e : Exp) (extra : List ZCon)
    (signed : Bool) (he : ExpWf e) (s : St) (hA : ∀ c ∈ A, c ∈ (objAt s r).asserted)
    (hsat : ∃ a, SatBy ((objAt s r).asserted ++ extra) a) :
    match z3Extrema E r isMax e extra signed hook s with
    | (.ok i, s') => IsOptZ isMax signed ((objAt s r).asserted ++ extra) e i ∧ L1Step r P s s' ∧
                     (objAt s' r).frames = (objAt s r).frames
    | (.error err, s') => IsGiveUp E err ∧ L1Step r P s s' ∧ (objAt s' r).frames = (objAt s r).frames :=
  wp.elim (z3Extrema E r isMax e extra signed hook s) (z3Extrema_run hE hh hh.toRec r isMax e extra signed he s hA)
    (fun _ _ ⟨hopt, hst, hp, hfr, _⟩ => ⟨hopt hsat, ⟨hst.toObjStep, hp⟩, hfr⟩)
    fun _ _ ⟨hg, hst, hp, hfr⟩ => ⟨hg, ⟨hst.toObjStep, hp⟩, hfr⟩

/-- **SolverCacheless refines the specification.** Start from a fresh `SolverCacheless()` (no tracking, Z3 solver not
reused) and make ANY sequence of add / satisfiable / eval / min / max / solution / is_true / is_false / simplify /
downsize / branch calls on any of the solvers alive (`HistOk`: the solver called exists, arguments in scope). If the
oracle answers exactly when it answers (`OracleExact`), the simplifier returns equivalent constraints on the constraints
of the run (`SimpOn`), the cheap `is_true`/`is_false` are sound and equal ids mean equal constraints (`Reg`), then every
answer of the model — the complete mixin stack, composed from the generated MRO, the solvers of the tree sharing Z3
objects as `_copy` makes them — other than the give-up error is one the property statement allows for the constraints
added so far TO THE SOLVER THAT WAS ASKED (inherited from its parent at `branch`). -/
theorem C11_cacheless_refines {E : Env} {R : Con → Prop} (hR : Reg R E) (hE : OracleExact E)
    (hS : SimpOn R E) (hT : CheapSound E) (hist : List (Nat × Op)) (hok : HistOk R 1 hist) :
    ∀ x ∈ runHist E .SolverCacheless (World.init false false) [[]] hist,
      x.2.2 ≠ .err .giveUp → Judge x.1 x.2.1 x.2.2 :=
  fun x hx => (cl_hist_giveup hR hE hS hT hist _ _ (tinv_init R) hok x hx).judge

/-- the same with the give-up case spelled out: an answer is allowed, or it is the give-up error and the oracle did
answer `unknown`; answers after a give-up are covered like all others (C17) -/
theorem C11_cacheless_refines_or_gives_up {E : Env} {R : Con → Prop} (hR : Reg R E) (hE : OracleExact E)
    (hS : SimpOn R E) (hT : CheapSound E) (hist : List (Nat × Op)) (hok : HistOk R 1 hist) :
    ∀ x ∈ runHist E .SolverCacheless (World.init false false) [[]] hist,
      JudgeOrGiveUp E x.1 x.2.1 x.2.2 :=
  cl_hist_giveup hR hE hS hT hist _ _ (tinv_init R) hok

/-- one call on solver `i`: answers as allowed for that solver's constraints (or gives up honestly) and keeps the invariant
of the whole world -/
theorem C11_cacheless_step {E : Env} {R : Con → Prop} (hR : Reg R E) (hE : OracleExact E) (hS : SimpOn R E)
    (hT : CheapSound E) (w : World) (Us : List (List Con)) (hw : TInv R Us w) (i : Nat) (hi : i < w.fes.length)
    (op : Op) (hop : InScope R op) :
    JudgeOrGiveUp E (usersAfter (Us.getD i []) op) op (step E .SolverCacheless w i op).1 ∧
    TInv R (usersAll Us i op) (step E .SolverCacheless w i op).2 :=
  cl_step hR hE hS hT w Us hw i hi op hop

/-- frontend `is_true` / `is_false` (solver half of C10): a `True` answer is never wrong, whatever the backend's cheap
test does as long as it is sound -/
theorem C11_is_true_false_sound {G : St → Prop} {E : Env} (hT : CheapSound E) {self : Ops}
    (hs : SelfOk self) (U : List Con) (s : St) (h : CLInv G U s) (isTrue : Bool) (c : Con) (hc : ConWf c)
    (extra : List Con) (wf : ∀ c ∈ extra, ConWf c) :
    match clTruth E self isTrue c extra s with
    | (.ok b, s') => (b = true → ∀ a, Models (U ++ extra) a → c.sem a = isTrue) ∧ CLInv G U s'
    | (.error err, s') => ErrOk E (U ++ extra) err ∧ CLInv G U s' :=
  wp.elim (clTruth E self isTrue c extra s) (clTruth_spec hT hs U s h isTrue c hc extra wf) (fun _ _ h => h) fun _ _ h => h

/-- **SolverStrings refines the specification** — the class ConcreteHandler, ConstraintFilter, ConstraintDeduplicator,
EagerResolution over FullFrontend (generated MRO), same scope and hypotheses as `C11_cacheless_refines`.  Expressions and
constraints are the opaque records of the model (a value per assignment): what Z3's string theory answers is part of the
oracle. -/
theorem C11_strings_refines {E : Env} {R : Con → Prop} (hR : Reg R E) (hE : OracleExact E)
    (hS : SimpOn R E) (hT : CheapSound E) (hist : List (Nat × Op)) (hok : HistOk R 1 hist) :
    ∀ x ∈ runHist E .SolverStrings (World.init false false) [[]] hist,
      x.2.2 ≠ .err .giveUp → Judge x.1 x.2.1 x.2.2 :=
  fun x hx => (st_hist_giveup hR hE hS hT hist _ _ (tinv_init R) hok x hx).judge

theorem C11_strings_refines_or_gives_up {E : Env} {R : Con → Prop} (hR : Reg R E) (hE : OracleExact E)
    (hS : SimpOn R E) (hT : CheapSound E) (hist : List (Nat × Op)) (hok : HistOk R 1 hist) :
    ∀ x ∈ runHist E .SolverStrings (World.init false false) [[]] hist, JudgeOrGiveUp E x.1 x.2.1 x.2.2 :=
  st_hist_giveup hR hE hS hT hist _ _ (tinv_init R) hok

theorem C11_strings_step {E : Env} {R : Con → Prop} (hR : Reg R E) (hE : OracleExact E) (hS : SimpOn R E)
    (hT : CheapSound E) (w : World) (Us : List (List Con)) (hw : TInv R Us w) (i : Nat) (hi : i < w.fes.length)
    (op : Op) (hop : InScope R op) :
    JudgeOrGiveUp E (usersAfter (Us.getD i []) op) op (step E .SolverStrings w i op).1 ∧
    TInv R (usersAll Us i op) (step E .SolverStrings w i op).2 :=
  st_step hR hE hS hT w Us hw i hi op hop

/-- **the invariant is established by `__init__`** (and by `_blank_copy`, `__setstate__`: an empty cache) -/
theorem C11_modelcache_init (RE : Exp → Prop) (E : Env) (U : List Con) : MCInv RE E U ({} : Frontend) :=
  mcInv_init RE E U _ rfl rfl rfl rfl rfl rfl

/-- **`_model_hook`** keeps it: a model Z3 hands out for assertions that mean the user's constraints, restricted to the
variables the frontend knows and completed with claripy's defaults, still satisfies the constraints; the flags stay right
because the cache only grows -/
theorem C11_modelcache_hook {RE : Exp → Prop} {E : Env} {U : List Con} {fe : Frontend} (h : MCInv RE E U fe) (m : PModel)
    (cs : List Con) (wf : ∀ c ∈ cs, ConWf c) (hv : ∀ c ∈ cs, ∀ v ∈ c.vars, v ∈ fe.variables)
    (heq : ∀ a, Models cs a ↔ Models U a) (hm : ∀ a, Agrees a m → Models cs a) : MCInv RE E U (mcHookFe m fe) :=
  mcHookFe_inv h m cs wf hv heq hm

/-- **`_add`** (trivial-model optimisation, re-validation of the cached models, clearing of the flags) keeps it for the
constraints the user then has — provided `super()._add` reports what it added (`LowAdd0`, proved of FullFrontend over
ConstrainedFrontend: `fc_add_low`) and, for `invalidate_cache=False`, the added constraints are implied by the old ones -/
theorem C11_modelcache_add {R : Con → Prop} {RE : Exp → Prop} {E : Env} {G : St → Prop} {U : List Con} (hR : Reg R E)
    (hT : TrivOk R RE) {self sup : Ops} (hsup : LowAdd0 sup.add) (s : St) (hb : BInv R G U s) (hmc : MCInv RE E U s.fe)
    (cs : List Con) (inv : Bool) (hcs : ∀ c ∈ cs, R c) (himp : inv = false → ∀ a, Models U a → Models cs a) :
    ∃ new s', (modelCacheLayer E self sup).add cs inv s = (.ok new, s') ∧ AddRel s s' cs new ∧
      MCInv RE E (U ++ new) s'.fe ∧ KeepAdd E s s' cs ∧ s'.fe.cachedSat = s.fe.cachedSat ∧ s'.fe.hashes = s.fe.hashes :=
  mc_add_spec hR hT hsup s hb hmc cs inv hcs himp

/-- **`satisfiable`** through the mixin: right answer, invariant kept, if the layers below do the same -/
theorem C11_modelcache_satisfiable {R : Con → Prop} {RE : Exp → Prop} {E : Env} {G : St → Prop} {U : List Con}
    {self sup : Ops} (extra : List Con) (hsup : SatSpec R RE E G U extra (sup.satisfiable extra)) :
    SatSpec R RE E G U extra ((modelCacheLayer E self sup).satisfiable extra) :=
  satSpec_iff.mpr (mc_satisfiable_spec extra (satSpec_iff.mp hsup))

/-- **`batch_eval`** (cached tuples, blocking constraint, flagging as eval-exhausted) -/
theorem C11_modelcache_batch_eval {R : Con → Prop} {RE : Exp → Prop} {E : Env} {G : St → Prop} {U : List Con}
    (hP : PickOk E) (hRE : ExpReg RE) {sup : Ops} (asts : List Exp) (hre : ∀ e ∈ asts, RE e) (n : Nat) (hn : 1 ≤ n)
    (extra : List Con)
    (hsup : ∀ n' extra', 1 ≤ n' → BatchSpec R RE E G U asts n' extra' (sup.batchEval asts n' extra')) :
    BatchSpec R RE E G U asts n extra (modelCacheBatchEval E sup asts n extra) :=
  batchSpec_iff.mpr (mc_batchEval_spec hP hRE asts hre n hn extra fun n' extra' hn' => batchSpec_iff.mp (hsup n' extra' hn'))

/-- **`eval`** -/
theorem C11_modelcache_eval {R : Con → Prop} {RE : Exp → Prop} {E : Env} {G : St → Prop} {U : List Con}
    (hP : PickOk E) (hRE : ExpReg RE) {self sup : Ops} (e : Exp) (he : RE e) (hc : e.conc = none) (n : Nat) (hn : 1 ≤ n)
    (extra : List Con)
    (hsup : ∀ n' extra', 1 ≤ n' → BatchSpec R RE E G U [e] n' extra' (sup.batchEval [e] n' extra')) :
    EvalSpec R RE E G U e n extra ((modelCacheLayer E self sup).eval e n extra) :=
  evalSpec_iff.mpr (mc_eval_spec hP hRE e he hc n hn extra fun n' extra' hn' => batchSpec_iff.mp (hsup n' extra' hn'))

/-- **`min` / `max`** (cached optimum, flagging as max/min-exhausted per signedness) -/
theorem C11_modelcache_extremum {R : Con → Prop} {RE : Exp → Prop} {E : Env} {G : St → Prop} {U : List Con}
    (hRE : ExpReg RE) {sup : Ops} (isMax : Bool) (e : Exp) (he : RE e) (extra : List Con) (signed : Bool)
    (hsup : OptSpec R RE E G U isMax e extra signed (if isMax then sup.max e extra signed else sup.min e extra signed)) :
    OptSpec R RE E G U isMax e extra signed (modelCacheExtremum E sup isMax e extra signed) :=
  optSpec_iff.mpr (mc_extremum_spec hRE isMax e he extra signed (optSpec_iff.mp hsup))

/-- **`solution`** -/
theorem C11_modelcache_solution {R : Con → Prop} {RE : Exp → Prop} {E : Env} {G : St → Prop} {U : List Con}
    {self sup : Ops} (e : Exp) (hc : e.conc = none) (v : Nat) (extra : List Con)
    (hsup : SolSpec R RE E G U e v extra (sup.solution e v extra)) :
    SolSpec R RE E G U e v extra ((modelCacheLayer E self sup).solution e v extra) :=
  solSpec_iff.mpr (mc_solution_spec e v extra (solSpec_iff.mp hsup))

/-- **`branch`** (`_copy`) hands the cache to the copy, **pickling** empties it, **`simplify`** empties it only when the
constraints contain a literal `false` -/
theorem C11_modelcache_copy_pickle_simplify {RE : Exp → Prop} {E : Env} {U : List Con} {fe : Frontend} (h : MCInv RE E U fe) :
    (∀ c : Frontend, MCInv RE E U { c with models := fe.models, evalExh := fe.evalExh, maxExh := fe.maxExh,
                                           minExh := fe.minExh, maxSExh := fe.maxSExh, minSExh := fe.minSExh }) ∧
    (∀ new : Frontend, MCInv RE E U (pickleLayer .ModelCacheMixin fe new)) ∧
    (¬ Satisfiable U → MCInv RE E U { fe with models := [] }) :=
  ⟨fun _ => mcInv_copy h, fun new => mcInv_pickle fe new, fun hun => mcInv_clear_models hun⟩

/-- **fast path, `satisfiable`**: some cached model satisfies the extra constraints — `True`, without asking anybody -/
theorem C11_cache_satisfiable_fast {RE : Exp → Prop} {E : Env} {U : List Con} {self sup : Ops} {s : St}
    (h : MCInv RE E U s.fe) (extra : List Con) (hne : (getModels E s.fe extra).isEmpty = false) :
    (modelCacheLayer E self sup).satisfiable extra s = (.ok true, s) ∧ Judge U (.satisfiable extra) (.bool true) :=
  mc_satisfiable_fast h extra hne

/-- **fast path, `eval`**: enough cached values, or the expression is flagged eval-exhausted -/
theorem C11_cache_eval_fast {RE : Exp → Prop} {E : Env} {U : List Con} {self sup : Ops} {s : St} (hP : PickOk E)
    (h : MCInv RE E U s.fe) (e : Exp) (he : RE e) (hc : e.conc = none) (n : Nat) (extra : List Con)
    (hfast : BatchFast E s.fe [e] n extra) :
    ∃ vs, (modelCacheLayer E self sup).eval e n extra s = (.ok vs, { s with tick := s.tick + 1 }) ∧
      Judge U (.eval e n extra) (.vals vs) :=
  mc_eval_fast hP h e he hc n extra hfast

/-- **fast path, `min` / `max`**: the expression is flagged (eval- or optimum-exhausted in the signedness asked for), no
extra constraints, a model is cached -/
theorem C11_cache_extremum_fast {RE : Exp → Prop} {E : Env} {U : List Con} {sup : Ops} {s : St} (hR : ExpReg RE)
    (h : MCInv RE E U s.fe) (isMax signed : Bool) (e : Exp) (he : RE e) (hc : e.conc = none)
    (hfl : e.id ∈ s.fe.evalExh ∨ e.id ∈ optFlags isMax signed s.fe) (hne : s.fe.models ≠ []) :
    ∃ i, modelCacheExtremum E sup isMax e [] signed s = (.ok i, s) ∧
      Judge U (if isMax then .max e [] signed else .min e [] signed) (.int i) :=
  mc_extremum_fast hR h isMax signed e he hc hfl hne

/-- **fast path, `solution`**: some cached model that satisfies the extra constraints gives the value -/
theorem C11_cache_solution_fast {RE : Exp → Prop} {E : Env} {U : List Con} {self sup : Ops} {s : St}
    (h : MCInv RE E U s.fe) (e : Exp) (hc : e.conc = none) (v : Nat) (extra : List Con)
    (hin : ((allBatchSolutions E s.fe [e] extra true).map fun t => t.headD 0).contains v = true) :
    (modelCacheLayer E self sup).solution e v extra s = (.ok true, s) ∧ Judge U (.solution e v extra) (.bool true) :=
  mc_solution_fast h e hc v extra hin

/-- **Solver refines the specification.** Start from a fresh `Solver(track=…)` (tracked or not; Z3 solver not reused) and make ANY
sequence of add / satisfiable / eval / batch_eval / min / max / solution / is_true / is_false / simplify / downsize / branch /
pickle-round-trip calls on any of the solvers alive (`HistOkS`: the solver called exists; added constraints from the registry
`R`, queried symbolic expressions from the registry `RE`).  Under the hypotheses `SolverHyps` (those of the cacheless theorem, plus: `EvalComplete` — the models of
`sat` answers determine the registered expressions —, `PickOk`, `TrivOk`, `BuildOn`, `SimpVars`), every answer of the model —
the complete mixin stack composed from the generated MRO, model cache, satisfiability cache and constraint expansion
included, the solvers of the tree sharing Z3 objects as `_copy` makes them and inheriting each other's caches — other than the
give-up error is one the property statement allows for the constraints added so far to the solver that was asked. -/
theorem C11_solver_refines {E : Env} {R : Con → Prop} {RE : Exp → Prop} (H : SolverHyps R RE E) (track : Bool)
    (hist : List (Nat × Op)) (hok : HistOkS R RE 1 hist) :
    ∀ x ∈ runHist E .Solver (World.init track false) [[]] hist, x.2.2 ≠ .err .giveUp → Judge x.1 x.2.1 x.2.2 :=
  fun x hx => (sol_hist_giveup H hist _ _ (tinvS_init R RE E track) hok x hx).judge

/-- the same with the give-up case spelled out -/
theorem C11_solver_refines_or_gives_up {E : Env} {R : Con → Prop} {RE : Exp → Prop} (H : SolverHyps R RE E)
    (track : Bool) (hist : List (Nat × Op)) (hok : HistOkS R RE 1 hist) :
    ∀ x ∈ runHist E .Solver (World.init track false) [[]] hist, JudgeOrGiveUp E x.1 x.2.1 x.2.2 :=
  sol_hist_giveup H hist _ _ (tinvS_init R RE E track) hok

/-- one call on solver `i` of a tree of caching solvers: answers as allowed for that solver's constraints (or gives up
honestly) and keeps the invariant of the whole world (`TInvS`: every frontend satisfies `SI = BInv ∧ MCInv ∧ SCInv` for its
own user's constraints; shared Z3 objects are referred to by finalized frontends only) -/
theorem C11_solver_step {E : Env} {R : Con → Prop} {RE : Exp → Prop} (H : SolverHyps R RE E) (w : World)
    (Us : List (List Con)) (hw : TInvS R RE E Us w) (i : Nat) (hi : i < w.fes.length) (op : Op) (hop : InScopeS R RE op) :
    JudgeOrGiveUp E (usersAfter (Us.getD i []) op) op (step E .Solver w i op).1 ∧
    TInvS R RE E (usersAll Us i op) (step E .Solver w i op).2 :=
  sol_step H w Us hw i hi op hop

/-- the hypotheses of `C11_solver_refines` are jointly satisfiable, with a registry holding a real constraint (`x <= 5`) and
a queried expression (`x`), and a history in scope that adds, optimises, branches, enumerates, … -/
theorem C11_solver_hypotheses_consistent :
    ∃ (E : Env) (R : Con → Prop) (RE : Exp → Prop), SolverHyps R RE E ∧ R cCon ∧ RE cExp ∧ HistOkS R RE 1 cHist :=
  ⟨cEnv, cR, cRE, cHyps, Or.inr (Or.inl rfl), rfl, cHist_ok⟩

/-- non-vacuity: the theorem applies to that environment and history -/
example : ∀ x ∈ runHist cEnv .Solver (World.init false false) [[]] cHist, JudgeOrGiveUp cEnv x.1 x.2.1 x.2.2 :=
  C11_solver_refines_or_gives_up cHyps false cHist cHist_ok

/-- **SolverCompositeChild refines the specification**: ConstraintDeduplicator, SatCache, SimplifySkipper, ModelCache over
FullFrontend (generated MRO) — the caching layers of `Solver` in another order, no constraint filter, no concrete handler (so
the queried expressions are symbolic: `InScopeC`), no expansion.  Same hypotheses and world invariant as `C11_solver_refines`. -/
theorem C11_child_refines {E : Env} {R : Con → Prop} {RE : Exp → Prop} (H : SolverHyps R RE E) (track : Bool)
    (hist : List (Nat × Op)) (hok : HistOkC R RE 1 hist) :
    ∀ x ∈ runHist E .SolverCompositeChild (World.init track false) [[]] hist,
      x.2.2 ≠ .err .giveUp → Judge x.1 x.2.1 x.2.2 :=
  fun x hx => (ch_hist_giveup H hist _ _ (tinvS_init R RE E track) hok x hx).judge

theorem C11_child_refines_or_gives_up {E : Env} {R : Con → Prop} {RE : Exp → Prop} (H : SolverHyps R RE E)
    (track : Bool) (hist : List (Nat × Op)) (hok : HistOkC R RE 1 hist) :
    ∀ x ∈ runHist E .SolverCompositeChild (World.init track false) [[]] hist, JudgeOrGiveUp E x.1 x.2.1 x.2.2 :=
  ch_hist_giveup H hist _ _ (tinvS_init R RE E track) hok

theorem C11_child_step {E : Env} {R : Con → Prop} {RE : Exp → Prop} (H : SolverHyps R RE E) (w : World)
    (Us : List (List Con)) (hw : TInvS R RE E Us w) (i : Nat) (hi : i < w.fes.length) (op : Op) (hop : InScopeC R RE op) :
    JudgeOrGiveUp E (usersAfter (Us.getD i []) op) op (step E .SolverCompositeChild w i op).1 ∧
    TInvS R RE E (usersAll Us i op) (step E .SolverCompositeChild w i op).2 :=
  ch_step H w Us hw i hi op hop

/-- non-vacuity: a history in scope for the child class in the consistent environment -/
example : ∀ x ∈ runHist cEnv .SolverCompositeChild (World.init false false) [[]]
      [(0, .add [cEq]), (0, .max cExp [] true), (0, .branch), (1, .batchEval [cExp] 3 []), (1, .add [cCon]),
       (0, .pickle), (0, .eval cExp 2 [cCon])], JudgeOrGiveUp cEnv x.1 x.2.1 x.2.2 := by
  refine C11_child_refines_or_gives_up cHyps false _ ?_
  simp [HistOkC, InScopeC]

/-! Why `EvalComplete` is a hypothesis.  The oracle of the model returns, with a `sat` answer, the key set of the Z3 model AS `_generic_model` READS IT.  `_batch_eval`
evaluates the expressions with `model_completion=True` first, which adds the constants the evaluator visits to the model
object — so in the real code the model handed to `_model_hook` mentions a variable of the expression and gives it the value
reported.  An oracle that is exact but leaves the variable out (below: the first answer of a run mentions no constant) makes
the MODEL flag the expression eval-exhausted with one value missing from the cache; the next `eval` is answered from the
cache and is incomplete.  On the real code the same history answers all 8 values twice (the cache holds 8 models). -/

def tCon : Con := { id := 2, vars := [0], sem := fun _ => true }
def tOracle (q : Query) (_k : Nat) : Answer :=
  match (List.range 8).find? (fun v => q.holds (fun _ => v)) with
  | some v => .sat [v] (if q.asserted.length + q.assumptions.length ≤ 1 then [] else [0])
  | none => .unsat []
def tEnv : Env :=
  { dflt := fun _ => 0, oracle := tOracle, build := fun _ => default, falseCon := cFalse,
    cheapFalse := fun _ _ _ => false, truth := fun _ _ _ => false, simp := fun cs _ => cs, pick := fun all n _ => all.take n }

example : (runHist tEnv .Solver (World.init false false) [[]]
      [(0, .add [tCon]), (0, .eval cExp 20 []), (0, .eval cExp 20 [])]).map (·.2.2) =
    [.cons [2], .vals [0, 1, 2, 3, 4, 5, 6, 7], .vals [1, 2, 3, 4, 5, 6, 7]] := by decide +kernel

example : ¬ Judge [tCon] (.eval cExp 20 []) (.vals [1, 2, 3, 4, 5, 6, 7]) := by
  intro h
  have h0 : Feasible ([tCon] ++ []) cExp 0 := ⟨fun _ => 0, by simp [Models, tCon], by simp [cExp]⟩
  simp only [Judge, cExp] at h
  have := h.2.2.2 0 h0
  simp at this

def regCon : Con := { id := 1, vars := [0], sem := fun a => decide (a 0 % 8 ≤ 5) }

/-- the environment `cEnv` that meets the hypotheses of the caching class (`cHyps`) meets these too; `regCon` is its `x <= 5` -/
theorem C11_hypotheses_consistent :
    ∃ (E : Env) (R : Con → Prop), Reg R E ∧ OracleExact E ∧ SimpOn R E ∧ CheapSound E ∧ R regCon :=
  ⟨cEnv, cR, cHyps.reg, cHyps.oracle, cHyps.simpOn, cHyps.cheap, Or.inr (Or.inl rfl)⟩

/-! non-vacuity: a concrete exact run of the binary search (unsigned max of a 3-bit value constrained to ≤ 5) -/

def demoExp : Exp := { id := 1, bits := 3, vars := [0], val := fun a => a 0 % 8 }
def demoCon : ZCon := ⟨.con 1, fun a => decide (a 0 % 8 ≤ 5)⟩
/-- an exact oracle for the demo: enumerates the 8 values -/
def demoOracle (q : Query) (_k : Nat) : Answer :=
  match (List.range 8).find? (fun v => q.holds (fun _ => v)) with
  | some v => .sat [v] [0]
  | none => .unsat []
def demoEnv : Env :=
  { dflt := fun _ => 0, oracle := demoOracle, build := fun _ => default, falseCon := default,
    cheapFalse := fun _ _ _ => false, truth := fun _ _ _ => false, simp := fun cs _ => cs, pick := fun all _ _ => all }
def demoSt : St := { objs := [{ frames := [[demoCon]] }] }

example : (z3Extrema demoEnv 0 true demoExp [] false (fun _ => pure ()) demoSt).1.toOption = some 5 := by
  decide +kernel
example : (z3Extrema demoEnv 0 false demoExp [] true (fun _ => pure ()) demoSt).1.toOption = some (-4) := by
  decide +kernel
example : ((z3BatchEval demoEnv 0 [demoExp] 20 [] (fun _ => pure ()) demoSt).1.toOption.map List.length) = some 6 := by
  decide +kernel

end Claripy.Props.C11

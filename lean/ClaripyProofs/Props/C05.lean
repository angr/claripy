import Claripy.AST.Meta
import ClaripyProofs.Lemmas.AST.Typing
/-!
# C05 — width, variables, concreteness and depth are reported accurately

For the expression model (`Expr`, with `Expr.width` = claripy's `length` as the `calc_length` functions
compute it, `Expr.vars` = the `variables` union, `Expr.depth`, `Expr.symbolic`):

* `C05_width` — whenever an expression denotes a bit-vector of width `w`, its reported width is `w`;
* `C05_vars` — the denotation depends only on the reported variables (so every variable that matters is reported);
* `C05_concrete` — an expression reported concrete (no variables) denotes the same value under every assignment;
* `C05_depth_*` — depth is one more than the deepest argument.
The correspondence check compares these functions with the real `.length/.variables/.symbolic/.depth` on every
node of every built AST.
-/
namespace Claripy.Props.C05
open Claripy.AST

mutual
theorem eval_env_congr (env1 env2 : Env) : ∀ e : Expr,
    (∀ x ∈ e.vars, env1.bv x = env2.bv x ∧ env1.bool x = env2.bool x) → eval env1 e = eval env2 e
  | .bvv v w => by intro _; simp [eval]
  | .bvs name w => by
    intro h
    have := (h name (by simp [Expr.vars])).1
    simp [eval, this]
  | .boolv b => by intro _; simp [eval]
  | .bools name => by
    intro h
    have := (h name (by simp [Expr.vars])).2
    simp [eval, this]
  | .app op args => by
    intro h
    simp only [eval]
    rw [evalList_env_congr env1 env2 args (by simpa [Expr.vars] using h)]
theorem evalList_env_congr (env1 env2 : Env) : ∀ es : List Expr,
    (∀ x ∈ Expr.varsList es, env1.bv x = env2.bv x ∧ env1.bool x = env2.bool x) → evalList env1 es = evalList env2 es
  | [] => by intro _; simp [evalList]
  | e :: es => by
    intro h
    simp only [evalList]
    rw [eval_env_congr env1 env2 e (fun x hx => h x (by simp [Expr.varsList, hx])),
        evalList_env_congr env1 env2 es (fun x hx => h x (by simp [Expr.varsList, hx]))]
end

/-- the value depends only on the reported variables -/
theorem C05_vars (env1 env2 : Env) (e : Expr)
    (h : ∀ x ∈ e.vars, env1.bv x = env2.bv x ∧ env1.bool x = env2.bool x) : eval env1 e = eval env2 e :=
  eval_env_congr env1 env2 e h

/-- an expression reported concrete (`symbolic = false`) has one value -/
theorem C05_concrete (e : Expr) (h : e.symbolic = false) (env1 env2 : Env) : eval env1 e = eval env2 e := by
  apply C05_vars
  intro x hx
  simp [Expr.symbolic] at h
  simp [h] at hx

theorem C05_depth_leaf_bvv (v w : Nat) : (Expr.bvv v w).depth = 1 := by simp [Expr.depth]
theorem C05_depth_node (op : Op) (args : List Expr) : (Expr.app op args).depth = 1 + Expr.depthList args := by
  simp [Expr.depth]
theorem C05_depthList_max (e : Expr) (es : List Expr) (he : e ∈ es) : e.depth ≤ Expr.depthList es := by
  induction es with
  | nil => simp at he
  | cons a as ih =>
    simp only [Expr.depthList]
    rcases List.mem_cons.mp he with rfl | h
    · omega
    · have := ih h; omega

def valWidth : Val → Option Nat
  | .bv w _ => some w
  | _ => none

def Agree : List Val → List (Option Nat) → Prop
  | [], [] => True
  | v :: vs, ow :: ws => (∀ w n, v = .bv w n → ow = some w) ∧ Agree vs ws
  | _, _ => False

theorem Agree.widthsOn : ∀ {vs : List Val} {ws : List (Option Nat)}, Agree vs ws →
    WidthsOn (fun t => ∃ w, t = .bv w) (vs.map Val.ty) ws
  | [], [], _ => trivial
  | v :: _, _ :: _, h => ⟨fun ⟨w, hw⟩ => by cases v <;> cases hw; exact h.1 _ _ rfl, h.2.widthsOn⟩

theorem applyOp_width (op : Op) (vs : List Val) (ws : List (Option Nat)) (hag : Agree vs ws) {w n : Nat}
    (h : applyOp op vs = .bv w n) : widthOf op ws = some w := by
  have ht : tyOp op (vs.map Val.ty) = .bv w := by rw [← applyOp_ty, h]; rfl
  rw [widthOf_on (fun w => ⟨w, rfl⟩) op hag.widthsOn (ht ▸ Ty.noConfusion) ⟨w, ht⟩, ht]
  rfl

theorem eval_width (env : Env) (e : Expr) (w n : Nat) (h : eval env e = .bv w n) : e.width = some w := by
  rw [width_eq_ty env e (by simp [h]), h]; rfl

theorem evalList_agree (env : Env) : ∀ es : List Expr, Agree (evalList env es) (Expr.widthList es)
  | [] => by simp [evalList, Expr.widthList, Agree]
  | e :: es => by
    simp only [evalList, Expr.widthList, Agree]
    exact ⟨fun w n h => eval_width env e w n h, evalList_agree env es⟩

/-- **C05 (width)**: whenever an expression denotes a bit-vector of width `w` — under any assignment — the
width claripy reports for it (`length`, computed bottom-up by the `calc_length` functions) is `w`. -/
theorem C05_width (env : Env) (e : Expr) (w n : Nat) (h : eval env e = .bv w n) : e.width = some w :=
  eval_width env e w n h

/-- non-vacuity: a concrete width-changing expression -/
example : (Expr.app (.zeroExt 3) [.app .concat [.bvs "x" 4, .bvv 1 1]]).width = some 8 := by decide
example : eval ⟨fun _ => 5, fun _ => false⟩ (Expr.app (.zeroExt 3) [.app .concat [.bvs "x" 4, .bvv 1 1]]) = .bv 8 11 := by
  decide

end Claripy.Props.C05

import ClaripyProofs.Lemmas.AST.RulesAllSound
import ClaripyProofs.Lemmas.AST.FoldSound
import ClaripyProofs.Lemmas.AST.BCNormSound
import ClaripyProofs.Lemmas.AST.BitsSound
import ClaripyProofs.Lemmas.AST.CmpSound
import ClaripyProofs.Lemmas.AST.AndEqNeSound
import ClaripyProofs.Lemmas.AST.MinMaxSound
import ClaripyProofs.Lemmas.AST.Built
import Claripy.AST.RuleTies
/-!
# C01 — bit-vector and Boolean expressions mean exactly what the written operations say

What is proved here, for EVERY width, constant, sub-expression and assignment (no bound):

* `C01_rules_sound` — each of the 75 rewrite schemas of `Claripy.AST.R.all` (transcribed from
  claripy/simplifications.py and ast/bool.py:If; the correspondence check ties them to the code) replaces
  a well-typed node by a tree with the same SMT-LIB value.
* the bridge lemmas `Claripy.BV.*_spec` — the Python-int formulas of backend_concrete/bv.py used for eager
  folding compute Lean's `BitVec` (= SMT-LIB) operations.
* `C01_rewrite_step_sound`, `C01_congruence` — a rewrite may be applied at any position of a tree, and
  again to its own result ("again after any further operations"): denotation is a congruence.

* `C01_ac_rewrite_sound`, `C01_bool_ac_rewrite_sound`, `C01_bits_rewrite_sound`, `C01_cmp_rewrite_sound`,
  `C01_and_eq_ne_sound`, `C01_minmax_rewrite_sound` — the simplifiers that fit no finite table: a rewrite that the
  executable certificate check accepts preserves the value; `C01_built_sound` — whatever is built bottom-up from such
  steps, re-entrantly, denotes what was written.

`C01_full` is the complete statement for an arbitrary constructor function; the part not proved is described in DESIGN.md
section 0.2 ("Unproved and said so"): the rewrites that neither a schema nor a certificate check explains.
-/
namespace Claripy.Props.C01
open Claripy.AST

/-- Every schema of the rule table is sound (see `Claripy.AST.Sound`). -/
theorem C01_rules_sound : ∀ s ∈ R.all, Sound s := all_sound

/-! ### tables regenerated from claripy/simplifications.py on every run (`Claripy/Gen/SimpTables.lean`) -/

theorem notPairs_sound : ∀ ab ∈ notPairs, ∀ (env : Env) (x y : Expr),
    eval env (.app .not [.app ab.1 [x, y]]) ≠ .err → eval env (.app ab.2 [x, y]) = eval env (.app .not [.app ab.1 [x, y]]) := by
  intro ab hab env x y hwt
  simp only [notPairs, List.mem_cons, List.mem_nil_iff, or_false] at hab
  rcases hab with h | h | h | h | h | h | h | h | h | h <;> subst h
  · exact not_eq_sound { x := x, y := y } env rfl hwt
  · exact not_ne_sound { x := x, y := y } env rfl hwt
  · exact not_slt_sound { x := x, y := y } env rfl hwt
  · exact not_sle_sound { x := x, y := y } env rfl hwt
  · exact not_sgt_sound { x := x, y := y } env rfl hwt
  · exact not_sge_sound { x := x, y := y } env rfl hwt
  · exact not_ult_sound { x := x, y := y } env rfl hwt
  · exact not_ule_sound { x := x, y := y } env rfl hwt
  · exact not_ugt_sound { x := x, y := y } env rfl hwt
  · exact not_uge_sound { x := x, y := y } env rfl hwt

/-- **every entry of the code's `boolean_not_simplifier` chain is a proven rewrite**: either `Not(Not(c)) ⇒ c`
(`N.not_not`) or one of the complement pairs of `notPairs_sound`.  The table is what the translator reads from the
source; an entry the proofs do not cover makes this theorem fail. -/
theorem C01_not_table_proven : Claripy.Gen.SimpTables.notTable.all notEntryOK = true := by decide

/-- every operation the code lets `Extract` distribute over is one of the three for which that is proved
(`T5.extract_and/or/xor`, any number of operands) -/
theorem C01_extract_distributable_proven :
    Claripy.Gen.SimpTables.extractDistributable.all (fun s => (bitwiseOfPy s).isSome) = true := by decide

/-- every operation the code flattens is one whose flattening the AC certificate checks decide -/
theorem C01_flattenable_modelled :
    Claripy.Gen.SimpTables.flattenable.all (fun s => flattenModelled.contains s) = true := by decide

/-- no operation has a construction-time simplifier the model does not know of -/
theorem C01_simplifier_ops_modelled :
    Claripy.Gen.SimpTables.simplifierOps.all (fun s => simplifierOpsModelled.contains s) = true := by decide

/-- values produced by the denotation are canonical bit-vectors of positive width -/
theorem C01_eval_canonical (env : Env) (e : Expr) : (eval env e).WF := eval_wf env e

/-- Denotation is a congruence: a node depends on its arguments only through their values.  So replacing
any argument (at any depth, by induction) by an expression with the same value preserves the value. -/
theorem C01_congruence (env : Env) (op : Op) (as bs : List Expr)
    (h : evalList env as = evalList env bs) : eval env (.app op as) = eval env (.app op bs) := by
  simp [eval, h]

/-- One construction step: the node the caller wrote, `op(args)`, is replaced by the right-hand side of a
matching schema whose own constructor calls may again have been rewritten into anything of equal value
(`e'`): the result denotes what was written. -/
theorem C01_rewrite_step_sound (env : Env) (s : Schema) (hs : s ∈ R.all) (p : P) (e' : Expr)
    (hside : s.side p = true) (hwt : eval env (s.lhs p) ≠ .err)
    (hrec : eval env e' = eval env (s.rhs p)) : eval env e' = eval env (s.lhs p) := by
  rw [hrec]; exact all_sound s hs p env hside hwt

/-- **Eager folding computes the denotation**: whenever the folding model returns a value for a well-typed constant
node, that value is the SMT-LIB value of the node — at every width, for all constants, for EVERY operator of the fragment
(`Proven` is constantly true: the bridge lemmas include n-ary `Concat` and `Reverse`, generic loop and unrolled 16/32/64-bit
formulas). -/
theorem C01_fold_sound (op : Op) (hp : Proven op = true) (vs : List CVal) (hwt : Claripy.Props.C04.WT op vs)
    (hvs : ∀ v ∈ vs, v.Canon) (c : CVal) (h : foldOp op vs = .ok c) : applyOp op (vs.map CVal.toVal) = c.toVal :=
  foldOp_sound op hp vs hwt hvs c h

/-- the same without the side condition, which every operator meets -/
theorem C01_fold_sound_all (op : Op) (vs : List CVal) (hwt : Claripy.Props.C04.WT op vs)
    (hvs : ∀ v ∈ vs, v.Canon) (c : CVal) (h : foldOp op vs = .ok c) : applyOp op (vs.map CVal.toVal) = c.toVal :=
  foldOp_sound op (by cases op <;> rfl) vs hwt hvs c h

/-- Rewrites of the associative-commutative n-ary nodes (`__add__ __mul__ __and__ __or__ __xor__`: flattening of nested
nodes, any reordering, merging of literals, cancelling equal `__xor__` operands, dropping repeated `__and__`/`__or__`
operands — what `_flatten_simplifier` and its filters do): a rewrite accepted by the executable certificate check
`acEquiv` preserves the value of a well-typed node.  Every width, every number of operands, every nesting depth.
The correspondence check runs `acEquiv` on each such rewrite the real constructor performs. -/
theorem C01_ac_rewrite_sound (k : ACK) (w : Nat) (lhs rhs : Expr) (h : acEquiv k w lhs rhs = true) (env : Env) (n : Nat)
    (hl : eval env lhs = .bv w n) : eval env rhs = eval env lhs := acEquiv_sound k w lhs rhs h env n hl

/-- the same with the width the node reports (what the driver passes) -/
theorem C01_ac_rewrite_sound_width (k : ACK) (w : Nat) (lhs rhs : Expr) (hw : lhs.width = some w)
    (h : acEquiv k w lhs rhs = true) (env : Env) (w' n : Nat) (hl : eval env lhs = .bv w' n) :
    eval env rhs = eval env lhs :=
  acEquiv_sound_wt k w lhs rhs h env hw (by simp [hl])

/-- Boolean `And` / `Or` nodes (boolean_and_simplifier / boolean_or_simplifier): flattening, dropping identity literals,
an absorbing literal deciding the node, dropping repeated operands, reordering — a rewrite accepted by `bcEquiv` preserves
the Boolean a well-typed node denotes.  Every number of operands and nesting depth. -/
theorem C01_bool_ac_rewrite_sound (k : BK) (lhs rhs : Expr) (h : bcEquiv k lhs rhs = true) (env : Env) (b : Bool)
    (hl : eval env lhs = .bool b) : eval env rhs = eval env lhs := bcEquiv_sound k lhs rhs h env b hl

example : bcEquiv .and (.app .and [.app .and [.bools "p", .boolv true], .app .and [.bools "q", .bools "p"]])
    (.app .and [.bools "p", .bools "q"]) = true := by decide
example : bcEquiv .or (.app .or [.bools "p", .boolv true, .bools "q"]) (.boolv true) = true := by decide
example : bcEquiv .and (.app .and [.bools "p", .bools "q"]) (.bools "p") = false := by decide

/-- Bit-rearranging rewrites (`Concat`, `Extract`, `ZeroExt`, `SignExt` over literals and arbitrary other terms: extract of
concat, extract of extract, concat of adjacent extracts, extract of an extension, …): a rewrite accepted by the bit-level
normal-form check `bitsEquiv` preserves the value of a well-typed expression.  Every width, every assignment. -/
theorem C01_bits_rewrite_sound (lhs rhs : Expr) (h : bitsEquiv lhs rhs = true) (env : Env) (w n : Nat)
    (hl : eval env lhs = .bv w n) : eval env rhs = eval env lhs := bitsEquiv_sound lhs rhs h env w n hl

example : bitsEquiv (.app (.extract 11 4) [.app .concat [.bvs "x" 8, .bvs "y" 8]])
    (.app .concat [.app (.extract 3 0) [.bvs "x" 8], .app (.extract 7 4) [.bvs "y" 8]]) = true := by decide
example : bitsEquiv (.app (.extract 7 0) [.app (.zeroExt 8) [.bvs "x" 8]]) (.bvs "x" 8) = true := by decide
example : bitsEquiv (.app (.extract 7 0) [.app .concat [.bvs "x" 8, .bvs "y" 8]]) (.bvs "x" 8) = false := by decide

/-- Comparison simplifiers on bit-vector (dis)equalities (masks, zero extensions, literal bit mismatches: `(x & 1) == 1 ⇒
x[0:0] == 1`, `ZeroExt(2, x) != c ⇒ x != c'`, `Concat(0, x) == c ⇒ false`): a rewrite accepted by the per-bit normal-form check
`cmpEquiv` preserves the truth value of a well-typed comparison.  Every width, every assignment. -/
theorem C01_cmp_rewrite_sound (lhs rhs : Expr) (h : cmpEquiv lhs rhs = true) (env : Env) (v : Bool)
    (hl : eval env lhs = .bool v) : eval env rhs = eval env lhs := cmpEquiv_sound lhs rhs h env v hl

example : cmpEquiv (.app .eq [.app .band [.bvs "x" 2, .bvv 1 2], .bvv 1 2]) (.app .eq [.app (.extract 0 0) [.bvs "x" 2], .bvv 1 1]) = true := by
  decide
example : cmpEquiv (.app .ne [.app .band [.bvs "x" 4, .bvv 3 4], .bvv 6 4]) (.boolv true) = true := by decide
example : cmpEquiv (.app .eq [.bvs "x" 4, .bvv 6 4]) (.app .eq [.bvs "x" 4, .bvv 7 4]) = false := by decide

/-- `And` of equalities / disequalities of ONE expression with literals (the tail of boolean_and_simplifier:
`x == 1 && x != 2 ⇒ x == 1`, `x == 1 && x == 3 ⇒ false`, `x == 1 && x != 1 ⇒ false`): a collapse accepted by `andEqNeAuto`
preserves the truth value of a well-typed conjunction, for every number of conjuncts and every width. -/
theorem C01_and_eq_ne_sound (lhs rhs : Expr) (h : andEqNeAuto lhs rhs = true) (env : Env) (v : Bool)
    (hl : eval env lhs = .bool v) : eval env rhs = eval env lhs := andEqNeAuto_sound lhs rhs h env v hl

example : andEqNeAuto (.app .and [.app .eq [.bvs "x" 8, .bvv 1 8], .app .ne [.bvs "x" 8, .bvv 2 8], .app .ne [.bvv 3 8, .bvs "x" 8]])
    (.app .eq [.bvs "x" 8, .bvv 1 8]) = true := by decide
example : andEqNeAuto (.app .and [.app .eq [.bvs "x" 8, .bvv 1 8], .app .eq [.bvs "x" 8, .bvv 3 8]]) (.boolv false) = true := by decide
example : andEqNeAuto (.app .and [.app .eq [.bvs "x" 8, .bvv 1 8], .app .ne [.bvs "x" 8, .bvv 2 8]]) (.boolv false) = false := by decide

/-- The branch-free signed min/max idiom (`bitwise_xor_simplifier_minmax`): `q ^ ((((((q - r) ^ q) & (q ^ r)) ^ (q - r)) >> (bits-1))
& (q ^ r))` is `If(q <=s r, r, q)`, and the mirrored form is the minimum — for every width, with the operands of every `^` and `&`
in either order.  A rewrite accepted by `minmaxEquiv` preserves the value of a well-typed idiom. -/
theorem C01_minmax_rewrite_sound (lhs rhs : Expr) (h : minmaxEquiv lhs rhs = true) (env : Env) (w n : Nat)
    (hl : eval env lhs = .bv w n) : eval env rhs = eval env lhs := minmaxEquiv_sound lhs rhs h env w n hl

/-- the two identities on `BitVec w` behind it -/
theorem C01_max_idiom {w : Nat} (x y : BitVec w) (hw : 0 < w) :
    x ^^^ ((BitVec.sshiftRight' ((((x - y) ^^^ x) &&& (x ^^^ y)) ^^^ (x - y)) (BitVec.ofNat w (w - 1))) &&& (x ^^^ y)) =
      if x.sle y then y else x := max_idiom x y hw
theorem C01_min_idiom {w : Nat} (x y : BitVec w) (hw : 0 < w) :
    x ^^^ ((BitVec.sshiftRight' ((((y - x) ^^^ y) &&& (x ^^^ y)) ^^^ (y - x)) (BitVec.ofNat w (w - 1))) &&& (x ^^^ y)) =
      if x.sle y then x else y := min_idiom x y hw

example : minmaxEquiv (maxCanon (.bvs "q" 8) (.bvs "r" 8) 8) (.app .ite [.app .sle [.bvs "q" 8, .bvs "r" 8], .bvs "r" 8, .bvs "q" 8]) = true := by
  decide
example : minmaxEquiv (maxCanon (.bvs "q" 8) (.bvs "r" 8) 8) (.app .ite [.app .sle [.bvs "q" 8, .bvs "r" 8], .bvs "q" 8, .bvs "r" 8]) = false := by
  decide

/-- the check is not vacuous: it accepts `(a ^ b) ^ (b ^ a) ⇒ 0` and `(a + 3) + (5 + b) ⇒ a + b + 8`, and rejects `a + b ⇒ a + c` -/
example : acEquiv .bxor 8 (.app .bxor [.app .bxor [.bvs "a" 8, .bvs "b" 8], .app .bxor [.bvs "b" 8, .bvs "a" 8]]) (.bvv 0 8) = true := by
  decide
example : acEquiv .add 8 (.app .add [.app .add [.bvs "a" 8, .bvv 3 8], .app .add [.bvv 5 8, .bvs "b" 8]])
    (.app .add [.bvs "a" 8, .bvs "b" 8, .bvv 8 8]) = true := by decide
example : acEquiv .add 8 (.app .add [.bvs "a" 8, .bvs "b" 8]) (.app .add [.bvs "a" 8, .bvs "c" 8]) = false := by decide

/-- One justified step at the root of a node whose operands are already built (`Claripy.AST.Direct`: keep the node, fold it,
rewrite it by a schema, or rewrite it in a way a certificate check accepts) preserves the value of a well-typed node. -/
theorem C01_direct_sound {t r : Expr} (h : Direct t r) (env : Env) (hwt : eval env t ≠ .err) : eval env r = eval env t :=
  Direct_sound h env hwt

/-- **C01, the constructor as a whole.**  `Built t r`: `r` is obtained from the written tree `t` bottom-up, every node being
kept, folded, or rewritten by a justified step, and the tree a rewrite writes down being itself built by the constructors —
re-entrantly, to any depth, any number of times ("again after any further operations").  Whatever is built this way denotes
what was written, under every assignment.  The correspondence check establishes, for every node construction of every
generated tree, that the real constructor's result is explained by such a step (the few it cannot explain are counted in the
evidence). -/
theorem C01_built_sound (env : Env) {t r : Expr} (h : Built t r) (hwt : eval env t ≠ .err) : eval env r = eval env t :=
  Built_sound env h hwt

/-- The complete property, for an arbitrary constructor function `build`.  It holds of every `build` that returns only what
`Built` allows (`C01_full_of_built`); that the real constructor is one is what the correspondence samples. -/
def C01_full (build : Expr → Option Expr) : Prop :=
  ∀ (t e : Expr) (env : Env), build t = some e → eval env t ≠ .err → eval env e = eval env t

theorem C01_full_of_built (build : Expr → Option Expr) (h : ∀ t e, build t = some e → Built t e) : C01_full build :=
  fun t e env hb hwt => Built_sound env (h t e hb) hwt

/-- non-vacuity: `(x - 0#8) ^ x ⇒ 0#8`, a two-level derivation: the inner node is rewritten by a schema (`x - 0 ⇒ x`), the outer by another
(`x ^ x ⇒ 0`) -/
example : Built (.app .bxor [.app .sub [.bvs "x" 8, .bvv 0 8], .bvs "x" 8]) (.bvv 0 8) := by
  refine .node .bxor _ [.bvs "x" 8, .bvs "x" 8] (.bvv 0 8) _ ?_ ?_ (.refl _)
  · refine .cons _ _ _ _ ?_ (.cons _ _ _ _ (.refl _) .nil)
    exact .node .sub _ [.bvs "x" 8, .bvv 0 8] (.bvs "x" 8) _ (.cons _ _ _ _ (.refl _) (.cons _ _ _ _ (.refl _) .nil))
      (Direct.schema R.sub_zero { x := .bvs "x" 8, w := 8 } (by simp [R.all, R.base]) rfl) (.refl _)
  · exact Direct.schema R.xor_self { x := .bvs "x" 8, w := 8 } (by simp [R.all, R.widthy]) (by decide)

/-- Non-vacuity: the nested-shift schema applies to a concrete well-typed node, and its side condition is
exactly what rules out the wrap-around that the unrepaired code got wrong. -/
example : R.shl_shl.side { x := .bvs "x" 8, c1 := 3, c2 := 2, w := 8 } = true := by decide
example : R.shl_shl.side { x := .bvs "x" 8, c1 := 255, c2 := 1, w := 8 } = false := by decide

/-- The unguarded nested-shift rewrite (the code before the `fix:` commit) is NOT sound: witness
`(x << 255) << 1` on 8 bits at `x = 1` (value 0) against `x << ((255 + 1) mod 256) = x` (value 1). -/
theorem C01_shl_shl_unguarded_unsound :
    ¬ Sound { R.shl_shl with side := fun _ => true } := by
  intro h
  have := h { x := .bvs "x" 8, c1 := 255, c2 := 1, w := 8 } { bv := fun _ => 1, bool := fun _ => false } rfl
    (by decide)
  revert this
  decide

end Claripy.Props.C01

import ClaripyProofs.Lemmas.VSA.Convert
import ClaripyProofs.Lemmas.VSA.ConvertProved
import ClaripyProofs.Lemmas.VSA.MinMax
import ClaripyProofs.Lemmas.VSA.ConvertAligned
/-!
# C24 — VSA evaluation of expressions over annotated variables over-approximates

`Claripy.VSA.convBV/convB` model `BackendVSA.convert` on the ASTs claripy hands to the backend: operator dispatch,
`apply_annotation` on leaves, `If` (join), `And/Or/Not` on BoolResult, name-based `eq`.  The model is tied to the real
backend by exact correspondence on ~14 k random ASTs per run (harness/props/C24.py).

The theorems are instances of one structural induction (`convBV_sound` / `convB_sound`, `Lemmas/VSA/Convert.lean`) for ALL
ASTs, widths, assignments and set orders.  First *from* the bundle `OpsOK` of per-operation obligations (closure under
well-formedness and soundness on members, asked of every operand): a hypothesis.  Then, further down, with the proved interval
operations of C21/C22 in its place, which ask for non-empty operands in constructor-normal form, and aligned ones at `*`, `==`,
`!=`.
-/
namespace Claripy.Props.C24
open Claripy.VSA

/-- the abstract value of a bit-vector AST is well formed, has the AST's width and contains its concrete value under
every assignment that respects the annotations; a name it still carries means "equal to that variable" -/
theorem C24_convert_sound (H : OpsOK) (anno : Nat → SI) (env : Nat → Nat)
    (hctx : ∀ i, (anno i).WF ∧ (anno i).mem (env i))
    (e : BV) (o o' : Orders) (av : AV) (hwt : WTBV anno env e) (h : convBV anno e o = .ok (av, o'))
    (v : Nat) (hv : evalBV env e = some v) : av.si.WF ∧ av.si.bits = wd e ∧ av.si.mem v :=
  (convBV_good H anno env hctx e o av o' hwt h).sound hv

/-- **names**: two abstract values that carry the same name (the name of a variable, or the fresh name of a shared
sub-AST that survived `ZeroExt` / non-negative `SignExt` / full `Extract` / a selecting `If`) have the same concrete value
under every assignment - which is what `==` / `!=` answer `True` / `False` on -/
theorem C24_same_name_same_value (H : OpsOK) (anno : Nat → SI) (env : Nat → Nat)
    (hctx : ∀ i, (anno i).WF ∧ (anno i).mem (env i))
    (e1 e2 : BV) (o1 o1' o2 o2' : Orders) (av1 av2 : AV) (hwt1 : WTBV anno env e1) (hwt2 : WTBV anno env e2)
    (h1 : convBV anno e1 o1 = .ok (av1, o1')) (h2 : convBV anno e2 o2 = .ok (av2, o2'))
    (hn : av1.name.isSome = true) (heq : av1.name = av2.name)
    (v1 v2 : Nat) (hv1 : evalBV env e1 = some v1) (hv2 : evalBV env e2 = some v2) : v1 = v2 :=
  (convBV_good H anno env hctx e1 o1 av1 o1' hwt1 h1).same_name (convBV_good H anno env hctx e2 o2 av2 o2' hwt2 h2) hn heq hv1 hv2

/-- Boolean ASTs: the abstract truth value admits every truth value that occurs -/
theorem C24_bool_sound (H : OpsOK) (anno : Nat → SI) (env : Nat → Nat)
    (hctx : ∀ i, (anno i).WF ∧ (anno i).mem (env i))
    (c : BExp) (o o' : Orders) (br : BoolRes) (hwt : WTB anno env c) (h : convB anno c o = .ok (br, o'))
    (b : Bool) (hb : evalB env c = some b) : br.has b = true :=
  convB_good H anno env hctx c o br o' hwt h b hb

/-- `If`: whichever branch the concrete condition selects, its value is in the result (a branch is dropped only when
the abstract condition excludes it); `fresh` = the name a join gets (any) -/
theorem C24_if_join (H : OpsOK) (cv : BoolRes) (x y r : AV) (c : Bool) (vx vy : Nat)
    (hx : x.si.WF ∧ x.si.mem vx) (hy : y.si.WF ∧ y.si.mem vy) (hbits : x.si.bits = y.si.bits)
    (hc : cv.has c = true) (fresh : Option NameKey) (h : iteBV cv x y fresh = .ok r) : r.si.mem (if c then vx else vy) := by
  rcases iteBV_ok h with ⟨hT, rfl⟩ | ⟨hF, rfl⟩ | ⟨u, hu, rfl⟩
  · cases c with
    | true => rw [BoolRes.has, if_pos rfl, hT] at hc; cases hc
    | false => exact hy.2
  · cases c with
    | false => rw [BoolRes.has, if_neg (by decide), hF] at hc; cases hc
    | true => exact hx.2
  · have := (H.union x.si y.si u hx.1 hy.1 hbits hu).2
    cases c with
    | true => exact this vx (Or.inl hx.2)
    | false => exact this vy (Or.inr hy.2)

/-- the obligations on the interval queries that SolverVSA forwards to (C22) -/
structure QueriesOK : Prop where
  min : ∀ (s : SI) (m : Int) (x : Nat), s.WF → s.mem x → s.min false = .ok (some m) → m ≤ x
  max : ∀ (s : SI) (m : Int) (x : Nat), s.WF → s.mem x → s.max false = .ok (some m) → (x : Int) ≤ m

/-- `SolverVSA.min/max` (LightFrontend forwards to the backend, ignoring constraints) never exclude a value the
expression takes -/
theorem C24_light_min_max_over (H : OpsOK) (Q : QueriesOK) (anno : Nat → SI) (env : Nat → Nat)
    (hctx : ∀ i, (anno i).WF ∧ (anno i).mem (env i))
    (e : BV) (o o' : Orders) (av : AV) (hwt : WTBV anno env e) (h : convBV anno e o = .ok (av, o'))
    (v : Nat) (hv : evalBV env e = some v) :
    (∀ m, av.si.min false = .ok (some m) → m ≤ v) ∧ (∀ m, av.si.max false = .ok (some m) → (v : Int) ≤ m) := by
  obtain ⟨hw, _, hm⟩ := C24_convert_sound H anno env hctx e o o' av hwt h v hv
  exact ⟨fun m hmin => Q.min av.si m v hw hm hmin, fun m hmax => Q.max av.si m v hw hm hmax⟩

/-! ## with the proved interval operations discharged

EVERY interval operation the backend dispatches to is proved (C21, C22): `add, sub, mul, udiv, urem, neg, not, and, or,
xor, concat, zero_extend, sign_extend, extract, shl, lshr, ashr`, the join of `If`, the eight orderings, `==` / `!=`.  `OpsRest` is
a hypothesis slot of `convBV_rest_good` that no AST triggers (`usesRestBV_false`), so `C24_sound` below has
no hypothesis on interval operations.  `==` / `!=` / `*` go through the meet, which is sound on ALIGNED operands only (open
findings `C2x/eq|ne|mul|intersection/unsound/unaligned-operand`): the guard `alBV` / `alB` says that the abstract operands at
every `==` / `!=` / `*` node are aligned; it is void for ASTs without these nodes (`alBV_of_noEq`).  `%` needs no guard
(`C21_mod_sound`: sound for every divisor).  ASTs here have a
value at every node (`DefBV`); the annotations are in the form the constructor returns (`Nrm`, which is the only form Python
holds), and the induction shows every intermediate abstract value has it too — that is what the signed orderings and the
meet need. -/

/-- bit-vector ASTs: only the obligations of the operations that are not proved remain, and only if the AST uses them -/
theorem C24_convert_sound_rest (anno : Nat → SI) (env : Nat → Nat)
    (hctx : ∀ i, (anno i).WF ∧ (anno i).mem (env i)) (hnrm : ∀ i, Nrm (anno i))
    (e : BV) (R : usesRestBV e = true → OpsRest) (hdef : DefBV env e)
    (o o' : Orders) (hal : alBV anno e o) (av : AV) (hwt : WTBV anno env e) (h : convBV anno e o = .ok (av, o'))
    (v : Nat) (hv : evalBV env e = some v) : av.si.WF ∧ av.si.bits = wd e ∧ av.si.mem v :=
  (convBV_rest_good anno env hctx hnrm e o av o' R hal hdef hwt h).1.sound hv

/-- **unconditional on the interval operations** for ASTs built from the proved operations: variables with annotations,
constants, `+ - neg ~ & | ^`, `ZeroExt`, `SignExt`, `Extract`, `Concat`, `/u`, `<<`, `LShR`, `>>` (arithmetic), `If`, the
unsigned and signed orderings, the Boolean connectives, `%`, and `==` / `!=` / `*` under the alignment guard -/
theorem C24_fragment_sound (anno : Nat → SI) (env : Nat → Nat)
    (hctx : ∀ i, (anno i).WF ∧ (anno i).mem (env i)) (hnrm : ∀ i, Nrm (anno i))
    (e : BV) (hfrag : usesRestBV e = false) (hdef : DefBV env e)
    (o o' : Orders) (hal : alBV anno e o) (av : AV) (hwt : WTBV anno env e) (h : convBV anno e o = .ok (av, o'))
    (v : Nat) (hv : evalBV env e = some v) : av.si.WF ∧ av.si.bits = wd e ∧ av.si.mem v :=
  C24_convert_sound_rest anno env hctx hnrm e (fun hh => by rw [hfrag] at hh; cases hh) hdef o o' hal av hwt h v hv

/-- **every AST**: the abstract value contains the concrete value, under the alignment guard at `==` / `!=` / `*` nodes
(for ASTs with a value at every node, over normal annotations) -/
theorem C24_sound (anno : Nat → SI) (env : Nat → Nat)
    (hctx : ∀ i, (anno i).WF ∧ (anno i).mem (env i)) (hnrm : ∀ i, Nrm (anno i))
    (e : BV) (hdef : DefBV env e) (o o' : Orders) (hal : alBV anno e o) (av : AV) (hwt : WTBV anno env e)
    (h : convBV anno e o = .ok (av, o')) (v : Nat) (hv : evalBV env e = some v) :
    av.si.WF ∧ av.si.bits = wd e ∧ av.si.mem v :=
  C24_fragment_sound anno env hctx hnrm e (usesRestBV_false e) hdef o o' hal av hwt h v hv

/-- … and every Boolean AST -/
theorem C24_sound_bool (anno : Nat → SI) (env : Nat → Nat)
    (hctx : ∀ i, (anno i).WF ∧ (anno i).mem (env i)) (hnrm : ∀ i, Nrm (anno i))
    (c : BExp) (hdef : DefB env c) (o o' : Orders) (hal : alB anno c o) (br : BoolRes) (hwt : WTB anno env c)
    (h : convB anno c o = .ok (br, o')) (b : Bool) (hb : evalB env c = some b) : br.has b = true :=
  convB_rest_good anno env hctx hnrm c o br o' (noRestB c) hal hdef hwt h b hb

/-- names, with the proved interval operations: no hypothesis on them left -/
theorem C24_same_name_same_value_proved (anno : Nat → SI) (env : Nat → Nat)
    (hctx : ∀ i, (anno i).WF ∧ (anno i).mem (env i)) (hnrm : ∀ i, Nrm (anno i))
    (e1 e2 : BV) (hdef1 : DefBV env e1) (hdef2 : DefBV env e2) (o1 o1' o2 o2' : Orders)
    (hal1 : alBV anno e1 o1) (hal2 : alBV anno e2 o2) (av1 av2 : AV) (hwt1 : WTBV anno env e1) (hwt2 : WTBV anno env e2)
    (h1 : convBV anno e1 o1 = .ok (av1, o1')) (h2 : convBV anno e2 o2 = .ok (av2, o2'))
    (hn : av1.name.isSome = true) (heq : av1.name = av2.name)
    (v1 v2 : Nat) (hv1 : evalBV env e1 = some v1) (hv2 : evalBV env e2 = some v2) : v1 = v2 :=
  (convBV_rest_good anno env hctx hnrm e1 o1 av1 o1' (noRest e1) hal1 hdef1 hwt1 h1).1.same_name
    (convBV_rest_good anno env hctx hnrm e2 o2 av2 o2' (noRest e2) hal2 hdef2 hwt2 h2).1 hn heq hv1 hv2

/-- … without any guard when the AST has no `==` / `!=` / `*` node -/
theorem C24_fragment_noeq_sound (anno : Nat → SI) (env : Nat → Nat)
    (hctx : ∀ i, (anno i).WF ∧ (anno i).mem (env i)) (hnrm : ∀ i, Nrm (anno i))
    (e : BV) (hfrag : usesRestBV e = false) (hnoeq : usesEqBV e = false) (hdef : DefBV env e)
    (o o' : Orders) (av : AV) (hwt : WTBV anno env e) (h : convBV anno e o = .ok (av, o'))
    (v : Nat) (hv : evalBV env e = some v) : av.si.WF ∧ av.si.bits = wd e ∧ av.si.mem v :=
  C24_fragment_sound anno env hctx hnrm e hfrag hdef o o' (alBV_of_noEq anno e o hnoeq) av hwt h v hv

/-- the same for Boolean ASTs -/
theorem C24_fragment_bool_sound (anno : Nat → SI) (env : Nat → Nat)
    (hctx : ∀ i, (anno i).WF ∧ (anno i).mem (env i)) (hnrm : ∀ i, Nrm (anno i))
    (c : BExp) (hfrag : usesRestB c = false) (hdef : DefB env c)
    (o o' : Orders) (hal : alB anno c o) (br : BoolRes) (hwt : WTB anno env c) (h : convB anno c o = .ok (br, o'))
    (b : Bool) (hb : evalB env c = some b) : br.has b = true :=
  convB_rest_good anno env hctx hnrm c o br o' (fun hh => by rw [hfrag] at hh; cases hh) hal hdef hwt h b hb

theorem C24_bool_sound_rest (anno : Nat → SI) (env : Nat → Nat)
    (hctx : ∀ i, (anno i).WF ∧ (anno i).mem (env i)) (hnrm : ∀ i, Nrm (anno i))
    (c : BExp) (R : usesRestB c = true → OpsRest) (hdef : DefB env c)
    (o o' : Orders) (hal : alB anno c o) (br : BoolRes) (hwt : WTB anno env c) (h : convB anno c o = .ok (br, o'))
    (b : Bool) (hb : evalB env c = some b) : br.has b = true :=
  convB_rest_good anno env hctx hnrm c o br o' R hal hdef hwt h b hb

/-- the query obligations are proved (C22_min_max_bound) -/
theorem queriesOK : QueriesOK := ⟨fun s m x hs hx h => min_le s m x hs hx h, fun s m x hs hx h => le_max s m x hs hx h⟩

/-- `SolverVSA.min/max` on an AST of the proved fragment: no hypothesis on interval operations left -/
theorem C24_fragment_min_max_over (anno : Nat → SI) (env : Nat → Nat)
    (hctx : ∀ i, (anno i).WF ∧ (anno i).mem (env i)) (hnrm : ∀ i, Nrm (anno i))
    (e : BV) (hfrag : usesRestBV e = false) (hdef : DefBV env e)
    (o o' : Orders) (hal : alBV anno e o) (av : AV) (hwt : WTBV anno env e) (h : convBV anno e o = .ok (av, o'))
    (v : Nat) (hv : evalBV env e = some v) :
    (∀ m, av.si.min false = .ok (some m) → m ≤ v) ∧ (∀ m, av.si.max false = .ok (some m) → (v : Int) ≤ m) := by
  obtain ⟨hw, _, hm⟩ := C24_fragment_sound anno env hctx hnrm e hfrag hdef o o' hal av hwt h v hv
  exact ⟨fun m hmin => min_le av.si m v hw hm hmin, fun m hmax => le_max av.si m v hw hm hmax⟩

/-- non-vacuity and a bounded sanity fact: `If(x <u 4, x + 1, 0)` with `x ∈ 1[2,6]` at 3 bits -/
def demoExpr : BV := .ite (.cmp .ult (.var 0 3) (.const 4 3)) (.bin .add (.var 0 3) (.const 1 3)) (.const 0 3)
def demoAnno : Nat → SI := fun _ => SI.new 3 1 2 6

theorem test_eval_example :
    (convBV demoAnno demoExpr []).map (fun p => p.1.si) = .ok (SI.new 3 1 3 0) ∧
    evalBV (fun _ => 3) demoExpr = some 4 ∧ evalBV (fun _ => 5) demoExpr = some 0 := by decide

/-- a shared derived node: `ZeroExt(2, x[4:2]) != SignExt(2, x[4:2])` with `x ∈ 1[0,8]` at 5 bits - `x[4:2] ∈ [0,2]` is
non-negative, both extensions keep the (fresh) name of the ONE object the backend holds for `x[4:2]`: `False`, not
`{False, True}`; two different nodes with the same interval still compare by value -/
def demoShared : BExp :=
  .cmp .ne (.zext 2 (.extract 4 2 (.var 0 5))) (.sext 2 (.extract 4 2 (.var 0 5)))

theorem test_shared_name :
    (convB (fun _ => SI.new 5 1 0 8) demoShared []).map (fun p => p.1) = .ok BoolRes.f ∧
    (convB (fun _ => SI.new 5 1 0 8) (.cmp .ne (.zext 2 (.extract 4 2 (.var 0 5))) (.sext 2 (.extract 4 2 (.var 1 5)))) []).map
      (fun p => p.1) = .ok BoolRes.m ∧
    (convBV (fun _ => SI.new 5 1 0 8) (.sext 2 (.extract 4 2 (.var 0 5))) []).map (fun p => p.1.name) =
      .ok (some (.node (.extract 4 2 (.var 0 5)))) := by decide

/-- non-vacuity of `C24_same_name_same_value`: two DIFFERENT ASTs whose abstract values carry the same (derived) name -/
example : (convBV (fun _ => SI.new 5 1 0 8) (.zext 2 (.extract 4 2 (.var 0 5))) []).map (fun p => p.1.name) =
      .ok (some (.node (.extract 4 2 (.var 0 5)))) ∧
    (convBV (fun _ => SI.new 5 1 0 8) (.sext 2 (.extract 4 2 (.var 0 5))) []).map (fun p => p.1.name) =
      .ok (some (.node (.extract 4 2 (.var 0 5)))) := by decide

example : WTBV demoAnno (fun _ => 3) demoExpr := by
  simp only [demoExpr, WTBV, WTB, wd, demoAnno, new_bits]
  decide

/-- a signed comparison is inside the proved fragment; annotations built by the constructor are normal -/
example : usesRestB (.cmp .slt (.var 0 3) (.bin .sub (.var 0 3) (.const 1 3))) = false ∧ Nrm (demoAnno 0) :=
  ⟨by decide, nrm_new _ _ _ _ (by decide)⟩

/-- the bitwise operations and `Concat` are inside the proved fragment -/
example : usesRestBV (.concat (.bin .xor (.bin .and (.var 0 3) (.const 5 3)) (.bin .or (.var 0 3) (.const 2 3))) (.var 1 2)) =
    false := by decide

/-- an `If` on an equality is inside the proved fragment; its guard holds for the aligned demo annotation -/
def demoEq : BV := .ite (.cmp .eq (.bin .and (.var 0 3) (.const 6 3)) (.const 4 3)) (.var 0 3) (.const 0 3)

example : usesRestBV demoEq = false ∧ alBV demoAnno demoEq [] := by
  refine ⟨by decide, (alBV_of_guardFree demoAnno (fun _ => 3) (fun _ => (by decide : (demoAnno 0).WF ∧ (demoAnno 0).mem 3))
    (fun _ => nrm_new _ _ _ _ (by decide)) demoEq [] ?_ ?_ ?_).1⟩
  · simp only [demoEq, guardFreeBV, guardFreeB, alSrc, needA, needB, restCmp, true_and, and_true, implies_true, and_self]
    decide
  · simp only [demoEq, DefBV, DefB, true_and, and_true]
    exact ⟨2, by decide⟩
  · simp only [demoEq, WTBV, WTB, wd, demoAnno, new_bits]
    decide

/-- the demo expression lies in the proved fragment and has a value at every node -/
example : usesRestBV demoExpr = false ∧ DefBV (fun _ => 3) demoExpr := by
  refine ⟨by decide, ?_⟩
  simp only [demoExpr, DefBV, DefB, true_and, and_true]
  exact ⟨4, by decide⟩

/-! ## the alignment guard discharged

EVERY interval operation the backend dispatches to returns an aligned interval (upper bound = a member) when its operands are
aligned and in constructor-normal form: `add, sub, neg, not, and, or, xor, mul, udiv, urem, shl, lshr, ashr, zero_extend,
sign_extend, extract, concat`, the join of `If` (the alignment part of each `op_good` theorem; `C21_*_aligned`,
`C22_*_aligned`); `neg, not, and, xor, udiv` do so whatever the operands are (`mul` asks for nothing beyond its guard), `sub`
and the shifts whatever the right operand is (the table `needA` / `needB`).  The only interval operation of the class that can turn aligned operands into an
unaligned result is `widen` (`C22.widen_breaks_alignment`),
which is not an operator of these ASTs.  Hence the guard `alBV` / `alB` follows from a SYNTACTIC condition on the AST and the
annotations, `guardFreeBV` / `guardFreeB`: below every `==` / `!=` / `*` operand, the annotations of the variables that reach that
position through `+ | % Concat If ZeroExt SignExt Extract` or as the LEFT operand of `- << LShR >>` are aligned (`alSrc`);
variables below a `neg ~ & ^ /u *` node, on the right of `- << LShR >>`, or in an `If` condition, need not be.
With all annotations aligned no condition is left at all (`C24_sound_aligned`). -/

/-- **no alignment guard**: bit-vector ASTs whose `==` / `!=` / `*` operand positions are fed from aligned annotations
(`guardFreeBV`; every operation of the AST language is allowed everywhere) -/
theorem C24_sound_aligned_fragment (anno : Nat → SI) (env : Nat → Nat)
    (hctx : ∀ i, (anno i).WF ∧ (anno i).mem (env i)) (hnrm : ∀ i, Nrm (anno i))
    (e : BV) (hgf : guardFreeBV anno e) (hdef : DefBV env e) (o o' : Orders) (av : AV) (hwt : WTBV anno env e)
    (h : convBV anno e o = .ok (av, o')) (v : Nat) (hv : evalBV env e = some v) :
    av.si.WF ∧ av.si.bits = wd e ∧ av.si.mem v :=
  C24_sound anno env hctx hnrm e hdef o o' (alBV_of_guardFree anno env hctx hnrm e o hgf hdef hwt).1 av hwt h v hv

/-- … Boolean ASTs -/
theorem C24_sound_aligned_fragment_bool (anno : Nat → SI) (env : Nat → Nat)
    (hctx : ∀ i, (anno i).WF ∧ (anno i).mem (env i)) (hnrm : ∀ i, Nrm (anno i))
    (c : BExp) (hgf : guardFreeB anno c) (hdef : DefB env c) (o o' : Orders) (br : BoolRes) (hwt : WTB anno env c)
    (h : convB anno c o = .ok (br, o')) (b : Bool) (hb : evalB env c = some b) : br.has b = true :=
  C24_sound_bool anno env hctx hnrm c hdef o o' (alB_of_guardFree hctx hnrm c o hgf hdef hwt) br hwt h b hb

/-- **every AST over aligned annotations**: the evaluation over-approximates, no guard on the evaluation left (annotations well
formed, normal, aligned — e.g. everything `claripy.SI(...)` builds from a lower bound, a stride and a member count; the AST has a
value at every node) -/
theorem C24_sound_aligned (anno : Nat → SI) (env : Nat → Nat)
    (hctx : ∀ i, (anno i).WF ∧ (anno i).mem (env i)) (hnrm : ∀ i, Nrm (anno i)) (hall : ∀ i, (anno i).Aligned)
    (e : BV) (hdef : DefBV env e) (o o' : Orders) (av : AV) (hwt : WTBV anno env e)
    (h : convBV anno e o = .ok (av, o')) (v : Nat) (hv : evalBV env e = some v) :
    av.si.WF ∧ av.si.bits = wd e ∧ av.si.mem v :=
  C24_sound_aligned_fragment anno env hctx hnrm e (guardFreeBV_of_all hall e) hdef o o' av hwt h v hv

theorem C24_sound_aligned_bool (anno : Nat → SI) (env : Nat → Nat)
    (hctx : ∀ i, (anno i).WF ∧ (anno i).mem (env i)) (hnrm : ∀ i, Nrm (anno i)) (hall : ∀ i, (anno i).Aligned)
    (c : BExp) (hdef : DefB env c) (o o' : Orders) (br : BoolRes) (hwt : WTB anno env c)
    (h : convB anno c o = .ok (br, o')) (b : Bool) (hb : evalB env c = some b) : br.has b = true :=
  C24_sound_aligned_fragment_bool anno env hctx hnrm c (guardFreeB_of_all hall c) hdef o o' br hwt h b hb

/-- alignment is an invariant of the evaluation: the abstract value of an AST whose alignment-relevant leaves (`alSrc`) carry
aligned annotations is aligned — in particular `max` of it is attained (`C22_max_exact_aligned`) -/
theorem C24_value_aligned (anno : Nat → SI) (env : Nat → Nat)
    (hctx : ∀ i, (anno i).WF ∧ (anno i).mem (env i)) (hnrm : ∀ i, Nrm (anno i))
    (e : BV) (hgf : guardFreeBV anno e) (hsrc : alSrc anno e) (hdef : DefBV env e) (o o' : Orders) (av : AV)
    (hwt : WTBV anno env e) (h : convBV anno e o = .ok (av, o')) : av.si.Aligned :=
  (alBV_of_guardFree anno env hctx hnrm e o hgf hdef hwt).2 hsrc av o' h

/-- `SolverVSA.max` on such an AST is the greatest value of the abstract result (not just a bound) -/
theorem C24_max_attained_aligned (anno : Nat → SI) (env : Nat → Nat)
    (hctx : ∀ i, (anno i).WF ∧ (anno i).mem (env i)) (hnrm : ∀ i, Nrm (anno i))
    (e : BV) (hgf : guardFreeBV anno e) (hsrc : alSrc anno e) (hdef : DefBV env e) (o o' : Orders) (av : AV)
    (hwt : WTBV anno env e) (h : convBV anno e o = .ok (av, o')) (m : Int) (hm : av.si.max false = .ok (some m)) :
    ∃ x, av.si.mem x ∧ (x : Int) = m := by
  obtain ⟨v, hv⟩ := defBV_some env e hdef
  obtain ⟨hw, _, hmem⟩ := C24_sound_aligned_fragment anno env hctx hnrm e hgf hdef o o' av hwt h v hv
  exact max_attained av.si m hw hmem.1 (C24_value_aligned anno env hctx hnrm e hgf hsrc hdef o o' av hwt h) hm

/-- non-vacuity: `demoEq = If((x & 6) == 4, x, 0)` is guard-free over the aligned demo annotation … -/
example : guardFreeBV demoAnno demoEq ∧ alSrc demoAnno demoEq := by
  simp only [demoEq, guardFreeBV, guardFreeB, alSrc, needA, needB, restCmp, true_and, and_true, implies_true, and_self]
  decide

/-- … and stays guard-free when `x` carries the UNALIGNED annotation `2[0,5]` (the operand of `==` is an `&` node, which
re-aligns), whereas `x == 4` itself is not guard-free then -/
example : let anno : Nat → SI := fun _ => { bits := 3, stride := 2, lb := 0, ub := 5 }
    ¬ (anno 0).Aligned ∧ guardFreeB anno (.cmp .eq (.bin .and (.var 0 3) (.const 6 3)) (.const 4 3)) ∧
    ¬ guardFreeB anno (.cmp .eq (.var 0 3) (.const 4 3)) := by
  simp only [guardFreeBV, guardFreeB, alSrc, needA, needB, restCmp, true_and, and_true, implies_true, forall_const]
  decide

end Claripy.Props.C24

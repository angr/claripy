import ClaripyProofs.Lemmas.Solver.Independent
import ClaripyProofs.Lemmas.Solver.CompositeStepFrame
/-!
# C12 — SolverComposite answers like a monolithic solver

A SolverComposite keeps variable-disjoint children (class SolverCompositeChild: the C11 stack without the
filtering / expansion layers) and answers a query from the child (or the combination of children) that owns the
variables of the query.  Why that is right — for ANY constraints whose meaning depends only on their variables: variable-disjoint
sets are jointly satisfiable iff each is, and a value or an optimum of an expression is feasible for the whole iff it is for the
component that owns its variables (`C12_independent_sat`, `C12_query_component`, `C12_optimum_component`, first in the file).
The property theorems are `C12_composite_history`, `C12_composite_history_extras` and `C12_composite_tree_history`; the docstring of
`C12_full` at the end says what each covers and what is missing.
-/
namespace Claripy.Props.C12
open Claripy.Solver Claripy.Gen.SolverMro LayerName

/-- Tie: the children are this stack (the C11 L1/L2/L3 models and theorems apply to them unchanged). -/
theorem C12_mro_child : mro .SolverCompositeChild =
    [ConstraintDeduplicatorMixin, SatCacheMixin, SimplifySkipperMixin, ModelCacheMixin, FullFrontend,
     ConstrainedFrontend, Frontend] := by decide

theorem C12_mro_composite : mro .SolverComposite =
    [ConcreteHandlerMixin, EagerResolutionMixin, ConstraintFilterMixin, ConstraintDeduplicatorMixin, SatCacheMixin,
     SimplifySkipperMixin, SimplifyHelperMixin, ConstraintExpansionMixin, CompositedCacheMixin, CompositeFrontend,
     ConstrainedFrontend, Frontend] := by decide

/-- variable-disjoint constraint sets are jointly satisfiable iff each of them is (`check_satisfiability` checks
the children one by one) -/
theorem C12_independent_sat {A B : List Con} (wfA : ∀ c ∈ A, ConWf c) (wfB : ∀ c ∈ B, ConWf c)
    (hd : DisjointVars A B) : Satisfiable (A ++ B) ↔ Satisfiable A ∧ Satisfiable B :=
  satisfiable_append_iff wfA wfB hd

/-- a value of `e` is feasible for the whole constraint set iff it is feasible for the component owning the
variables of `e` and the other components are satisfiable (`eval`/`solution` ask only the owning child, after
`_ensure_sat`) -/
theorem C12_query_component {A B : List Con} (wfA : ∀ c ∈ A, ConWf c) (wfB : ∀ c ∈ B, ConWf c)
    (hd : DisjointVars A B) (e : Exp) (he : ExpDep e) (heB : ∀ v ∈ e.vars, v ∉ varsOf B) (x : Nat) :
    Feasible (A ++ B) e x ↔ Feasible A e x ∧ Satisfiable B :=
  feasible_component wfA wfB hd e he heB x

/-- … and so is the optimum (`min`/`max`) -/
theorem C12_optimum_component {A B : List Con} (wfA : ∀ c ∈ A, ConWf c) (wfB : ∀ c ∈ B, ConWf c)
    (hd : DisjointVars A B) (e : Exp) (he : ExpDep e) (heB : ∀ v ∈ e.vars, v ∉ varsOf B) (hB : Satisfiable B)
    (isMax signed : Bool) (i : Int) : IsOpt isMax signed (A ++ B) e i ↔ IsOpt isMax signed A e i :=
  isOpt_component wfA wfB hd e he heB hB isMax signed i

/-- non-vacuity: two independent one-variable constraints -/
example : DisjointVars [{ id := 1, vars := [0], sem := fun a => decide (a 0 < 3) }]
                       [{ id := 2, vars := [1], sem := fun a => decide (a 1 = 6) }] := by
  unfold DisjointVars; decide

/-! ### the bookkeeping of the composite

`Claripy/Solver/Composite.lean` transcribes class `CompositeFrontend` (`_solvers`, `_unchecked_solvers`, `_owned_solvers`, `_unsat`,
`_solver_for_names`, `_claim`, `_store_child`, `_add`, `check_satisfiability`, the queries with `_reabsorb_solver`, `simplify` with
`_split_child`, `branch`, pickling) over a world of SolverCompositeChild frontends (the C11 model), with what the child class has
beyond the `Ops` table (`combine`, `split`, `update`, `check_satisfiability`).  `CInv` is its invariant. -/

variable {E : Env} {R : Con → Prop} {RE : Exp → Prop}

/-- **the children partition the composite's constraints into variable-disjoint groups.**  Whenever the invariant holds:
two different children that `_solvers` points to know no common variable; every constraint a child holds mentions variables of
that child only; and (unless `_unsat` is set, in which case the user's constraints are unsatisfiable) an assignment satisfies
what the user added iff it satisfies the constraints held by every child. -/
theorem C12_children_partition {U : List Con} {Us : List (List Con)} {s : CSt} (h : CInv R RE E U Us s) :
    (∀ i ∈ s.c.solverList, ∀ j ∈ s.c.solverList, i ≠ j → ∀ v ∈ (s.child i).variables, v ∉ (s.child j).variables) ∧
    (∀ j ∈ s.c.solverList, ∀ c ∈ (s.child j).constraints, ∀ v ∈ c.vars, v ∈ (s.child j).variables) ∧
    (s.c.unsat = false → ∀ a, Models U a ↔ ∀ j ∈ s.c.solverList, Models (s.child j).constraints a) ∧
    (s.c.unsat = true → ¬ Satisfiable U) := by
  have hlt : ∀ j ∈ s.c.solverList, j < s.w.fes.length := fun _ hj => h.lt_of_mem hj
  refine ⟨fun i hi j hj hij => h.disjoint hi hj hij, fun j hj => h.child_vars (hlt j hj), fun hu a => ?_, h.unsatOk⟩
  rw [h.sem hu a]
  exact ⟨fun ha j hj => (h.child_models (hlt j hj) a).mpr (ha j hj), fun ha j hj => (h.child_models (hlt j hj) a).mp (ha j hj)⟩

/-- the empty composite satisfies the invariant -/
theorem C12_invariant_init (track : Bool) : CInv R RE E [] [] { c := { track := track }, w := { fes := [] } } :=
  cinv_init R RE E track

/-- **`add` keeps the partition** (`CompositeFrontend._add`: the new constraints are split into independent groups; for each group
the children owning one of its variables are found (`_solver_for_names`: the closure loop finds exactly those), merged, claimed
copy-on-write, given the constraints and stored, `_store_child` re-pointing every variable of the child; a concretely false
constraint sets `_unsat`).  The merged child is what `combine` builds: `C12_combine_correct`. -/
theorem C12_add_keeps_partition (H : SolverHyps R RE E) {U : List Con} {Us : List (List Con)} {s : CSt}
    (h : CInv R RE E U Us s) (cs : List Con) (hcs : ∀ c ∈ cs, R c) (hconc : ∀ c ∈ cs, c.vars = [] → c.conc ≠ none) :
    ∃ added Us' s', compAdd E cs s = (.ok added, s') ∧ CInv R RE E (U ++ cs) Us' s' :=
  compAdd_spec H h cs hcs hconc

/-- the step for one independent group (`_add_dependent_constraints`): the children owning a variable of the group are replaced
by one child holding their constraints and the new ones; the other children are not touched -/
theorem C12_add_dependent_keeps_partition (H : SolverHyps R RE E) {U : List Con}
    {Us : List (List Con)} {s : CSt} (h : CInv R RE E U Us s) (names : List Var) (cs : List Con) (hcs : ∀ c ∈ cs, R c)
    (hcv : ∀ c ∈ cs, ∀ v ∈ c.vars, v ∈ names) (hne : cs ≠ []) (hvne : ∀ c ∈ cs, c.vars ≠ []) :
    ∃ added Us' s', addDependent E names cs s = (.ok added, s') ∧ (∀ c ∈ added, c ∈ cs) ∧ CInv R RE E (U ++ cs) Us' s' :=
  addDependent_spec H h names cs hcs hcv hne hvne

/-- **`satisfiable()` answers for the whole constraint list** (no extra constraints): the unchecked children are asked one by one
(`check_satisfiability` of the child class: cached verdict, trivial-constraint shortcut, backend); independent children have a
joint model (`CInv.joint_model_list`, the n-ary form of `C12_independent_sat`), so the composite is satisfiable iff all are -/
theorem C12_satisfiable_correct (H : SolverHyps R RE E) {U : List Con} {Us : List (List Con)} {s : CSt}
    (h : CInv R RE E U Us s) :
    match compSatisfiable E [] s with
    | (.ok b, s') => (b = true ↔ Satisfiable U) ∧ CInv R RE E U Us s'
    | (.error e, s') => IsGiveUp E e ∧ CInv R RE E U Us s' := by
  exact wp.elim (compSatisfiable E [] s) (compSatisfiable_spec H h) (fun _ _ hs => ⟨hs.1, hs.2.1⟩) fun _ _ hs => ⟨hs.1, hs.2.1⟩

/-- the children's footprint the bookkeeping relies on (their queries never change `variables` / `constraints`; cached models
mention the child's variables only) -/
theorem C12_child_footprint (H : SolverHyps R RE E) : ChildFoot R RE E := childFoot H

/-- **`combine` delivers the merged child** (`ConstrainedFrontend.combine` + `ModelCacheMixin.combine`, called by
`_solver_for_names` when the names are owned by several children `j :: rest`): a new child that satisfies the C11 invariant
for the conjunction of the parts' constraints, knows exactly their variables, and whose cached models (the first
`len(self._models)` products of one cached model per part, in whatever order `itertools.product` walks the sets) are all
valid; nobody else changes. -/
theorem C12_combine_correct (H : SolverHyps R RE E) : CombineSpec R RE E := combineSpec H (childFoot H)

/-- the reason the cache part is right: cached models are dicts over the child's own variables (`KeysInv`, part of `CInv`), the
children share no variable, so the product of one cached model per child agrees on each child's variables with the model
taken from that child and satisfies every child's constraints -/
theorem C12_combine_models_valid (H : SolverHyps R RE E) {U : List Con} {Us : List (List Con)} {s : CSt}
    (h : CInv R RE E U Us s) (L : List Nat) (hnd : L.Nodup) (hin : ∀ j ∈ L, j ∈ s.c.solverList) (t : List PModel)
    (ht : List.Forall₂ (fun m j => m ∈ (s.child j).models) t L) :
    ∀ j ∈ L, Models (s.child j).constraints ((PModel.combine t).complete E.dflt) :=
  combine_valid H.reg h L hnd hin t ht

/-- **histories of `add` / `satisfiable()`** on one CompositeFrontend, from the empty one: every answer is the one the property
statement demands for ALL the constraints added so far (or an honest give-up of a child's backend) -/
theorem C12_composite_partial (H : SolverHyps R RE E) (track : Bool) (hist : List Op)
    (hok : ∀ op ∈ hist, InScopeCP R op) :
    ∀ x ∈ runComp E { c := { track := track }, w := { fes := [] } } [] hist, JudgeOrGiveUp E x.1 x.2.1 x.2.2 :=
  comp_histE H hist _ _ _ (cinv_init R RE E track) fun op hop => (hok op hop).toCE

/-- non-vacuity: the hypotheses hold in the consistent environment of C11, for a history that constrains, asks, pins, asks,
adds a concretely false constraint, asks -/
example : SolverHyps cR cRE cEnv ∧ ∀ op ∈ cCompHist, InScopeCP cR op :=
  ⟨cHyps, cCompHist_ok⟩

example : ∀ x ∈ runComp cEnv { c := {}, w := { fes := [] } } [] cCompHist, JudgeOrGiveUp cEnv x.1 x.2.1 x.2.2 :=
  C12_composite_partial cHyps false cCompHist cCompHist_ok

/-- what `_solver_for_names(names)` hands back (`Merged`: one of the children, a blank one, or the `combine` of several), seen
from everything the user added: every model of `U` is a model of the merged child, and — when every child is satisfiable, which
`_ensure_sat` has just checked — every model of the merged child extends to a model of `U` without changing `names` or the
child's variables (n-ary `C12_query_component`: `CInv.joint_model` over `C12_children_partition`) -/
theorem C12_merged_child_vs_all (H : SolverHyps R RE E) {U : List Con} {Us Us1 : List (List Con)} {s s1 : CSt}
    (h : CInv R RE E U Us s) (names : List Var) (m : Nat) (hm : Merged R RE E Us Us1 s s1 names m) (hu : s.c.unsat = false) :
    (∀ a, Models U a → Models (Us1.getD m []) a) ∧
    ((∀ j ∈ s.c.solverList, Satisfiable (Us.getD j [])) → Equi names U (Us1.getD m [])) :=
  merged_equi H h names m hm hu

/-- **`eval(e, n)` of the composite answers for ALL the constraints added** (registered symbolic `e`, no extra constraints), in any
state satisfying the invariant: `_ensure_sat` (`C12_satisfiable_correct`), the merged solver of the variables of `e`
(`C12_combine_correct`), the child's answer (`C11_child_step`), the transfer (`C12_merged_child_vs_all`); `_reabsorb_solver` runs
to its end and re-establishes the invariant (`C12_reabsorb_frames`).  A give-up of a child's backend is reported as such. -/
theorem C12_eval_correct (H : SolverHyps R RE E) {U : List Con} {Us : List (List Con)} {s : CSt} (h : CInv R RE E U Us s)
    (e : Exp) (n : Nat) (he : RE e) (hc : e.conc = none) (hn : 1 ≤ n) :
    JudgeOrGiveUp E U (.eval e n []) (compStep E s (.eval e n [])).1 :=
  (comp_stepE H h (.eval e n []) ⟨he, hc, hn, nofun⟩).1

/-- **`is_true` / `is_false` of the composite** with any extra constraints: a `True` is right for all the constraints added -/
theorem C12_is_true_correct (H : SolverHyps R RE E) {U : List Con} {Us : List (List Con)} {s : CSt} (h : CInv R RE E U Us s)
    (c : Con) (extra : List Con) : JudgeOrGiveUp E U (.isTrue c extra) (compStep E s (.isTrue c extra)).1 :=
  (compTruth_step H h true c extra).1

theorem C12_is_false_correct (H : SolverHyps R RE E) {U : List Con} {Us : List (List Con)} {s : CSt} (h : CInv R RE E U Us s)
    (c : Con) (extra : List Con) : JudgeOrGiveUp E U (.isFalse c extra) (compStep E s (.isFalse c extra)).1 :=
  (compTruth_step H h false c extra).1

/-- **`batch_eval(es, n)` of the composite answers for ALL the constraints added** (registered symbolic expressions, no extra
constraints), in any state satisfying the invariant: the generic query theorem `compQuery_run` (the shape `_ensure_sat`, merged
solver, the child's answer, `_reabsorb_solver`) with the footprint of the child's `batch_eval` (`opsFoot_childOps`) and the
transfer of tuples (`Equi.judge_batchEval`). -/
theorem C12_batch_eval_correct (H : SolverHyps R RE E) {U : List Con} {Us : List (List Con)} {s : CSt} (h : CInv R RE E U Us s)
    (es : List Exp) (n : Nat) (hne : es ≠ []) (hes : ∀ e ∈ es, RE e ∧ e.conc = none) (hn : 1 ≤ n) :
    JudgeOrGiveUp E U (.batchEval es n []) (compStep E s (.batchEval es n [])).1 :=
  (comp_stepE H h (.batchEval es n []) ⟨hne, hes, hn, nofun⟩).1

/-- **`solution(e, x)` of the composite answers for ALL the constraints added** (registered symbolic `e`, an integer `x` in range,
no extra constraints): transfer `Equi.judge_solution` -/
theorem C12_solution_correct (H : SolverHyps R RE E) {U : List Con} {Us : List (List Con)} {s : CSt} (h : CInv R RE E U Us s)
    (e : Exp) (x : Nat) (he : RE e) (hc : e.conc = none) (hx : x < 2 ^ e.bits) :
    JudgeOrGiveUp E U (.solution e x []) (compStep E s (.solution e x [])).1 :=
  (comp_stepE H h (.solution e x []) ⟨he, hc, hx, nofun⟩).1

/-- the footprints of the child calls used (`variables` / `constraints` unchanged, cached models stay over the variables) -/
theorem C12_child_footprint_batch_solution (H : SolverHyps R RE E) (G : St → Prop) (U : List Con) :
    (∀ es n extra s, SI R RE E G U s → FootQ s ((childOps E).batchEval es n extra s).2) ∧
    (∀ e x extra s, SI R RE E G U s → FootQ s ((childOps E).solution e x extra s).2) :=
  ⟨fun es n extra s hs => child_batchEval_foot H es n extra s hs, fun e x extra s hs => child_solution_foot H e x extra s hs⟩

/-- `_reabsorb_solver(m)` does not raise when every variable of `m` is a key of `_solvers` (`split()` of the temporary child
succeeds; the least variable of every part is a key) -/
theorem C12_reabsorb_never_raises (H : SolverHyps R RE E) {Us : List (List Con)} {s : CSt} (hw : TInvS R RE E Us s.w)
    (hre : s.w.reuse = false) (m : Nat) (hm : m < s.w.fes.length)
    (hkeys : ∀ v ∈ (s.child m).variables, ∃ t, alGet? s.c.solvers v = some t) : ∃ s', reabsorb E m s = (.ok (), s') :=
  reabsorb_ok H hw hre m hm hkeys

/-- **any history of `add` / `satisfiable()` followed by one query** — `eval`, `batch_eval`, `solution` without extra constraints,
`is_true` / `is_false` with any -/
theorem C12_value_query_after_history_partial (H : SolverHyps R RE E) (track : Bool) (hist : List Op)
    (hok : ∀ op ∈ hist, InScopeCP R op) (op : Op) (hop : InScopeCQ2 RE op) :
    JudgeOrGiveUp E (usersAfterOps [] hist) op
      (compStep E (compRun E { c := { track := track }, w := { fes := [] } } hist) op).1 := by
  obtain ⟨Us', hinv⟩ := comp_histE_inv H hist _ [] [] (cinv_init R RE E track) fun op hop => (hok op hop).toCE
  -- a query adds nothing to what the user has added
  have hU : usersAfter (usersAfterOps [] hist) op = usersAfterOps [] hist := by
    cases op with
    | add cs => exact hop.elim
    | _ => rfl
  exact hU ▸ (comp_stepE H hinv op hop.toCE).1

/-- **any history of `add` / `satisfiable()` followed by one query** (`eval` without extra constraints, `is_true` / `is_false`
with any): the query is answered as the property statement demands for all the constraints added -/
theorem C12_query_after_history_partial (H : SolverHyps R RE E) (track : Bool) (hist : List Op)
    (hok : ∀ op ∈ hist, InScopeCP R op) (op : Op) (hop : InScopeCQ RE op) :
    JudgeOrGiveUp E (usersAfterOps [] hist) op
      (compStep E (compRun E { c := { track := track }, w := { fes := [] } } hist) op).1 :=
  C12_value_query_after_history_partial H track hist hok op hop.toCQ2

/-- non-vacuity: constrain, ask, pin, then `eval` of the variable -/
example : JudgeOrGiveUp cEnv (usersAfterOps [] [.add [cCon], .satisfiable [], .add [cEq]]) (.eval cExp 2 [])
    (compStep cEnv (compRun cEnv { c := {}, w := { fes := [] } } [.add [cCon], .satisfiable [], .add [cEq]]) (.eval cExp 2 [])).1 :=
  C12_query_after_history_partial cHyps false _
    (fun op hop => cCompHist_ok op (by
      simp only [List.mem_cons, List.not_mem_nil, or_false] at hop
      rcases hop with rfl | rfl | rfl <;> simp [cCompHist]))
    _ ⟨rfl, rfl, by decide, rfl⟩

/-- non-vacuity: constrain, ask, pin, then `batch_eval` / `solution` of the variable -/
example : InScopeCQ2 cRE (.batchEval [cExp] 2 []) ∧ InScopeCQ2 cRE (.solution cExp 1 []) :=
  ⟨⟨by simp, fun e he => by simp at he; subst he; exact ⟨rfl, rfl⟩, by decide, rfl⟩, ⟨rfl, rfl, by decide, rfl⟩⟩

/-! ### `simplify` does NOT keep the partition (the code as written; answers are not affected)

A child's `variables` only grows: when `simplify()` rewrites `x + (y & ~y) < 3` to `x < 3` the child still lists `y`.  A later constraint
connecting `x` with another child makes `_solver_for_names` combine the two; the combined child knows `x` and `z`, `_store_child`
re-points those, `_solvers["y"]` keeps the old child alive — two children now share `x` (and the constraint `x < 3`).  Same
observation as the open finding of C15 (overlapping parts from `split()`); replayed on the real classes CompositeFrontend and
SolverComposite (design_notes/C12.md). -/

def sCxy : Con := { id := 1, vars := [0, 1], sem := fun a => decide (a 0 % 256 < 3) }
def sCx : Con := { id := 4, vars := [0], sem := fun a => decide (a 0 % 256 < 3) }
def sCz : Con := { id := 2, vars := [2], sem := fun a => decide (a 2 % 256 < 9) }
def sLink : Con := { id := 3, vars := [0, 2], sem := fun a => decide ((a 0 + 1) % 256 = a 2 % 256) }
/-- a simplifier that is an equivalence and invents no variable: it drops the variable `sCxy` does not depend on -/
def sEnv : Env :=
  { dflt := fun _ => 0, oracle := fun _ _ => .unknown, build := fun _ => default, falseCon := default,
    cheapFalse := fun _ _ _ => false, truth := fun _ _ _ => false,
    simp := fun cs _ => cs.map fun c => if c.id = 1 then sCx else c, pick := fun all n _ => all.take n }

def stateAfter (E : Env) : CSt → List Op → CSt
  | s, [] => s
  | s, op :: rest => stateAfter E (compStep E s op).2 rest

/-- two different children of the list know a common variable -/
def childrenOverlap (s : CSt) : Bool :=
  s.c.solverList.any fun i => s.c.solverList.any fun j => i != j && (s.child i).variables.any (s.child j).variables.contains

/-- the simplifier used is semantically the identity -/
example : ∀ a, sCx.sem a = sCxy.sem a := fun _ => rfl

/-- **witness**: add, add, simplify, add — the children then overlap; without the `simplify` they do not -/
theorem C12_simplify_breaks_partition :
    childrenOverlap (stateAfter sEnv {} [.add [sCxy], .add [sCz], .simplify, .add [sLink]]) = true ∧
    childrenOverlap (stateAfter sEnv {} [.add [sCxy], .add [sCz], .add [sLink]]) = false := by decide +kernel

/-- towards `_reabsorb_solver`, case `len(parts) == len(old)`: **a model that `update` hands to an old child is a model of that
child's constraints** — it is the restriction to the part's variables of a model `m` of all the merged constraints `Um` (which imply
the child's `Ut`), and `update` accepts it only when its key set is the child's variable set, so it agrees with `m` wherever `Ut`
looks.  No assumption on how the parts relate to the old children ("every child is connected" is not needed). -/
theorem C12_update_accepts_valid (dflt : Var → Nat) {Um Ut : List Con} (hwf : ∀ c ∈ Ut, ConWf c) (tvars pvars : List Var)
    (hvars : ∀ v ∈ varsOf Ut, v ∈ tvars) (himp : ∀ a, Models Um a → Models Ut a) (m : PModel)
    (hm : Models Um (m.complete dflt)) (hacc : sameSet (modelKeys (m.restrict pvars)) tvars = true) :
    Models Ut ((m.restrict pvars).complete dflt) :=
  update_accepts_valid dflt hwf tvars pvars hvars himp m hm hacc

/-- non-vacuity: the model `{x: 5, y: 7}` of `[x == 5, y-tautology]`, the part `{x}`, the child `x == 5` over `{x}` -/
example : sameSet (modelKeys (PModel.restrict [(0, 5), (1, 7)] [0])) [0] = true := by decide

/-! ### a record with exhausted-markers and NO cached model (why the marker clauses of C11's `MCInv` are guarded)

`CInv.kids` demands the C11 invariant of EVERY record of the world of children, the parts that `split()` creates inside
`_reabsorb_solver` included.  `ModelCacheMixin.split` gives a part the filtered models of the solver that was split — replacing what
the part's own `add` cached.  A part whose only constraint is `BVS == BVV` got, from `_trivial_model_optimization` in that `add`, the
five exhausted-markers for the variable AND the trivial model; after the replacement it keeps the markers, and holds no model at all
when the split solver had none (the merged solver answered without a Z3 model to cache: `solution()` answered `False` here).
Reading a marker as "every feasible value is the value of a cached model" is false for that record
(`C12_reabsorb_marker_without_model`).  The real class is not wrong about anything: every use of a marker is guarded by
`len(results) > 0` / `len(cached) > 0` (batch_eval, min, max).  Reproduced on the real class with `_model_hook` silenced
(design_notes/C12.md).  `MCInv` says what the code maintains and needs: a marked expression has one value at most under the
constraints, or all its values are cached — under the guard of the code (some model cached) that IS the unguarded reading
(`C12_marker_guarded`), it holds of this record, and it survives the caching of any valid model later on. -/

def wCx : Con := { id := 1, vars := [0], sem := fun a => decide (a 0 = 5), triv := some (0, 5, 100) }
/-- a constraint on `y` that every value satisfies (so that Z3 need not mention `y` in a model) -/
def wCy : Con := { id := 2, vars := [1], sem := fun _ => true }
/-- the expression `BVS x` -/
def wX : Exp := { id := 100, bits := 8, vars := [0], val := fun a => a 0 }
/-- an expression over `x` and `y` -/
def wE : Exp := { id := 7, bits := 8, vars := [0, 1], val := fun a => a 0 }
def wA0 : Asg := fun v => if v = 0 then 5 else 0
/-- Z3 answers every query of the run exactly (`sat` with the model `x = 5`, which mentions `x` only; `unsat` for `x == 7`); the set of
the two children is listed `y`-child first -/
def wEnv : Env :=
  { dflt := fun _ => 0, oracle := fun q _ => if q.holds wA0 then .sat [5, 0] [0] else .unsat [],
    build := fun _ => default, falseCon := default,
    cheapFalse := fun _ _ _ => false, truth := fun _ _ _ => false,
    simp := fun cs _ => cs, pick := fun all n _ => (all.take n).reverse }

def wHist : List Op := [.add [wCx], .add [wCy], .solution wE 7 []]

/-- record 5 of the world (the part for `x` that `split()` made inside `_reabsorb_solver`): no cached model, an eval-exhausted
marker, one constraint, which `x = 5` satisfies; the children `_solvers` points to are records 1 and 3 -/
def wCheck (s : CSt) : Bool :=
  decide (5 < s.w.fes.length) && (s.w.fes.getD 5 {}).models.isEmpty && (s.w.fes.getD 5 {}).evalExh == [100] &&
  (match (s.w.fes.getD 5 {}).constraints with | [c] => c.sem wA0 | _ => false) && s.c.solverList == [1, 3]

theorem test_wCheck : wCheck (stateAfter wEnv {} wHist) = true := by decide +kernel

/-- **witness**: after `add(x == 5)`, `add(<tautology about y>)`, `solution(<x, y>, 7)` record 5 of the world carries the
eval-exhausted marker of `BVS x` and no model, while `x = 5` is feasible for it: the unguarded reading of the marker ("every feasible
value is the value of a cached model") is false in every state-invariant, whatever the ghost lists -/
theorem C12_reabsorb_marker_without_model (R : Con → Prop) (RE : Exp → Prop) (U : List Con) (Us : List (List Con))
    (h : CInv R RE wEnv U Us (stateAfter wEnv {} wHist)) :
    wX.id ∈ ((stateAfter wEnv {} wHist).w.fes.getD 5 {}).evalExh ∧ ((stateAfter wEnv {} wHist).w.fes.getD 5 {}).models = [] ∧
    ¬ (∀ v, Feasible (Us.getD 5 []) wX v →
        ∃ m ∈ ((stateAfter wEnv {} wHist).w.fes.getD 5 {}).models, wX.val (m.complete wEnv.dflt) = v) := by
  have hchk := test_wCheck
  generalize stateAfter wEnv {} wHist = s at h hchk
  simp only [wCheck, Bool.and_eq_true, decide_eq_true_eq, List.isEmpty_iff, beq_iff_eq] at hchk
  obtain ⟨⟨⟨⟨hlt, hmod⟩, hexh⟩, hcons⟩, _⟩ := hchk
  have hsi := h.kids.each 5 hlt
  have hfe : (stOfI s.w 5).fe = s.w.fes.getD 5 {} := rfl
  have hm : Models (Us.getD 5 []) wA0 := by
    refine (hsi.base.models_iff wA0).mp ?_
    rw [hfe]
    split at hcons
    · rename_i c hc
      rw [hc]
      intro c' hc'
      simp only [List.mem_singleton] at hc'
      subst hc'; exact hcons
    · cases hcons
  refine ⟨by rw [hexh]; simp [wX], hmod, fun hall => ?_⟩
  obtain ⟨m, hmem, _⟩ := hall (wX.val wA0) ⟨wA0, hm, rfl⟩
  rw [hmod] at hmem
  cases hmem

/-- **under the guard of the code the marker has the unguarded reading**: with some model cached, every value a marked expression can
take is the value of a cached model (what `batch_eval` uses), and no value beats all cached ones (what `min` / `max` use) -/
theorem C12_marker_guarded {RE : Exp → Prop} {E : Env} {U : List Con} {fe : Frontend} (h : MCInv RE E U fe)
    (hne : fe.models ≠ []) (e : Exp) (he : RE e) :
    (e.id ∈ fe.evalExh → ∀ v, Feasible U e v → ∃ m ∈ fe.models, e.val (m.complete E.dflt) = v) ∧
    (∀ isMax signed, e.id ∈ optFlags isMax signed fe → ∀ v, Feasible U e v →
      ∃ m ∈ fe.models, Beats isMax signed e.bits (e.val (m.complete E.dflt)) v) :=
  ⟨fun hi v hv => h.evalExh hne e he hi v hv, fun isMax signed hi v hv => h.opt hne isMax signed e he hi v hv⟩

/-- without the guard: one value at most, or all values cached -/
theorem C12_marker_unguarded {RE : Exp → Prop} {E : Env} {U : List Con} {fe : Frontend} (h : MCInv RE E U fe) (e : Exp)
    (he : RE e) (hi : e.id ∈ fe.evalExh) :
    ConstUnder U e ∨ ∀ v, Feasible U e v → ∃ m ∈ fe.models, e.val (m.complete E.dflt) = v := h.evalExhW e he hi

/-- the answers of that history are the right ones -/
theorem test_wAnswers : (runComp wEnv {} [] wHist).map (·.2.2) = [.cons [1], .cons [2], .bool false] := by decide +kernel

/-! ### histories that go on after a query

`_solver_for_names` puts a merged child into the world that `_solvers` does not point to; the child's query fills its caches;
`_reabsorb_solver` hands the findings back.  `CInv` is kept by the first two whatever the query (`CInv.of_world`), and by the third
  * when the names of the query belong to ONE child at most (then `_solver_for_names` returns that child, or a blank one, and
    `_reabsorb_solver` returns at once: `C12_reabsorb_noop`) — statically: all names of the query are one variable (`OneName`);
  * in general: `ReabsorbKeeps` — proved (`C12_reabsorb_keeps_invariant`, Lemmas/Solver/CompositeSplit / CompositeUpdate /
    CompositeReplace.lean): `split()` makes parts that satisfy the C11 invariant (their markers are those of
    `_trivial_model_optimization`: one value at most — the guarded `MCInv`), know pairwise disjoint variable sets covering the
    merged child's variables and hold all its constraints that have variables; in the branch `len(parts) == len(old)` `update`
    hands models (`C12_update_accepts_valid`) and markers (`part_marker_const`) to the old children, in the other branch the parts
    replace the children (`storeAll`); the variable-less constraints of the merged child are dropped there, harmlessly: the merged
    child is satisfiable, so they are true. -/

/-- `_reabsorb_solver(m)` does nothing when `m` knows no variable, or is the child `_solvers` has for its least variable -/
theorem C12_reabsorb_noop (E : Env) (s : CSt) (m : Nat)
    (h : (s.child m).variables = [] ∨ alGet? s.c.solvers (minVar (s.child m).variables) = some m) :
    reabsorb E m s = (.ok (), s) := reabsorb_noop s m h

/-- **one call keeps the invariant and is answered as `Judge` demands**: `add`, `satisfiable()`, `eval` / `batch_eval` /
`solution` (no extra constraints; name sets allowed by `K`: one child at most owns them in this state — `UniqOwner`, e.g. all names
are one variable —, or `ReabsorbKeeps`), `is_true` / `is_false` (any extra constraints) -/
theorem C12_call_keeps_invariant {E : Env} {R : Con → Prop} {RE : Exp → Prop} (H : SolverHyps R RE E) {K : List Var → Prop}
    {U : List Con} {Us : List (List Con)} {s : CSt} (hK : ∀ names, K names → UniqOwner s.c names ∨ ReabsorbKeeps R RE E)
    (h : CInv R RE E U Us s) (op : Op) (hop : InScopeCH R RE K op) :
    JudgeOrGiveUp E (usersAfter U op) op (compStep E s op).1 ∧ ∃ Us', CInv R RE E (usersAfter U op) Us' (compStep E s op).2 :=
  comp_stepE H h op hop.toCE

/-- **ANY history** of `add` / `satisfiable()` / `eval` / `batch_eval` / `solution` / `is_true` / `is_false` on one
CompositeFrontend, from the empty composite, the value queries about one variable each (any number of constraints over any
variables in between: the children merge and grow as the constraints connect them): EVERY answer of the model is the one `Judge`
demands for all the constraints added so far (or an honest give-up of a child's backend).  No hypothesis besides `SolverHyps`.
A case of `C12_composite_history` (any variables). -/
theorem C12_composite_history_partial {E : Env} {R : Con → Prop} {RE : Exp → Prop} (H : SolverHyps R RE E) (track : Bool)
    (hist : List Op) (hok : ∀ op ∈ hist, InScopeCH R RE OneName op) :
    ∀ x ∈ runComp E { c := { track := track }, w := { fes := [] } } [] hist, JudgeOrGiveUp E x.1 x.2.1 x.2.2 :=
  comp_histE H hist _ [] [] (cinv_init R RE E track) fun op hop => (hok op hop).toCE

/-- the invariant holds at the end of such a history (so: at every point of it) -/
theorem C12_composite_history_invariant {E : Env} {R : Con → Prop} {RE : Exp → Prop} (H : SolverHyps R RE E) (track : Bool)
    (hist : List Op) (hok : ∀ op ∈ hist, InScopeCH R RE OneName op) :
    ∃ Us, CInv R RE E (usersAfterOps [] hist) Us (compRun E { c := { track := track }, w := { fes := [] } } hist) :=
  comp_histE_inv H hist _ [] [] (cinv_init R RE E track) fun op hop => (hok op hop).toCE

/-- **ANY history in which every value query finds its names within ONE child** (`OwnersOk`: at the moment of the query the
variables of its expressions were connected by constraints added before, or are one variable, or are unknown — a condition on the
dict `_solvers` along the run, checkable by running the model; `ownersOk_of_oneName`: one-variable queries satisfy it in every run):
every answer is the one `Judge` demands.  Expressions over any number of variables. -/
theorem C12_composite_history_one_owner_partial {E : Env} {R : Con → Prop} {RE : Exp → Prop} (H : SolverHyps R RE E)
    (track : Bool) (hist : List Op) (hok : ∀ op ∈ hist, InScopeCH R RE (fun _ => True) op)
    (hown : OwnersOk E { c := { track := track }, w := { fes := [] } } hist) :
    ∀ x ∈ runComp E { c := { track := track }, w := { fes := [] } } [] hist, JudgeOrGiveUp E x.1 x.2.1 x.2.2 :=
  comp_histE H hist _ [] [] (cinv_init R RE E track) fun op hop => (hok op hop).toCE

/-- non-vacuity: the history `cCompHist2` below satisfies `OwnersOk` in every run -/
example (s : CSt) (hist : List Op) (h : ∀ op ∈ hist, InScopeCH cR cRE OneName op) : OwnersOk cEnv s hist :=
  ownersOk_of_oneName hist s h

/-- **`_reabsorb_solver(m)` re-establishes the bookkeeping invariant** — both branches — when it is called, with the invariant in
force, on a child `m` that holds exactly the constraints of the children owning its variables, those children being satisfiable
(the situation after `_ensure_sat`, `_solver_for_names` and the child's query) -/
theorem C12_reabsorb_keeps_invariant {E : Env} {R : Con → Prop} {RE : Exp → Prop} (H : SolverHyps R RE E)
    (U : List Con) (Us : List (List Con)) (s : CSt) (m : Nat) (h : CInv R RE E U Us s) (hm : m < s.w.fes.length)
    (hkeys : ∀ v ∈ (s.child m).variables, ∃ t, alGet? s.c.solvers v = some t)
    (hsup : ∀ t ∈ s.c.solversFor (s.child m).variables, ∀ v ∈ (s.child t).variables, v ∈ (s.child m).variables)
    (hsem : ∀ a, Models (Us.getD m []) a ↔ ∀ t ∈ s.c.solversFor (s.child m).variables, Models (Us.getD t []) a)
    (hsat : ∀ t ∈ s.c.solversFor (s.child m).variables, Satisfiable (Us.getD t [])) (hun : s.c.unsat = false)
    (s' : CSt) (hrun : reabsorb E m s = (.ok (), s')) : ∃ Us', CInv R RE E U Us' s' :=
  reabsorbKeeps H U Us s m h hm hkeys hsup hsem hsat hun s' hrun

/-- **`max(e)` of the composite** (registered symbolic expression, no extra constraints) in ANY state satisfying the invariant: the
optimum over ALL constraints added, in the requested signedness (or an honest give-up); the invariant holds again afterwards -/
theorem C12_max_correct {E : Env} {R : Con → Prop} {RE : Exp → Prop} (H : SolverHyps R RE E) {U : List Con}
    {Us : List (List Con)} {s : CSt} (h : CInv R RE E U Us s) (e : Exp) (he : RE e) (hc : e.conc = none) (signed : Bool) :
    JudgeOrGiveUp E U (.max e [] signed) (compStep E s (.max e [] signed)).1 ∧
    ∃ Us', CInv R RE E U Us' (compStep E s (.max e [] signed)).2 :=
  comp_stepE H h (.max e [] signed) ⟨he, hc, nofun⟩

/-- **`min(e)` of the composite**, likewise -/
theorem C12_min_correct {E : Env} {R : Con → Prop} {RE : Exp → Prop} (H : SolverHyps R RE E) {U : List Con}
    {Us : List (List Con)} {s : CSt} (h : CInv R RE E U Us s) (e : Exp) (he : RE e) (hc : e.conc = none) (signed : Bool) :
    JudgeOrGiveUp E U (.min e [] signed) (compStep E s (.min e [] signed)).1 ∧
    ∃ Us', CInv R RE E U Us' (compStep E s (.min e [] signed)).2 :=
  comp_stepE H h (.min e [] signed) ⟨he, hc, nofun⟩

/-- the footprint of the child's `min` / `max` (what `_reabsorb_solver` and the bookkeeping need of the call): `variables` and
`constraints` unchanged, cached models within the variables -/
theorem C12_child_footprint_extrema {E : Env} {R : Con → Prop} {RE : Exp → Prop} (H : SolverHyps R RE E) {G : St → Prop}
    {U : List Con} (isMax : Bool) (e : Exp) (he : RE e) (hc : e.conc = none) (extra : List Con) (signed : Bool) :
    FootSpec R RE E G U (if isMax then (childOps E).max e extra signed else (childOps E).min e extra signed) :=
  child_extremum_foot isMax e extra signed

/-- **C12 for whole histories of CompositeFrontend**: ANY history of `add` / `satisfiable()` / `eval` / `batch_eval` / `min` / `max` /
`solution` (registered symbolic expressions over ANY variables, no extra constraints) / `is_true` / `is_false` (any extra
constraints) on one composite, from the empty one: EVERY answer of the model is the one `Judge` demands for all the constraints
added so far (or an honest give-up of a child's backend).  No hypothesis besides `SolverHyps`. -/
theorem C12_composite_history {E : Env} {R : Con → Prop} {RE : Exp → Prop} (H : SolverHyps R RE E) (track : Bool)
    (hist : List Op) (hok : ∀ op ∈ hist, InScopeCX R RE op) :
    ∀ x ∈ runComp E { c := { track := track }, w := { fes := [] } } [] hist, JudgeOrGiveUp E x.1 x.2.1 x.2.2 :=
  comp_histE H hist _ [] [] (cinv_init R RE E track) fun op hop => (hok op hop).toCE

/-- non-vacuity: the ten calls of `cCompHist2` (below), then the extrema of the variable -/
example : InScopeCX cR cRE (.max cExp [] false) ∧ InScopeCX cR cRE (.min cExp [] true) :=
  ⟨⟨rfl, rfl, rfl⟩, ⟨rfl, rfl, rfl⟩⟩

example (op : Op) (h : InScopeCH cR cRE (fun _ => True) op) : InScopeCX cR cRE op := by
  cases op with
  | min e extra sg => exact h.elim
  | max e extra sg => exact h.elim
  | _ => exact h

/-- the bookkeeping invariant holds at the end of every such history (so: at every point of it) -/
theorem C12_composite_history_keeps_invariant {E : Env} {R : Con → Prop} {RE : Exp → Prop} (H : SolverHyps R RE E)
    (track : Bool) (hist : List Op) (hok : ∀ op ∈ hist, InScopeCH R RE (fun _ => True) op) :
    ∃ Us, CInv R RE E (usersAfterOps [] hist) Us (compRun E { c := { track := track }, w := { fes := [] } } hist) :=
  comp_histE_inv H hist _ [] [] (cinv_init R RE E track) fun op hop => (hok op hop).toCE

/-- one call in ANY state satisfying the invariant: right answer, invariant again -/
theorem C12_call_correct {E : Env} {R : Con → Prop} {RE : Exp → Prop} (H : SolverHyps R RE E)
    {U : List Con} {Us : List (List Con)} {s : CSt} (h : CInv R RE E U Us s) (op : Op)
    (hop : InScopeCX R RE op) :
    JudgeOrGiveUp E (usersAfter U op) op (compStep E s op).1 ∧ ∃ Us', CInv R RE E (usersAfter U op) Us' (compStep E s op).2 :=
  comp_stepE H h op hop.toCE

/-- non-vacuity: the history `cCompHist2` (below) is in scope -/
example (op : Op) (h : InScopeCH cR cRE OneName op) : InScopeCH cR cRE (fun _ => True) op :=
  h.mono (fun _ _ _ => trivial)

/-- any history, any name sets, GIVEN that `_reabsorb_solver` re-establishes the invariant (`ReabsorbKeeps`, which holds:
`C12_reabsorb_keeps_invariant`; a conditional form of `C12_composite_history`) -/
theorem C12_composite_history_given_reabsorb_partial {E : Env} {R : Con → Prop} {RE : Exp → Prop} (H : SolverHyps R RE E)
    (hRK : ReabsorbKeeps R RE E) (track : Bool) (hist : List Op) (hok : ∀ op ∈ hist, InScopeCH R RE (fun _ => True) op) :
    ∀ x ∈ runComp E { c := { track := track }, w := { fes := [] } } [] hist, JudgeOrGiveUp E x.1 x.2.1 x.2.2 :=
  comp_histE H hist _ [] [] (cinv_init R RE E track) fun op hop => (hok op hop).toCE

/-- non-vacuity: in the consistent environment of C11 (`cHyps`) — constrain, ask for values, pin, ask whether a value is
possible, ask again, contradict, ask: a history with calls AFTER value queries -/
def cCompHist2 : List Op :=
  [.add [cCon], .eval cExp 2 [], .satisfiable [], .add [cEq], .solution cExp 1 [], .batchEval [cExp] 2 [], .isTrue cCon [cEq],
   .add [cFalse], .satisfiable [], .eval cExp 1 []]

example : ∀ op ∈ cCompHist2, InScopeCH cR cRE OneName op := by
  have h1 : OneName (namesFor [cExp.vars]) := oneName_namesFor (x := 0) (by simp [cExp])
  have h2 : OneName (namesFor ([cExp].map (·.vars))) := oneName_namesFor (x := 0) (by simp [cExp])
  simp only [cCompHist2, List.forall_mem_cons]
  exact ⟨cAddCon_ok, ⟨rfl, rfl, by decide, rfl, h1⟩, rfl, cAddEq_ok, ⟨rfl, rfl, by decide, rfl, h1⟩,
    ⟨by simp, fun e he => by simp at he; subst he; exact ⟨rfl, rfl⟩, by decide, rfl, h2⟩, trivial, cAddFalse_ok, rfl,
    ⟨rfl, rfl, by decide, rfl, h1⟩, fun _ h => nomatch h⟩

/-- **`_reabsorb_solver(m)`: the invariant AND the frame facts** (`ReabsorbPost`): under the hypotheses of
`C12_reabsorb_keeps_invariant`, afterwards the invariant holds for some partition `Us'`, the `_unsat` flag is still off, the merged
child keeps its variables, a variable the merged child does not know keeps its entry of `_solvers`, and every child of the new
partition that shares a variable with the merged child is implied by the merged constraints (both branches: `update` of the old
children / the parts replace them) -/
theorem C12_reabsorb_frames {E : Env} {R : Con → Prop} {RE : Exp → Prop} (H : SolverHyps R RE E)
    (U : List Con) (Us : List (List Con)) (s : CSt) (m : Nat) (h : CInv R RE E U Us s) (hm : m < s.w.fes.length)
    (hkeys : ∀ v ∈ (s.child m).variables, ∃ t, alGet? s.c.solvers v = some t)
    (hsup : ∀ t ∈ s.c.solversFor (s.child m).variables, ∀ v ∈ (s.child t).variables, v ∈ (s.child m).variables)
    (hsem : ∀ a, Models (Us.getD m []) a ↔ ∀ t ∈ s.c.solversFor (s.child m).variables, Models (Us.getD t []) a)
    (hsat : ∀ t ∈ s.c.solversFor (s.child m).variables, Satisfiable (Us.getD t [])) (hun : s.c.unsat = false)
    (s' : CSt) (hrun : reabsorb E m s = (.ok (), s')) : ∃ Us', ReabsorbPost R RE E U Us Us' s s' m :=
  reabsorbFrames H U Us s m h hm hkeys hsup hsem hsat hun s' hrun

/-- the loop of `check_satisfiability(extra)` over the unchecked children, those sharing a variable with the extra solver
skipped: `True` means every listed live child that is not skipped is satisfiable, `False` that some child is not; the children's
variables and the composite's record do not change along the loop -/
theorem C12_check_loop_skip {E : Env} {R : Con → Prop} {RE : Exp → Prop} (H : SolverHyps R RE E) {U : List Con}
    {Us : List (List Con)} (sv : List Var) (l : List Nat) (s : CSt) (h : CInv R RE E U Us s) :
    match checkLoop E (some sv) l s with
    | (.ok b, s') => CInv R RE E U Us s' ∧ s'.c = s.c ∧ (∀ i, (s'.child i).variables = (s.child i).variables) ∧
        (b = true → ∀ j ∈ l, j ∈ s.c.solverList → (s.child j).variables.any sv.contains = false →
          Satisfiable (Us.getD j [])) ∧
        (b = false → ∃ j ∈ s.c.solverList, ¬ Satisfiable (Us.getD j []))
    | (.error e, s') => IsGiveUp E e ∧ CInv R RE E U Us s' ∧ s'.c = s.c :=
  checkLoop_skip_spec H (childFoot H) sv l s h

/-- **`satisfiable(extra_constraints)` answers for everything added plus the extras** (any registered extras, in ANY state
satisfying the invariant): the merged solver of the extras' names is asked under the extras, reabsorbed, the other unchecked
children are asked one by one; the answer is exact for `U ++ extra` (or a child's backend gave up), and the invariant holds
afterwards (for a possibly different partition: `_reabsorb_solver` may have replaced children by the parts of `split()`) -/
theorem C12_satisfiable_extra_correct {E : Env} {R : Con → Prop} {RE : Exp → Prop} (H : SolverHyps R RE E) {U : List Con}
    {Us : List (List Con)} {s : CSt} (h : CInv R RE E U Us s) (extra : List Con) (hex : ∀ c ∈ extra, R c) :
    match compSatisfiable E extra s with
    | (.ok b, s') => (b = true ↔ Satisfiable (U ++ extra)) ∧ ∃ Us', CInv R RE E U Us' s'
    | (.error e, s') => IsGiveUp E e ∧ ∃ Us', CInv R RE E U Us' s' := by
  exact wp.elim (compSatisfiable E extra s) (compSatisfiable_any H h extra fun c hc => H.reg.wf c (hex c hc))
    (fun _ _ h => h) fun _ _ h => h

/-- **`eval(e, n, extra_constraints)`** in ANY state satisfying the invariant (registered symbolic expression, non-empty registered
extras): `_ensure_sat(extra)`, the merged solver of the variables of `e` and of the extras, its answer under the extras,
`_reabsorb_solver`: the answer `Judge` demands for everything added plus the extras; the invariant again -/
theorem C12_eval_extra_correct {E : Env} {R : Con → Prop} {RE : Exp → Prop} (H : SolverHyps R RE E) {U : List Con}
    {Us : List (List Con)} {s : CSt} (h : CInv R RE E U Us s) (e : Exp) (n : Nat) (extra : List Con) (hne : extra ≠ [])
    (hex : ∀ c ∈ extra, R c) (he : RE e) (hc : e.conc = none) (hn : 1 ≤ n) :
    JudgeOrGiveUp E U (.eval e n extra) (compStep E s (.eval e n extra)).1 ∧
    ∃ Us', CInv R RE E U Us' (compStep E s (.eval e n extra)).2 :=
  comp_stepE H h (.eval e n extra) ⟨he, hc, hn, hex⟩

/-- **`batch_eval(es, n, extra_constraints)`**, likewise -/
theorem C12_batch_eval_extra_correct {E : Env} {R : Con → Prop} {RE : Exp → Prop} (H : SolverHyps R RE E) {U : List Con}
    {Us : List (List Con)} {s : CSt} (h : CInv R RE E U Us s) (es : List Exp) (n : Nat) (extra : List Con) (hne : extra ≠ [])
    (hex : ∀ c ∈ extra, R c) (hnes : es ≠ []) (hes : ∀ e ∈ es, RE e ∧ e.conc = none) (hn : 1 ≤ n) :
    JudgeOrGiveUp E U (.batchEval es n extra) (compStep E s (.batchEval es n extra)).1 ∧
    ∃ Us', CInv R RE E U Us' (compStep E s (.batchEval es n extra)).2 :=
  comp_stepE H h (.batchEval es n extra) ⟨hnes, hes, hn, hex⟩

/-- **`solution(e, x, extra_constraints)`**, likewise -/
theorem C12_solution_extra_correct {E : Env} {R : Con → Prop} {RE : Exp → Prop} (H : SolverHyps R RE E) {U : List Con}
    {Us : List (List Con)} {s : CSt} (h : CInv R RE E U Us s) (e : Exp) (x : Nat) (extra : List Con) (hne : extra ≠ [])
    (hex : ∀ c ∈ extra, R c) (he : RE e) (hc : e.conc = none) (hx : x < 2 ^ e.bits) :
    JudgeOrGiveUp E U (.solution e x extra) (compStep E s (.solution e x extra)).1 ∧
    ∃ Us', CInv R RE E U Us' (compStep E s (.solution e x extra)).2 :=
  comp_stepE H h (.solution e x extra) ⟨he, hc, hx, hex⟩

/-- **`max(e, extra_constraints)`**, likewise -/
theorem C12_max_extra_correct {E : Env} {R : Con → Prop} {RE : Exp → Prop} (H : SolverHyps R RE E) {U : List Con}
    {Us : List (List Con)} {s : CSt} (h : CInv R RE E U Us s) (e : Exp) (signed : Bool) (extra : List Con) (hne : extra ≠ [])
    (hex : ∀ c ∈ extra, R c) (he : RE e) (hc : e.conc = none) :
    JudgeOrGiveUp E U (.max e extra signed) (compStep E s (.max e extra signed)).1 ∧
    ∃ Us', CInv R RE E U Us' (compStep E s (.max e extra signed)).2 :=
  comp_stepE H h (.max e extra signed) ⟨he, hc, hex⟩

/-- **`min(e, extra_constraints)`**, likewise -/
theorem C12_min_extra_correct {E : Env} {R : Con → Prop} {RE : Exp → Prop} (H : SolverHyps R RE E) {U : List Con}
    {Us : List (List Con)} {s : CSt} (h : CInv R RE E U Us s) (e : Exp) (signed : Bool) (extra : List Con) (hne : extra ≠ [])
    (hex : ∀ c ∈ extra, R c) (he : RE e) (hc : e.conc = none) :
    JudgeOrGiveUp E U (.min e extra signed) (compStep E s (.min e extra signed)).1 ∧
    ∃ Us', CInv R RE E U Us' (compStep E s (.min e extra signed)).2 :=
  comp_stepE H h (.min e extra signed) ⟨he, hc, hex⟩

/-- one call in ANY state satisfying the invariant, extras allowed on every query: right answer, invariant again -/
theorem C12_call_correct_extras {E : Env} {R : Con → Prop} {RE : Exp → Prop} (H : SolverHyps R RE E)
    {U : List Con} {Us : List (List Con)} {s : CSt} (h : CInv R RE E U Us s) (op : Op) (hop : InScopeCE R RE op) :
    JudgeOrGiveUp E (usersAfter U op) op (compStep E s op).1 ∧ ∃ Us', CInv R RE E (usersAfter U op) Us' (compStep E s op).2 :=
  comp_stepE H h op hop

/-- **C12 for whole histories of CompositeFrontend, extra constraints everywhere**: ANY history of `add` / `satisfiable` / `eval` /
`batch_eval` / `min` / `max` / `solution` / `is_true` / `is_false` on one composite, from the empty one, EVERY query with any
registered extra constraints (registered symbolic expressions over ANY variables): EVERY answer of the model is the one `Judge`
demands for all the constraints added so far plus the extras of the call (or an honest give-up of a child's backend).  No
hypothesis besides `SolverHyps`.  Extends `C12_composite_history` (`InScopeCX.toCE`). -/
theorem C12_composite_history_extras {E : Env} {R : Con → Prop} {RE : Exp → Prop} (H : SolverHyps R RE E) (track : Bool)
    (hist : List Op) (hok : ∀ op ∈ hist, InScopeCE R RE op) :
    ∀ x ∈ runComp E { c := { track := track }, w := { fes := [] } } [] hist, JudgeOrGiveUp E x.1 x.2.1 x.2.2 :=
  comp_histE H hist _ [] [] (cinv_init R RE E track) hok

/-- the bookkeeping invariant holds at the end of every such history (so: at every point of it) -/
theorem C12_composite_history_extras_keeps_invariant {E : Env} {R : Con → Prop} {RE : Exp → Prop} (H : SolverHyps R RE E)
    (track : Bool) (hist : List Op) (hok : ∀ op ∈ hist, InScopeCE R RE op) :
    ∃ Us, CInv R RE E (usersAfterOps [] hist) Us (compRun E { c := { track := track }, w := { fes := [] } } hist) :=
  comp_histE_inv H hist _ [] [] (cinv_init R RE E track) hok

/-- non-vacuity: every history of `C12_composite_history` is in scope -/
example (op : Op) (h : InScopeCX cR cRE op) : InScopeCE cR cRE op := h.toCE

/-- non-vacuity, in the consistent environment of C11 (`cHyps`): extras on every kind of query, adds in between -/
def cCompHistE : List Op :=
  [.add [cCon], .satisfiable [cEq], .eval cExp 2 [cEq], .add [cEq], .max cExp [cCon] false, .min cExp [cEq] true,
   .solution cExp 1 [cCon], .batchEval [cExp] 2 [cEq, cCon], .isTrue cCon [cEq], .satisfiable [cFalse], .eval cExp 1 [cFalse]]

theorem cCompHistE_ok : ∀ op ∈ cCompHistE, InScopeCE cR cRE op := by
  have h1 : ∀ c ∈ [cEq], cR c := by simp
  have h2 : ∀ c ∈ [cCon], cR c := by simp
  have h3 : ∀ c ∈ [cFalse], cR c := by simpa using cR_cFalse
  have h4 : ∀ c ∈ [cEq, cCon], cR c := by simp
  simp only [cCompHistE, List.forall_mem_cons]
  exact ⟨cAddCon_ok, h1, ⟨rfl, rfl, by decide, h1⟩, cAddEq_ok, ⟨rfl, rfl, h2⟩, ⟨rfl, rfl, h1⟩, ⟨rfl, rfl, by decide, h2⟩,
    ⟨by simp, fun e he => by simp at he; subst he; exact ⟨rfl, rfl⟩, by decide, h4⟩, trivial, h3, ⟨rfl, rfl, by decide, h3⟩,
    fun _ h => nomatch h⟩

example : ∀ x ∈ runComp cEnv { c := {}, w := { fes := [] } } [] cCompHistE, JudgeOrGiveUp cEnv x.1 x.2.1 x.2.2 :=
  C12_composite_history_extras cHyps false cCompHistE cCompHistE_ok

/-- **`branch()`** (`_blank_copy` + `_copy`): parent and copy both satisfy the bookkeeping invariant for the SAME constraint list,
in the same world of children; NEITHER owns a child afterwards (`_owned_solvers` is replaced by an empty set on both sides: every
shared child is owned by nobody); both have the parent's `_solvers` / constraints; every child record keeps its fields except
`_finalized` -/
theorem C12_branch_keeps_invariant {E : Env} {R : Con → Prop} {RE : Exp → Prop} {U : List Con} {Us : List (List Con)} {s : CSt}
    (h : CInv R RE E U Us s) :
    CInv R RE E U Us (compBranch s).2 ∧ CInv R RE E U Us { c := (compBranch s).1, w := (compBranch s).2.w } ∧
    (compBranch s).1.owned = [] ∧ (compBranch s).2.c.owned = [] ∧
    (compBranch s).1.solvers = s.c.solvers ∧ (compBranch s).2.c.solvers = s.c.solvers ∧
    (compBranch s).1.constraints = s.c.constraints ∧ (compBranch s).2.c.constraints = s.c.constraints ∧
    (compBranch s).2.w.fes.length = s.w.fes.length ∧
    ∀ k, FinRel (s.child k) ((compBranch s).2.child k) :=
  compBranch_spec h

/-- **`_claim(j)` is copy-on-write**: a child the composite owns is handed back (nothing happens); a child it does not own is
branched - the copy is the next record, owned, with the constraints and variables of `j`; record `j` is only finalized and no
other record changes -/
theorem C12_claim_copy_on_write {E : Env} {R : Con → Prop} {RE : Exp → Prop} {Us : List (List Con)} (s : CSt)
    (hw : TInvS R RE E Us s.w) (j : Nat) (hj : j < s.w.fes.length) :
    (j ∈ s.c.owned ∧ claim E j s = (.ok j, s)) ∨
    (j ∉ s.c.owned ∧ ∃ s', claim E j s = (.ok s.w.fes.length, s') ∧
      s'.c = { s.c with owned := listInsert s.c.owned s.w.fes.length } ∧
      s'.w.fes.length = s.w.fes.length + 1 ∧
      (s'.child s.w.fes.length).constraints = (s.child j).constraints ∧
      (s'.child s.w.fes.length).variables = (s.child j).variables ∧
      (∀ k, k < s.w.fes.length → FinRel (s.child k) (s'.child k)) ∧
      TInvS R RE E (Us ++ [Us.getD j []]) s'.w) :=
  claim_spec s hw j hj

/-- **the frame rule (semantic half)**: the invariant of a composite reads the records ITS `_solvers` points to only.  If another
composite `ci` acted (its invariant holds in the new world `w'`) and those records keep `constraints` and `variables`, then `cj`
satisfies `CInv` for its own, unchanged constraint list in `w'` -/
theorem C12_invariant_frame {E : Env} {R : Con → Prop} {RE : Exp → Prop} {Uj Ui : List Con} {Us Us' : List (List Con)}
    {cj ci : Comp} {w w' : World}
    (hj : CInv R RE E Uj Us { c := cj, w := w }) (hi : CInv R RE E Ui Us' { c := ci, w := w' })
    (hlen : w.fes.length ≤ w'.fes.length)
    (hfr : ∀ k ∈ cj.solverList, (w'.fes.getD k {}).constraints = (w.fes.getD k {}).constraints ∧
      (w'.fes.getD k {}).variables = (w.fes.getD k {}).variables) :
    CInv R RE E Uj Us' { c := cj, w := w' } :=
  hj.frame hi hlen hfr

/-- **one call on one composite of a tree of branched composites**, GIVEN the footprint `CompFrames` of the calls (a call leaves
`constraints` / `variables` of every child record the composite does not own alone; what it owns / points to afterwards it owned /
pointed to before, or is a new record): the answer is the one `Judge` demands for the constraints of the composite that was ASKED
(`branch` included), and the tree invariant holds again: EVERY composite satisfies `CInv` for its own constraint list, a child owned
by one composite is in no other composite's `_solvers` -/
theorem C12_composite_tree_step_partial {E : Env} {R : Con → Prop} {RE : Exp → Prop} (H : SolverHyps R RE E)
    (hF : CompFrames R RE E) {UU Us : List (List Con)} {t : TSt} (ht : TreeInv R RE E UU Us t) (i : Nat) (hi : i < t.cs.length)
    (op : Op) (hop : op = .branch ∨ InScopeCE R RE op) :
    JudgeOrGiveUp E ((usersAll UU i op).getD i []) op (treeStep E t i op).1 ∧
      ∃ Us', TreeInv R RE E (usersAll UU i op) Us' (treeStep E t i op).2 :=
  tree_step H hF ht i hi op hop

/-- **any history over a tree of branched composites** (calls of `C12_composite_history_extras` on any composite of the tree, and
`branch` of any of them, interleaved at will), GIVEN `CompFrames`: every answer is the one `Judge` demands for the constraints of
the composite that was asked (what ITS user added, on it or on the ancestors before the branch) -/
theorem C12_composite_tree_history_partial {E : Env} {R : Con → Prop} {RE : Exp → Prop} (H : SolverHyps R RE E)
    (hF : CompFrames R RE E) (track : Bool) (hist : List (Nat × Op)) (hok : HistOkT R RE 1 hist) :
    ∀ x ∈ runTree E { cs := [{ track := track }], w := { fes := [] } } [[]] hist, JudgeOrGiveUp E x.1 x.2.1 x.2.2 :=
  tree_hist H hF hist _ [[]] [] (treeInv_init R RE E track) hok

/-- **the query methods of class SolverCompositeChild never write `constraints` / `variables` of the record they run on**
(`check_satisfiability`, `eval`, `batch_eval`, `max`, `min`, `solution`, `is_true`, `is_false`, any arguments, ANY state - no
invariant): a walk through the Z3 algorithms of the backend, `_get_solver`, FullFrontend, ModelCacheMixin, SatCacheMixin (the other
two mixins inherit the queries), late binding by induction on the unrolling depth -/
theorem C12_child_queries_keep_constraints (E : Env) : ChildKeeps E := childKeeps E

/-- **the footprint of one public call on a composite** (`add`, `satisfiable`, `eval`, `batch_eval`, `min`, `max`, `solution`,
`is_true`, `is_false`; any arguments, ANY state - no invariant, no `SolverHyps`): the world of child records only grows; a record
the composite does not own keeps `constraints` and `variables`; what it owns afterwards it owned before or is a new record; what
`_solvers` points to afterwards it pointed to before or is a new record.  (`publicAdd` runs on the result of `_claim` only;
`update` writes caches; `combine` / `split` / `blank_copy` / the child's `branch` append records; `_store_child` is called on a
claimed child, a merged child or a part of `split`.)  NOT for `simplify` (it rewrites a shared child in place, see design notes). -/
theorem C12_step_footprint (E : Env) (s : CSt) (op : Op) (hop : op ≠ .simplify ∧ op ≠ .downsize ∧ op ≠ .pickle) :
    StepFrame s (compStep E s op).2 :=
  stepFrame_compStep s op hop

/-- the hypothesis of `C12_composite_tree_step_partial` / `C12_composite_tree_history_partial` holds -/
theorem C12_comp_frames (R : Con → Prop) (RE : Exp → Prop) (E : Env) : CompFrames R RE E := compFrames R RE E

/-- **one call on one composite of a tree of branched composites**: the answer is the one `Judge` demands for the constraints of
the composite that was ASKED, and the tree invariant holds again -/
theorem C12_composite_tree_step {E : Env} {R : Con → Prop} {RE : Exp → Prop} (H : SolverHyps R RE E)
    {UU Us : List (List Con)} {t : TSt} (ht : TreeInv R RE E UU Us t) (i : Nat) (hi : i < t.cs.length)
    (op : Op) (hop : op = .branch ∨ InScopeCE R RE op) :
    JudgeOrGiveUp E ((usersAll UU i op).getD i []) op (treeStep E t i op).1 ∧
      ∃ Us', TreeInv R RE E (usersAll UU i op) Us' (treeStep E t i op).2 :=
  tree_step H (compFrames R RE E) ht i hi op hop

/-- **branch isolation for composites, the full statement**: in ANY interleaving of add / satisfiable / eval / batch_eval / min /
max / solution / is_true / is_false (any registered extra constraints) and `branch` over a TREE of branched composites (children
shared copy-on-write), every answer is the one `Judge` demands for the constraints of the composite that was asked - what ITS user
added, on it or on its ancestors before the branch.  (`C12_composite_tree_history_partial` with `CompFrames` discharged by
`C12_comp_frames`.) -/
theorem C12_composite_tree_history :
    ∀ (E : Env) (R : Con → Prop) (RE : Exp → Prop), SolverHyps R RE E → ∀ (track : Bool) (hist : List (Nat × Op)),
    HistOkT R RE 1 hist →
    ∀ x ∈ runTree E { cs := [{ track := track }], w := { fes := [] } } [[]] hist, JudgeOrGiveUp E x.1 x.2.1 x.2.2 :=
  fun E R RE H track hist hok => C12_composite_tree_history_partial H (compFrames R RE E) track hist hok

/-- non-vacuity: a tree history in scope in the environment of C11 (branch, the two sides learn different things, both are asked) -/
def cTreeHist : List (Nat × Op) :=
  [(0, .add [cCon]), (0, .branch), (1, .add [cEq]), (0, .eval cExp 2 []), (1, .eval cExp 2 [cCon]), (1, .branch),
   (2, .satisfiable [cFalse]), (0, .add [cEq]), (2, .max cExp [] false)]

theorem cTreeHist_ok : HistOkT cR cRE 1 cTreeHist := by
  have h1 : ∀ c ∈ [cEq], cR c := by simp
  have h2 : ∀ c ∈ [cCon], cR c := by simp
  have h3 : ∀ c ∈ [cFalse], cR c := by simpa using cR_cFalse
  have h0 : ∀ c ∈ ([] : List Con), cR c := fun c hc' => by cases hc'
  have a1 : InScopeCE cR cRE (.add [cCon]) := cAddCon_ok
  have a2 : InScopeCE cR cRE (.add [cEq]) := cAddEq_ok
  refine ⟨by decide, Or.inr a1, by decide, Or.inl rfl, by decide, Or.inr a2, by decide, Or.inr ⟨rfl, rfl, by decide, h0⟩,
    by decide, Or.inr ⟨rfl, rfl, by decide, h2⟩, by decide, Or.inl rfl, by decide, Or.inr h3, by decide, Or.inr a2,
    by decide, Or.inr ⟨rfl, rfl, h0⟩, trivial⟩

/-- non-vacuity of the tree invariant: the tree of one empty composite; and of the footprint: the empty `add` -/
example : TreeInv cR cRE cEnv [[]] [] { cs := [{}], w := { fes := [] } } := treeInv_init cR cRE cEnv false
example (s : CSt) : StepFrame s (compStep cEnv s (.add [])).2 := StepFrame.refl s

/-- non-vacuity of `C12_composite_tree_history`: its hypotheses hold for the 9 calls of `cTreeHist` on 3 composites in the
environment of C11, so every answer of that tree history is judged right; and of `C12_step_footprint` (a call that is not `simplify`) -/
example : SolverHyps cR cRE cEnv ∧ HistOkT cR cRE 1 cTreeHist := ⟨cHyps, cTreeHist_ok⟩
example : ∀ x ∈ runTree cEnv { cs := [{ track := false }], w := { fes := [] } } [[]] cTreeHist, JudgeOrGiveUp cEnv x.1 x.2.1 x.2.2 :=
  C12_composite_tree_history cEnv cR cRE cHyps false cTreeHist cTreeHist_ok
example (s : CSt) : StepFrame s (compStep cEnv s (.eval cExp 2 [cCon])).2 :=
  C12_step_footprint cEnv s _ ⟨by simp, by simp, by simp⟩

/-- **The full statement**: every history of public calls on a CompositeFrontend (hence, with the mixin layers of C11 on top, on
a SolverComposite) is answered as the property statement demands for all the constraints added.  Proved: **`C12_composite_history`**
— ANY history of add / satisfiable() / eval / batch_eval / min / max / solution (no extra constraints) / is_true / is_false (any
extra constraints), expressions over any variables, is answered right at EVERY step, and the bookkeeping invariant `CInv` holds at every
step (`C12_call_correct`, `C12_composite_history_keeps_invariant`); **`C12_composite_history_extras`** — the same with ANY registered
extra constraints on EVERY query (`C12_satisfiable_extra_correct`, `C12_eval_extra_correct`, ..., `C12_call_correct_extras`,
`C12_composite_history_extras_keeps_invariant`; `_reabsorb_solver` exports its frame facts: `C12_reabsorb_frames`); `combine` (`C12_combine_correct`), `split` / `update` /
`_reabsorb_solver` (`C12_reabsorb_keeps_invariant`) are proved.  The invariant is the one the code maintains: the marker clauses of
C11's `MCInv` hold under the guard the code uses (`C12_marker_guarded`; `C12_reabsorb_marker_without_model` is the record for
which the unguarded form is false).  `branch` of the composite (`C12_branch_keeps_invariant`, `C12_claim_copy_on_write`,
`C12_invariant_frame`) and whole trees of branched composites are proved: `C12_composite_tree_history` (the footprint of the calls:
`C12_step_footprint`, from `C12_child_queries_keep_constraints`).  Missing:
  * `simplify` (a child's `variables` may keep a variable its constraints lost: `ExactVars` fails, see design_notes/C12.md),
    pickling of the composite;
  * the mixins of class SolverComposite above CompositeFrontend, CompositedCacheMixin among them. -/
def C12_full : Prop :=
  ∀ (E : Env) (R : Con → Prop) (RE : Exp → Prop), SolverHyps R RE E → ∀ (track : Bool) (hist : List Op),
    (∀ op ∈ hist, InScopeS R RE op ∧ op ≠ .branch) →
    ∀ x ∈ runComp E { c := { track := track }, w := { fes := [] } } [] hist, JudgeOrGiveUp E x.1 x.2.1 x.2.2

end Claripy.Props.C12

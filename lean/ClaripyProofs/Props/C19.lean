import Claripy.Gen.GcGuard
import ClaripyProofs.Lemmas.GcGuardStep
/-!
# C19 — garbage collection stays disabled exactly while Z3 calls are in progress

`Claripy.Gen.GcGuard.progs` is regenerated from `/repo/claripy/backends/backend_z3.py` on every
run.  `C19_gen_matches_model` ties it to the programs the invariant is proved for; the main
theorem is stated about the *generated* programs, for any number of threads, any schedule at line
granularity, any nesting depth, GC initially enabled or disabled.
-/
namespace Claripy.Props.C19
open Claripy.GcGuard

/-- Tie: the programs generated from the source are the programs the invariant is proved for. -/
theorem C19_gen_matches_model : Claripy.Gen.GcGuard.progs = stdProgs := by decide

theorem C19_inv (n : Nat) (g : Bool) (s : State)
    (h : Reachable Claripy.Gen.GcGuard.progs n g s) : Inv s := by
  rw [C19_gen_matches_model] at h
  induction h with
  | init => exact inv_init n g
  | step _ hs ih => exact step_inv _ _ _ _ ih hs

/-- C19: for every number of threads `n`, initial collector state `g` and every interleaving
(line granularity, arbitrary nesting), in every reachable state
  * the collector is disabled whenever at least one call is in progress,
  * when no call is in progress and no thread is inside the guard functions the collector state is
    what it was before the first call started (`gc0`),
  * the in-progress counter is not negative. -/
theorem C19_gc_guard (n : Nat) (g : Bool) (s : State)
    (h : Reachable Claripy.Gen.GcGuard.progs n g s) : Safe s :=
  inv_safe s (C19_inv n g s h)

/-- The underflow branch of `_exit_z3` (pcs 2..5) is unreachable when exits are matched. -/
theorem C19_no_underflow (n : Nat) (g : Bool) (s : State)
    (h : Reachable Claripy.Gen.GcGuard.progs n g s) (i : Nat) (t : Thread)
    (ht : s.threads[i]? = some t) (hfn : t.fn = 2) : ¬ (2 ≤ t.pc ∧ t.pc ≤ 5) := by
  have := (C19_inv n g s h).loc i t ht
  simp [localOk, hfn] at this
  omega

/-- Non-vacuity: a concrete 2-thread schedule reaches a state with two calls in progress, the
collector off and a third call mid-way through `_enter_z3`. -/
def demoSched : List (Nat × Act) :=
  [(0, .callEnter), (0, .run), (0, .run), (0, .run), (0, .run), (0, .run), (0, .run), (0, .run), (0, .run),
   (1, .callEnter), (1, .run), (1, .run), (1, .run), (1, .run), (1, .run),
   (0, .callEnter), (0, .run)]

example : ((runSched Claripy.Gen.GcGuard.progs (initState 2 true) demoSched).getLast?.map
    fun s => (s.active, s.gc, inProgress s, s.lock)) = some (2, false, 2, some 0) := by decide

example : (runSched Claripy.Gen.GcGuard.progs (initState 2 true) demoSched).length = demoSched.length := by
  decide

end Claripy.Props.C19

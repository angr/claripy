import Claripy.AST.Hashcons
import ClaripyProofs.Lemmas.Util.Assoc
/-!
# C06 — structurally equal expressions are one object; different ones never merge

* `C06_int_roundtrip` — the variable-length integer encoding of `_arg_serialize` is injective (decodable) for EVERY
  Python int, so integer arguments (values, widths, Extract bounds, …) never collide by themselves;
* `C06_table_*` — for any history of constructions and garbage-collection events (weak entries may vanish at any
  time), the table maps every key to a node with that key; a construction returns a node with the key of the one
  built — the live one if there is one (`C06_same_object`); hence, whenever the key function does not collide on the
  two nodes involved, the node returned IS the node built (`C06_never_merges`);
* `C06_pyhash_collision_*` — Python's `hash()` on integers, which is what identifies an annotation object in the key,
  DOES collide systematically: the negation of collision-freedom for annotation classes that hash integer fields
  with `hash()` (witnesses −1/−2 and x / x + 2^61 − 1).  The built-in annotation classes were repaired (`fix:` commit);
  user classes remain a recorded finding.
-/
namespace Claripy.Props.C06
open Claripy.Hashcons

theorem length_natBytes (len n : Nat) : (natBytes len n).length = len := by
  induction len generalizing n with
  | zero => rfl
  | succ k ih => simp [natBytes, ih]

theorem natOfBytes_natBytes (len n : Nat) : natOfBytes (natBytes len n) = n % 256 ^ len := by
  induction len generalizing n with
  | zero => simp [natBytes, natOfBytes, Nat.mod_one]
  | succ k ih =>
    simp only [natBytes, natOfBytes, ih]
    rw [Nat.pow_succ, Nat.mul_comm (256 ^ k) 256, Nat.mod_mul, Nat.add_comm]

theorem lt_two_pow_bitLength (n : Nat) : n < 2 ^ bitLength n := by
  unfold bitLength
  split
  · subst_vars; simp
  · exact Nat.lt_log2_self

theorem two_abs_lt (n : Int) : 2 * n.natAbs < 256 ^ intLen n := by
  have h1 := lt_two_pow_bitLength n.natAbs
  have h2 : bitLength n.natAbs + 1 ≤ 8 * intLen n := by unfold intLen; omega
  have h3 : (256 : Nat) ^ intLen n = 2 ^ (8 * intLen n) := by
    have : (256 : Nat) = 2 ^ 8 := by decide
    rw [this, ← Nat.pow_mul]
  rw [h3]
  calc 2 * n.natAbs < 2 * 2 ^ bitLength n.natAbs := by omega
    _ = 2 ^ (bitLength n.natAbs + 1) := by rw [Nat.pow_succ]; omega
    _ ≤ 2 ^ (8 * intLen n) := Nat.pow_le_pow_right (by decide) h2

/-- **C06 (integers)**: decoding the bytes `_arg_serialize` produces for an int gives the int back — for every int. -/
theorem C06_int_roundtrip (n : Int) : decodeInt (intBytes n) = n := by
  have hlt := two_abs_lt n
  unfold decodeInt intBytes
  simp only [length_natBytes, natOfBytes_natBytes]
  generalize hM : 256 ^ intLen n = M at hlt
  have hMpos : 0 < M := by rw [← hM]; exact Nat.pow_pos (by decide)
  have hMi : ((256 : Int) ^ intLen n) = (M : Int) := by rw [← hM]; simp
  rw [hMi]
  by_cases hn : 0 ≤ n
  · have e1 : n % (M : Int) = n := Int.emod_eq_of_lt hn (by omega)
    rw [e1]
    have e2 : n.toNat % M = n.toNat := Nat.mod_eq_of_lt (by omega)
    rw [e2]
    have : 2 * n.toNat < M := by omega
    simp only [this, if_true]
    omega
  · have e1 : n % (M : Int) = n + M := by
      have h0 : (n + (M : Int)) % (M : Int) = n % (M : Int) := Int.add_emod_right ..
      rw [← h0]
      exact Int.emod_eq_of_lt (by omega) (by omega)
    rw [e1]
    have e2 : (n + (M : Int)).toNat % M = (n + (M : Int)).toNat := Nat.mod_eq_of_lt (by omega)
    rw [e2]
    have : ¬ 2 * (n + (M : Int)).toNat < M := by omega
    simp only [this, if_false]
    omega

theorem C06_intBytes_injective (a b : Int) (h : intBytes a = intBytes b) : a = b := by
  rw [← C06_int_roundtrip a, ← C06_int_roundtrip b, h]

/-- **an integer argument never looks like `None`, `True` or `False`** (their one-byte images are 0x0f, 0x1f, 0x2e): 0 is
the single byte 0x00 and every other integer takes at least two bytes — which is why `(bit_length + 15) // 8` and not the
minimal width is the right length (`BVV(15, n)` versus the empty interval `BVV(None, n)`) -/
theorem C06_int_not_sentinel (n : Int) : argBytes (.int n) ≠ argBytes .none ∧ argBytes (.int n) ≠ argBytes .true ∧
    argBytes (.int n) ≠ argBytes .false := by
  simp only [argBytes]
  by_cases h0 : n = 0
  · subst h0
    refine ⟨?_, ?_, ?_⟩ <;> decide
  · have hlen : 2 ≤ (intBytes n).length := by
      simp only [intBytes, length_natBytes, intLen, bitLength]
      have : n.natAbs ≠ 0 := by omega
      simp only [this, if_false]
      omega
    refine ⟨?_, ?_, ?_⟩ <;> intro h <;> rw [h] at hlen <;> simp at hlen

/-- reading a serialised double back: the three spelled-out values, otherwise the number the eight bytes hold -/
def floatOfBytes (bs : List Nat) : Nat :=
  if bs = [105, 110, 102] then 9218868437227405312
  else if bs = [45, 105, 110, 102] then 18442240474082181120
  else if bs = [45, 48, 46, 48] then 9223372036854775808
  else natOfBytes bs

theorem floatOfBytes_floatBytes (x : Nat) (hx : x < 18446744073709551616) (hn : isNaNBits x = false) :
    floatOfBytes (floatBytes x) = x := by
  unfold floatBytes
  rw [hn, if_neg Bool.false_ne_true]
  split
  · subst_vars; rfl
  split
  · subst_vars; rfl
  split
  · subst_vars; rfl
  -- eight bytes are none of the three texts
  have l := length_natBytes 8 x
  have ne : ∀ t : List Nat, t.length < 8 → natBytes 8 x ≠ t := fun t ht e => by rw [e] at l; omega
  rw [floatOfBytes, if_neg (ne _ (by decide)), if_neg (ne _ (by decide)), if_neg (ne _ (by decide)), natOfBytes_natBytes]
  exact Nat.mod_eq_of_lt hx

/-- **C06 (float arguments)**: two doubles that are not NaN serialise to the same bytes only if they are the same double
(bit for bit: `0.0` and `-0.0`, and values one unit in the last place apart, stay apart).  All NaNs serialise alike. -/
theorem C06_floatBytes_injective (a b : Nat) (ha : a < 18446744073709551616) (hb : b < 18446744073709551616)
    (na : isNaNBits a = false) (nb : isNaNBits b = false) (h : floatBytes a = floatBytes b) : a = b := by
  rw [← floatOfBytes_floatBytes a ha na, ← floatOfBytes_floatBytes b hb nb, h]

example : floatBytes 4596373779694328218 ≠ floatBytes 4596373779694328219 := by decide   -- 0.3 and 0.30000000000000004…

theorem C06_pyhash_collision_neg1_neg2 : pyHashInt (-1) = pyHashInt (-2) ∧ (-1 : Int) ≠ -2 := by decide

theorem C06_pyhash_collision_modulus (x : Nat) : pyHashInt ((x : Int) + (pyModulus : Nat)) = pyHashInt (x : Int) := by
  unfold pyHashInt
  have h1 : ¬ ((x : Int) + (pyModulus : Nat) < 0) := by omega
  have h2 : ¬ ((x : Int) < 0) := by omega
  have e : ((x : Int) + (pyModulus : Nat)).natAbs = x + pyModulus := by omega
  simp only [h1, h2, if_false, e, Int.natAbs_natCast, Nat.add_mod_right]

variable {κ ν : Type} [DecidableEq κ]

def KeyOK (key : ν → κ) (t : Table κ ν) : Prop := ∀ e ∈ t.entries, key e.2 = e.1

theorem get_some_key (key : ν → κ) (t : Table κ ν) (hk : KeyOK key t) (k : κ) (m : ν) (h : t.get k = some m) :
    key m = k := by
  obtain ⟨k', hm, hk'⟩ := find?_snd_some (p := fun k' => decide (k' = k)) h
  exact (hk (k', m) hm).trans (of_decide_eq_true hk')

theorem construct_keyOK (key : ν → κ) (t : Table κ ν) (hk : KeyOK key t) (n : ν) : KeyOK key (construct key t n).2 := by
  unfold construct
  cases h : t.get (key n) with
  | some m => simpa using hk
  | none =>
    intro e he
    simp at he
    rcases he with rfl | he
    · rfl
    · exact hk e he

theorem collect_keyOK (key : ν → κ) (t : Table κ ν) (hk : KeyOK key t) (k : κ) : KeyOK key (collect t k) := by
  intro e he
  simp [collect] at he
  exact hk e he.1

theorem run_keyOK (key : ν → κ) (t : Table κ ν) (hk : KeyOK key t) (evs : List (Ev κ ν)) : KeyOK key (run key t evs) := by
  induction evs generalizing t with
  | nil => exact hk
  | cons ev rest ih =>
    cases ev with
    | build n => exact ih _ (construct_keyOK key t hk n)
    | collect k => exact ih _ (collect_keyOK key t hk k)

/-- **C06 (table)**: after ANY history of constructions and collections starting from the empty table, constructing `n`
returns a node with the key of `n`. -/
theorem C06_table_key (key : ν → κ) (evs : List (Ev κ ν)) (n : ν) :
    key (construct key (run key ⟨[]⟩ evs) n).1 = key n := by
  have hk : KeyOK key (run key (⟨[]⟩ : Table κ ν) evs) := run_keyOK key ⟨[]⟩ (by intro e he; simp at he) evs
  unfold construct
  cases h : (run key (⟨[]⟩ : Table κ ν) evs).get (key n) with
  | some m => exact get_some_key key _ hk (key n) m h
  | none => rfl

/-- **C06 (never merges)**: if the key function does not collide on the node built and the node returned, the node
returned is the node built — whatever happened before. -/
theorem C06_never_merges (key : ν → κ) (evs : List (Ev κ ν)) (n : ν)
    (hinj : ∀ m, key m = key n → m = n) : (construct key (run key ⟨[]⟩ evs) n).1 = n :=
  hinj _ (C06_table_key key evs n)

/-- **C06 (same object)**: constructing twice in a row (no collection in between) returns the same table entry,
and the table does not grow: a structurally identical live node is reused. -/
theorem C06_same_object (key : ν → κ) (t : Table κ ν) (n : ν) :
    let r1 := construct key t n
    construct key r1.2 n = (r1.1, r1.2) := by
  simp only
  unfold construct
  cases h : t.get (key n) with
  | some m => simp [h]
  | none => simp [Table.get]

/-- The converse really fails when keys collide: with a key that identifies two different nodes, the second
construction returns the FIRST node (this is the conflation the property forbids). -/
theorem C06_collision_merges :
    (construct (fun n : Int => pyHashInt n) (construct (fun n : Int => pyHashInt n) ⟨[]⟩ (-1)).2 (-2)).1 = -1 := by
  decide

end Claripy.Props.C06

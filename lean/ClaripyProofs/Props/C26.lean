import ClaripyProofs.Lemmas.Str.Numeral
import ClaripyProofs.Lemmas.Str.Codec
import ClaripyProofs.Lemmas.FP.Encoded
import ClaripyProofs.Lemmas.FP.Extract
/-!
# C26 — values extracted from models are the values the model holds

Models of the extraction functions of `backends/backend_z3.py`: bit-vector numerals (`_abstract_bv_val`, both paths,
`str_to_int_unlimited`), the `Concat` quirk, strings (`z3_string_to_python ∘ as_string`), floats (`_abstract_fp_val`,
`_abstract_fp_encoded_val`).  What Z3 reports for a numeral (uint64 / decimal string; sign, decimal significand string,
exponent; escaped text) is transcribed from observed Z3 4.13 behaviour and validated on every run.
-/
namespace Claripy.Props.C26
open Claripy.Str Claripy.Str.Numeral Claripy.Str.Codec Claripy.FP Claripy.FP.Extract

/-- bit-vector numerals of ANY width come back exactly, through the uint64 path and through the chunked decimal path,
for every chunk size (CPython's digit limit) -/
theorem bv_extract_ok (chunk : Nat) (hc : 0 < chunk) (v : Nat) : abstractBvVal chunk v = v := abstractBvVal_eq chunk hc v

example : abstractBvVal 4300 (2 ^ 200 + 12345) = 2 ^ 200 + 12345 := bv_extract_ok _ (by decide) _

/-- `str_to_int_unlimited` is the decimal value for every digit string and every chunk size -/
theorem str_to_int_unlimited_ok (chunk : Nat) (hc : 0 < chunk) (s : S) : strToIntUnlimited chunk s = Spec.decVal s :=
  strToIntUnlimited_eq chunk hc s

/-- the `Concat` quirk: in-range fields, no negated zero ⇒ the concatenated value -/
theorem concat_quirk_ok (parts : List Part) (h : ∀ p ∈ parts, p.val < 2 ^ p.size ∧ (p.neg = true → 0 < p.val)) :
    concatQuirk parts = concatVal parts := concatQuirk_eq parts h

example : concatQuirk [⟨1, 0, false⟩, ⟨8, 255, false⟩, ⟨23, 1, true⟩] = 0x7FFFFFFF := by decide

/-- … and it is wrong for a negated zero field (`(1 << size) - 0` spills into the next field); Z3 never prints `bvneg 0` -/
theorem concat_quirk_neg_zero_wrong : concatQuirk [⟨8, 2, false⟩, ⟨8, 0, true⟩] ≠ concatVal [⟨8, 2, false⟩, ⟨8, 0, true⟩] := by
  decide

/-- strings: every string Python can hold comes back as the characters Z3 holds (shared with C03) -/
theorem str_extract_ok (s : S) (h : ∀ c ∈ s, c ≤ pyMaxChar) : claripyDecode (z3Print s) = s := extract_roundtrip' s h

/-- without the decoding step (the upstream code, fixed in /repo) NUL,`z` comes back as the text `\u{0}z` -/
theorem str_extract_undecoded_wrong : z3Print [0, 122] ≠ [0, 122] := by decide

/-- floats, encoded path (`fpToIEEEBV` quirk): the fields reassemble to the bit pattern, for every non-NaN value of both formats -/
theorem fp_encoded_ok (b : Nat) :
    (isNaN binary64 b = false → abstractFpEncodedVal binary64 b = b % 2 ^ 64) ∧
    (isNaN binary32 b = false → abstractFpEncodedVal binary32 b = b % 2 ^ 32) :=
  ⟨encoded_eq binary64 (by decide) b, encoded_eq binary32 (by decide) b⟩

/-- FLOATS, value path (`_abstract_fp_val`): the Python float computed as `fp_sign * float(sig_string) * 2**fp_exp` — three
binary64 round-to-nearest operations, each of which is proved exact — packed in the sort's format, is the bit pattern of the
numeral: for EVERY non-NaN value of binary64 and binary32 (zeros, subnormals, normals, infinities). -/
theorem fp_extract_ok :
    (∀ b, b < 2 ^ 64 → isNaN binary64 b = false → abstractFpVal binary64 b = b) ∧
    (∀ b, b < 2 ^ 32 → isNaN binary32 b = false → Fold.lower binary32 (abstractFpVal binary32 b) = b) :=
  ⟨abstractFpVal_D, abstractFpVal_F⟩

/-- NaN comes back as NaN (its payload is unspecified) -/
theorem fp_extract_nan (f : Fmt) (b : Nat) (h : isNaN f b = true) : isNaN binary64 (abstractFpVal f b) = true := by
  unfold abstractFpVal; simp only [h, if_true]; decide

example : abstractFpVal binary64 1 = 1 ∧ Fold.lower binary32 (abstractFpVal binary32 0x807FFFFF) = 0x807FFFFF :=
  ⟨fp_extract_ok.1 1 (by decide) (by decide), fp_extract_ok.2 _ (by decide) (by decide)⟩

/-- bounded: subnormals, extremes and ties of both formats reconstruct exactly -/
theorem test_fp_extract_samples :
    ([1, 0x000FFFFFFFFFFFFF, 0x0010000000000000, 0x3FF0000000000001, 0x7FEFFFFFFFFFFFFF, 0xBFF8000000000000,
      0x8000000000000001, 0x4340000000000001].all fun b => abstractFpVal binary64 b == b) = true ∧
    ([1, 0x007FFFFF, 0x00800000, 0x3F800001, 0x7F7FFFFF, 0xBFC00000, 0x80000001].all
      fun b => Fold.lower binary32 (abstractFpVal binary32 b) == b) = true := by decide +kernel

end Claripy.Props.C26

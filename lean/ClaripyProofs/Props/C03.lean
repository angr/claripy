import ClaripyProofs.Lemmas.Str.Ops
import ClaripyProofs.Lemmas.Str.Numeral
import ClaripyProofs.Lemmas.Str.Codec
/-!
# C03 — string operations mean the same folded and solved, for every character

`Claripy.Str.Model` transcribes `claripy/backends/backend_concrete/strings.py` (current tree, after the `fix:` commits
recorded in known_findings.json); `Claripy.Str.Spec` is the SMT-LIB 2.6 meaning with claripy's BV64 interface
(indices read as naturals below 2^64, integer results modulo 2^64).  Every theorem is for ALL code-point lists and all
indices; nothing is bounded.  The literal codec theorems say that a `StringV` reaches Z3 as written and that a Z3 string
value comes back as the characters it holds.
-/
namespace Claripy.Props.C03
open Claripy.Str Claripy.Str.Codec

/-! ## the SMT-LIB reference is what the standard says (characterisation of `findAt`, `fromInt`) -/

/-- `findAt` returns a position where the pattern occurs … -/
theorem findAt_sound (t s : S) (j : Nat) (h : Spec.findAt t s 0 = some j) : j ≤ s.length ∧ t <+: s.drop j := by
  have := Claripy.Str.findAt_sound t s 0 j h; simpa using this.2

/-- … the first one (`u1` is the shortest word with `s = u1 t u2`) … -/
theorem findAt_least (t s : S) (j : Nat) (h : Spec.findAt t s 0 = some j) : ∀ i < j, ¬ t <+: s.drop i := by
  intro i hi; have := Claripy.Str.findAt_least t s 0 j h i (Nat.zero_le _) hi; simpa using this

/-- … and `none` only if the pattern occurs nowhere. -/
theorem findAt_complete (t s : S) (h : Spec.findAt t s 0 = none) : ∀ i ≤ s.length, ¬ t <+: s.drop i :=
  Claripy.Str.findAt_complete t s 0 h

example : Spec.findAt [98] [97, 98, 98] 0 = some 1 := by decide
example : Spec.findAt [99] [97, 98, 98] 0 = none := by decide

/-- `str.contains s t` holds exactly when `s = u1 ++ t ++ u2` -/
theorem contains_char (s t : S) : Spec.contains s t = true ↔ t <:+: s := contains_iff_infix s t

/-- `str.replace` in the words of the standard: unchanged if `t` does not occur; otherwise `u1 ++ r ++ u2` where
`s = u1 ++ t ++ u2` and `u1` is the shortest such prefix -/
theorem replace_char (s t r : S) :
    (¬ t <:+: s → Spec.replace s t r = s) ∧
    (t <:+: s → ∃ u1 u2, s = u1 ++ t ++ u2 ∧ Spec.replace s t r = u1 ++ r ++ u2 ∧
      ∀ v1 v2, s = v1 ++ t ++ v2 → u1.length ≤ v1.length) := Claripy.Str.replace_char s t r

/-- `str.indexof s t i` (`i ≤ |s|`): the smallest position `j ≥ i` where `t` occurs, -1 if there is none -/
theorem indexof_char (s t : S) (i : Nat) (hi : i ≤ s.length) :
    (∀ j, Spec.findAt t (s.drop i) i = some j → i ≤ j ∧ t <+: s.drop j ∧ (∀ k, i ≤ k → k < j → ¬ t <+: s.drop k) ∧
      Spec.indexof s t i = j % M64) ∧
    (Spec.findAt t (s.drop i) i = none → (∀ k, i ≤ k → k ≤ s.length → ¬ t <+: s.drop k) ∧ Spec.indexof s t i = minusOne) :=
  Claripy.Str.indexof_char s t i hi

/-- `str.from_int` is a right inverse of `str.to_int`, is never empty and has no leading zero -/
theorem fromInt_toInt (n : Nat) :
    Spec.toInt (Spec.fromInt n) = n % M64 ∧ Spec.fromInt n ≠ [] ∧ ((Spec.fromInt n).head? = some 48 → n = 0) :=
  ⟨toInt_fromInt n, fromInt_ne_nil n, fromInt_head n⟩

/-! ## every folded operation equals its SMT-LIB meaning -/

/-- Python's `find` (hence `in`, `index`, `replace(.., 1)`) computes the first occurrence -/
theorem find_spec (s t : S) : Py.find s t = Spec.findAt t s 0 := Claripy.Str.find_spec s t

theorem concat_spec (args : List S) : Model.StrConcat args = args.foldr Spec.concat [] := concat_many args
theorem len_spec (s : S) : Model.StrLen s = Spec.len s := rfl
theorem substr_spec (s : S) (i n : Nat) : Model.StrSubstr i n s = Spec.substr s i n := substr_eq s i n
/-- including the empty pattern (the replacement is prepended) -/
theorem replace_spec (s t r : S) : Model.StrReplace s t r = Spec.replace s t r := replace_eq s t r
theorem contains_spec (s t : S) : Model.StrContains s t = Spec.contains s t := contains_eq s t
theorem prefixof_spec (p s : S) : Model.StrPrefixOf p s = Spec.prefixof p s := prefixof_eq p s
theorem suffixof_spec (p s : S) : Model.StrSuffixOf p s = Spec.suffixof p s := suffixof_eq p s
theorem indexof_spec (s t : S) (i : Nat) : Model.StrIndexOf s t i = Spec.indexof s t i := indexof_eq s t i
theorem toint_spec (s : S) : Model.StrToInt s = Spec.toInt s := toint_eq s
theorem fromint_spec (n : Nat) : Model.IntToStr n = Spec.fromInt n := str_eq_fromInt n
theorem eq_spec (a b : S) : Model.eq a b = Spec.eq a b := eq_eq a b
theorem ne_spec (a b : S) : Model.ne a b = !Spec.eq a b := ne_eq a b

example : Model.StrReplace [97, 98] [] [99] = [99, 97, 98] := by decide
example : Model.StrSubstr 1 (2 ^ 64 - 1) [97, 98, 99] = [98, 99] := by decide
example : Model.StrIndexOf [97, 98] [] 2 = 2 := by decide

/-- A string constant reaches the solver as exactly the characters the caller wrote: for every string over the SMT-LIB
alphabet (code points ≤ 0x2FFFF), Z3's reading of the text that z3py produces from claripy's escaped literal is the
string itself. -/
theorem literal_roundtrip (s : S) (h : ∀ c ∈ s, c ≤ z3MaxChar) :
    (claripyEncode s).map (fun t => z3Parse (z3pyEncode t)) = some s := literal_roundtrip' s h

example : (claripyEncode [92, 117, 123, 52, 56, 125, 0, 0x1F600]).map (fun t => z3Parse (z3pyEncode t))
    = some [92, 117, 123, 52, 56, 125, 0, 0x1F600] := literal_roundtrip _ (by decide)

/-- code points SMT-LIB strings do not have are refused, not mangled -/
theorem literal_rejects_big (s : S) (h : ∃ c ∈ s, c > z3MaxChar) : claripyEncode s = none := literal_rejects_big' s h

/-- Values extracted from models: decoding what Z3 prints gives back every string Python can hold. -/
theorem extract_roundtrip (s : S) (h : ∀ c ∈ s, c ≤ pyMaxChar) : claripyDecode (z3Print s) = s := extract_roundtrip' s h

/-! ## what goes wrong without the fixes in /repo (negations with concrete witnesses; each witness is replayed on the real code) -/

/-- without claripy's escaping (`claripyEncode = id`, the upstream code, fixed in /repo) the literal `\u{48}` arrives as `H` -/
theorem literal_unescaped_backslash_wrong : ¬ ∀ s : S, z3Parse (z3pyEncode s) = s := by
  intro h; have := h [92, 117, 123, 52, 56, 125]; revert this; decide

/-- without decoding (`claripyDecode = id`, the upstream code, fixed in /repo) the model value NUL,`z` comes back as `\u{0}z` -/
theorem extract_undecoded_wrong : ¬ ∀ s : S, z3Print s = s := by
  intro h; have := h [0, 122]; revert this; decide

/-- `str.to_int "-5"` is -1; Python's `int("-5")` (the upstream code, fixed in /repo) is -5 -/
theorem python_int_is_not_to_int : Spec.toInt [45, 53] = minusOne ∧ minusOne ≠ M64 - 5 := by decide

/-- `str.prefixof "a." "ab"` is false; the regular expression `^a.` (the upstream code, fixed in /repo) matches `ab` -/
theorem regex_prefix_is_not_prefixof : Spec.prefixof [97, 46] [97, 98] = false := by decide

/-- the unguarded expression `i + s[i:].index(t)` (the upstream code, fixed in /repo) -/
def indexofUnguarded (s t : S) (i : Nat) : Nat :=
  match Py.index (Py.sliceFrom s i) t with
  | some k => Model.bvv64 (i + k)
  | none => Model.bvvMinusOne

theorem indexof_unguarded_wrong : ¬ ∀ (s t : S) (i : Nat), indexofUnguarded s t i = Spec.indexof s t i := by
  intro h; have := h [97, 98] [] 5; revert this; decide

theorem test_ops_small :
    (List.range 5).map (Model.StrIndexOf [97, 98, 97] [97]) = [0, 2, 2, minusOne, minusOne] ∧
    Model.StrToInt [49, 56, 52, 52, 54, 55, 52, 52, 48, 55, 51, 55, 48, 57, 53, 53, 49, 54, 49, 54] = 0 ∧
    Model.StrSuffixOf [97, 98] [120, 10, 97, 98] = true ∧
    Model.StrPrefixOf [40] [40] = true := by decide

end Claripy.Props.C03

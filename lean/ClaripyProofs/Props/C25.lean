import ClaripyProofs.Lemmas.VSA.BalancerPair
import ClaripyProofs.Lemmas.VSA.BalancerSignedLoop
/-!
# C25 — constraint_to_si never cuts off a satisfying assignment

What is proved (all widths): the arithmetic the balancer relies on, in the shape the design calls for — *pre-images of
wrapped intervals*.  A recorded (lower, upper) pair denotes `W[lo, hi]`; `C25_preimage_add` (rotation) and
`C25_pair_exact` show that the pair produced for `x ± c OP d` from the truism and its implicit assumption is exactly the
set of satisfying `x`; `C25_lone_bound_not_a_preimage` shows that one of the two bounds alone is not a consequence — the
root cause of the remaining open finding (a partner assumption is missing when the addition sits under an
Extract/ZeroExt/Concat/shift/mask/If).  For the arms that drop bits (Extract(k,0,·), left shift) the repaired code keeps
exactly the comparison operators for which the arm is a consequence (`C25_extract_uge`, `C25_extract_ne`, `C25_shl_uge`);
the negations with witnesses show why `==`, `≤`, `<` had to go.

Second part (below, "the model of `Balancer._doit`"): `Claripy/VSA/BalancerModel.lean` transcribes `Balancer._doit` on one
comparison (alignment, the arms of `_balance`, `_get_assumptions`, the work list, the handlers) and is tied to the real
`constraint_to_si` by exact correspondence (harness/props/C25.py).  Proved for ALL widths, ASTs and annotations:
every arm other than `+` / `-` keeps "the truism holds" (`C25_step_holds`), `+` / `-` rotate the truism (`C25_add_rot`,
`C25_sub_rot`), the alignment keeps the value (`C25_align_sound`), the loop keeps both (`C25_balance_holds`,
`C25_balance_rot`), the handlers turn a truism that holds into plain bounds (`C25_handle_sound`), and the composite
`C25_balancer_sound`: the bounds `_doit` records contain the value of their expression under every satisfying assignment
— for unsigned orderings on whose two paths (truism, implicit assumption) no constant is moved across `+` / `-`, and for
`==` / `!=` on every path; and `C25_pair_sound`: when both paths ONLY move constants across `+` / `-` and end at the same
expression, the two recorded bounds form a wrapped interval that contains the value (all four unsigned orderings;
`C25_balancer_sound_pair` is the same at the level of `_doit`); `C25_unsat_sound`: "unsatisfiable" is only reported for an
unsigned ordering that no assignment satisfies.  The guard is needed: `C25_mixed_path_cuts_off_model` is a concrete constraint (`ZeroExt(4, x) + 3 <= 5`)
where the model — and the real code — bound `ZeroExt(4, x)` by the empty set although `x = 0` satisfies it (open finding).
-/
namespace Claripy.Props.C25
open Claripy.VSA

theorem C25_preimage_add (m lo hi x c : Nat) (hlo : lo < m) (hhi : hi < m) (hx : x < m) (hc : c < m) :
    Win m lo hi ((x + c) % m) ↔ Win m ((lo + m - c) % m) ((hi + m - c) % m) x :=
  Win_preimage_add m lo hi x c hlo hhi hx hc

theorem C25_pair_exact (w : Nat) (op : UCmp) (x c d : Nat) (hx : x < 2 ^ w) (hc : c < 2 ^ w) (hd : d < 2 ^ w) :
    match balAddPair w op c d with
    | some (lo, hi) => (ucmpHolds op ((x + c) % 2 ^ w) d ↔ Win (2 ^ w) lo hi x)
    | none => ¬ ucmpHolds op ((x + c) % 2 ^ w) d :=
  balAddPair_exact w op x c d hx hc hd

/-- a lone bound moved across a modular addition is NOT a consequence (the partner bound is needed) -/
theorem C25_lone_bound_not_a_preimage :
    ¬ ∀ (x c d : Nat), x < 16 → c < 16 → d < 16 → d ≤ (x + c) % 16 → (d + 16 - c) % 16 ≤ x := by
  intro h
  have := h 0 2 0 (by omega) (by omega) (by omega) (by decide)
  revert this
  decide

/-- `Extract(k, 0, x) ≥ c ⇒ x ≥ c` (the arm of `_balance_extract` for UGE/UGT that asks nothing of the upper bits) -/
theorem C25_extract_uge (x k c : Nat) (h : c ≤ x % 2 ^ k) : c ≤ x := Nat.le_trans h (Nat.mod_le _ _)

/-- `Extract(k, 0, x) ≠ c ⇒ x ≠ ZeroExt(c)` (the same arm, for `!=`) -/
theorem C25_extract_ne (x k c : Nat) (hc : c < 2 ^ k) (h : x % 2 ^ k ≠ c) : x ≠ c := by
  intro hx
  subst hx
  exact h (Nat.mod_eq_of_lt hc)

/-- … but not for `==`, `≤`, `<` (that arm does not take them): `x[1:0] = 2` also holds for `x = 6` -/
theorem C25_extract_eq_not_pre : ¬ ∀ x : Nat, x < 8 → x % 4 = 2 → x = 2 := by
  intro h
  have := h 6 (by omega) (by decide)
  omega

theorem C25_extract_ule_not_pre : ¬ ∀ x : Nat, x < 32 → x % 16 ≤ 15 → x ≤ 15 := by
  intro h
  have := h 19 (by omega) (by omega)
  omega

/-- `x << n ≥ c·2^n ⇒ x ≥ c` (the arm of `_balance_lshift` for UGE/UGT that asks nothing of the shifted-out bits;
`x << n` is `(x·2^n) mod m`) -/
theorem C25_shl_uge (m x n c : Nat) (h : c * 2 ^ n ≤ (x * 2 ^ n) % m) : c ≤ x :=
  Nat.le_of_mul_le_mul_right (Nat.le_trans h (Nat.mod_le _ _)) (Nat.two_pow_pos n)

/-- … but not for `≤`: `y << 1 ≤ 0` at 3 bits also holds for `y = 4` -/
theorem C25_shl_ule_not_pre : ¬ ∀ y : Nat, y < 8 → (y * 2) % 8 ≤ 0 → y ≤ 0 := by
  intro h
  have := h 4 (by omega) (by decide)
  omega

/-- bounds collected from different truisms for the same expression (non-wrapping): the maximum of the lower and the
minimum of the upper bounds still contain the value -/
theorem C25_combine_bounds (x l1 u1 l2 u2 : Nat) (h1 : l1 ≤ x ∧ x ≤ u1) (h2 : l2 ≤ x ∧ x ≤ u2) :
    Nat.max l1 l2 ≤ x ∧ x ≤ Nat.min u1 u2 :=
  ⟨Nat.max_le.2 ⟨h1.1, h2.1⟩, Nat.le_min.2 ⟨h1.2, h2.2⟩⟩

/-- non-vacuity of the pair theorem: `x + 1 ≤ 5` at 8 bits is `W[255, 4]` -/
theorem test_pair_example : balAddPair 8 .ule 1 5 = some (255, 4) ∧ Win 256 255 4 255 ∧ Win 256 255 4 3 ∧ ¬ Win 256 255 4 5 := by
  decide


/-! ## the model of `Balancer._doit` -/
open Claripy.VSA.Bal

section
variable (anno : Nat → SI) (env : Nat → Nat) (hctx : ∀ i, (anno i).WF ∧ (anno i).mem (env i)) (hnrm : ∀ i, Nrm (anno i))
include hctx hnrm

set_option linter.unusedSectionVars false in
/-- `_align_truism`: operator and other side unchanged, the left side keeps its value (and stays well typed) -/
theorem C25_align_sound (t ta : Tru) (hok : TruOK anno env t) (h : alignTru anno t = .ok ta) :
    ta.op = t.op ∧ ta.r = t.r ∧ ta.w = t.w ∧ evalBV env ta.lhs = evalBV env t.lhs ∧ TruOK anno env ta :=
  let ⟨h1, h2, h3, h4, h5, h6⟩ := alignTru_spec anno env hctx t ta hok.wt h
  ⟨h1, h2, h3, h4, h5.truOK (h6.trans hok.sym)⟩

/-- **per-step soundness**: one arm of `_balance` (`ZeroExt`, `SignExt`, `Extract`, `Concat`, `__and__`, `__lshift__`; `+` / `-`
for `==` and `!=`) turns a truism that holds into one that holds — unsigned orderings, `==`, `!=`, every width -/
theorem C25_step_holds (ta t' : Tru) (hok : TruOK anno env ta) (hconv : ∃ p, convBV anno ta.lhs [] = .ok p)
    (hop : unsOp ta.op = true) (hh : ta.holds env) (h : balStep anno ta = .ok t') (hs : symBV t'.lhs = true)
    (hallow : isModLhs ta.lhs = true → (ta.op = .eq ∨ ta.op = .ne)) : TruOK anno env t' ∧ t'.op = ta.op ∧ t'.holds env :=
  let ⟨h1, h2, h3, _⟩ := balStep_keeps anno env hctx hnrm ta t' hok.wt h hallow
  ⟨h1.truOK hs, h2, holds_of_keepsU hop h2 h3 hh⟩

set_option linter.unusedSectionVars false in
/-- `_balance_add`: nothing happens, or the truism is rotated by the constant (`value(lhs) = value(lhs') + c`, `r' = r - c`) -/
theorem C25_add_rot (t t' : Tru) (a b : BV) (hl : t.lhs = .bin .add a b) (hok : TruOK anno env t)
    (hconv : ∃ p, convBV anno t.lhs [] = .ok p) (h : balAdd t a b = .ok t') (hs : symBV t'.lhs = true) :
    t' = t ∨ (TruOK anno env t' ∧ Rot env t t') :=
  (balAdd_rot anno env hctx t t' a b hl hok.wt h).imp_right (·.imp_left (·.truOK hs))

set_option linter.unusedSectionVars false in
theorem C25_sub_rot (t t' : Tru) (a b : BV) (hl : t.lhs = .bin .sub a b) (hok : TruOK anno env t)
    (hconv : ∃ p, convBV anno t.lhs [] = .ok p) (h : balSub t a b = .ok t') (hs : symBV t'.lhs = true) :
    t' = t ∨ (TruOK anno env t' ∧ Rot env t t') :=
  (balSub_rot anno env hctx t t' a b hl hok.wt h).imp_right (·.imp_left (·.truOK hs))

/-- the loop `_balance` keeps "the truism holds" when no constant is moved across `+` / `-` (always for `==`, `!=`) -/
theorem C25_balance_holds (t : Tru) (out : BalOut) (hok : TruOK anno env t) (hop : unsOp t.op = true) (hh : t.holds env)
    (h : balance1 anno t = .ok out) (hs : symBV out.t.lhs = true)
    (hcov : out.usedMod = true → (t.op = .eq ∨ t.op = .ne)) :
    TruOK anno env out.t ∧ out.t.op = t.op ∧ out.t.holds env :=
  let ⟨h1, h2, h3, _⟩ := balance1_keeps anno env hctx hnrm t out hok.wt h hcov
  ⟨h1.truOK hs, h2, holds_of_keepsU hop h2 h3 hh⟩

set_option linter.unusedSectionVars false in
/-- the loop `_balance` that only moves constants across `+` / `-` rotates the truism -/
theorem C25_balance_rot (t : Tru) (out : BalOut) (hok : TruOK anno env t)
    (hrange : ∀ v, evalBV env t.lhs = some v → v < 2 ^ t.w)
    (h : balance1 anno t = .ok out) (hs : symBV out.t.lhs = true) (hcov : out.usedPt = false) :
    TruOK anno env out.t ∧ Rot env t out.t :=
  (balance1_rot anno env hctx t out hok.wt h hcov).imp_left (·.truOK hs)

/-- `_handle` (`_handle_eq`, `_handle_ne`, `_handle_comparison`): a truism that holds yields bounds that hold -/
theorem C25_handle_sound (t : Tru) (bs bs' : Bounds) (hok : TruOK anno env t) (hop : unsOp t.op = true) (hh : t.holds env)
    (hps : PSound env bs) (h : handle anno t bs = .ok bs') : PSound env bs' :=
  handle_pt anno env hctx hnrm t bs bs' hok.wt hop hh hps h

/-- **composite**: if the model of `_doit` returns the bounds `bs` for the comparison `a op b` and the assignment satisfies
it, every recorded pair contains the value of its expression (as the wrapped interval `_replacements_iter` builds from
it) — for unsigned orderings on whose two balancing paths no constant is moved across `+` / `-`, and for `==` / `!=` on
every path (`CoveredPt`) -/
theorem C25_balancer_sound (op : CmpOp) (a b : BV) (bs : Bounds) (info : PathInfo)
    (hoa : ExprOK anno env a) (hob : ExprOK anno env b) (hwab : wd a = wd b) (hop : unsOp op = true)
    (hsym : ∀ r w, b = .const r w → symBV a = true)
    (h : doit anno (.cmp op a b) = .ok (.sat bs info)) (hcov : CoveredPt op info)
    (hsat : evalB env (.cmp op a b) = some true) : Sound env bs :=
  doit_pt anno env hctx hnrm op a b bs info hoa hob hwab hop h hcov hsat

/-- **the pair**: a truism `T0` whose left side is a sum / difference and its implicit assumption `A0`, both balanced only
across `+` / `-` down to the same expression (exactly what `_doit` does with the two: `processTru`), record a lower and an
upper bound that — read as the wrapped interval `_replacements_iter` builds — contain the value under every assignment
satisfying `T0`.  This is the case in which each bound alone is NOT a consequence (`C25_lone_bound_not_a_preimage`). -/
theorem C25_pair_sound (T0 A0 : Tru) (p1 p2 : Bounds × BalOut) (hokT : TruOK anno env T0) (hop : uOrd T0.op)
    (hmod : isModLhs T0.lhs = true) (hconv : ∃ o p, convBV anno T0.lhs o = .ok p) (hhT : T0.holds env)
    (hA : assumption T0 = some (.tru A0)) (h1 : processTru anno T0 [] = .ok p1) (h2 : processTru anno A0 p1.1 = .ok p2)
    (hptT : p1.2.usedPt = false) (hptA : p2.2.usedPt = false) (hsame : p1.2.t.lhs = p2.2.t.lhs) : Sound env p2.1 :=
  pair_sound_ord anno env hctx hnrm T0 A0 p1 p2 hokT.wt (Or.inl hop) (Or.inl hmod) hhT hA h1 h2 hptT hptA hsame

/-- the pair theorem at the level of `_doit`: an unsigned ordering of a sum / difference against a literal (either order);
both paths only across `+` / `-`, same final expression -/
theorem C25_balancer_sound_pair (op : CmpOp) (a b : BV) (bs : Bounds) (oT oA : BalOut) (hoa : ExprOK anno env a)
    (hob : ExprOK anno env b) (hwab : wd a = wd b) (hord : uOrd op) (hsym : ∀ r w, b = .const r w → symBV a = true)
    (hma : ∀ r w, b = .const r w → isModLhs a = true) (hmb : ∀ r w, a = .const r w → isModLhs b = true)
    (h : doit anno (.cmp op a b) = .ok (.sat bs ⟨some oT, some oA⟩))
    (hptT : oT.usedPt = false) (hptA : oA.usedPt = false) (hsame : oT.t.lhs = oA.t.lhs)
    (hsat : evalB env (.cmp op a b) = some true) : Sound env bs :=
  doit_pair_ord anno env hctx hnrm op a b bs _ oT oA hoa hob hwab (Or.inl hord) (Or.inr ⟨hma, hmb⟩) h rfl rfl hptT hptA
    hsame hsat

/-- **the satisfiable flag**: when the model of `_doit` reports an unsigned ordering as unsatisfiable (the `is_false` test on
the truism, or on its implicit assumption), no assignment satisfies it -/
theorem C25_unsat_sound (op : CmpOp) (a b : BV) (hoa : ExprOK anno env a) (hob : ExprOK anno env b) (hwab : wd a = wd b)
    (hord : uOrd op) (hsym : ∀ r w, b = .const r w → symBV a = true)
    (h : doit anno (.cmp op a b) = .ok .unsat) : evalB env (.cmp op a b) ≠ some true :=
  doit_unsat_ord anno env hctx hnrm op a b hoa hob hwab (Or.inl hord) h

/-! ### signed orderings (`SLT`, `SLE`, `SGT`, `SGE`)

`_handle_comparison` records SIGNED integers for them (signed minimum / maximum of the left side, the signed value of the
literal), `_replacements_iter` reduces them modulo `2^w`.  A lone signed bound is read with the unsigned default of the other
side (`x <s 5` alone: `[0, 4]`), so the bound of the truism is only sound TOGETHER with the bound of its implicit assumption
(`x >=s int_min`: lower bound `int_min`, i.e. `2^(w-1)`): the pair is the wrapped interval `[2^(w-1), 4]`. -/

set_option linter.unusedSectionVars false in
/-- what `_handle_comparison` records for a signed ordering: the signed extremes of the left side and the signed value of
the literal (`cmpResS`) -/
theorem C25_handle_signed_char (t : Tru) (bs bs' : Bounds) (hok : TruOK anno env t) (hop : sOrd t.op)
    (h : handleCmp anno t bs = .ok bs') :
    ∃ pl lmin lmax, convBV anno t.lhs [] = .ok pl ∧ siMin pl.1.si true = .ok lmin ∧ siMax pl.1.si true = .ok lmax ∧
      bs' = cmpResS t bs lmin lmax := by
  obtain ⟨pl, lmin, lmax, hpl, h1, h2, hb⟩ := handleCmp_char anno env hctx t bs bs' hok.wt h
  rw [sOrd_signed t.op hop] at h1 h2 hb
  refine ⟨pl, lmin, lmax, hpl, h1, h2, ?_⟩
  rw [hb]
  unfold cmpResS
  rw [hok.wd_eq]
  rcases hop with ho | ho | ho | ho <;> rw [ho] <;> rfl

/-- **the signed pair**: a signed truism `T0` and its implicit assumption `A0`, both balanced only across `+` / `-` (or not
changed at all) down to the same expression — exactly what `_doit` does with the two (`processTru`) — record a lower and an
upper bound that, read as the wrapped interval `_replacements_iter` builds, contain the value under every assignment
satisfying `T0` -/
theorem C25_pair_sound_signed (T0 A0 : Tru) (p1 p2 : Bounds × BalOut) (hokT : TruOK anno env T0) (hop : sOrd T0.op)
    (hconv : ∃ o p, convBV anno T0.lhs o = .ok p) (hhT : T0.holds env)
    (hA : assumption T0 = some (.tru A0)) (h1 : processTru anno T0 [] = .ok p1) (h2 : processTru anno A0 p1.1 = .ok p2)
    (hptT : p1.2.usedPt = false) (hptA : p2.2.usedPt = false) (hsame : p1.2.t.lhs = p2.2.t.lhs) : Sound env p2.1 :=
  pair_sound_ord anno env hctx hnrm T0 A0 p1 p2 hokT.wt (Or.inr hop) (Or.inr hop) hhT hA h1 h2 hptT hptA hsame

/-- **composite, signed orderings**: if the model of `_doit` returns the bounds `bs` for `a OP b` (`SLT`, `SLE`, `SGT`, `SGE`,
either side the literal) and the assignment satisfies the comparison, every recorded pair contains the value of its
expression — when neither the truism nor its implicit assumption goes through an arm other than `+` / `-` and both end at
the same expression (88 % of the signed inputs of the correspondence: 1440 of 1749 at seed 0) -/
theorem C25_balancer_sound_signed (op : CmpOp) (a b : BV) (bs : Bounds) (info : PathInfo) (oT oA : BalOut)
    (hoa : ExprOK anno env a) (hob : ExprOK anno env b) (hwab : wd a = wd b) (hord : sOrd op)
    (hsym : ∀ r w, b = .const r w → symBV a = true)
    (h : doit anno (.cmp op a b) = .ok (.sat bs info)) (hmain : info.main = some oT) (hassum : info.assum = some oA)
    (hptT : oT.usedPt = false) (hptA : oA.usedPt = false) (hsame : oT.t.lhs = oA.t.lhs)
    (hsat : evalB env (.cmp op a b) = some true) : Sound env bs :=
  doit_pair_ord anno env hctx hnrm op a b bs info oT oA hoa hob hwab (Or.inr hord) (Or.inl hord) h hmain hassum hptT hptA
    hsame hsat

/-- **the satisfiable flag, signed orderings** -/
theorem C25_unsat_sound_signed (op : CmpOp) (a b : BV) (hoa : ExprOK anno env a) (hob : ExprOK anno env b) (hwab : wd a = wd b)
    (hord : sOrd op) (hsym : ∀ r w, b = .const r w → symBV a = true)
    (h : doit anno (.cmp op a b) = .ok .unsat) : evalB env (.cmp op a b) ≠ some true :=
  doit_unsat_ord anno env hctx hnrm op a b hoa hob hwab (Or.inr hord) h

/-- **the satisfiable flag, `==` / `!=`** — proved when the abstract values of the two sides are aligned (the guard of the
abstract equality in C24); the full statement is `C25_unsat_sound_eqne_full` below -/
theorem C25_unsat_sound_eqne_partial (op : CmpOp) (a b : BV) (hoa : ExprOK anno env a) (hob : ExprOK anno env b)
    (hwab : wd a = wd b) (hop : op = .eq ∨ op = .ne)
    (hal2 : ∀ p1 p2, convBV anno a [] = .ok p1 → convBV anno b p1.2 = .ok p2 → p1.1.si.Aligned ∧ p2.1.si.Aligned)
    (h : doit anno (.cmp op a b) = .ok .unsat) : evalB env (.cmp op a b) ≠ some true := by
  cases doit_run anno op a b _ h with
  | falseC hf => exact truth_f_sound anno env hctx hnrm op a b hoa hob hwab (fun _ => hal2) hf
  | falseA ca cb t A hT hA hf =>
    have hto : t.op = .eq ∨ t.op = .ne := by
      rcases hop with he | he <;> rcases adjust_op op a b ca cb t hT with h | h <;> rw [h, he] <;> simp [opposite]
    unfold assumption at hA
    rcases hto with h | h <;> rw [h] at hA <;> cases hA

/-! ### the arms on signed orderings

`_balance_add` / `_balance_sub` (rotation, covered by the pair theorem above), `_balance_zeroext`, `_balance_signext`,
`_balance_concat`, `_balance_and`, the scaling branch of `_balance_extract` and `_balance_lshift` with a shift by 0 accept the
signed operators.  `_balance_zeroext` / `_balance_concat` are not meaning-preserving for them (witness below); what they keep
is the UNSIGNED reading of the truism, and that is enough for the lone bound recorded afterwards. -/

set_option linter.unusedSectionVars false in
/-- `_balance_zeroext` on a signed ordering (`k ≥ 1` extension bits): unchanged, or the UNSIGNED reading of the new truism
holds — whether the old truism held in its signed or in its unsigned reading -/
theorem C25_step_signed_zext (t : Tru) (k : Nat) (e : BV) (hl : t.lhs = .zext k e) (hk : 0 < k) (hok : TruOK anno env t)
    (hop : sOrd t.op) (hconv : ∃ p, convBV anno t.lhs [] = .ok p) (hh : t.holds env ∨ t.holdsU env)
    (hs : symBV (balZext t k e).lhs = true) :
    balZext t k e = t ∨ (TruOK anno env (balZext t k e) ∧ (balZext t k e).op = t.op ∧ (balZext t k e).holdsU env) :=
  (balZext_step anno env hctx t k e hl hok.wt).imp_right fun ⟨st, hw'⟩ =>
    (st.dropU anno env hctx hok.wt (by
      have hw : t.w = k + wd e := by rw [← hok.wd_eq, hl]; rfl
      omega) hh).imp_left (·.truOK hs)

/-- `_balance_concat` (known-zero high part) on a signed ordering: the same -/
theorem C25_step_signed_concat (t t' : Tru) (a b : BV) (hl : t.lhs = .concat a b) (hok : TruOK anno env t) (hop : sOrd t.op)
    (hconv : ∃ p, convBV anno t.lhs [] = .ok p) (hh : t.holds env ∨ t.holdsU env)
    (h : balConcat anno t a b = .ok t') (hs : symBV t'.lhs = true) :
    t' = t ∨ (TruOK anno env t' ∧ t'.op = t.op ∧ t'.holdsU env) :=
  (balConcat_step anno env hctx hnrm t t' a b hl hok.wt h).imp_right fun ⟨st, hw'⟩ =>
    (st.dropU anno env hctx hok.wt (by
      have hw : t.w = wd a + wd b := by rw [← hok.wd_eq, hl]; rfl
      have := wd_pos anno env (fun i => (hctx i).1) a (ok_concat (hl ▸ hok.ok)).1.1
      omega) hh).imp_left (·.truOK hs)

/-- **`_handle_comparison` on a signed ordering whose UNSIGNED reading holds**: the lone signed bound it records, reduced
modulo `2^w` and read with the unsigned default of the other side, contains the value -/
theorem C25_handle_sound_signed_unsigned_reading (t : Tru) (bs' : Bounds) (hok : TruOK anno env t) (hop : sOrd t.op)
    (hh : t.holdsU env) (h : handleCmp anno t [] = .ok bs') : Sound env bs' :=
  handleCmp_U_lone anno env hctx hnrm t bs' hok.wt hop hh h

/-! ### the other arms on signed orderings, the dispatch and the loop

`_balance_signext` behaves like `_balance_zeroext`: NOT meaning-preserving in the signed reading
(`C25_sext_signed_not_meaning_preserving`), the unsigned reading of the new truism holds.  `_balance_and`, the scaling branch of
`_balance_extract` (the only branch open to a signed operator) and `__lshift__` by 0 keep BOTH readings. -/

/-- `_balance_signext` on a signed ordering (`k ≥ 1` extension bits): unchanged, or the UNSIGNED reading of the new truism
holds — whether the old truism held in its signed or in its unsigned reading -/
theorem C25_step_signed_sext (t t' : Tru) (k : Nat) (e : BV) (hl : t.lhs = .sext k e) (hk : 0 < k) (hok : TruOK anno env t)
    (hop : sOrd t.op) (hh : t.holds env ∨ t.holdsU env) (h : balSext anno t k e = .ok t') (hs : symBV t'.lhs = true) :
    t' = t ∨ (TruOK anno env t' ∧ t'.op = t.op ∧ t'.holdsU env) :=
  (balSext_step anno env hctx hnrm t t' k e hl hok.wt h).imp_right fun ⟨st, hw'⟩ =>
    (st.dropU anno env hctx hok.wt (by
      have hw : t.w = k + wd e := by rw [← hok.wd_eq, hl]; rfl
      omega) hh).imp_left (·.truOK hs)

set_option linter.unusedSectionVars false in
/-- `_balance_and` on any operator: each reading of the truism survives -/
theorem C25_step_signed_and (t : Tru) (a b : BV) (hl : t.lhs = .bin .and a b) (hok : TruOK anno env t)
    (hconv : ∃ p, convBV anno t.lhs [] = .ok p) (hs : symBV (balAnd t a b).lhs = true) :
    TruOK anno env (balAnd t a b) ∧ (balAnd t a b).op = t.op ∧ (t.holds env → (balAnd t a b).holds env) ∧
      (t.holdsU env → (balAnd t a b).holdsU env) :=
  (balAnd_step anno env hctx t a b hl hok.wt).elim (fun h => h.symm ▸ ⟨hok, rfl, id, id⟩)
    fun ⟨st, hle⟩ => (st.keepsBoth anno env hctx hok.wt hle).imp_left (·.truOK hs)

/-- `_balance_extract` on a signed ordering: unchanged, or the scaling branch — each reading of the truism survives -/
theorem C25_step_signed_extract (t t' : Tru) (hi lo : Nat) (e : BV) (hl : t.lhs = .extract hi lo e) (hok : TruOK anno env t)
    (hop : sOrd t.op) (hconv : ∃ p, convBV anno t.lhs [] = .ok p)
    (h : balExtract anno t hi lo e = .ok t') (hs : symBV t'.lhs = true) :
    t' = t ∨ (TruOK anno env t' ∧ t'.op = t.op ∧ (t.holds env → t'.holds env) ∧ (t.holdsU env → t'.holdsU env)) :=
  (balExtract_step anno env hctx hnrm t t' hi lo e hl hok.wt h).imp_right fun ⟨st, hle⟩ =>
    (st.keepsBoth anno env hctx hok.wt hle).imp_left (·.truOK hs)

/-- `_balance_lshift` on a signed ordering: unchanged, or a shift by 0 removed — each reading of the truism survives -/
theorem C25_step_signed_shl (t t' : Tru) (e amt : BV) (hl : t.lhs = .bin .shl e amt) (hok : TruOK anno env t)
    (hop : sOrd t.op) (hconv : ∃ p, convBV anno t.lhs [] = .ok p)
    (h : balShl anno t e amt = .ok t') (hs : symBV t'.lhs = true) :
    t' = t ∨ (TruOK anno env t' ∧ t'.op = t.op ∧ (t.holds env → t'.holds env) ∧ (t.holdsU env → t'.holdsU env)) :=
  (balShl_step anno env hctx hnrm t t' e amt hl hok.wt h).imp_right fun ⟨st, hle⟩ =>
    (st.keepsBoth anno env hctx hok.wt hle).imp_left (·.truOK hs)

/-- **per-step soundness, signed orderings** (every arm other than `+` / `-`, every width, also the degenerate
`ZeroExt(0, ·)` / `SignExt(0, ·)`): a truism that holds in its signed or in its unsigned reading is turned into one that holds
in one of the two; the unsigned reading is kept by every arm; the signed reading is kept by every arm that does not drop
extension bits -/
theorem C25_step_holds_signed (ta t' : Tru) (hok : TruOK anno env ta) (hconv : ∃ p, convBV anno ta.lhs [] = .ok p)
    (hop : sOrd ta.op) (hnm : isModLhs ta.lhs = false) (hh : ta.holds env ∨ ta.holdsU env)
    (h : balStep anno ta = .ok t') (hs : symBV t'.lhs = true) :
    TruOK anno env t' ∧ t'.op = ta.op ∧ (t'.holds env ∨ t'.holdsU env) ∧ (ta.holdsU env → t'.holdsU env) ∧
      (isWidthLhs ta.lhs = false → ta.holds env → t'.holds env) :=
  (balStep_step anno env hctx hnrm ta t' hok.wt hnm h).elim (fun e => e.symm ▸ ⟨hok, rfl, hh, id, fun _ => id⟩)
    fun ⟨st, hwid⟩ =>
      have kU := st.keepsU anno env hctx hok.wt
      have kS := st.keepsS anno env hctx hok.wt
      ⟨st.1.truOK hs, st.2.1, hh.elim (fun hS => (Nat.lt_or_ge t'.w ta.w).elim (fun hlt => Or.inr ((kS hS).2 hlt))
        fun hle => Or.inl ((kS hS).1 hle)) fun hU => Or.inr (kU hU), kU, fun hw hS => (kS hS).1 (hwid hw)⟩

/-- **the loop `_balance` on a signed ordering** when no constant is moved across `+` / `-`: a truism that holds (signed
reading, or the unsigned reading left by an earlier arm) ends as one that holds in the reading that survives -/
theorem C25_balance_holds_signed (t : Tru) (out : BalOut) (hok : TruOK anno env t) (hop : sOrd t.op)
    (hh : t.holds env ∨ t.holdsU env) (h : balance1 anno t = .ok out) (hs : symBV out.t.lhs = true)
    (hcov : out.usedMod = false) :
    TruOK anno env out.t ∧ out.t.op = t.op ∧ (out.t.holds env ∨ out.t.holdsU env) :=
  let ⟨h1, h2, _, h4⟩ := balance1_keeps anno env hctx hnrm t out hok.wt h (fun hc => by rw [hcov] at hc; cases hc)
  ⟨h1.truOK hs, h2, h4 hh⟩

/-- the same loop keeps the UNSIGNED reading of a signed truism -/
theorem C25_balance_holds_signed_unsigned_reading (t : Tru) (out : BalOut) (hok : TruOK anno env t) (hop : sOrd t.op)
    (hh : t.holdsU env) (h : balance1 anno t = .ok out) (hs : symBV out.t.lhs = true) (hcov : out.usedMod = false) :
    TruOK anno env out.t ∧ out.t.op = t.op ∧ out.t.holdsU env :=
  let ⟨h1, h2, h3, _⟩ := balance1_keeps anno env hctx hnrm t out hok.wt h (fun hc => by rw [hcov] at hc; cases hc)
  ⟨h1.truOK hs, h2, h3 hh⟩

/-- **balance + handle of a signed truism whose UNSIGNED reading holds** (`processTru`, no constant moved across `+` / `-`,
any other arms on the way): the lone bound recorded for the final expression contains the value -/
theorem C25_process_sound_signed_unsigned_reading (t : Tru) (res : Bounds × BalOut) (hok : TruOK anno env t) (hop : sOrd t.op)
    (hh : t.holdsU env) (h : processTru anno t [] = .ok res) (hcov : res.2.usedMod = false) : Sound env res.1 := by
  obtain ⟨hout, hbs'⟩ := processTru_ok anno t [] res h
  obtain ⟨h1, h2, h3, _⟩ := balance1_keeps anno env hctx hnrm t res.2 hok.wt hout (fun hc => by rw [hcov] at hc; cases hc)
  exact handle_U_lone anno env hctx hnrm res.2.t res.1 h1 (h2 ▸ hop) (h3 hh) hbs'

/-- **composite for one signed path through the arms, PARTIAL**: `processTru` (balance + handle) of a signed truism that
holds — in its signed reading, as the truism and its implicit assumption do at the start, or in the unsigned reading — with no
constant moved across `+` / `-` and any of `ZeroExt` / `SignExt` / `Concat` / `__and__` / `Extract` / `__lshift__` on the way:
the final truism holds in one of the two readings, and when that is the UNSIGNED one the lone bound recorded for the final
expression contains the value.  MISSING for the full `C25_balancer_sound_signed_full`: (a) a path that ends in the SIGNED
reading after an arm (`__and__`, `Extract`, shift by 0 only) needs the bound of the partner path on the same expression — the
pair argument of `C25_pair_sound_signed` is proved only for paths without such arms; (b) a path that STOPS at a
`ZeroExt` / `SignExt` / `Concat` node (typically the implicit assumption `ZeroExt(k, e) >=s int_min`, whose high bits are not
zero) leaves a lone bound in the signed reading, sound only if the signed minimum of the abstract value is not negative — a
precision fact about the abstract extension that C24 does not provide. -/
theorem C25_balancer_sound_signed_arms_partial (t : Tru) (res : Bounds × BalOut) (hok : TruOK anno env t) (hop : sOrd t.op)
    (hh : t.holds env ∨ t.holdsU env) (h : processTru anno t [] = .ok res) (hcov : res.2.usedMod = false) :
    (symBV res.2.t.lhs = true → res.2.t.holds env ∨ res.2.t.holdsU env) ∧ (res.2.t.holdsU env → Sound env res.1) := by
  obtain ⟨hout, hbs'⟩ := processTru_ok anno t [] res h
  obtain ⟨h1, h2, _, h4⟩ := balance1_keeps anno env hctx hnrm t res.2 hok.wt hout (fun hc => by rw [hcov] at hc; cases hc)
  exact ⟨fun _ => h4 hh, fun hU => handle_U_lone anno env hctx hnrm res.2.t res.1 h1 (h2 ▸ hop) hU hbs'⟩

/-! ### without the hypothesis on the side facing a literal

`hsym` above says: when `b` is a literal, `a` has a symbolic leaf.  Nothing in the proofs depends on it: a side without a
symbolic leaf is evaluated at construction (`foldBV_ok`, `mkCmpT_holds`), and `_handle` records nothing for it (cardinality 1
from the concrete backend).  Inputs whose other side is neither a literal nor multi-valued make the model answer `unmodelled`,
so `doit … = .ok …` excludes them. -/

theorem C25_balancer_sound_nolit (op : CmpOp) (a b : BV) (bs : Bounds) (info : PathInfo)
    (hoa : ExprOK anno env a) (hob : ExprOK anno env b) (hwab : wd a = wd b) (hop : unsOp op = true)
    (h : doit anno (.cmp op a b) = .ok (.sat bs info)) (hcov : CoveredPt op info)
    (hsat : evalB env (.cmp op a b) = some true) : Sound env bs :=
  doit_pt anno env hctx hnrm op a b bs info hoa hob hwab hop h hcov hsat

theorem C25_balancer_sound_pair_nolit (op : CmpOp) (a b : BV) (bs : Bounds) (oT oA : BalOut) (hoa : ExprOK anno env a)
    (hob : ExprOK anno env b) (hwab : wd a = wd b) (hord : uOrd op)
    (hma : ∀ r w, b = .const r w → isModLhs a = true) (hmb : ∀ r w, a = .const r w → isModLhs b = true)
    (h : doit anno (.cmp op a b) = .ok (.sat bs ⟨some oT, some oA⟩))
    (hptT : oT.usedPt = false) (hptA : oA.usedPt = false) (hsame : oT.t.lhs = oA.t.lhs)
    (hsat : evalB env (.cmp op a b) = some true) : Sound env bs :=
  doit_pair_ord anno env hctx hnrm op a b bs _ oT oA hoa hob hwab (Or.inl hord) (Or.inr ⟨hma, hmb⟩) h rfl rfl hptT hptA
    hsame hsat

theorem C25_balancer_sound_signed_nolit (op : CmpOp) (a b : BV) (bs : Bounds) (info : PathInfo) (oT oA : BalOut)
    (hoa : ExprOK anno env a) (hob : ExprOK anno env b) (hwab : wd a = wd b) (hord : sOrd op)
    (h : doit anno (.cmp op a b) = .ok (.sat bs info)) (hmain : info.main = some oT) (hassum : info.assum = some oA)
    (hptT : oT.usedPt = false) (hptA : oA.usedPt = false) (hsame : oT.t.lhs = oA.t.lhs)
    (hsat : evalB env (.cmp op a b) = some true) : Sound env bs :=
  doit_pair_ord anno env hctx hnrm op a b bs info oT oA hoa hob hwab (Or.inr hord) (Or.inl hord) h hmain hassum hptT hptA
    hsame hsat

end

/-- the step `_balance_zeroext` is NOT meaning-preserving on a signed operator: `ZeroExt(4, x) <s 9` (8 bits) is rewritten to
`x <s 9` at 4 bits (9 is -7 there); `x = 0` satisfies the first and not the second, only the unsigned reading `x <u 9`
survives.  Not a defect of the result: the bound recorded for `x` (`min(7, 7, -8) = -8`, read modulo 16 as 8) is sound, the
real `constraint_to_si` answers `x ∈ [0, 8]` — `C25_handle_sound_signed_unsigned_reading` is the reason. -/
theorem C25_zext_signed_not_meaning_preserving :
    balStep (fun _ => SI.top 4) ⟨.slt, .zext 4 (.free 0 4), 9, 8⟩ = .ok ⟨.slt, .free 0 4, 9, 4⟩ ∧
    concCmp .slt 8 0 9 = true ∧ concCmp .slt 4 0 9 = false ∧ concCmp (uOf .slt) 4 0 9 = true := by
  decide

/-- the step `_balance_signext` is NOT meaning-preserving on a signed operator either: with `x` annotated `[0, 7]` (4 bits),
`SignExt(4, x) <s 9` (8 bits) is rewritten to `x <s 9` at 4 bits (9 is -7 there); `x = 0` satisfies the first and not the second,
only `x <u 9` survives.  With `y` annotated `[8, 15]`, `SignExt(4, y) >s 0xF3` becomes `y >s 3`; `y = 8` (-8) satisfies the
first, not the second, and `y >u 3`.  Not a defect of the result: the real `constraint_to_si` answers `x ∈ [0, 7]`,
`y ∈ [8, 15]` (the recorded bounds -8, read as 8, and 4) — `C25_handle_sound_signed_unsigned_reading` is the reason. -/
theorem C25_sext_signed_not_meaning_preserving :
    balStep (fun _ => SI.new 4 1 0 7) ⟨.slt, .sext 4 (.var 0 4), 9, 8⟩ = .ok ⟨.slt, .var 0 4, 9, 4⟩ ∧
    concCmp .slt 8 (Conc.sext 4 8 0) 9 = true ∧ concCmp .slt 4 0 9 = false ∧ concCmp (uOf .slt) 4 0 9 = true ∧
    balStep (fun _ => SI.new 4 1 8 15) ⟨.sgt, .sext 4 (.var 0 4), 0xF3, 8⟩ = .ok ⟨.sgt, .var 0 4, 3, 4⟩ ∧
    concCmp .sgt 8 (Conc.sext 4 8 8) 0xF3 = true ∧ concCmp .sgt 4 8 3 = false ∧ concCmp (uOf .sgt) 4 8 3 = true := by
  decide

/-- the full per-step statement for signed orderings: every arm other than `+` / `-` keeps "the truism holds in its signed or
in its unsigned reading".  Proved: `C25_step_holds_signed_full_proved` below (from `C25_step_holds_signed`). -/
def C25_step_holds_signed_full : Prop :=
  ∀ (anno : Nat → SI) (env : Nat → Nat), (∀ i, (anno i).WF ∧ (anno i).mem (env i)) → (∀ i, Nrm (anno i)) →
    ∀ (ta t' : Tru), TruOK anno env ta → (∃ p, convBV anno ta.lhs [] = .ok p) → sOrd ta.op → isModLhs ta.lhs = false →
      (ta.holds env ∨ ta.holdsU env) → balStep anno ta = .ok t' → symBV t'.lhs = true →
      TruOK anno env t' ∧ t'.op = ta.op ∧ (t'.holds env ∨ t'.holdsU env)

theorem C25_step_holds_signed_full_proved : C25_step_holds_signed_full :=
  fun anno env hctx hnrm ta t' hok hconv hop hnm hh h hs =>
    let ⟨h1, h2, h3, _, _⟩ := C25_step_holds_signed anno env hctx hnrm ta t' hok hconv hop hnm hh h hs
    ⟨h1, h2, h3⟩

/-- the full composite for signed orderings (NOT proved; `C25_balancer_sound_signed` is the part where neither path uses an
arm other than `+` / `-` and both end at the same expression): sound whenever no path combines a constant moved across
`+` / `-` with another arm.  Missing beyond the steps above: a lone bound of a truism that still holds only in its SIGNED
reading (e.g. the assumption `ZeroExt(k, e) >=s int_min`, whose path stops at once while the truism goes on to `e`) is
sound only when the recorded lower bound is not negative / the value is known to be negative — for `ZeroExt` that needs the
abstract value of the extension to have a non-negative signed minimum, which C24 (an over-approximation result) does not
give.  Observed on the real code: 211 of the 1749 signed inputs of a quick run are of this kind, none fails. -/
def C25_balancer_sound_signed_full : Prop :=
  ∀ (anno : Nat → SI) (env : Nat → Nat), (∀ i, (anno i).WF ∧ (anno i).mem (env i)) → (∀ i, Nrm (anno i)) →
    ∀ (op : CmpOp) (a b : BV) (bs : Bounds) (info : PathInfo), ExprOK anno env a → ExprOK anno env b → wd a = wd b →
      sOrd op → doit anno (.cmp op a b) = .ok (.sat bs info) →
      (∀ m, info.main = some m → ¬ (m.usedMod = true ∧ m.usedPt = true)) →
      (∀ m, info.assum = some m → ¬ (m.usedMod = true ∧ m.usedPt = true)) →
      (∀ m m', info.main = some m → info.assum = some m' → m.usedMod = m'.usedMod) →
      evalB env (.cmp op a b) = some true → Sound env bs

/-- the full statement for `==` / `!=` (not proved: the abstract equality is only proved sound on aligned operands, C24) -/
def C25_unsat_sound_eqne_full : Prop :=
  ∀ (anno : Nat → SI) (env : Nat → Nat), (∀ i, (anno i).WF ∧ (anno i).mem (env i)) → (∀ i, Nrm (anno i)) →
    ∀ (op : CmpOp) (a b : BV), ExprOK anno env a → ExprOK anno env b → wd a = wd b → (op = .eq ∨ op = .ne) →
      doit anno (.cmp op a b) = .ok .unsat → evalB env (.cmp op a b) ≠ some true

/-- the last step of `_replacements_iter`: `convert(expr) ∩ SI(1, mn, mx)` contains the value when `convert(expr)` does
(C24), is aligned and normal (what the meet needs, C22) and the recorded pair contains it -/
theorem C25_replacement_interval (w : Nat) (lo hi : Option Int) (v : Nat) (hw : 0 < w) (hv : v < 2 ^ w) (hin : InB w lo hi v)
    (s r : SI) (hs : s.WF ∧ s.bits = w) (hmem : s.mem v) (hal : s.Aligned) (hn : Nrm s)
    (h : s.intersection (SI.new w 1 (lo.getD 0) (hi.getD ((2 : Int) ^ w - 1))) = .ok r) : r.mem v := by
  have hb : WFw w (SI.new w 1 (lo.getD 0) (hi.getD ((2 : Int) ^ w - 1))) :=
    ⟨new_WF _ _ _ _ hw (fun h1 => by cases h1), new_bits _ _ _ _⟩
  have hbm : (SI.new w 1 (lo.getD 0) (hi.getD ((2 : Int) ^ w - 1))).mem v := by
    rw [mem_new]
    refine ⟨hv, hin, ?_⟩
    rw [if_neg (by decide)]
    exact Nat.mod_one _
  exact (meet_sound w s _ r hs hb hmem.1 (new_bottom _ _ _ _) hal (new_stride1_aligned _ _ _) hn
    (nrm_new _ _ _ _ hw) h).2 v hmem hbm

instance (w : Nat) (lo hi : Option Int) (v : Nat) : Decidable (InB w lo hi v) := by unfold InB; infer_instance

def mixedC : BExp := .cmp .ule (.bin .add (.zext 4 (.free 0 4)) (.const 3 8)) (.const 5 8)
def boundsOf (r : M Res) : Option Bounds := match r with | .ok (.sat bs _) => some bs | _ => none

/-- the guard of the composite theorem is needed (open finding C25-modular-under-width-change): for
`ZeroExt(4, x) + 3 <= 5` over a plain 4-bit `x` the model — like the real `constraint_to_si` — records the lower bound 253 for
`ZeroExt(4, x)` (the truism goes `+` then `ZeroExt`, its assumption stops after `+`), and `x = 0` satisfies the constraint -/
theorem C25_mixed_path_cuts_off_model :
    boundsOf (doit (fun _ => SI.top 4) mixedC) = some [(.free 0 4, none, some 2), (.zext 4 (.free 0 4), some 253, none)] ∧
    evalB (fun _ => 0) mixedC = some true ∧ evalBV (fun _ => 0) (.zext 4 (.free 0 4)) = some 0 ∧
    ¬ InB 8 (some 253) none 0 := by
  decide +kernel

/-- non-vacuity of the composite theorem: `ZeroExt(4, x) <= 5` is covered and bounds `x` by `[0, 5]` -/
def coveredC : BExp := .cmp .ule (.zext 4 (.free 0 4)) (.const 5 8)
def infoOf (r : M Res) : Option (Bool × Bool) :=
  match r with
  | .ok (.sat _ ⟨some m, some a⟩) => some (m.usedMod, a.usedMod)
  | _ => none

theorem test_covered_example :
    boundsOf (doit (fun _ => SI.top 4) coveredC) = some [(.free 0 4, some 0, some 5)] ∧
    infoOf (doit (fun _ => SI.top 4) coveredC) = some (false, false) := by
  decide +kernel

/-- non-vacuity of the signed composite: `x + 3 <s 5` over a plain 4-bit `x` — the truism records the upper bound 1, its
assumption `x + 3 >=s -8` the lower bound 5, both paths only move the constant, same final expression; the real
`constraint_to_si` answers `[5, 1]` as well -/
def signedC : BExp := .cmp .slt (.bin .add (.free 0 4) (.const 3 4)) (.const 5 4)
def infoPt (r : M Res) : Option (Bool × Bool × Bool) :=
  match r with
  | .ok (.sat _ ⟨some m, some a⟩) => some (m.usedPt, a.usedPt, decide (m.t.lhs = a.t.lhs))
  | _ => none

set_option maxRecDepth 100000 in
example : boundsOf (doit (fun _ => SI.top 4) signedC) = some [(.free 0 4, some 5, some 1)] ∧
    infoPt (doit (fun _ => SI.top 4) signedC) = some (false, false, true) ∧
    evalB (fun _ => 14) signedC = some true ∧ InB 4 (some 5) (some 1) 14 := by
  decide +kernel

/-- non-vacuity of the signed unsat theorem: `x <s -8` at 4 bits is reported unsatisfiable -/
def unsatC : BExp := .cmp .slt (.free 0 4) (.const 8 4)
set_option maxRecDepth 100000 in
example : (match doit (fun _ => SI.top 4) unsatC with | .ok .unsat => true | _ => false) = true := by decide +kernel

/-- non-vacuity of the signed per-arm / loop theorems: the arms do fire on signed operators.  `(ZeroExt(4, x) & 15) <=s 5`
goes through `__and__` and `ZeroExt` to `x <=s 5` at 4 bits; `(x .. 0#2)[5:2] >s 3` is scaled to `(x .. 0#2) >s 12`;
`x << 0 >=s 3` loses the shift; `SignExt(4, x) <s 9` with `x ∈ [0, 7]` goes to `x <s 9` (9 is -7: only the unsigned reading
holds, e.g. at `x = 0`); none moves a constant across `+` / `-`. -/
example :
    balance1 (fun _ => SI.top 4) ⟨.sle, .bin .and (.zext 4 (.free 0 4)) (.const 15 8), 5, 8⟩ =
      .ok ⟨⟨.sle, .free 0 4, 5, 4⟩, false, true⟩ ∧
    balance1 (fun _ => SI.top 4) ⟨.sgt, .extract 5 2 (.concat (.free 0 4) (.const 0 2)), 3, 4⟩ =
      .ok ⟨⟨.sgt, .concat (.free 0 4) (.const 0 2), 12, 6⟩, false, true⟩ ∧
    balance1 (fun _ => SI.top 4) ⟨.sge, .bin .shl (.free 0 4) (.const 0 4), 3, 4⟩ = .ok ⟨⟨.sge, .free 0 4, 3, 4⟩, false, true⟩ ∧
    balance1 (fun _ => SI.new 4 1 0 7) ⟨.slt, .sext 4 (.var 0 4), 9, 8⟩ = .ok ⟨⟨.slt, .var 0 4, 9, 4⟩, false, true⟩ ∧
    concCmp .slt 8 (Conc.sext 4 8 0) 9 = true ∧ concCmp .slt 4 0 9 = false ∧ concCmp (uOf .slt) 4 0 9 = true := by
  decide +kernel

/-- non-vacuity of `C25_balancer_sound_signed_arms_partial` / `C25_process_sound_signed_unsigned_reading`:
`(ZeroExt(4, x) & 15) <s 9` ends at `x <s 9` (4 bits) with the lone upper bound -8, read as `[0, 8]`; `x = 3` satisfies the
truism (unsigned reading at the end: `3 <u 9`) and lies inside -/
def boundsOfP (r : M (Bounds × BalOut)) : Option Bounds := match r with | .ok p => some p.1 | _ => none
set_option maxRecDepth 100000 in
example : boundsOfP (processTru (fun _ => SI.top 4) ⟨.slt, .bin .and (.zext 4 (.free 0 4)) (.const 15 8), 9, 8⟩ []) =
      some [(.free 0 4, none, some (-8))] ∧
    concCmp .slt 8 3 9 = true ∧ concCmp (uOf .slt) 4 3 9 = true ∧ InB 4 none (some (-8)) 3 := by
  decide +kernel

end Claripy.Props.C25

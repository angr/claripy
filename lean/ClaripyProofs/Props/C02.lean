import ClaripyProofs.Lemmas.FP.AddF
import ClaripyProofs.Lemmas.FP.MulF
import ClaripyProofs.Lemmas.FP.DivF
import ClaripyProofs.Lemmas.FP.SqrtF
/-!
# C02 — IEEE-754 meaning of floating-point folding in every rounding mode

`Claripy.FP` (Spec.lean) is a soft-float specification over exact integers/rationals with ONE rounding per operation in
the five SMT-LIB modes; `Claripy.FP.Fold` models `backends/backend_concrete/fp.py` + `ast/fp.py:FPV` ("one binary64 RNE
rounding per Python float operation, one more binary32 rounding for FLOAT", rounding-mode argument ignored).
`Claripy.Gen.rmToDecimal` is regenerated from `claripy/fp.py` on every run.

Proved for all operands: for DOUBLE and round-to-nearest-even the fold IS the specification for add, sub, mul, div
(including the `ZeroDivisionError` branch), sqrt, neg, abs, all comparisons, isNaN/isInf; the generated table is the
SMT-LIB one and `decimal`'s rounding under it is `roundToIntegral`, so `fpToSBV/fpToUBV` of a DOUBLE give the SMT-LIB value
wherever it is specified, in all five modes.  FLOAT arithmetic (one binary64 rounding, then `struct.pack('f')`) is the
specification under RNE as well, for every operand of add, sub, mul, div, sqrt: the double rounding 53 → 24 bits is
innocuous (`double_rounding_innocuous_*`, `fold_float_rne`; no hypothesis).  For the other modes the statement is
FALSE on the current code (open findings): negations with concrete witnesses below.
-/
namespace Claripy.Props.C02
open Claripy.FP Claripy.FP.Fold

/-! ## the rounding function is correct with respect to the exact value, in every mode, for every format

Reading (see `Lemmas/FP/Round.lean`): a finite magnitude `g` has the real value `sval f g / 2^q`; the input of
`roundScaled` denotes `x = (sc/den) / 2^q` (`x > 0`).  `sval f g * den ≤ sc` says `value g ≤ x`; `infMag` has the value
`2^(emax+1)`.  All statements hold for every well-formed format (in particular binary32, binary64), every `sc`, `den > 0`.-/

/-- overflow happens exactly when the exact value reaches `2^(emax+1)`; the result is then the mode's overflow value -/
theorem round_overflow_spec (f : Fmt) (wf : WF f) (rm : RM) (neg : Bool) (sc den : Nat) (hden : 0 < den)
    (h : sval f f.infMag * den ≤ sc) : roundScaled f rm neg sc den = overflowMag f rm neg :=
  round_overflow f wf rm neg sc den hden h

/-- below overflow: `floorMag` is THE float with `value ≤ x < value of its successor`, and every mode returns it or its successor -/
theorem round_floor_spec (f : Fmt) (wf : WF f) (rm : RM) (neg : Bool) (sc den : Nat) (hden : 0 < den)
    (h : sc < sval f f.infMag * den) :
    sval f (floorMag f sc den) * den ≤ sc ∧ sc < sval f (floorMag f sc den + 1) * den ∧
    (∀ g, sval f g * den ≤ sc → sc < sval f (g + 1) * den → g = floorMag f sc den) ∧
    (roundScaled f rm neg sc den = floorMag f sc den ∨ roundScaled f rm neg sc den = floorMag f sc den + 1) :=
  ⟨(floor_law f sc den hden).1, (floor_law f sc den hden).2,
   fun g h1 h2 => (floor_unique f sc den g hden h1 h2).symm, round_floor_or_succ f wf rm neg sc den hden h⟩

/-- RTZ truncates; RTP/RTN truncate on the side pointing to zero and otherwise keep exact values and go to the successor -/
theorem round_directed_spec (f : Fmt) (wf : WF f) (neg : Bool) (sc den : Nat) (hden : 0 < den)
    (h : sc < sval f f.infMag * den) :
    roundScaled f .RTZ neg sc den = floorMag f sc den ∧
    roundScaled f .RTP true sc den = floorMag f sc den ∧ roundScaled f .RTN false sc den = floorMag f sc den ∧
    roundScaled f .RTP false sc den =
      (if sc = sval f (floorMag f sc den) * den then floorMag f sc den else floorMag f sc den + 1) ∧
    roundScaled f .RTN true sc den =
      (if sc = sval f (floorMag f sc den) * den then floorMag f sc den else floorMag f sc den + 1) :=
  ⟨round_toward f wf .RTZ neg sc den hden h (Or.inl rfl), round_toward f wf .RTP true sc den hden h (Or.inr (Or.inl ⟨rfl, rfl⟩)),
   round_toward f wf .RTN false sc den hden h (Or.inr (Or.inr ⟨rfl, rfl⟩)),
   round_away f wf .RTP false sc den hden h (Or.inl ⟨rfl, rfl⟩), round_away f wf .RTN true sc den hden h (Or.inr ⟨rfl, rfl⟩)⟩

/-- RNA / RNE: below the midpoint → floor, above → successor, at the midpoint → away from zero resp. to the even one -/
theorem round_nearest_spec (f : Fmt) (wf : WF f) (neg : Bool) (sc den : Nat) (hden : 0 < den)
    (h : sc < sval f f.infMag * den) :
    let lo := floorMag f sc den
    let mid := (sval f lo + sval f (lo + 1)) * den
    roundScaled f .RNA neg sc den = (if 2 * sc < mid then lo else lo + 1) ∧
    roundScaled f .RNE neg sc den =
      (if 2 * sc < mid then lo else if 2 * sc > mid then lo + 1 else if lo % 2 = 0 then lo else lo + 1) :=
  ⟨round_rna f wf neg sc den hden h, round_rne f wf neg sc den hden h⟩

/-- a representable value is returned unchanged in every mode (so every operation whose exact result is a float is exact) -/
theorem round_exact_spec (f : Fmt) (wf : WF f) (rm : RM) (neg : Bool) (g den : Nat) (hden : 0 < den) (hg : g < f.infMag) :
    roundScaled f rm neg (sval f g * den) den = g := round_exact f wf rm neg g den hden hg

/-- the float order is the order of the values, and distinct floats have distinct values -/
theorem value_order_spec (f : Fmt) (a b : Nat) : (a < b → sval f a < sval f b) ∧ (sval f a = sval f b → a = b) :=
  ⟨sval_strictMono f, sval_injective f⟩

-- non-vacuity: 1/3 in binary64 (sc = 2^q, den = 3): floor, RNE = floor, RTP = floor + 1
example : floorMag binary64 (2 ^ 1074) 3 = 0x3FD5555555555555 ∧
    roundScaled binary64 .RNE false (2 ^ 1074) 3 = 0x3FD5555555555555 ∧
    roundScaled binary64 .RTP false (2 ^ 1074) 3 = 0x3FD5555555555556 := by decide +kernel

/-- the table in `claripy/fp.py`, as generated into `Claripy.Gen.rmToDecimal`, maps every SMT-LIB mode to the decimal constant that
implements it -/
theorem gen_table_is_smtlib : Claripy.Gen.rmToDecimal = smtlibDecimal := by
  funext rm; cases rm <;> rfl

/-- `roundToIntegral` table law: under the generated table, `decimal` rounds exactly as the SMT-LIB mode says -/
theorem decimal_mode_spec (rm : RM) (neg odd : Bool) (rem dd : Nat) :
    decRoundUp (Claripy.Gen.rmToDecimal rm) neg odd rem dd = roundUp rm neg odd rem dd := by
  rw [gen_table_is_smtlib]; exact decRoundUp_smtlib rm neg odd rem dd

/-- float → bit-vector conversions of a DOUBLE, all five modes: the SMT-LIB value wherever SMT-LIB specifies one -/
theorem to_bv_spec (rm : RM) (a w v : Nat) (ha : a < 2 ^ 64) :
    (toSBV D rm a w = some v → fpToBV D rm a w = v) ∧ (toUBV D rm a w = some v → fpToBV D rm a w = v) :=
  fpToBV_D rm a w v ha gen_table_is_smtlib

-- non-vacuity: 2.5 under RNE/RNA/RTZ (8 bits) and -1.5 under RTP
example : toSBV D .RNE 0x4004000000000000 8 = some 2 ∧ toSBV D .RNA 0x4004000000000000 8 = some 3 ∧
    toSBV D .RTZ 0x4004000000000000 8 = some 2 ∧ toSBV D .RTP 0xBFF8000000000000 8 = some 255 := by decide +kernel

/-! ## fold = specification, DOUBLE, round to nearest even (the default mode) — every operand -/

theorem fold_add_double_rne (a b : Nat) (ha : a < 2 ^ 64) (hb : b < 2 ^ 64) : fpAdd D .RNE a b = add D .RNE a b :=
  fpAdd_D .RNE a b ha hb
theorem fold_sub_double_rne (a b : Nat) (ha : a < 2 ^ 64) (hb : b < 2 ^ 64) : fpSub D .RNE a b = sub D .RNE a b :=
  fpSub_D .RNE a b ha hb
theorem fold_mul_double_rne (a b : Nat) (ha : a < 2 ^ 64) (hb : b < 2 ^ 64) : fpMul D .RNE a b = mul D .RNE a b :=
  fpMul_D .RNE a b ha hb
/-- including x/±0, 0/0, NaN/0, ±inf/±0 (Python raises ZeroDivisionError there; `_div_by_zero` supplies the IEEE result) -/
theorem fold_div_double_rne (a b : Nat) (ha : a < 2 ^ 64) (hb : b < 2 ^ 64) : fpDiv D .RNE a b = div D .RNE a b :=
  fpDiv_D .RNE a b ha hb
theorem fold_sqrt_double_rne (a : Nat) (ha : a < 2 ^ 64) : fpSqrt D .RNE a = sqrt D .RNE a := fpSqrt_D .RNE a ha
/-- NaN operands excepted only because their bit pattern is unspecified -/
theorem fold_neg_abs_double (a : Nat) (ha : a < 2 ^ 64) (hn : isNaN D a = false) :
    fpNeg D a = neg D a ∧ fpAbs D a = abs D a := ⟨fpNeg_D a ha hn, fpAbs_D a ha hn⟩
theorem fold_cmp_double (a b : Nat) (ha : a < 2 ^ 64) (hb : b < 2 ^ 64) :
    fpEQ D a b = feq D a b ∧ fpNEQ D a b = fneq D a b ∧ fpLT D a b = flt D a b ∧ fpLEQ D a b = fleq D a b ∧
    fpGT D a b = fgt D a b ∧ fpGEQ D a b = fgeq D a b ∧ fpIsNaN D a = isNaN D a ∧ fpIsInf D a = isInf D a :=
  let ⟨h1, h2, h3, h4, h5, h6⟩ := cmp_D a b ha hb
  ⟨h1, h2, h3, h4, h5, h6, (class_D a ha).1, (class_D a ha).2⟩

/-- the `ZeroDivisionError` branch (`_div_by_zero`) is IEEE-754 division by a zero, in every mode -/
theorem div_by_zero_spec (rm : RM) (a b : Nat) (hb : isZero D b = true) (ha : isNaN D a = false) :
    divByZero a b = div D rm a b := divByZero_spec rm a b hb ha

example : div D .RNE 0 0 = D.nanBits ∧ div D .RNE 0xFFF0000000000000 0 = 0xFFF0000000000000 := by decide +kernel

/-- "double rounding 53 → 24 is innocuous" for a binary operation (Figueroa 1995): the operation carried out in binary64 (RNE) on
the widened operands and rounded again to binary32 (RNE) is the binary32 operation (RNE), for ALL bit patterns.  Proved below for
add, sub, mul, div (`double_rounding_innocuous_*`); validated against Z3 on every FLOAT case of every run as well. -/
def DoubleRoundingInnocuous (op : Fmt → RM → Nat → Nat → Nat) : Prop :=
  ∀ a b : Nat, narrow (op D .RNE (widen a) (widen b)) = op F .RNE a b

/-- the same for a unary operation (sqrt) -/
def DoubleRoundingInnocuous1 (op : Fmt → RM → Nat → Nat) : Prop :=
  ∀ a : Nat, narrow (op D .RNE (widen a)) = op F .RNE a

/-- FLOAT → DOUBLE is exact, so the ignored rounding-mode argument does no harm: fold = specification in ALL FIVE modes -/
theorem fold_widen_all_modes (rm : RM) (a : Nat) : fpToFP_fp F D rm a = cvt F D rm a := fpToFP_widen rm a

/-- comparisons and classification of FLOATs (the fold compares the widened Python floats), every operand -/
theorem fold_cmp_float (a b : Nat) :
    fpEQ F a b = feq F a b ∧ fpNEQ F a b = fneq F a b ∧ fpLT F a b = flt F a b ∧ fpLEQ F a b = fleq F a b ∧
    fpGT F a b = fgt F a b ∧ fpGEQ F a b = fgeq F a b ∧ fpIsNaN F a = isNaN F a ∧ fpIsInf F a = isInf F a := cmp_F a b

theorem fold_neg_abs_float (a : Nat) (hn : isNaN F a = false) : fpNeg F a = neg F a ∧ fpAbs F a = abs F a :=
  ⟨fpNeg_F a hn, fpAbs_F a hn⟩

/-- `fpToIEEEBV` returns the bit pattern for every non-NaN value of both sorts -/
theorem fold_to_ieee_bv (a : Nat) :
    (a < 2 ^ 64 → isNaN D a = false → fpToIEEEBV D a = a) ∧ (a < 2 ^ 32 → isNaN F a = false → fpToIEEEBV F a = a) :=
  fpToIEEEBV_ok a

/-- float → bit-vector conversions of a FLOAT, all five modes -/
theorem to_bv_spec_float (rm : RM) (a w v : Nat) :
    (toSBV F rm a w = some v → fpToBV F rm a w = v) ∧ (toUBV F rm a w = some v → fpToBV F rm a w = v) :=
  fpToBV_F rm a w v gen_table_is_smtlib

/-- DOUBLE → FLOAT under RNE is the single `struct.pack('f')` rounding -/
theorem fold_narrow_rne (a : Nat) (ha : a < 2 ^ 64) (hn : isNaN D a = false) : fpToFP_fp D F .RNE a = cvt D F .RNE a := by
  unfold fpToFP_fp lower narrow; rw [if_pos rfl, lift_D_notnan a ha hn]

/-- integer → DOUBLE under RNE (bit-vectors of up to 1023 bits): `float(int)` is the specification's `to_fp` /
`to_fp_unsigned`, finite in every case (no OverflowError); `fpToFP(rm, bv, DOUBLE)` wraps exactly this value -/
theorem fold_int_to_double_rne (w v : Nat) (hw : w ≤ 1023) :
    pyFloatOfInt false (v % 2 ^ w) = some (ofUBV D .RNE w v) ∧
    (if v % 2 ^ w ≥ 2 ^ (w - 1) then pyFloatOfInt true (2 ^ w - v % 2 ^ w) else pyFloatOfInt false (v % 2 ^ w))
      = some (ofSBV D .RNE w v) := int_to_double_rne w v hw

/-- `fpToIEEEBV(fpToFP(bv, sort)) ⇒ bv` (`fptobv_simplifier` of simplifications.py): reinterpreting bits and reading them back is the identity for
every non-NaN pattern; for NaN patterns SMT-LIB leaves `fp.to_ieee_bv` unspecified (exempt) -/
theorem cancel_fptobv_fptofp (f : Fmt) (b : Nat) (hb : b < 2 ^ f.width) (hn : isNaN f b = false) : toIEEE f b = some b := by
  unfold toIEEE; rw [hn]; simp [Nat.mod_eq_of_lt hb]

/-- `fpToFP(fpToIEEEBV(x), sort) ⇒ x` (`fptofp_simplifier` of simplifications.py): whatever pattern `to_ieee_bv` yields for `x` — the pattern of `x`
itself, or any NaN pattern `p` if `x` is NaN — reinterpreting it gives `x` back as a value -/
theorem cancel_fptofp_fptobv (f : Fmt) (x p : Nat) (hx : x < 2 ^ f.width)
    (h : toIEEE f x = some p ∨ (isNaN f x = true ∧ isNaN f p = true)) :
    (isNaN f x = false → p = x) ∧ (isNaN f x = true → isNaN f p = true) := by
  rcases h with h | ⟨hx1, hp⟩
  · unfold toIEEE at h
    cases hn : isNaN f x
    · simp [hn, Nat.mod_eq_of_lt hx] at h; exact ⟨fun _ => h.symm, fun h' => absurd h' (by simp)⟩
    · simp [hn] at h
  · exact ⟨fun h' => by rw [hx1] at h'; exact absurd h' (by simp), fun _ => hp⟩

/-- full statement for FLOAT: under RNE the fold of every arithmetic operation is the specification, for all bit patterns -/
def fold_float_rne_full : Prop :=
  ∀ a b : Nat, fpAdd F .RNE a b = add F .RNE a b ∧ fpSub F .RNE a b = sub F .RNE a b ∧ fpMul F .RNE a b = mul F .RNE a b ∧
    fpDiv F .RNE a b = div F .RNE a b ∧ fpSqrt F .RNE a = sqrt F .RNE a

/-- FLOAT MULTIPLICATION, no hypothesis: the binary64 product of two binary32 values is exact (≤ 48 significant bits, exponent
inside the binary64 range), so the fold rounds once — fold = specification under RNE for every pair of operands -/
theorem fold_mul_float_rne (a b : Nat) : fpMul F .RNE a b = mul F .RNE a b := fpMul_F .RNE a b

/-- FLOAT ADDITION when the exact sum of the two binary32 values is itself a binary64 value — in particular whenever it has at
most 53 significant bits (`sum_representable_of_53_bits`; always true when the operands' exponents differ by at most 29): the
Python float addition is exact and the fold rounds once.  A special case of `fold_add_float_rne`, which needs no hypothesis:
the proof is `fpAdd_F` and does not use `h`. -/
theorem fold_add_float_partial (a b : Nat) (h : SumRepresentable a b) : fpAdd F .RNE a b = add F .RNE a b :=
  fpAdd_F .RNE a b

theorem sum_representable_of_53_bits (a b M k : Nat) (hfa : magOf F a < F.infMag) (hfb : magOf F b < F.infMag)
    (hS : (sintOf F a + sintOf F b).natAbs = M * 2 ^ k) (hM : M < 2 ^ 53) : SumRepresentable a b :=
  sumRepresentable_of_53_bits a b M k hfa hfb hS hM

-- non-vacuity: 1.0f + 2^-20f (exponents 20 apart; the binary32 sum is inexact, the binary64 sum exact)
example : SumRepresentable 0x3F800000 0x35800000 := ⟨0x3FF0000100000000, by decide, by decide +kernel⟩

/-- rounding depends only on the rational value of the input (a common factor of `sc` and `den` cancels) -/
theorem round_scale_invariant (f : Fmt) (rm : RM) (neg : Bool) (sc den k : Nat) (hden : 0 < den) (hk : 0 < k) :
    roundScaled f rm neg (sc * k) (den * k) = roundScaled f rm neg sc den := roundScaled_scale f rm neg sc den k hden hk

/-- the FLOAT statement follows from the innocuous-double-rounding statements (multiplication needs none: it is exact) -/
theorem fold_float_rne_partial (hadd : DoubleRoundingInnocuous add) (hsub : DoubleRoundingInnocuous sub)
    (hdiv : DoubleRoundingInnocuous div) (hsqrt : DoubleRoundingInnocuous1 sqrt) : fold_float_rne_full := by
  intro a b
  refine ⟨?_, ?_, fold_mul_float_rne a b, ?_, ?_⟩
  · have := hadd a b; unfold fpAdd pyAdd lift lower; simpa using this
  · have := hsub a b; unfold fpSub pySub lift lower; simpa using this
  · rw [fpDiv_F_narrow]; exact hdiv a b
  · rw [fpSqrt_F_narrow]; exact hsqrt a

/-! ### the double rounding is innocuous (Figueroa 1995, `53 ≥ 2·24 + 2`) — proved for the model's definitions, all bit patterns

Common part (`Lemmas/FP/Round.lean`, `Formats.lean`, `DoubleRound.lean`): rounding is monotone and the identity on
representable values; binary32 values and the midpoints of adjacent binary32 values are binary64 values; hence the second
rounding can only go wrong if the first one lands on a binary32 midpoint that the exact result is not (`NoFalseTie`), and that
is excluded when the exact result keeps a distance of 2^-28 binary32 ulp from the midpoint (`no_false_tie_of_gap`: the
binary64 values `mid ± 2^-28 ulp` separate).  Signs, zero results, a first rounding to zero or to infinity, binary32 overflow to
infinity and binary32 subnormal results (binary64 normals) are inside `narrow_roundS`, which holds for every rational; NaN /
infinity / zero operands are the case analysis of each operation. -/

/-- ADDITION: a sum that is not itself a binary64 value has operands whose quanta are ≥ 30 binary places apart, so it lies within
2^-6 binary32 ulp of the larger operand — a binary32 value — and cannot be rounded to a midpoint (`Lemmas/FP/AddF.lean`) -/
theorem double_rounding_innocuous_add : DoubleRoundingInnocuous add := narrow_add_widen

/-- SUBTRACTION: `a - b = a + (-b)` in both formats; widening commutes with negation (`widen_neg`) -/
theorem double_rounding_innocuous_sub : DoubleRoundingInnocuous sub := narrow_sub_widen

/-- MULTIPLICATION: the binary64 product is exact -/
theorem double_rounding_innocuous_mul : DoubleRoundingInnocuous mul := narrow_mul_widen

/-- DIVISION: `2x - M·2^sh = Δ/den` with `Δ = pa·2^(ka+1) - M·pb·2^(eb+sh)` divisible by a large power of two; a non-zero `Δ` is
at least `2^-27 · den·2^sh` (`div_gap`); x/±0, 0/0, ±inf/… as IEEE-754 says (`Lemmas/FP/DivF.lean`) -/
theorem double_rounding_innocuous_div : DoubleRoundingInnocuous div := narrow_div_widen

/-- SQUARE ROOT: both formats round the sticky proxy `(2·isqrt(w·4^k) + sticky)/2^(k+1)`, which compares with every half-integer
like `sqrt w` itself, so the binary32 rounding does not depend on `k` (`round_congr`); `|n - A²|` is divisible by a large power of
two, which keeps `sqrt n` 2^-28 ulp away from a midpoint `A` (`sqrt_gap`); -0, negative operands, +inf (`Lemmas/FP/SqrtF.lean`) -/
theorem double_rounding_innocuous_sqrt : DoubleRoundingInnocuous1 sqrt := narrow_sqrt_widen

/-- FLOAT ADDITION, no hypothesis, every pair of operands: fold = specification under RNE -/
theorem fold_add_float_rne (a b : Nat) : fpAdd F .RNE a b = add F .RNE a b := fpAdd_F .RNE a b
theorem fold_sub_float_rne (a b : Nat) : fpSub F .RNE a b = sub F .RNE a b := fpSub_F .RNE a b
/-- FLOAT DIVISION, division by zero included -/
theorem fold_div_float_rne (a b : Nat) : fpDiv F .RNE a b = div F .RNE a b := fpDiv_F .RNE a b
theorem fold_sqrt_float_rne (a : Nat) : fpSqrt F .RNE a = sqrt F .RNE a := fpSqrt_F .RNE a

/-- THE FULL FLOAT STATEMENT, unconditionally: under RNE the fold of add, sub, mul, div, sqrt is the specification for all operands -/
theorem fold_float_rne : fold_float_rne_full :=
  fold_float_rne_partial double_rounding_innocuous_add double_rounding_innocuous_sub double_rounding_innocuous_div
    double_rounding_innocuous_sqrt

/-- … and since the rounding-mode argument is ignored, in EVERY mode the FLOAT fold returns the RNE result of the specification
(this is the exact content of the open findings `C02/<op>/rounding-mode-ignored`: nothing else is wrong with these folds) -/
theorem fold_float_is_rne_in_every_mode (rm : RM) (a b : Nat) :
    fpAdd F rm a b = add F .RNE a b ∧ fpSub F rm a b = sub F .RNE a b ∧ fpMul F rm a b = mul F .RNE a b ∧
    fpDiv F rm a b = div F .RNE a b ∧ fpSqrt F rm a = sqrt F .RNE a :=
  ⟨fpAdd_F rm a b, fpSub_F rm a b, fpMul_F rm a b, fpDiv_F rm a b, fpSqrt_F rm a⟩

-- non-vacuity / samples where the binary64 result is inexact AND the binary32 rounding is not the truncation:
-- 1 + 2^-24 + 2^-60-ish operands cannot be written in binary32, so: 1.0f + (2^-24 + 2^-47)f (just above a tie), 1/3, sqrt 2
example : fpAdd F .RNE 0x3F800000 0x33800001 = 0x3F800001 ∧ add F .RNE 0x3F800000 0x33800001 = 0x3F800001 ∧
    fpAdd F .RNE 0x3F800000 0x33800000 = 0x3F800000 ∧
    fpDiv F .RNE 0x3F800000 0x40400000 = 0x3EAAAAAB ∧ div F .RNE 0x3F800000 0x40400000 = 0x3EAAAAAB ∧
    fpSqrt F .RNE 0x40000000 = 0x3FB504F3 ∧ sqrt F .RNE 0x40000000 = 0x3FB504F3 ∧
    fpSub F .RNE 0x00000001 0x7F7FFFFF = 0xFF7FFFFF ∧ fpDiv F .RNE 0x00000001 0x7F7FFFFF = 0 := by decide +kernel

/-! ## the statement is false outside RNE (open findings) — witnesses, replayed on the real code -/

/-- the rounding-mode argument is ignored: 1 + 2^-60 toward +∞ folds to 1, the specification gives the next double -/
theorem fold_ignores_rm_witness :
    fpAdd D .RTP 0x3FF0000000000000 0x3C30000000000000 = 0x3FF0000000000000 ∧
    add D .RTP 0x3FF0000000000000 0x3C30000000000000 = 0x3FF0000000000001 := by decide +kernel

/-- 2^53 + 2^29 + 1 as a 64-bit integer to FLOAT: `float(int)` rounds to 2^53 + 2^29 (a tie for binary32), the second
rounding goes to even; one rounding gives the upper neighbour -/
theorem int_to_float_double_rounding_witness :
    fpToFP_sbv F .RNE 64 9007199791611905 = .fp F 1509949440 ∧ ofSBV F .RNE 64 9007199791611905 = 1509949441 := by
  decide +kernel

/-- `ROUND_UP`, upstream claripy's table entry for RNA (defect D06, fixed in /repo), is not ties-away -/
theorem rna_round_up_wrong : decRoundUp .up false false 1 5 ≠ roundUp .RNA false false 1 5 := roundUp_up_ne_rna

theorem test_spec_samples :
    add D .RNE 0x3FF0000000000000 0x3FF0000000000000 = 0x4000000000000000 ∧
    div D .RTP 0x3FF0000000000000 0x4008000000000000 = 0x3FD5555555555556 ∧
    div D .RNE 0x3FF0000000000000 0x4008000000000000 = 0x3FD5555555555555 ∧
    mul F .RTZ 0x7F7FFFFF 0x7F7FFFFF = 0x7F7FFFFF ∧ mul F .RNE 0x7F7FFFFF 0x7F7FFFFF = 0x7F800000 ∧
    sub D .RTN 0x3FF0000000000000 0x3FF0000000000000 = 0x8000000000000000 ∧
    cvt D F .RNE 0x36A0000000000000 = 1 ∧ cvt D F .RNE 0x3690000000000000 = 0 := by decide +kernel

end Claripy.Props.C02

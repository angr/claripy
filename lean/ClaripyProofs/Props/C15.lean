import ClaripyProofs.Lemmas.Solver.Independent
import ClaripyProofs.Lemmas.Solver.SplitOk
/-!
# C15 — merge, combine and split have exactly their documented meaning

At the level of constraint lists (ConstrainedFrontend.merge / combine / split, which FullFrontend, the composite
children and — through them — the other frontends use).
-/
namespace Claripy.Props.C15
open Claripy.Solver

/-- `merge` without ancestor: the models of the merged constraint are exactly the assignments that satisfy some
condition_i together with the i-th solver's constraints -/
theorem C15_merge_models (opts : List (Con × List Con)) (a : Asg) :
    mergeSem opts a = true ↔ ∃ o ∈ opts, o.1.sem a = true ∧ Models o.2 a := mergeSem_iff opts a

/-- `merge` with a common ancestor: exactly the ancestor's models that satisfy some condition -/
theorem C15_merge_ancestor_models (anc : List Con) (conds : List Con) (orc : Con)
    (hor : ∀ a, orc.sem a = conds.any (·.sem a)) (a : Asg) :
    Models (anc ++ [orc]) a ↔ Models anc a ∧ ∃ c ∈ conds, c.sem a = true := ancestorMerge_iff anc conds orc hor a

/-- `combine`: exactly the models of all constraint sets together -/
theorem C15_combine_models (self : List Con) (others : List (List Con)) (a : Asg) :
    Models (combineCons self others) a ↔ Models self a ∧ ∀ o ∈ others, Models o a := combineCons_iff self others a

/-- what `_split_constraints` must deliver, as a decidable check of its result: the groups are variable-disjoint, every
constraint index occurs exactly once, each conjunct's variables lie in its group (`C15_split_partition`: it holds for every input) -/
def splitOk (varss : List (List Var)) : Bool :=
  let (groups, concrete) := splitConstraints varss
  let idx := (groups.map (·.2)).flatten ++ concrete
  -- pairwise disjoint variable sets
  (groups.all fun g => groups.all fun h => g == h || g.1.all fun v => !h.1.contains v) &&
  -- every index exactly once
  (idx.length == varss.length && (List.range varss.length).all idx.contains) &&
  -- each constraint's variables lie in its group
  (groups.all fun g => g.2.all fun i => (varss.getD i []).all g.1.contains)

theorem test_split_examples :
    splitOk [[0, 1], [2], [1, 3], [], [4, 2], [5]] = true ∧ splitOk [[0], [1], [0, 1], [2, 3], [3]] = true ∧
    splitOk [[], []] = true ∧ splitOk [[3, 2, 1, 0], [0], [4], [4, 5], [6]] = true := by decide +kernel

/-- **C15 (split)**: for EVERY list of conjuncts (any number, any variables, any sharing), the groups
`_split_constraints` returns are pairwise variable-disjoint, every conjunct occurs in exactly one of them (those without
variables in the CONCRETE group), and each conjunct's variables lie in its group.  Proved through the loop invariant
`SplitInv` (the two dicts describe a partition of the variables seen so far into classes, each class knows exactly the
conjuncts over its variables) and a counting argument on the de-duplicated result. -/
theorem C15_split_partition : ∀ varss : List (List Var), splitOk varss = true := by
  intro varss
  unfold splitOk
  rw [splitConstraints_eq]
  simp only [Bool.and_eq_true, List.all_eq_true, Bool.or_eq_true, beq_iff_eq, Bool.not_eq_eq_eq_not, Bool.not_true]
  refine ⟨⟨?_, ?_, ?_⟩, ?_⟩
  · intro g hg h hh
    by_cases hgh : g = h
    · exact Or.inl hgh
    · exact Or.inr fun v hv => by simpa using groups_disjoint varss g h hg hh hgh v hv
  · exact allIdx_length varss
  · intro i hi
    have : i ∈ allIdx varss := (mem_allIdx varss i).mpr (List.mem_range.mp hi)
    simpa [allIdx] using this
  · intro g hg i hi w hw
    simpa using groups_cover_vars varss g hg i hi w hw

end Claripy.Props.C15

import ClaripyProofs.Lemmas.Solver.World
import ClaripyProofs.Lemmas.Solver.L1
import ClaripyProofs.Lemmas.Solver.CachelessHistory
import ClaripyProofs.Lemmas.Solver.SolverConsistent
/-!
# C14 — branches of a solver are isolated from each other

World model (Claripy/Solver/Stack.lean): a list of frontend records and a heap of Z3 solver objects; `branch`
copies the record field by field as the `_copy` chain of the class does (sharing the Z3 object reference, both
sides finalized).  Frontends interact only through the heap.
-/
namespace Claripy.Props.C14
open Claripy.Solver

/-- Whatever call is made on frontend `i` (adds, queries, simplify, downsize, branch), the record of every other
frontend — constraints, cached models, exhausted flags, cached satness, `_to_add`, … — is exactly what it was. -/
theorem C14_records_isolated (E : Env) (cls : SolverClass) (w : World) (i : Nat) (op : Op) (j : Nat)
    (hj : j ≠ i) (hlt : j < w.fes.length) :
    (step E cls w i op).2.fes[j]? = w.fes[j]? :=
  step_other_frontends E cls w i op j hj hlt

/-- The L1 algorithms leave every other Z3 object alone and restore the frames of the one they use — also when the
backend gives up — so a solver object shared by finalized branches looks the same to all of them after any query. -/
theorem C14_batch_eval_balanced {E : Env} (hE : OracleExact E) {hook : PModel → M Unit} {A : List ZCon}
    {P : Frontend → Prop} (hh : HookOk hook A P) (r : Nat) (exprs : List Exp) (n : Nat) (extra : List ZCon) (s : St)
    (hr : r < s.objs.length) (hne : (objAt s r).frames ≠ []) (hA : ∀ c ∈ A, c ∈ (objAt s r).asserted) :
    let s' := (z3BatchEval E r exprs n extra hook s).2
    (objAt s' r).frames = (objAt s r).frames ∧ ∀ i, i ≠ r → s'.objs[i]? = s.objs[i]? :=
  wp.elim (z3BatchEval E r exprs n extra hook s) (z3BatchEval_run (E := E) hh hh.toRec r exprs n extra s)
    (fun _ _ h => ⟨(h.2.2 hE hr hne hA).2.2.2.2.2, h.2.1.other⟩) fun _ _ h => ⟨(h.2.2 hE hr hne hA).2, h.2.1.other⟩

/-- **Branches are isolated.** On a tree of branched `SolverCacheless` solvers (the copies made by `branch` refer to the
parent's Z3 object), after ANY interleaving of add / queries / simplify / downsize / branch on any of them, every answer of
every solver is one the property statement allows for THAT solver's own constraints — what it inherited at `branch` plus what
was added to it; nothing added to a sibling, parent or child afterwards shows. -/
theorem C14_cacheless_tree_isolated {E : Env} {R : Con → Prop} (hR : Reg R E) (hE : OracleExact E)
    (hS : SimpOn R E) (hT : CheapSound E) (hist : List (Nat × Op)) (hok : HistOk R 1 hist) :
    ∀ x ∈ runHist E .SolverCacheless (World.init false false) [[]] hist,
      x.2.2 ≠ .err .giveUp → Judge x.1 x.2.1 x.2.2 :=
  fun x hx => (cl_hist_giveup hR hE hS hT hist _ _ (tinv_init R) hok x hx).judge

/-- the heap discipline behind it: a Z3 object that two frontends refer to is referred to by finalized frontends only (a
finalized frontend with pending constraints clones before asserting), and every frontend's object asserts, with what is
pending, exactly that frontend's constraints -/
theorem C14_shared_objects_finalized {R : Con → Prop} {Us : List (List Con)} {w : World} (hw : TInv R Us w)
    (i j r : Nat) (hi : i < w.fes.length) (hj : j < w.fes.length) (hij : i ≠ j)
    (hri : (w.fes.getD i {}).solver = some r) (hrj : (w.fes.getD j {}).solver = some r) :
    (w.fes.getD i {}).finalized = true ∧ (w.fes.getD j {}).finalized = true :=
  ⟨hw.share i j r hi hj hij hri hrj, hw.share j i r hj hi (Ne.symm hij) hrj hri⟩

/-- every call keeps the discipline -/
theorem C14_step_keeps_discipline {E : Env} {R : Con → Prop} (hR : Reg R E) (hE : OracleExact E) (hS : SimpOn R E)
    (hT : CheapSound E) (w : World) (Us : List (List Con)) (hw : TInv R Us w) (i : Nat) (hi : i < w.fes.length)
    (op : Op) (hop : InScope R op) : TInv R (usersAll Us i op) (step E .SolverCacheless w i op).2 :=
  (cl_step hR hE hS hT w Us hw i hi op hop).2

/-- a query on one frontend leaves the assertion frames of every Z3 object alone that another frontend may refer to -/
theorem C14_query_leaves_foreign_frames {s s' : St} (h : QStep s s') (i : Nat) (hi : i < s.objs.length)
    (hp : s.fe.solver = some i → s.fe.finalized = true) : (objAt s' i).frames = (objAt s i).frames :=
  h.foreign i hi hp

/-! The copy `branch` makes of a `Solver` inherits, besides the constraint list and the reference to the Z3 object, every cache of
its parent: the cached models, the five exhausted tables, the cached satisfiability verdict, the deduplication hashes.  What
keeps the branches apart is the world invariant `TInvS` of `C11_solver_refines`: each frontend satisfies `SI = BInv ∧ MCInv ∧
SCInv` for ITS OWN user's constraints, and a Z3 object two frontends refer to is referred to by finalized frontends only. -/

variable {E : Env} {R : Con → Prop} {RE : Exp → Prop}

/-- **Branches of a caching `Solver` are isolated.** On a tree of branched `Solver`s (tracked or not), after ANY interleaving of
add / satisfiable / eval / batch_eval / min / max / solution / is_true / is_false / simplify / downsize / branch / pickle round
trips on any of them, every answer of every solver is one the property statement allows for THAT solver's own constraints —
what it inherited at `branch` plus what was added to it; nothing added to (or cached by) a sibling, parent or child afterwards
shows. -/
theorem C14_solver_tree_isolated (H : SolverHyps R RE E) (track : Bool) (hist : List (Nat × Op))
    (hok : HistOkS R RE 1 hist) :
    ∀ x ∈ runHist E .Solver (World.init track false) [[]] hist, x.2.2 ≠ .err .giveUp → Judge x.1 x.2.1 x.2.2 :=
  fun x hx => (sol_hist_giveup H hist _ _ (tinvS_init R RE E track) hok x hx).judge

/-- the same statement as a frame rule, from ANY world of the tree (`TInvS`): a call `op` on solver `i`
  (1) leaves the record of every other solver `j` exactly as it was,
  (2) leaves the constraint list solver `j` is judged by exactly as it was, and
  (3) whatever is done afterwards (any history `rest` in scope, on any of the solvers), every answer of every solver is allowed
      for that solver's own constraints, or is an honest give-up. -/
theorem C14_solver_op_isolated (H : SolverHyps R RE E) (w : World) (Us : List (List Con)) (hw : TInvS R RE E Us w)
    (i : Nat) (hi : i < w.fes.length) (op : Op) (hop : InScopeS R RE op) :
    (∀ j, j ≠ i → j < w.fes.length → (step E .Solver w i op).2.fes[j]? = w.fes[j]?) ∧
    (∀ j, j ≠ i → j < w.fes.length → (usersAll Us i op).getD j [] = Us.getD j []) ∧
    ∀ rest, HistOkS R RE (nAfter w.fes.length op) rest →
      ∀ x ∈ runHist E .Solver (step E .Solver w i op).2 (usersAll Us i op) rest, JudgeOrGiveUp E x.1 x.2.1 x.2.2 := by
  refine ⟨fun j hj hlt => step_other_frontends E .Solver w i op j hj hlt,
    fun j hj hlt => usersAll_other Us i op j hj (by rw [hw.len]; exact hlt), fun rest hrest => ?_⟩
  refine sol_hist_giveup H rest _ _ (sol_step H w Us hw i hi op hop).2 ?_
  rw [sol_step_length H w Us hw i hi op hop]
  exact hrest

/-- … in particular the very next question to another solver `j` of the tree — whatever `op` did to solver `i`: added
constraints, filled or invalidated caches, simplified, replaced or dropped its Z3 object, gave up — is answered for the
constraints `j` had before `op` -/
theorem C14_solver_sibling_unaffected (H : SolverHyps R RE E) (w : World) (Us : List (List Con))
    (hw : TInvS R RE E Us w) (i : Nat) (hi : i < w.fes.length) (op : Op) (hop : InScopeS R RE op)
    (j : Nat) (hj : j < w.fes.length) (hji : j ≠ i) (q : Op) (hq : InScopeS R RE q) :
    JudgeOrGiveUp E (usersAfter (Us.getD j []) q) q (step E .Solver (step E .Solver w i op).2 j q).1 := by
  have h1 := sol_step H w Us hw i hi op hop
  have hl := sol_step_length H w Us hw i hi op hop
  have hj' : j < (step E .Solver w i op).2.fes.length := by
    rw [hl]; cases op <;> simp only [nAfter] <;> omega
  have h2 := (sol_step H _ _ h1.2 j hj' q hq).1
  rwa [usersAll_other Us i op j hji (by rw [hw.len]; exact hj)] at h2

/-- from a fresh solver: after any history `h1`, any call `op` on solver `i` and any further history `h2`, every answer given
during `h2` (by `i`, by its branches, by any other solver of the tree) is allowed for the constraints of the solver asked -/
theorem C14_solver_later_answers (H : SolverHyps R RE E) (track : Bool) (h1 : List (Nat × Op)) (i : Nat) (op : Op)
    (h2 : List (Nat × Op)) (hok : HistOkS R RE 1 (h1 ++ (i, op) :: h2)) :
    ∀ x ∈ runHist E .Solver (worldAfter E .Solver (World.init track false) (h1 ++ [(i, op)]))
        (usersAfterHist [[]] (h1 ++ [(i, op)])) h2, JudgeOrGiveUp E x.1 x.2.1 x.2.2 := by
  have hok' : HistOkS R RE 1 ((h1 ++ [(i, op)]) ++ h2) := by simpa using hok
  obtain ⟨hA, hB⟩ := histOkS_append.mp hok'
  obtain ⟨hw, hlen⟩ := sol_reach H (h1 ++ [(i, op)]) _ _ (tinvS_init R RE E track) hA
  refine sol_hist_giveup H h2 _ _ hw ?_
  rw [hlen]
  exact hB

/-- the heap discipline behind it, for the caching class: a Z3 object two frontends refer to is referred to by finalized
frontends only (so neither asserts into it: a finalized frontend with pending constraints takes a clone, or a fresh object when
it tracks) -/
theorem C14_solver_shared_objects_finalized {Us : List (List Con)} {w : World} (hw : TInvS R RE E Us w)
    (i j r : Nat) (hi : i < w.fes.length) (hj : j < w.fes.length) (hij : i ≠ j)
    (hri : (w.fes.getD i {}).solver = some r) (hrj : (w.fes.getD j {}).solver = some r) :
    (w.fes.getD i {}).finalized = true ∧ (w.fes.getD j {}).finalized = true :=
  ⟨hw.share i j r hi hj hij hri hrj, hw.share j i r hj hi (Ne.symm hij) hrj hri⟩

/-- every call keeps the discipline and every frontend's own invariant (caches included) -/
theorem C14_solver_step_keeps_discipline (H : SolverHyps R RE E) (w : World) (Us : List (List Con))
    (hw : TInvS R RE E Us w) (i : Nat) (hi : i < w.fes.length) (op : Op) (hop : InScopeS R RE op) :
    TInvS R RE E (usersAll Us i op) (step E .Solver w i op).2 :=
  (sol_step H w Us hw i hi op hop).2

/-- non-vacuity: the hypotheses hold in the consistent environment of C11 (`cHyps`), for a history that constrains, caches an
optimum, branches, enumerates in the child, adds on the child, asks the parent again, pickles, … -/
example : ∀ x ∈ runHist cEnv .Solver (World.init false false) [[]] cHist,
    x.2.2 ≠ .err .giveUp → Judge x.1 x.2.1 x.2.2 :=
  C14_solver_tree_isolated cHyps false cHist cHist_ok

/-- non-vacuity of the frame rule: after the first five calls of that history (two solvers alive: 0 and its branch 1), an `add`
on the branch, then a question to the parent -/
example : JudgeOrGiveUp cEnv (usersAfter ((usersAfterHist [[]] (cHist.take 5)).getD 0 []) (.eval cExp 10 [])) (.eval cExp 10 [])
    (step cEnv .Solver (step cEnv .Solver (worldAfter cEnv .Solver (World.init false false) (cHist.take 5)) 1 (.add [cCon])).2 0
      (.eval cExp 10 [])).1 := by
  obtain ⟨hw, hlen⟩ := cHist_reach 5
  have h2 : (worldAfter cEnv .Solver (World.init false false) (cHist.take 5)).fes.length = 2 := hlen
  exact C14_solver_sibling_unaffected cHyps _ _ hw 1 (by omega) (.add [cCon]) (by simp [InScopeS]) 0 (by omega) (by omega)
    (.eval cExp 10 []) (by simp [InScopeS])

end Claripy.Props.C14

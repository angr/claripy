import ClaripyProofs.Lemmas.VSA.Convert
import Claripy.VSA.Conc
import ClaripyProofs.Lemmas.VSA.AddSub
import ClaripyProofs.Lemmas.VSA.Cmp
import ClaripyProofs.Lemmas.VSA.NotExt
import ClaripyProofs.Lemmas.VSA.ShiftSound
import ClaripyProofs.Lemmas.VSA.Signed
import ClaripyProofs.Lemmas.VSA.Extract
import ClaripyProofs.Lemmas.VSA.SextSound
import ClaripyProofs.Lemmas.VSA.AndXor
import ClaripyProofs.Lemmas.VSA.ConcatSound
import ClaripyProofs.Lemmas.VSA.AshrSound
import ClaripyProofs.Lemmas.VSA.MulTop
import ClaripyProofs.Lemmas.VSA.ModSound
import ClaripyProofs.Lemmas.VSA.SetCmpEval
/-!
# C21 — strided-interval transfer functions are sound

Shape of every statement: `mem x a → mem y b → op♯ a b = ok r → mem (op x y) r`, for ALL widths, with the decidable
well-formedness predicate `SI.WF` (what `normalize` establishes) as hypothesis.  Where the statement is false on
the code, its negation is proved with a concrete witness (replayed on the real code by the check) and the
guarded version is kept.  `test_…` facts are bounded and not counted as theorems.
-/
namespace Claripy.Props.C21
open Claripy.VSA

/-- soundness of a binary transfer function under a guard on the operands -/
def SoundBin (conc : Nat → Nat → Nat → Nat) (op : SI → SI → R SI) (guard : SI → SI → Prop) : Prop :=
  ∀ (a b r : SI) (x y : Nat), a.WF → b.WF → a.bits = b.bits → guard a b → a.mem x → b.mem y →
    op a b = .ok r → r.mem (conc a.bits x y)

def noGuard : SI → SI → Prop := fun _ _ => True
def bothAligned : SI → SI → Prop := fun a b => a.Aligned ∧ b.Aligned

/-- `add` is sound for all well-formed operands of all widths (no alignment needed). -/
theorem C21_add_sound : SoundBin Conc.add (fun a b => pure (a.add b)) noGuard := by
  intro a b r x y ha hb hbits _ hx hy hr
  cases pure_ok hr
  exact add_sound a b x y hbits ha hb hx hy

/-- non-vacuity: a wrapping, strided instance of the hypotheses -/
example : (SI.new 8 3 250 4).WF ∧ (SI.new 8 2 1 7).WF ∧ (SI.new 8 3 250 4).mem 0 ∧ (SI.new 8 2 1 7).mem 5 ∧
    ((SI.new 8 3 250 4).add (SI.new 8 2 1 7)).mem 5 := by decide

/-- closure of `add` -/
theorem C21_add_closed (a b : SI) (ha : a.WF) (hb : b.WF) (hbits : a.bits = b.bits) :
    (a.add b).WF ∧ (a.add b).bits = a.bits := add_WF a b ha hb hbits

/-- `sub` is sound for all well-formed operands (also when the subtrahend's upper bound is not a member: the repaired
code anchors the result at its last member) -/
theorem C21_sub_sound : SoundBin Conc.sub (fun a b => pure (a.sub b)) noGuard := by
  intro a b r x y ha hb hbits _ hx hy hr
  cases pure_ok hr
  exact (sub_good a b ha hb hbits hx.1 hy.1).2 x y hx hy

theorem C21_sub_closed (a b : SI) (ha : a.WF) (hb : b.WF) (hbits : a.bits = b.bits) :
    (a.sub b).WF ∧ (a.sub b).bits = a.bits := sub_WF a b ha hb hbits

/-- `neg()` and unary minus (`__neg__` in the repaired code) are sound and closed -/
theorem C21_neg_sound (a : SI) (x : Nat) (ha : a.WF) (hx : a.mem x) :
    (a.neg.WF ∧ a.neg.bits = a.bits) ∧ a.neg.mem (Conc.neg a.bits x) :=
  ⟨neg_WF a ha, (neg_good a ha hx.1).2 x hx⟩

/-- non-vacuity: an unaligned, wrapping subtrahend -/
example : (SI.new 4 3 1 9).WF ∧ ({ bits := 4, stride := 5, lb := 14, ub := 6 } : SI).WF ∧ (SI.new 4 3 1 9).mem 7 ∧
    ({ bits := 4, stride := 5, lb := 14, ub := 6 } : SI).mem 3 ∧
    ((SI.new 4 3 1 9).sub { bits := 4, stride := 5, lb := 14, ub := 6 }).mem 4 := by decide

/-- `bitwise_not` is sound and closed -/
theorem C21_not_sound (a r : SI) (ha : a.WF) (hnb : a.bottom = false) (h : a.bitwiseNot = .ok r) :
    (r.WF ∧ r.bits = a.bits) ∧ ∀ x, a.mem x → r.mem (Conc.not a.bits x) :=
  have g := not_good a r ha hnb h
  ⟨g.1.wf, g.2⟩

/-- `zero_extend` is sound and closed (wrapping operands included, in the repaired code) -/
theorem C21_zext_sound (a r : SI) (nl : Nat) (ha : a.WF) (hnb : a.bottom = false) (hnl : a.bits ≤ nl)
    (h : a.zeroExtend nl = .ok r) : (r.WF ∧ r.bits = nl) ∧ ∀ x, a.mem x → r.mem (Conc.zext a.bits nl x) :=
  zext_sound a r nl ha hnb hnl h

/-- `ULT`, `ULE`, `UGT`, `UGE`: the BoolResult admits every truth value that occurs -/
theorem C21_ucmp_sound (op : CmpOp) (hop : op = .ult ∨ op = .ule ∨ op = .ugt ∨ op = .uge) (a b : AV) (br : BoolRes)
    (ha : a.si.WF) (hb : b.si.WF) (h : applyCmp op a b = .ok br) (x y : Nat) (hx : a.si.mem x) (hy : b.si.mem y) :
    br.has (concCmp op a.si.bits x y) = true :=
  ucmp_sound op hop a b br ha hb h x y hx hy

/-- `SLT`, `SLE`, `SGT`, `SGE`: the BoolResult admits every truth value that occurs.  The operands are in the form the
constructor returns (`renorm` is the identity on them: a full circle is written `[0, 2^w - 1]`), which is the only form
Python can hold; `new_renorm` shows every constructed interval has it. -/
theorem C21_scmp_sound (op : CmpOp) (hop : op = .slt ∨ op = .sle ∨ op = .sgt ∨ op = .sge) (a b : AV) (br : BoolRes)
    (ha : a.si.WF) (hb : b.si.WF) (hbits : a.si.bits = b.si.bits) (hna : a.si.renorm = a.si) (hnb : b.si.renorm = b.si)
    (h : applyCmp op a b = .ok br) (x y : Nat) (hx : a.si.mem x) (hy : b.si.mem y) :
    br.has (concCmp op a.si.bits x y) = true :=
  scmp_sound op hop a b br ha hb hbits hna hnb h x y hx hy

/-- non-vacuity: an interval that straddles both poles against one in the negative half -/
example : (SI.new 4 3 6 1).WF ∧ (SI.new 4 3 6 1).renorm = SI.new 4 3 6 1 ∧ (SI.new 4 3 6 1).mem 12 ∧ (SI.new 4 2 9 13).mem 11 ∧
    (SI.new 4 3 6 1).signedBounds = .ok [(6, 6), (-7, 1)] ∧
    (SI.new 4 3 6 1).SLT (SI.new 4 2 9 13) = .ok .m := by decide

/-- non-vacuity: a wrapping interval with a stride that does not divide 2^w -/
example : (SI.new 3 3 6 4).WF ∧ (SI.new 3 3 6 4).mem 1 ∧ (SI.new 3 3 6 4).bitwiseNot = .ok (SI.new 3 3 3 1) ∧
    (SI.new 3 3 3 1).mem 6 ∧ (SI.new 3 3 6 4).zeroExtend 5 = .ok (SI.new 5 1 1 6) := by decide

/-- `udiv` is sound and closed for every iteration order of its set of partial results (division by zero excluded on the
concrete side: SMT-LIB gives all-ones there and claripy raises) -/
theorem C21_udiv_sound (a b r : SI) (order : List Nat) (ha : a.WF) (hb : b.WF) (hbits : a.bits = b.bits)
    (hab : a.bottom = false) (hbb : b.bottom = false) (h : a.udiv b order = .ok r) :
    (r.WF ∧ r.bits = a.bits) ∧ ∀ x y, a.mem x → b.mem y → y ≠ 0 → r.mem (Conc.udiv a.bits x y) :=
  udiv_sound a b r order ha hb hbits hab hbb h

/-- `rshift_logical` with an interval shift amount (any width of the amount, wrapping amounts included) -/
theorem C21_lshr_sound (a amt r : SI) (ha : a.WF) (hab : a.bottom = false) (hamt : amt.WF) (h : a.rshiftLogical amt = .ok r) :
    (r.WF ∧ r.bits = a.bits) ∧ ∀ x y, a.mem x → amt.mem y → r.mem (Conc.lshr a.bits x y) :=
  lshr_sound a amt r ha hab hamt h

/-- `lshift` with an interval shift amount -/
theorem C21_shl_sound (a amt r : SI) (ha : a.WF) (hab : a.bottom = false) (hamt : amt.WF) (h : a.lshift amt = .ok r) :
    (r.WF ∧ r.bits = a.bits) ∧ ∀ x y, a.mem x → amt.mem y → r.mem (Conc.shl a.bits x y) :=
  shl_sound a amt r ha hab hamt h

/-- `cast_low(tok)`: the low `tok` bits of every member (all six branches of the code) -/
theorem C21_cast_low_sound (a r : SI) (tok : Nat) (ha : a.WF) (ht : 0 < tok) (h : a.castLow tok = .ok r) :
    (r.WF ∧ r.bits = tok) ∧ ∀ x, a.mem x → r.mem (x % 2 ^ tok) :=
  castLow_sound a r tok ha ht h

/-- `extract(high, low)` = logical right shift by `low`, then `cast_low` -/
theorem C21_extract_sound (a r : SI) (hi lo : Nat) (ha : a.WF) (hab : a.bottom = false) (hlo : lo ≤ hi) (hhi : hi < a.bits)
    (h : a.extract hi lo = .ok r) :
    (r.WF ∧ r.bits = hi + 1 - lo) ∧ ∀ x, a.mem x → r.mem (Conc.extract hi lo x) :=
  extract_sound a r hi lo ha hab hlo hhi h

/-- `sign_extend` (all three routes: zero extension when every member is non-negative, shifted copy when every member is
negative, north-pole split otherwise); operand in the form the constructor returns -/
theorem C21_sext_sound (a r : SI) (nl : Nat) (ha : a.WF) (hab : a.bottom = false) (hn : a.renorm = a) (hnl : a.bits ≤ nl)
    (h : a.signExtend nl = .ok r) :
    (r.WF ∧ r.bits = nl) ∧ ∀ x, a.mem x → r.mem (Conc.sext a.bits nl x) :=
  sext_sound a r nl ha hab hn hnl h

/-- non-vacuity: an interval with members of both signs (the split route), and one with negative members only -/
example : (SI.new 3 3 6 4).mem 1 ∧ (SI.new 3 3 6 4).mem 6 ∧ (∃ r, (SI.new 3 3 6 4).signExtend 5 = .ok r ∧ r.mem 1 ∧ r.mem 30) ∧
    (∃ r, (SI.new 3 1 5 6).signExtend 5 = .ok r ∧ r.mem 29 ∧ ¬ r.mem 5) := by
  refine ⟨by decide, by decide, ⟨_, rfl, by decide, by decide⟩, ⟨_, rfl, by decide, by decide⟩⟩

/-- non-vacuity: bits 2..1 of a wrapping interval with an odd stride -/
example : (SI.new 4 3 13 3).mem 13 ∧ (∃ r, (SI.new 4 3 13 3).extract 2 1 = .ok r ∧ r.mem 2 ∧ r.bits = 2) := by
  refine ⟨by decide, _, rfl, by decide, by decide⟩

/-- non-vacuity: a wrapping strided operand shifted by the amounts {1, 2}; a wrapping dividend -/
example : (SI.new 4 3 13 3).WF ∧ (SI.new 4 1 1 2).WF ∧ (SI.new 4 3 13 3).mem 0 ∧ (SI.new 4 1 1 2).mem 2 ∧
    (∃ r, (SI.new 4 3 13 3).rshiftLogical (SI.new 4 1 1 2) = .ok r ∧ r.mem 3) ∧
    (∃ r, (SI.new 4 3 13 3).lshift (SI.new 4 1 1 2) = .ok r ∧ r.mem 4) ∧
    (∃ r, (SI.new 4 3 13 3).udiv (SI.new 4 1 1 2) [0, 1] = .ok r ∧ r.mem 6) := by
  refine ⟨by decide, by decide, by decide, by decide, ⟨_, rfl, by decide⟩, ⟨_, rfl, by decide⟩, ⟨_, rfl, by decide⟩⟩

/-! ## bitwise or / and / xor (Warren's `min_or`/`max_or` on the part above the common trailing zeros of the strides) -/

/-- `bitwise_or` is sound and closed: wrapping, strided and unaligned operands included -/
theorem C21_or_sound (a b r : SI) (ha : a.WF) (hb : b.WF) (hbits : a.bits = b.bits) (hab : a.bottom = false)
    (hbb : b.bottom = false) (h : a.bitwiseOr b = .ok r) :
    (r.WF ∧ r.bits = a.bits) ∧ ∀ x y, a.mem x → b.mem y → r.mem (Conc.or a.bits x y) :=
  or_sound a b r ha hb hbits hab hbb h

/-- Warren's bounds as the code computes them: `min_or ≤ x | y ≤ max_or` over the box `a ≤ x ≤ b`, `c ≤ y ≤ d` -/
theorem C21_warren_bounds (a b c d w x y : Nat) (hax : a ≤ x) (hxb : x ≤ b) (hcy : c ≤ y) (hyd : y ≤ d)
    (hb : b < 2 ^ w) (hd : d < 2 ^ w) : minOr a b c d w ≤ x ||| y ∧ x ||| y ≤ maxOr a b c d w :=
  ⟨minOr_le a b c d w x y hax hxb hcy hyd hb hd, le_maxOr a b c d w x y hax hxb hcy hyd hb hd⟩

/-- `bitwise_and` (sign-bit shortcut, then De Morgan through `bitwise_or`) is sound and closed; operands in the form the
constructor returns (the shortcut splits at the north pole) -/
theorem C21_and_sound (a b r : SI) (ha : a.WF) (hb : b.WF) (hbits : a.bits = b.bits) (hab : a.bottom = false)
    (hbb : b.bottom = false) (hna : a.renorm = a) (hnb : b.renorm = b) (h : a.bitwiseAnd b = .ok r) :
    (r.WF ∧ r.bits = a.bits) ∧ ∀ x y, a.mem x → b.mem y → r.mem (Conc.and a.bits x y) :=
  let g := and_sound a b r ha hb hbits hab hbb hna hnb h
  ⟨g.1.1, g.2⟩

/-- `bitwise_xor` = `(x & ~y) | (~x & y)` through `bitwise_or`/`bitwise_not` is sound and closed -/
theorem C21_xor_sound (a b r : SI) (ha : a.WF) (hb : b.WF) (hbits : a.bits = b.bits) (hab : a.bottom = false)
    (hbb : b.bottom = false) (h : a.bitwiseXor b = .ok r) :
    (r.WF ∧ r.bits = a.bits) ∧ ∀ x y, a.mem x → b.mem y → r.mem (Conc.xor a.bits x y) :=
  let g := xor_sound a b r ha hb hbits hab hbb h
  ⟨g.1.1, g.2⟩

/-- non-vacuity: a wrapping operand with an odd stride against a strided one; the sign-bit shortcut of `and` -/
example : (SI.new 4 3 13 3).WF ∧ (SI.new 4 2 1 7).WF ∧ (SI.new 4 3 13 3).mem 0 ∧ (SI.new 4 2 1 7).mem 5 ∧
    (∃ r, (SI.new 4 3 13 3).bitwiseOr (SI.new 4 2 1 7) = .ok r ∧ r.mem 5 ∧ r.mem (3 ||| 7)) ∧
    (∃ r, (SI.new 4 3 13 3).bitwiseAnd (SI.new 4 2 1 7) = .ok r ∧ r.mem (3 &&& 7)) ∧
    (∃ r, (SI.new 4 3 13 3).bitwiseXor (SI.new 4 2 1 7) = .ok r ∧ r.mem (13 ^^^ 3)) ∧
    (∃ r, (SI.new 4 0 8 8).bitwiseAnd (SI.new 4 3 13 3) = .ok r ∧ r.mem 8 ∧ r.mem 0) := by
  refine ⟨by decide, by decide, by decide, by decide, ⟨_, rfl, by decide, by decide⟩, ⟨_, rfl, by decide⟩,
    ⟨_, rfl, by decide⟩, ⟨_, rfl, by decide, by decide⟩⟩

/-! ## concat (widen, `_lshift`, zero-extend, then `bitwise_or` — or plain addition when the high part is one value) -/

/-- `concat` is sound and closed; wrapping operands on either side included.  The integer shortcut adds the bounds of
the zero-extended low operand to the shifted high value without reducing them: `zeroExtend_bounds` shows they stay below
`2^b.bits`, so the sums stay below `2^(a.bits + b.bits)`. -/
theorem C21_concat_sound (a b r : SI) (ha : a.WF) (hb : b.WF) (hab : a.bottom = false) (hbb : b.bottom = false)
    (h : a.concat b = .ok r) :
    (r.WF ∧ r.bits = a.bits + b.bits) ∧ ∀ x y, a.mem x → b.mem y → r.mem (Conc.concat b.bits x y) :=
  let g := concat_sound a b r ha hb hab hbb h
  ⟨g.1.1, g.2⟩

/-- non-vacuity: a wrapping high operand, a wrapping low operand below a single high value -/
example : (SI.new 3 3 6 4).WF ∧ (SI.new 2 1 3 1).WF ∧ (SI.new 3 3 6 4).mem 1 ∧ (SI.new 2 1 3 1).mem 0 ∧
    (∃ r, (SI.new 3 3 6 4).concat (SI.new 2 1 3 1) = .ok r ∧ r.mem (Conc.concat 2 1 0) ∧ r.bits = 5) ∧
    (∃ r, (SI.new 3 0 5 5).concat (SI.new 2 1 3 1) = .ok r ∧ r.mem (Conc.concat 2 5 3) ∧ r.mem 20 ∧ ¬ r.mem 24) := by
  refine ⟨by decide, by decide, by decide, by decide, ⟨_, rfl, by decide, by decide⟩, ⟨_, rfl, by decide, by decide, by decide⟩⟩

/-! ## arithmetic right shift (`_psplit`, then the logical shift plus the sign mask in the upper half) -/

/-- `rshift_arithmetic` with an interval shift amount is sound and closed; operand in the form the constructor returns
(the split at the north pole needs it) -/
theorem C21_ashr_sound (a amt r : SI) (ha : a.WF) (hab : a.bottom = false) (hna : a.renorm = a) (hamt : amt.WF)
    (h : a.rshiftArith amt = .ok r) :
    (r.WF ∧ r.bits = a.bits) ∧ ∀ x y, a.mem x → amt.mem y → r.mem (Conc.ashr a.bits x y) :=
  ashr_sound a amt r ha hab hna hamt h

/-- non-vacuity: an operand straddling both poles, shifted by the amounts {1, 2} -/
example : (SI.new 4 3 6 1).WF ∧ (SI.new 4 3 6 1).renorm = SI.new 4 3 6 1 ∧ (SI.new 4 3 6 1).mem 12 ∧ (SI.new 4 1 1 2).mem 2 ∧
    Conc.ashr 4 12 2 = 15 ∧ (∃ r, (SI.new 4 3 6 1).rshiftArith (SI.new 4 1 1 2) = .ok r ∧ r.mem 15 ∧ r.mem 3) := by
  refine ⟨by decide, by decide, by decide, by decide, by decide, ⟨_, rfl, by decide, by decide⟩⟩

/-! ## eq / ne — through the meet; sound on aligned operands, false without the guard (finding C21-eq-unaligned) -/

/-- full statement: the verdict of `eq` admits the truth value of `x = y` for all members -/
def C21_eq_full : Prop :=
  ∀ (a b : SI) (br : BoolRes) (x y : Nat), a.WF → b.WF → a.bits = b.bits → a.mem x → b.mem y → a.eq b = .ok br →
    br.has (decide (x = y)) = true

/-- `2[2,3]` and `3[2,0]` both are `{2}` at 2 bits, `eq` answers False (the meet loses the common member) -/
theorem eq_unaligned_unsound : ¬ C21_eq_full := by
  intro h
  have := h { bits := 2, stride := 2, lb := 2, ub := 3 } { bits := 2, stride := 3, lb := 2, ub := 0 } .f 2 2
    (by decide) (by decide) (by decide) (by decide) (by decide) (by decide)
  exact absurd this (by decide)

/-- **`eq` is sound on aligned operands** (in the form the constructor returns): the verdict admits the truth value of
`x = y` for all members `x`, `y`; `ne` is its complement -/
theorem C21_eq_sound (a b : SI) (br : BoolRes) (x y : Nat) (ha : a.WF) (hb : b.WF) (hbits : a.bits = b.bits)
    (hal : a.Aligned ∧ b.Aligned) (hna : a.renorm = a) (hnb : b.renorm = b) (hx : a.mem x) (hy : b.mem y)
    (h : a.eq b = .ok br) : br.has (decide (x = y)) = true ∧ br.not.has (decide (x ≠ y)) = true := by
  have key : br.has (decide (x = y)) = true :=
    eq_sound a.bits a b br x y ⟨ha, rfl⟩ ⟨hb, hbits.symm⟩ hal.1 hal.2 hna hnb hx hy h
  refine ⟨key, ?_⟩
  have := brNot_has br _ key
  simpa using this

/-- non-vacuity: overlapping aligned operands (Maybe), disjoint residues (False) -/
example : (SI.new 4 3 11 4).eq (SI.new 4 2 4 12) = .ok .m ∧ (SI.new 4 2 1 7).eq (SI.new 4 2 4 12) = .ok .f ∧
    (SI.new 4 3 11 4).Aligned ∧ (SI.new 4 2 4 12).Aligned := by decide

/-! ## sdiv — false on the code (floor instead of truncation), finding C21-sdiv-floor -/

/-- full statement: `sdiv` is sound w.r.t. SMT-LIB `bvsdiv` for every iteration order of its result set -/
def C21_sdiv_full : Prop :=
  ∀ order, SoundBin Conc.sdiv (fun a b => a.sdiv b order) (fun _ b => ¬ b.mem 0)

/-- `1 /s -2 = 0` at 2 bits, but `sdiv {1} {2} = {3}` (floor division). -/
theorem sdiv_unsound : ¬ C21_sdiv_full := by
  intro h
  have := h [0] (SI.new 2 0 1 1) (SI.new 2 0 2 2) (SI.new 2 0 3 3) 1 2
    (by decide) (by decide) (by decide) (by decide) (by decide) (by decide) (by decide)
  exact absurd this (by decide)

/-! ## mul — false for operands whose upper bound is not a member, finding C21-mul-unaligned -/

def C21_mul_full : Prop := SoundBin Conc.mul SI.mul noGuard

/-- `2 * 0 = 0`, but `mul {2} 2[0,1]` is empty (`2[0,1]` is `{0}`; its upper bound 1 is not a member). -/
theorem mul_unaligned_unsound : ¬ C21_mul_full := by
  intro h
  have := h (SI.new 2 0 2 2) { bits := 2, stride := 2, lb := 0, ub := 1 } (SI.empty 2) 2 0
    (by decide) (by decide) (by decide) trivial (by decide) (by decide) (by decide)
  exact absurd this (by decide)

/-- aligned operands in the form the constructor returns -/
def alignedNormal : SI → SI → Prop := fun a b => a.Aligned ∧ b.Aligned ∧ a.renorm = a ∧ b.renorm = b

/-- **`mul` is sound on aligned operands** for every width: per pair of pieces of `_psplit` the unsigned and the signed
partial product are aligned intervals that contain the product (`umul_piece`, `smul_piece`), so their meet does
(`multiMeet_sound_tp`); the partial results are joined (`pairOuter_lub`) -/
theorem C21_mul_aligned : SoundBin Conc.mul SI.mul alignedNormal := by
  intro a b r x y ha hb hbits hg hx hy h
  obtain ⟨hA, hB, nA, nB⟩ := hg
  exact (mul_sound a.bits a b r ⟨ha, rfl⟩ ⟨hb, hbits.symm⟩ hx.1 hy.1 hA hB nA nB h).2 x y hx hy

/-- closure of `mul` on such operands -/
theorem C21_mul_closed (a b r : SI) (ha : a.WF) (hb : b.WF) (hbits : a.bits = b.bits) (hab : a.bottom = false)
    (hbb : b.bottom = false) (hg : alignedNormal a b) (h : a.mul b = .ok r) : r.WF ∧ r.bits = a.bits :=
  (mul_sound a.bits a b r ⟨ha, rfl⟩ ⟨hb, hbits.symm⟩ hab hbb hg.1 hg.2.1 hg.2.2.1 hg.2.2.2 h).1

/-- non-vacuity: operands of both signs, one wrapping -/
example : alignedNormal (SI.new 4 3 13 6) (SI.new 4 2 1 7) ∧ (SI.new 4 3 13 6).mem 3 ∧ (SI.new 4 2 1 7).mem 5 ∧
    (∃ r, (SI.new 4 3 13 6).mul (SI.new 4 2 1 7) = .ok r ∧ r.mem (Conc.mul 4 3 5) ∧ r.mem (Conc.mul 4 13 7)) := by
  refine ⟨by unfold alignedNormal; decide, by decide, by decide, ⟨_, rfl, by decide, by decide⟩⟩

/-! ## mod (unsigned remainder) — through `udiv` of the pieces, `mul` and `sub`; any divisor -/

/-- full statement: `__mod__` is sound for all well-formed operands (division by zero exempt: claripy raises there) -/
def C21_mod_full : Prop :=
  ∀ (a b r : SI) (x y : Nat), a.WF → b.WF → a.bits = b.bits → a.mem x → b.mem y → y ≠ 0 → a.mod b = .ok r →
    r.mem (Conc.urem a.bits x y)

/-- **`__mod__` is sound and closed for EVERY divisor**, aligned or not (`Lemmas/VSA/ModSound.lean`).  Per pair of
non-wrapping pieces either the quotients are one value `k` and the remainder is `p - k*t` (`mul` on `{k}` and the divisor's
piece), or the remainder is below the divisor's upper bound.  For an aligned piece `t` the general `mul_good` applies; for an
unaligned piece `t` the product `{k} * t` is the second instance of `mulPair_sound` (`k` without sign bit, `k·t` without
overflow: neither partial product wraps, `finSI_le`, so the meet needs no alignment); all partial results are good whatever
the pieces (`mulPair_good`). -/
theorem C21_mod_sound (a b r : SI) (ha : a.WF) (hb : b.WF) (hbits : a.bits = b.bits) (hab : a.bottom = false)
    (hbb : b.bottom = false) (h : a.mod b = .ok r) :
    (r.WF ∧ r.bits = a.bits) ∧ ∀ x y, a.mem x → b.mem y → y ≠ 0 → r.mem (Conc.urem a.bits x y) :=
  let g := mod_sound_full a.bits a b r ⟨ha, rfl⟩ ⟨hb, hbits.symm⟩ hab hbb h
  ⟨g.1.1, g.2⟩

/-- the full statement holds -/
theorem C21_mod_full_holds : C21_mod_full := by
  intro a b r x y ha hb hbits hx hy hy0 h
  exact (C21_mod_sound a b r ha hb hbits hx.1 hy.1 h).2 x y hx hy hy0

/-- the special case of `C21_mod_sound` with an aligned divisor -/
theorem C21_mod_sound_partial (a b r : SI) (ha : a.WF) (hb : b.WF) (hbits : a.bits = b.bits) (hab : a.bottom = false)
    (hbb : b.bottom = false) (_hal : b.Aligned) (h : a.mod b = .ok r) :
    (r.WF ∧ r.bits = a.bits) ∧ ∀ x y, a.mem x → b.mem y → y ≠ 0 → r.mem (Conc.urem a.bits x y) :=
  C21_mod_sound a b r ha hb hbits hab hbb h

/-- non-vacuity: an UNALIGNED divisor `3[2,7]` (= {2, 5}) at 4 bits -/
example : ¬ ({ bits := 4, stride := 3, lb := 2, ub := 7 } : SI).Aligned ∧ (SI.new 4 3 13 6).mem 3 ∧
    ({ bits := 4, stride := 3, lb := 2, ub := 7 } : SI).mem 5 ∧
    (∃ r, (SI.new 4 3 13 6).mod { bits := 4, stride := 3, lb := 2, ub := 7 } = .ok r ∧ r.mem (Conc.urem 4 3 5) ∧
      r.mem (Conc.urem 4 13 2)) := by
  refine ⟨by decide, by decide, by decide, ⟨_, rfl, by decide, by decide⟩⟩

/-- non-vacuity: a wrapping dividend, a divisor interval -/
example : (SI.new 4 3 13 6).mem 3 ∧ (SI.new 4 2 3 7).mem 5 ∧ (SI.new 4 2 3 7).Aligned ∧
    (∃ r, (SI.new 4 3 13 6).mod (SI.new 4 2 3 7) = .ok r ∧ r.mem (Conc.urem 4 3 5) ∧ r.mem (Conc.urem 4 13 7)) := by
  refine ⟨by decide, by decide, by decide, ⟨_, rfl, by decide, by decide⟩⟩

/-! ## alignment (the upper bound is a member) is preserved by every transfer function

`mul`, `eq`/`ne` and `mod` are sound on ALIGNED operands only.  The theorems below show that alignment is an invariant of the
whole operation set of the backend: the result of every operation on aligned, non-empty, well-formed operands (in
constructor-normal form where the operation splits at the north pole) is aligned; `neg`, `not`, `and`, `xor`, `udiv` return
aligned intervals whatever the operands are, `sub` and `mod` only need the left operand aligned.  Technique: a non-empty interval
is aligned iff its upper bound is a member (`aligned_of_mem_ub`), and the upper bound of a result is the image of members of
the operands, so alignment of the result is the SOUNDNESS theorem at one point; joins of pieces by `lub_aligned`.  On the real
code: exhaustive at widths ≤ 3, sampled at 4–5 — the only operation of the class that breaks alignment is `widen` (C22). -/

theorem C21_add_aligned (a b : SI) (ha : a.WF) (hb : b.WF) (hbits : a.bits = b.bits) (hab : a.bottom = false)
    (hbb : b.bottom = false) (ala : a.Aligned) (alb : b.Aligned) : (a.add b).Aligned :=
  add_aligned a b ha hb hbits hab hbb ala alb

/-- the subtrahend need not be aligned -/
theorem C21_sub_aligned (a b : SI) (ha : a.WF) (hb : b.WF) (hbits : a.bits = b.bits) (hab : a.bottom = false)
    (hbb : b.bottom = false) (ala : a.Aligned) : (a.sub b).Aligned :=
  sub_aligned a b ha hb hbits hab hbb ala

/-- `neg` and `bitwise_not` return aligned intervals whatever the operand -/
theorem C21_neg_not_aligned (a : SI) (ha : a.WF) (hab : a.bottom = false) :
    a.neg.Aligned ∧ ∀ r, a.bitwiseNot = .ok r → r.Aligned :=
  ⟨neg_aligned a ha hab, fun r h => not_aligned a r ha hab h⟩

theorem C21_or_aligned (a b r : SI) (ha : a.WF) (hb : b.WF) (hbits : a.bits = b.bits) (hab : a.bottom = false)
    (hbb : b.bottom = false) (ala : a.Aligned) (alb : b.Aligned) (h : a.bitwiseOr b = .ok r) : r.Aligned :=
  or_aligned a b r ha hb hbits hab hbb ala alb h

/-- `bitwise_and`, `bitwise_xor` return aligned intervals whatever the operands -/
theorem C21_and_xor_aligned (a b r : SI) (ha : a.WF) (hb : b.WF) (hbits : a.bits = b.bits) (hab : a.bottom = false)
    (hbb : b.bottom = false) : (a.bitwiseAnd b = .ok r → r.Aligned) ∧ (a.bitwiseXor b = .ok r → r.Aligned) :=
  ⟨and_aligned a b r ha hb hbits hab hbb, xor_aligned a b r ha hb hbits hab hbb⟩

theorem C21_mul_result_aligned (a b r : SI) (ha : a.WF) (hb : b.WF) (hbits : a.bits = b.bits) (hab : a.bottom = false)
    (hbb : b.bottom = false) (hg : alignedNormal a b) (h : a.mul b = .ok r) : r.Aligned :=
  mul_aligned a.bits a b r ⟨ha, rfl⟩ ⟨hb, hbits.symm⟩ hab hbb hg.1 hg.2.1 hg.2.2.1 hg.2.2.2 h

/-- `udiv` returns an aligned interval whatever the operands and the iteration order of its result set -/
theorem C21_udiv_aligned (a b r : SI) (order : List Nat) (ha : a.WF) (hb : b.WF) (hbits : a.bits = b.bits)
    (hab : a.bottom = false) (hbb : b.bottom = false) (h : a.udiv b order = .ok r) : r.Aligned :=
  udiv_aligned a b r order ha hb hbits hab hbb h

theorem C21_mod_aligned (a b r : SI) (ha : a.WF) (hb : b.WF) (hbits : a.bits = b.bits) (hab : a.bottom = false)
    (hbb : b.bottom = false) (ala : a.Aligned) (alb : b.Aligned) (h : a.mod b = .ok r) : r.Aligned :=
  mod_aligned a.bits a b r ⟨ha, rfl⟩ ⟨hb, hbits.symm⟩ hab hbb ala alb h

/-- the three shifts by interval amounts (the amount may be anything) -/
theorem C21_shift_aligned (a amt r : SI) (ha : a.WF) (hab : a.bottom = false) (ala : a.Aligned) :
    (a.lshift amt = .ok r → r.Aligned) ∧ (a.rshiftLogical amt = .ok r → r.Aligned) ∧
    (a.renorm = a → a.rshiftArith amt = .ok r → r.Aligned) :=
  ⟨shl_aligned a amt r ha hab ala, lshr_aligned a amt r ha hab ala, fun hn => ashr_aligned a amt r ha hab hn ala⟩

theorem C21_cast_low_aligned (a r : SI) (tok : Nat) (ha : a.WF) (hab : a.bottom = false) (ht : 0 < tok) (ala : a.Aligned)
    (h : a.castLow tok = .ok r) : r.Aligned := castLow_aligned a r tok ha hab ht ala h

theorem C21_extract_aligned (a r : SI) (hi lo : Nat) (ha : a.WF) (hab : a.bottom = false) (hlo : lo ≤ hi) (hhi : hi < a.bits)
    (ala : a.Aligned) (h : a.extract hi lo = .ok r) : r.Aligned := extract_aligned a r hi lo ha hab hlo hhi ala h

theorem C21_ext_aligned (a r : SI) (nl : Nat) (ha : a.WF) (hab : a.bottom = false) (hnl : a.bits ≤ nl) (ala : a.Aligned) :
    (a.zeroExtend nl = .ok r → r.Aligned) ∧ (a.renorm = a → a.signExtend nl = .ok r → r.Aligned) :=
  ⟨zext_aligned a r nl ha hab hnl ala, fun hn => sext_aligned a r nl ha hab hn hnl ala⟩

theorem C21_concat_aligned (a b r : SI) (ha : a.WF) (hb : b.WF) (hab : a.bottom = false) (hbb : b.bottom = false)
    (ala : a.Aligned) (alb : b.Aligned) (h : a.concat b = .ok r) : r.Aligned :=
  concat_aligned a b r ha hb hab hbb ala alb h

/-- non-vacuity: aligned wrapping operands with odd strides; results computed by the model -/
example : (SI.new 4 3 13 6).Aligned ∧ (SI.new 4 5 1 11).Aligned ∧ ((SI.new 4 3 13 6).add (SI.new 4 5 1 11)).Aligned ∧
    (∃ r, (SI.new 4 3 13 6).bitwiseOr (SI.new 4 5 1 11) = .ok r ∧ r.Aligned) ∧
    (∃ r, (SI.new 4 3 13 6).mul (SI.new 4 5 1 11) = .ok r ∧ r.Aligned) ∧
    (∃ r, (SI.new 4 3 13 6).concat (SI.new 4 5 1 11) = .ok r ∧ r.Aligned) ∧
    (∃ r, (SI.new 4 3 13 6).signExtend 6 = .ok r ∧ r.Aligned) := by
  refine ⟨by decide, by decide, by decide, ⟨_, rfl, by decide⟩, ⟨_, rfl, by decide⟩, ⟨_, rfl, by decide⟩, ⟨_, rfl, by decide⟩⟩

/-- an UNALIGNED operand is re-aligned by `~`, `&`, `^`: `2[0,5]` at 3 bits is `{0,2,4}` -/
example : let u : SI := { bits := 3, stride := 2, lb := 0, ub := 5 }
    ¬ u.Aligned ∧ (∃ r, u.bitwiseNot = .ok r ∧ r.Aligned) ∧ (∃ r, u.bitwiseAnd (SI.new 3 0 6 6) = .ok r ∧ r.Aligned) := by
  refine ⟨by decide, ⟨_, rfl, by decide⟩, ⟨_, rfl, by decide⟩⟩

/-! ## bounded tests (not theorems) -/

theorem test_add_example : (SI.new 8 1 3 9).add (SI.new 8 2 0 6) = SI.new 8 1 3 15 := by decide

end Claripy.Props.C21

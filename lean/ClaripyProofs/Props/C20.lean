import Claripy.Conc.Shared
import Claripy.Gen.SharedState
import ClaripyProofs.Lemmas.Util.Assoc
/-!
# C20 — solvers used from several threads answer as if used alone (the part that is logic)

* `C20_all_classified` — every process-wide mutable binding in claripy's source (regenerated inventory) has a
  classification; a new shared cell that nobody classified breaks this theorem;
* `C20_interleave_eq_solo` — in the execution model (any number of threads, any interleaving, entries evicted at any
  time, duplicate insertions), every thread receives for each request exactly `f key`, i.e. exactly what it receives
  when it runs alone with an empty store: memo tables whose values are functions of their keys are transparent.
Not exhibited by this model: atomicity of single dict/set operations under the GIL, Z3 context thread-affinity, data races
inside Z3; these are exercised by the multi-threaded runs of the check.
-/
namespace Claripy.Props.C20
open Claripy.Conc

theorem C20_all_classified :
    Claripy.Gen.SharedState.cells.all (fun c => c.2.2 != .unclassified) = true := by decide +kernel

variable {K V : Type} [DecidableEq K]

def Coherent (f : K → V) (store : List (K × V)) : Prop := ∀ e ∈ store, e.2 = f e.1

/-- what thread `tid` has received so far is `f` of what it has asked so far -/
def OutputsOk (f : K → V) (progs : List (List K)) (s : Sys K V) : Prop :=
  s.pending.length = progs.length ∧ s.outputs.length = progs.length ∧
  ∀ (tid : Nat) (p : List K), progs[tid]? = some p →
    ∃ (done rest : List K) (outs : List V), p = done ++ rest ∧ s.pending[tid]? = some rest ∧ s.outputs[tid]? = some outs ∧
      outs.reverse = done.map f

theorem lookup_coherent (f : K → V) (store : List (K × V)) (hc : Coherent f store) (k : K) (v : V)
    (h : lookup store k = some v) : v = f k := by
  obtain ⟨k', hm, hk'⟩ := find?_snd_some (p := fun k' => decide (k' = k)) h
  exact (hc (k', v) hm).trans (congrArg f (of_decide_eq_true hk'))

theorem serve_spec (f : K → V) (store : List (K × V)) (hc : Coherent f store) (k : K) :
    (serve f store k).1 = f k ∧ Coherent f (serve f store k).2 := by
  unfold serve
  cases hl : lookup store k with
  | some w => exact ⟨lookup_coherent f store hc k w hl, hc⟩
  | none =>
    refine ⟨rfl, ?_⟩
    intro e he
    rcases List.mem_cons.mp he with rfl | he
    · rfl
    · exact hc e he

theorem step_inv (f : K → V) (progs : List (List K)) (s : Sys K V) (st : Step K)
    (hc : Coherent f s.store) (ho : OutputsOk f progs s) :
    Coherent f (step f s st).store ∧ OutputsOk f progs (step f s st) := by
  cases st with
  | evict k =>
    refine ⟨?_, by simpa [OutputsOk, step] using ho⟩
    intro e he
    simp [step] at he
    exact hc e he.1
  | run tid =>
    simp only [step]
    cases hp : s.pending[tid]? with
    | none => exact ⟨hc, ho⟩
    | some prog =>
      cases prog with
      | nil => exact ⟨hc, ho⟩
      | cons k rest =>
        simp only
        obtain ⟨hv, hcs⟩ := serve_spec f s.store hc k
        refine ⟨hcs, ?_⟩
        obtain ⟨hl1, hl2, hall⟩ := ho
        have htid : tid < s.pending.length := by
          rcases Nat.lt_or_ge tid s.pending.length with h | h
          · exact h
          · simp [List.getElem?_eq_none h] at hp
        refine ⟨by simp [hl1], by simp [hl2], ?_⟩
        intro t p hpt
        obtain ⟨done, rem, outs, hsplit, hpend, houts, hrev⟩ := hall t p hpt
        by_cases ht : tid = t
        · subst ht
          rw [hp] at hpend
          cases hpend
          refine ⟨done ++ [k], rest, f k :: outs, by simp [hsplit], ?_, ?_, ?_⟩
          · simp [List.getElem?_set_self htid]
          · have : tid < s.outputs.length := by omega
            simp [List.getElem?_set_self this, houts, hv]
          · simp [hrev]
        · refine ⟨done, rem, outs, hsplit, ?_, ?_, hrev⟩
          · rw [List.getElem?_set_ne ht]; exact hpend
          · rw [List.getElem?_set_ne ht]; exact houts

theorem init_ok (f : K → V) (progs : List (List K)) : Coherent f (initSys (V := V) progs).store ∧ OutputsOk f progs (initSys progs) := by
  refine ⟨by intro e he; simp [initSys] at he, by simp [initSys], by simp [initSys], ?_⟩
  intro tid p hp
  refine ⟨[], p, [], by simp, by simpa [initSys] using hp, ?_, by simp⟩
  simp only [initSys, List.getElem?_map, hp, Option.map_some]

theorem run_inv (f : K → V) (progs : List (List K)) (s : Sys K V) (sched : List (Step K))
    (hc : Coherent f s.store) (ho : OutputsOk f progs s) :
    Coherent f (runSteps f s sched).store ∧ OutputsOk f progs (runSteps f s sched) := by
  induction sched generalizing s with
  | nil => exact ⟨hc, ho⟩
  | cons st rest ih =>
    obtain ⟨h1, h2⟩ := step_inv f progs s st hc ho
    exact ih _ h1 h2

/-- **C20 (model)**: for ANY schedule (interleaving of any number of threads with evictions anywhere), every thread has
received, for the requests it has completed, exactly `f` of each requested key in order — which is what a thread
running alone on an empty store receives. -/
theorem C20_interleave_eq_solo (f : K → V) (progs : List (List K)) (sched : List (Step K)) (tid : Nat) (p : List K)
    (hp : progs[tid]? = some p) :
    ∃ (done rest : List K) (outs : List V), p = done ++ rest ∧ (runSteps f (initSys progs) sched).outputs[tid]? = some outs ∧
      outs.reverse = done.map f := by
  obtain ⟨hc, ho⟩ := init_ok (V := V) f progs
  obtain ⟨_, _, _, hall⟩ := run_inv f progs (initSys progs) sched hc ho
  obtain ⟨done, rest, outs, h1, _, h3, h4⟩ := hall tid p hp
  exact ⟨done, rest, outs, h1, h3, h4⟩

/-- non-vacuity: two threads, interleaved, with an eviction in the middle -/
example : (runSteps (fun k : Nat => k * k) (initSys [[2, 3], [3, 2]])
    [.run 0, .run 1, .evict 3, .run 1, .run 0]).outputs = [[9, 4], [4, 9]] := by decide

end Claripy.Props.C20

import Claripy.Gen.Z3Tables
import Claripy.Z3.Sem
import Claripy.Anno.Model
/-!
# C09 — solver-backed simplification preserves meaning and handles all claripy operators

The operator tables of `backend_z3` (regenerated from the live module on every run into `Claripy.Gen.Z3Tables`) are
checked, entry by entry, against the reference table `Claripy.Z3.Sem`:

* `C09_roundtrip_sem`   — for every claripy operation with a listed meaning: the Z3 kind it is translated to denotes
  that meaning, is mapped back by `op_map`, and the operation it comes back as has the same meaning;
* `C09_roundtrip_total` — every Z3 kind occurring in the translation of any sampled claripy operation (bit-vector,
  Boolean, floating point, incl. `fpIsNaN`/`fpIsInf`) is mapped back (`op_map` entry not None);
* `C09_opmap_sem`       — no entry of `op_map` sends a kind to an operation of a different meaning (this is the
  theorem the unrepaired `BSMOD ↦ SMod` entry violates);
* `C09_simplify_models` — `ConstrainedFrontend.simplify` keeps exactly the models, for any rewriter that preserves the
  models of the conjunction it is given.
Z3's own simplifier and tactics are trusted to preserve equivalence (validated by the oracle on every sampled case).
-/
namespace Claripy.Props.C09
open Claripy.Gen.Z3Tables Claripy.Z3

theorem C09_roundtrip_sem : fwd.all (fwdOk opMap) = true := by decide +kernel
theorem C09_roundtrip_total : fwd.all (totalOk opMap) = true := by decide +kernel
theorem C09_opmap_sem : opMap.all bwdOk = true := by decide +kernel

/-- the entry the unrepaired table contained is rejected by the backward check -/
theorem C09_bsmod_as_smod_rejected : bwdOk (.Z3_OP_BSMOD, some .SMod) = false := by decide

theorem all_partition {α : Type} (l : List α) (p q : α → Bool) :
    ((l.filter p).all q && (l.filter fun x => !p x).all q) = l.all q := by
  induction l with
  | nil => rfl
  | cons x xs ih =>
    simp only [List.all_cons, ← ih, List.filter]
    cases hp : p x <;> cases hq : q x <;> simp [hp, hq]
    all_goals (cases (xs.filter p).all q <;> simp)

open Claripy.Anno in
/-- **C09 (solver simplify keeps the models)**: `sat a c` says assignment `a` satisfies constraint `c`.  If the rewriter
returns a list with the same satisfying assignments as the list it was given, the solver's new constraint list has the
same satisfying assignments as the old one. -/
theorem C09_simplify_models {A : Type} (sat : A → AExpr → Bool) (constraints : List AExpr)
    (rewriter : List AExpr → List AExpr)
    (hrw : ∀ (a : A) (l : List AExpr), (rewriter l).all (sat a) = l.all (sat a)) (a : A) :
    (frontendSimplify constraints rewriter).all (sat a) = constraints.all (sat a) := by
  unfold frontendSimplify
  simp only
  split
  · rfl
  · rw [List.all_append, hrw]
    exact all_partition constraints hasAvoid (sat a)

end Claripy.Props.C09

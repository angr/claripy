import Claripy.AST.Truth
import ClaripyProofs.Props.C05
import ClaripyProofs.Lemmas.AST.Beq
import ClaripyProofs.Lemmas.Util.Assoc
/-!
# C10 — cheap truth checks never claim a truth value that does not hold (expression level)

`claripy.is_true(e)` / `is_false(e)` (and the `Bool` methods) for ANY history of queries, answered from caches or not:
a True answer implies that `e` denotes true (resp. false) under EVERY assignment.  A False answer promises nothing.
The solver-level versions (`Solver.is_true`) are handled with the solver family.
-/
namespace Claripy.Props.C10
open Claripy.AST

def Valid (e : Expr) : Prop := ∀ env : Env, eval env e = .bool true
def Unsat (e : Expr) : Prop := ∀ env : Env, eval env e = .bool false

theorem beq_val_true {v : Val} (h : (v == Val.bool true) = true) : v = .bool true := by
  simpa using h
theorem beq_val_false {v : Val} (h : (v == Val.bool false) = true) : v = .bool false := by
  simpa using h

theorem isTrueCore_sound (e : Expr) (h : isTrueCore e = true) : Valid e := by
  simp only [isTrueCore, Bool.and_eq_true] at h
  intro env
  have hsym : e.symbolic = false := by simp [Expr.symbolic, h.1]
  rw [Claripy.Props.C05.C05_concrete e hsym env env0]
  exact beq_val_true h.2

theorem isFalseCore_sound (e : Expr) (h : isFalseCore e = true) : Unsat e := by
  simp only [isFalseCore, Bool.and_eq_true] at h
  intro env
  have hsym : e.symbolic = false := by simp [Expr.symbolic, h.1]
  rw [Claripy.Props.C05.C05_concrete e hsym env env0]
  exact beq_val_false h.2

theorem beq_eq : ∀ (a b : Expr), Expr.beq a b = true → a = b := Expr.eq_of_beq
theorem beqList_eq : ∀ (as bs : List Expr), Expr.beqList as bs = true → as = bs := Expr.eq_of_beqList

def CacheInv (c : Caches) : Prop :=
  (∀ kv ∈ c.t, kv.2 = true → Valid kv.1) ∧ (∀ kv ∈ c.f, kv.2 = true → Unsat kv.1)

theorem lookup_mem {l : List (Expr × Bool)} {e : Expr} {v : Bool} (h : lookup l e = some v) : (e, v) ∈ l := by
  obtain ⟨k, hm, hk⟩ := find?_snd_some (p := (· == e)) h
  exact beq_eq _ _ hk ▸ hm

theorem inv_cons {P : Expr → Prop} {l : List (Expr × Bool)} (h : ∀ kv ∈ l, kv.2 = true → P kv.1) {e : Expr} {v : Bool}
    (hv : v = true → P e) : ∀ kv ∈ (e, v) :: l, kv.2 = true → P kv.1
  | _, .head _, ht => hv ht
  | kv, .tail _ hkv, ht => h kv hkv ht

theorem isTrue_step (c : Caches) (e : Expr) (hc : CacheInv c) :
    ((isTrue c e).1 = true → Valid e) ∧ CacheInv (isTrue c e).2 := by
  unfold Claripy.AST.isTrue
  cases hl : lookup c.t e with
  | some v => exact ⟨hc.1 (e, v) (lookup_mem hl), hc⟩
  | none =>
    refine ⟨isTrueCore_sound e, inv_cons hc.1 (isTrueCore_sound e), ?_⟩
    -- a True answer also records "not known to be false" in the other cache: an entry that claims nothing
    show ∀ kv ∈ (if isTrueCore e = true then (e, false) :: c.f else c.f), kv.2 = true → Unsat kv.1
    split
    · exact inv_cons hc.2 (fun h => nomatch h)
    · exact hc.2

theorem isFalse_step (c : Caches) (e : Expr) (hc : CacheInv c) :
    ((isFalse c e).1 = true → Unsat e) ∧ CacheInv (isFalse c e).2 := by
  unfold Claripy.AST.isFalse
  cases hl : lookup c.f e with
  | some v => exact ⟨hc.2 (e, v) (lookup_mem hl), hc⟩
  | none =>
    refine ⟨isFalseCore_sound e, ?_, inv_cons hc.2 (isFalseCore_sound e)⟩
    show ∀ kv ∈ (if isFalseCore e = true then (e, false) :: c.t else c.t), kv.2 = true → Valid kv.1
    split
    · exact inv_cons hc.1 (fun h => nomatch h)
    · exact hc.1

/-- what a True answer to a query means -/
def Holds : Query → Prop
  | .isTrue e => Valid e
  | .isFalse e => Unsat e

/-- **C10**: for ANY history of `is_true` / `is_false` queries starting from empty caches, every True answer is
correct (the i-th answer true ⇒ the i-th queried expression is valid, resp. unsatisfiable). -/
theorem C10_history (c : Caches) (hc : CacheInv c) : ∀ (qs : List Query),
    (∀ i (h : i < qs.length), (runQueries c qs).1[i]? = some true → Holds qs[i]) ∧ CacheInv (runQueries c qs).2
  | [] => ⟨fun i h => absurd h (by simp), hc⟩
  | q :: qs => by
    have hstep : ((answer c q).1 = true → Holds q) ∧ CacheInv (answer c q).2 := by
      cases q with
      | isTrue e => exact isTrue_step c e hc
      | isFalse e => exact isFalse_step c e hc
    obtain ⟨ih1, ih2⟩ := C10_history (answer c q).2 hstep.2 qs
    simp only [runQueries]
    refine ⟨?_, ih2⟩
    intro i hi ha
    cases i with
    | zero => simp at ha; exact hstep.1 ha
    | succ j =>
      simp at ha
      exact ih1 j (by simpa using hi) ha

theorem C10_from_empty (qs : List Query) :
    ∀ i (h : i < qs.length), (runQueries {} qs).1[i]? = some true → Holds qs[i] :=
  (C10_history {} ⟨by intro kv h; simp at h, by intro kv h; simp at h⟩ qs).1

/-- non-vacuity: an unfolded concrete expression is recognised, a symbolic tautology is (allowed to be) not -/
example : isTrueCore (.app .eq [.app .add [.bvv 3 8, .bvv 4 8], .bvv 7 8]) = true := by decide
example : isTrueCore (.app .eq [.bvs "x" 8, .bvs "x" 8]) = false := by decide

end Claripy.Props.C10

import Claripy.AST.Subst
import ClaripyProofs.Lemmas.AST.RulesSound
import ClaripyProofs.Lemmas.AST.IteRelocSound
import ClaripyProofs.Lemmas.AST.CanonInj
import ClaripyProofs.Lemmas.AST.LeafWalk
import ClaripyProofs.Lemmas.Util.InsertSort
/-!
# C08 — substitution, canonicalisation and ITE utilities preserve meaning

* `C08_replace_leaf` — substituting an expression for a variable (claripy.replace on a leaf key) denotes the original
  under the assignment that binds the variable to the value of the replacement (substitution lemma, all expressions);
* `C08_rename` / `C08_canonicalize` — canonicalize is a renaming: its value is the original's value under the renamed
  assignment;
* `C08_ite_cases` — `ite_cases` denotes the value of the first case whose condition holds, else the default;
* `C08_ite_dict` — the binary search tree of `ite_dict` denotes the same as the linear first-match table over the same
  entries, for ANY choice of split keys and any recursion depth (keys as unsigned values of the selector's width);
* `C08_excavate_step` — pulling an `If` out of an argument position of any operator preserves the value
  (the step `excavate_ite`/`burrow_ite` iterate);
* `C08_identical_vsa_route_unsound` — the pair the real `BV.identical` reports identical is not a renaming pair
  (recorded finding: the method answers through the VSA backend).
-/
namespace Claripy.Props.C08
open Claripy.AST

def Env.setBv (env : Env) (name : String) (v : Nat) : Env :=
  { env with bv := fun n => if n = name then v else env.bv n }

mutual
/-- every occurrence of the variable name has width `w` (claripy variables are name+width; the model's
assignments are keyed by name) -/
def onlyWidth (name : String) (w : Nat) : Expr → Bool
  | .bvs n w' => n ≠ name || w' = w
  | .app _ args => onlyWidthList name w args
  | _ => true
def onlyWidthList (name : String) (w : Nat) : List Expr → Bool
  | [] => true
  | e :: es => onlyWidth name w e && onlyWidthList name w es
end

mutual
theorem substBv_sound (env : Env) (name : String) (w v : Nat) (r : Expr) (hr : eval env r = .bv w v) :
    ∀ e : Expr, onlyWidth name w e = true → eval env (substBv name w r e) = eval (Env.setBv env name v) e
  | .bvv x w', _ => by simp [substBv, eval]
  | .bvs n w', h => by
    simp only [substBv]
    by_cases hc : n = name ∧ w' = w
    · obtain ⟨rfl, rfl⟩ := hc
      have hwf := eval_wf env r
      rw [hr] at hwf
      simp [hr, eval, Env.setBv, hwf.2, Nat.mod_eq_of_lt hwf.1]
    · simp only [hc, if_false]
      have hn : n ≠ name := by
        intro hn; subst hn
        simp [onlyWidth] at h
        exact hc ⟨rfl, h⟩
      simp [eval, Env.setBv, hn]
  | .boolv b, _ => by simp [substBv, eval]
  | .bools n, _ => by simp [substBv, eval, Env.setBv]
  | .app op args, h => by
    simp only [substBv, eval]
    rw [substBvList_sound env name w v r hr args (by simpa [onlyWidth] using h)]
theorem substBvList_sound (env : Env) (name : String) (w v : Nat) (r : Expr) (hr : eval env r = .bv w v) :
    ∀ es : List Expr, onlyWidthList name w es = true →
      evalList env (substBvList name w r es) = evalList (Env.setBv env name v) es
  | [], _ => by simp [substBvList, evalList]
  | e :: es, h => by
    simp only [onlyWidthList, Bool.and_eq_true] at h
    simp only [substBvList, evalList]
    rw [substBv_sound env name w v r hr e h.1, substBvList_sound env name w v r hr es h.2]
end

/-- **C08 (replace)**: substitution lemma. -/
theorem C08_replace_leaf (env : Env) (name : String) (w v : Nat) (r e : Expr) (hr : eval env r = .bv w v)
    (h : onlyWidth name w e = true) : eval env (substBv name w r e) = eval (Env.setBv env name v) e :=
  substBv_sound env name w v r hr e h

def Env.comp (env : Env) (ρ : String → String) : Env := { bv := fun n => env.bv (ρ n), bool := fun n => env.bool (ρ n) }

mutual
theorem rename_sound (env : Env) (ρ : String → String) : ∀ e : Expr, eval env (rename ρ e) = eval (Env.comp env ρ) e
  | .bvv _ _ => by simp [rename, eval]
  | .bvs n w => by simp [rename, eval, Env.comp]
  | .boolv _ => by simp [rename, eval]
  | .bools n => by simp [rename, eval, Env.comp]
  | .app op args => by simp only [rename, eval]; rw [renameList_sound env ρ args]
theorem renameList_sound (env : Env) (ρ : String → String) :
    ∀ es : List Expr, evalList env (renameList ρ es) = evalList (Env.comp env ρ) es
  | [] => by simp [renameList, evalList]
  | e :: es => by simp only [renameList, evalList]; rw [rename_sound env ρ e, renameList_sound env ρ es]
end

/-- **C08 (rename)**: a renamed expression denotes the original under the renamed assignment. -/
theorem C08_rename (env : Env) (ρ : String → String) (e : Expr) : eval env (rename ρ e) = eval (Env.comp env ρ) e :=
  rename_sound env ρ e

/-- **C08 (canonicalize)**: `canonicalize` is such a renaming. -/
theorem C08_canonicalize (env : Env) (e : Expr) :
    ∃ ρ : String → String, canonicalize e = rename ρ e ∧ eval env (canonicalize e) = eval (Env.comp env ρ) e :=
  ⟨_, rfl, rename_sound env _ e⟩

/-- **C08 (canonicalize is a renaming that merges nothing)**: two variables among the leaves `canonicalize` walks
(`leaf_asts()`) that have different names get different canonical names (`C08_canonicalize_injective_full` adds that the
walk reaches every variable). -/
theorem C08_canonicalize_injective (e : Expr) (l1 l2 : Expr) (h1 : l1 ∈ leafAsts e) (h2 : l2 ∈ leafAsts e)
    (n1 n2 : String) (hn1 : leafName l1 = some n1) (hn2 : leafName l2 = some n2) (hne : n1 ≠ n2) :
    canonicalize e = rename (canonRho e) e ∧ canonRho e n1 ≠ canonRho e n2 :=
  ⟨rfl, canonRho_injective e l1 l2 h1 h2 n1 n2 hn1 hn2 hne⟩

theorem leafName_isLeaf (l : Expr) (n : String) (h : leafName l = some n) : l.isLeaf = true := by
  cases l <;> simp [leafName, Expr.isLeaf] at h ⊢

/-- **C08 (canonicalize, full statement)**: any two variables that occur anywhere in the expression and have different
names get different canonical names — the walk reaches every leaf (`leafAsts_complete`: the fuel of the modelled stack walk
is never exhausted, whatever sharing the expression has) and the numbering never repeats. -/
theorem C08_canonicalize_injective_full (e : Expr) (l1 l2 : Expr) (h1 : l1 ∈ e.subs) (h2 : l2 ∈ e.subs)
    (n1 n2 : String) (hn1 : leafName l1 = some n1) (hn2 : leafName l2 = some n2) (hne : n1 ≠ n2) :
    canonRho e n1 ≠ canonRho e n2 :=
  canonRho_injective e l1 l2 (leafAsts_complete e l1 h1 (leafName_isLeaf l1 n1 hn1))
    (leafAsts_complete e l2 h2 (leafName_isLeaf l2 n2 hn2)) n1 n2 hn1 hn2 hne

/-- the right-to-left walk: the second operand is leaf 0, the first is leaf 1; a variable that already has a canonical
name is renamed like any other (here to itself) -/
example : (canonicalize (.app .add [.bvs "a" 8, .bvs "canonical_0" 8]) == .app .add [.bvs "canonical_1" 8, .bvs "canonical_0" 8]) = true := by
  decide +kernel

def evalCases (env : Env) : List (Expr × Expr) → Expr → Val
  | [], d => eval env d
  | cv :: rest, d => valIte (eval env cv.1) (eval env cv.2) (evalCases env rest d)

theorem iteCases_eval (env : Env) (cs : List (Expr × Expr)) (d : Expr) :
    eval env (iteCases cs d) = evalCases env cs d := by
  induction cs with
  | nil => rfl
  | cons cv rest ih =>
    simp only [iteCases, List.foldr] at ih ⊢
    simp only [eval, evalList, applyOp, evalCases, ih]

def WellTypedCases (env : Env) (cs : List (Expr × Expr)) (d : Expr) : Prop :=
  ∀ cv ∈ cs, (∃ b, eval env cv.1 = .bool b) ∧ sameTy (eval env cv.2) (eval env d)

theorem sameTy_refl_of_left {a b : Val} (h : sameTy a b) : sameTy a a := by
  cases a <;> cases b <;> simp_all [sameTy]
theorem sameTy_refl_of_right {a b : Val} (h : sameTy a b) : sameTy b b := by
  cases a <;> cases b <;> simp_all [sameTy]

theorem evalCases_sameTy (env : Env) (cs : List (Expr × Expr)) (d : Expr) (hd : sameTy (eval env d) (eval env d))
    (hwt : WellTypedCases env cs d) : sameTy (evalCases env cs d) (eval env d) := by
  induction cs with
  | nil => exact hd
  | cons cv rest ih =>
    obtain ⟨⟨b, hb⟩, hty⟩ := hwt cv (List.mem_cons_self ..)
    have ih' := ih (fun x hx => hwt x (List.mem_cons_of_mem _ hx))
    simp only [evalCases, hb]
    rw [valIte_of_sameTy b _ _ (sameTy_trans hty (sameTy_symm ih'))]
    cases b <;> simp [hty, ih']

/-- **C08 (ite_cases)**: the expression denotes the value of the first case whose condition is true, else the default. -/
theorem C08_ite_cases (env : Env) (cs : List (Expr × Expr)) (d : Expr) (hd : sameTy (eval env d) (eval env d))
    (hwt : WellTypedCases env cs d) :
    eval env (iteCases cs d) =
      match cs.find? (fun cv => eval env cv.1 == .bool true) with
      | some cv => eval env cv.2
      | none => eval env d := by
  rw [iteCases_eval]
  induction cs with
  | nil => rfl
  | cons cv rest ih =>
    obtain ⟨⟨b, hb⟩, hty⟩ := hwt cv (List.mem_cons_self ..)
    have hrest : WellTypedCases env rest d := fun x hx => hwt x (List.mem_cons_of_mem _ hx)
    have hty' := evalCases_sameTy env rest d hd hrest
    simp only [evalCases, hb, List.find?]
    rw [valIte_of_sameTy b _ _ (sameTy_trans hty (sameTy_symm hty'))]
    cases b
    · simp only [Bool.false_eq_true, if_false]
      have : (Val.bool false == Val.bool true) = false := by decide
      simp only [this]
      exact ih hrest
    · have : (Val.bool true == Val.bool true) = true := by decide
      simp [this]

theorem evalCases_filter (env : Env) (cs : List (Expr × Expr)) (d : Expr) (hd : sameTy (eval env d) (eval env d))
    (hwt : WellTypedCases env cs d) (keep : Expr × Expr → Bool)
    (hkeep : ∀ cv ∈ cs, keep cv = false → eval env cv.1 = .bool false) :
    evalCases env (cs.filter keep) d = evalCases env cs d := by
  induction cs with
  | nil => rfl
  | cons cv rest ih =>
    have hrest : WellTypedCases env rest d := fun x hx => hwt x (List.mem_cons_of_mem _ hx)
    have ih' := ih hrest (fun x hx => hkeep x (List.mem_cons_of_mem _ hx))
    obtain ⟨⟨b, hb⟩, hty⟩ := hwt cv (List.mem_cons_self ..)
    have hty' := evalCases_sameTy env rest d hd hrest
    simp only [List.filter]
    cases hk : keep cv with
    | true => simp only [evalCases, ih']
    | false =>
      have hf := hkeep cv (List.mem_cons_self ..) hk
      simp only [evalCases, hf]
      rw [valIte_of_sameTy false _ _ (sameTy_trans hty (sameTy_symm hty'))]
      simpa using ih'

def liftPred (p : Nat × Expr → Bool) (cv : Expr × Expr) : Bool :=
  match cv.1 with
  | .app .eq [_, .bvv k _] => p (k, cv.2)
  | _ => true

theorem liftPred_linear (p : Nat × Expr → Bool) (i : Expr) (w : Nat) (kv : Nat × Expr) :
    liftPred p (.app .eq [i, .bvv kv.1 w], kv.2) = p kv := by
  cases kv; rfl

theorem linearCases_filter (i : Expr) (w : Nat) (d : List (Nat × Expr)) (p : Nat × Expr → Bool) :
    linearCases i w (d.filter p) = (linearCases i w d).filter (liftPred p) := by
  induction d with
  | nil => rfl
  | cons kv rest ih =>
    simp only [linearCases, List.filter, List.map] at ih ⊢
    cases hp : p kv <;> simp [hp, ih, liftPred_linear]

structure DictOK (env : Env) (i : Expr) (w : Nat) (d : List (Nat × Expr)) (dflt : Expr) : Prop where
  sel : ∃ x : BitVec w, eval env i = Val.ofBV x ∧ 0 < w
  keys : ∀ kv ∈ d, kv.1 < 2 ^ w
  vals : ∀ kv ∈ d, sameTy (eval env kv.2) (eval env dflt)
  dflt : sameTy (eval env dflt) (eval env dflt)

theorem DictOK.filter {env i w d dflt} (h : DictOK env i w d dflt) (p : Nat × Expr → Bool) :
    DictOK env i w (d.filter p) dflt :=
  ⟨h.sel, fun kv hkv => h.keys kv ((List.mem_filter.1 hkv).1), fun kv hkv => h.vals kv ((List.mem_filter.1 hkv).1), h.dflt⟩

theorem linear_wellTyped {env i w d dflt} (h : DictOK env i w d dflt) : WellTypedCases env (linearCases i w d) dflt := by
  intro cv hcv
  simp only [linearCases, List.mem_map] at hcv
  obtain ⟨kv, hkv, rfl⟩ := hcv
  obtain ⟨x, hx, hw⟩ := h.sel
  refine ⟨?_, h.vals kv hkv⟩
  simp only [eval_app, evalList_cons, evalList_nil, applyOp, hx, eval_bvv env kv.1 w hw, valEq_ofBV _ _ hw]
  exact ⟨_, rfl⟩

theorem DictOK.sameTy {env i w d dflt} (h : DictOK env i w d dflt) :
    sameTy (evalCases env (linearCases i w d) dflt) (eval env dflt) :=
  evalCases_sameTy env _ dflt h.dflt (linear_wellTyped h)

/-- entries that a predicate on keys rejects cannot match a selector that it accepts: dropping them leaves the value of
the linear table as it is -/
theorem DictOK.filter_eq {env i w d dflt} (h : DictOK env i w d dflt) {x : BitVec w} (hx : eval env i = Val.ofBV x)
    (p : Nat → Bool) (hp : p x.toNat = true) :
    evalCases env (linearCases i w (d.filter fun kv => p kv.1)) dflt = evalCases env (linearCases i w d) dflt := by
  obtain ⟨_, _, hw⟩ := h.sel
  rw [linearCases_filter]
  refine evalCases_filter env _ dflt h.dflt (linear_wellTyped h) _ fun cv hcv hk => ?_
  simp only [linearCases, List.mem_map] at hcv
  obtain ⟨kv, hkv, rfl⟩ := hcv
  rw [liftPred_linear] at hk
  simp only [eval_app, evalList_cons, evalList_nil, applyOp, hx, eval_bvv env kv.1 w hw, valEq_ofBV _ _ hw]
  congr 1
  refine beq_eq_false_iff_ne.2 fun he => ?_
  rw [he, BitVec.toNat_ofNat, Nat.mod_eq_of_lt (h.keys kv hkv), hk] at hp
  cases hp

/-- **C08 (ite_dict)**: for any split function and any recursion depth, the search tree denotes exactly what the
linear first-match table over the same entries denotes. -/
theorem C08_ite_dict (env : Env) (split : List (Nat × Expr) → Nat) (i : Expr) (w : Nat) (dflt : Expr)
    (hsplit : ∀ d' : List (Nat × Expr), (∀ kv ∈ d', kv.1 < 2 ^ w) → split d' < 2 ^ w) :
    ∀ (fuel : Nat) (d : List (Nat × Expr)), DictOK env i w d dflt →
      eval env (iteDict split i w dflt fuel d) = eval env (iteCases (linearCases i w d) dflt)
  | 0, d, _ => rfl
  | fuel + 1, d, hok => by
    simp only [iteDict]
    split
    · rfl
    · obtain ⟨x, hx, hw⟩ := hok.sel
      have hokL := hok.filter fun kv => decide (kv.1 ≤ split d)
      have hokH := hok.filter fun kv => decide (¬ kv.1 ≤ split d)
      simp only [eval_app, evalList_cons, evalList_nil, applyOp]
      rw [C08_ite_dict env split i w dflt hsplit fuel _ hokL, C08_ite_dict env split i w dflt hsplit fuel _ hokH,
        iteCases_eval, iteCases_eval, iteCases_eval, hx, eval_bvv env (split d) w hw, bvCmp_ofBV _ _ _ hw,
        valIte_of_sameTy _ _ _ (sameTy_trans hokL.sameTy (sameTy_symm hokH.sameTy))]
      -- the selector lies in one half; the other half holds no key equal to it
      have hule : BitVec.ule x (BitVec.ofNat w (split d)) = decide (x.toNat ≤ split d) := by
        rw [BitVec.ule, BitVec.toNat_ofNat, Nat.mod_eq_of_lt (hsplit d hok.keys)]
      rw [hule]
      by_cases hle : x.toNat ≤ split d
      · rw [decide_eq_true hle, if_pos rfl]
        exact hok.filter_eq hx (fun k => decide (k ≤ split d)) (decide_eq_true hle)
      · rw [decide_eq_false hle, if_neg Bool.false_ne_true]
        exact hok.filter_eq hx (fun k => decide (¬ k ≤ split d)) (decide_eq_true hle)

theorem mem_insertSorted (x y : Nat) (l : List Nat) : y ∈ insertSorted x l ↔ y = x ∨ y ∈ l := by
  induction l with
  | nil => simp [insertSorted]
  | cons a as ih =>
    simp only [insertSorted]
    split
    · simp
    · simp only [List.mem_cons, ih]; constructor <;> (intro h; rcases h with h | h | h <;> simp [h])

theorem mem_sortNat (y : Nat) (l : List Nat) : y ∈ sortNat l ↔ y ∈ l :=
  mem_foldr_ins (ins := insertSorted) (fun x l y => mem_insertSorted x y l) l y

/-- the median key `ite_dict` really uses is one of the keys (or 0 for an empty table), hence in range -/
theorem medianKey_lt (w : Nat) (d : List (Nat × Expr)) (h : ∀ kv ∈ d, kv.1 < 2 ^ w) : medianKey d < 2 ^ w := by
  unfold medianKey
  simp only
  rw [List.getD_eq_getElem?_getD]
  cases hg : (sortNat (d.map (·.1)))[((sortNat (d.map (·.1))).length - 1) / 2]? with
  | none => exact Nat.two_pow_pos w
  | some k =>
    simp only [Option.getD_some]
    have hm : k ∈ sortNat (d.map (·.1)) := List.mem_of_getElem? hg
    rw [mem_sortNat, List.mem_map] at hm
    obtain ⟨kv, hkv, rfl⟩ := hm
    exact h kv hkv

/-- **C08 (ite_dict, as implemented)**: with the median split of the real code. -/
theorem C08_ite_dict_median (env : Env) (i : Expr) (w : Nat) (dflt : Expr) (fuel : Nat) (d : List (Nat × Expr))
    (hok : DictOK env i w d dflt) :
    eval env (iteDict medianKey i w dflt fuel d) = eval env (iteCases (linearCases i w d) dflt) :=
  C08_ite_dict env medianKey i w dflt (medianKey_lt w) fuel d hok

theorem evalList_congr_at (env : Env) (pre post : List Expr) (x y : Expr) (hxy : eval env x = eval env y) :
    evalList env (pre ++ x :: post) = evalList env (pre ++ y :: post) := by
  induction pre with
  | nil => simp [evalList, hxy]
  | cons p ps ih => simp [evalList, ih]

/-- **C08 (excavate step)**: an `If` in any argument position of any operator can be pulled to the top. -/
theorem C08_excavate_step (env : Env) (op : Op) (pre post : List Expr) (c a b : Expr) (cb : Bool)
    (hc : eval env c = .bool cb) (hty : sameTy (eval env a) (eval env b))
    (htop : sameTy (eval env (.app op (pre ++ a :: post))) (eval env (.app op (pre ++ b :: post)))) :
    eval env (.app op (pre ++ (.app .ite [c, a, b]) :: post)) =
      eval env (.app .ite [c, .app op (pre ++ a :: post), .app op (pre ++ b :: post)]) := by
  have hite : eval env (.app .ite [c, a, b]) = if cb then eval env a else eval env b := by
    simp only [eval_app, evalList_cons, evalList_nil, applyOp, hc]
    exact valIte_of_sameTy cb _ _ hty
  have hlist := evalList_congr_at env pre post
  rw [eval_app env .ite, evalList_cons, evalList_cons, evalList_cons, evalList_nil]
  simp only [applyOp, hc]
  rw [valIte_of_sameTy cb _ _ htop]
  cases cb
  · simp only [Bool.false_eq_true, if_false] at hite ⊢
    rw [eval_app, eval_app, hlist _ _ hite]
  · simp only [if_true] at hite ⊢
    rw [eval_app, eval_app, hlist _ _ hite]

/-- **C08 (excavate_ite)**: the model of `_excavate_ite` (Claripy/AST/IteReloc.lean: bottom-up, pulling every `If` whose condition
is the first `If` argument's condition or its negation to the top of each node, giving up on other conditions) preserves the
value of EVERY well-typed expression under every assignment — for any node constructor and any negation constructor that
preserve values (`MkSound`, `NotSound`: what C01 establishes for the real simplifying constructors). -/
theorem C08_excavate_sound (mk : Op → List Expr → Expr) (notOf : Expr → Expr) (hmk : MkSound mk) (hnot : NotSound notOf)
    (env : Env) (e : Expr) (h : eval env e ≠ .err) : eval env (excavate mk notOf e) = eval env e :=
  excavate_sound mk notOf hmk hnot env e h

/-- the instance the driver runs: raw node constructor, `boolean_not_simplifier` for `~cond` -/
theorem C08_excavate_model_sound (env : Env) (e : Expr) (h : eval env e ≠ .err) :
    eval env (excavate (fun op args => .app op args) mkNot e) = eval env e :=
  excavate_sound _ _ mkSound_raw notSound_mkNot env e h

/-- with the constructor that rewrites every new node by the proven rule table (as `make_like(simplify=True)` / `claripy.If` do):
C01's rule soundness discharges the constructor hypothesis -/
theorem C08_excavate_rules_sound (env : Env) (e : Expr) (h : eval env e ≠ .err) :
    eval env (excavate mkRules mkNotR e) = eval env e :=
  excavate_sound _ _ mkSound_rules notSound_mkNotR env e h

/-- **C08 (burrow_ite)**: the model of `_burrow_ite` (with the guard of the repaired code: the inner `If` is built only over
operands of one sort and size) preserves the value of every well-typed expression, for every recursion budget. -/
theorem C08_burrow_sound (mk : Op → List Expr → Expr) (hmk : MkSound mk) (env : Env) (fuel : Nat) (e : Expr)
    (h : eval env e ≠ .err) : eval env (burrow mk fuel e) = eval env e :=
  burrow_sound mk hmk env fuel e h

/-- without the size guard the step is wrong: the inner `If` of `If(c, x[3:0], y[3:0])` with `x`, `y` of different sizes is
ill-typed although the outer expression is well-typed (the defect repaired in the real `_burrow_ite`) -/
theorem C08_burrow_unguarded_ill_typed :
    let env : Env := ⟨fun _ => 0, fun _ => true⟩
    eval env (.app .ite [.bools "c", .app (.extract 3 0) [.bvs "x" 8], .app (.extract 3 0) [.bvs "y" 16]]) ≠ .err ∧
    eval env (.app (.extract 3 0) [.app .ite [.bools "c", .bvs "x" 8, .bvs "y" 16]]) = .err := by
  decide

/-- The real `BV.identical` answers True for `x + 1` and `x + 2` (both abstract to TOP in the VSA backend), but no
renaming of variables maps one to the other. -/
theorem C08_identical_vsa_route_unsound (ρ : String → String) :
    rename ρ (.app .add [.bvs "x" 8, .bvv 1 8]) ≠ .app .add [.bvs "x" 8, .bvv 2 8] := by
  simp [rename, renameList]

/-- non-vacuity of the ite_dict hypotheses: an 8-bit selector and a four-entry table -/
example : DictOK ⟨fun _ => 255, fun _ => false⟩ (.bvs "i" 8) 8
    [(255, .bvv 1 8), (5, .bvv 2 8), (7, .bvv 3 8), (9, .bvv 4 8)] (.bvv 0 8) :=
  ⟨⟨255#8, by decide, by decide⟩, by decide,
   by intro kv hkv; simp at hkv; rcases hkv with rfl | rfl | rfl | rfl <;> simp [eval, sameTy],
   by simp [eval, sameTy]⟩

end Claripy.Props.C08

import ClaripyProofs.Lemmas.AST.WT
/-!
# C04 — building and folding well-typed expressions never crashes

Model side of the property: eager folding (`Claripy.AST.foldOp`, the model of
`backends.concrete.call`) of a well-typed, well-sized constant node returns a value or one of the two
documented errors (division by zero, byte-reversal of a non-byte width) — never an unrelated exception
(`Err.crash`, `Err.sizeMismatch`).  All model functions are total Lean definitions (structural
recursion / folds over lists), so "never hangs" holds of the model by construction; the rewrite table
is a finite list of non-recursive pattern matches.  The correspondence check compares the model's
outcome (value / error kind) with the real exception kind on boundary inputs.
-/
namespace Claripy.Props.C04
open Claripy.AST Claripy.BV

/-- the outcomes the property allows -/
def Documented : Except Err CVal → Prop
  | .ok _ => True
  | .error .divZero => True
  | .error .reverseNonByte => True
  | .error _ => False

theorem bin_documented (f : Nat → Nat → Nat → R) (w x y : Nat) (hw : 0 < w)
    (hf : Documented ((f w x y).map fun r => CVal.bv r w)) : Documented (bin f (.bv x w) (.bv y w)) := by
  simp only [bin, sized2, hw, and_self, if_true]
  cases h : f w x y with
  | ok r => simp [h, Documented, bind, Except.bind, pure, Except.pure]
  | error e => rw [h] at hf; simpa [h, Documented, bind, Except.bind, Except.map] using hf

theorem reduceL_bin_documented (f : Nat → Nat → Nat → R) (hf : ∀ w x y, ∃ r, f w x y = .ok r)
    (w : Nat) (hw : 0 < w) (vs : List CVal) (hvs : allBV w vs) (hne : vs ≠ []) :
    ∃ r, reduceL (bin f) vs = .ok (.bv r w) := by
  cases vs with
  | nil => exact absurd rfl hne
  | cons v vs =>
    obtain ⟨x, rfl⟩ := hvs v (List.mem_cons_self ..)
    simp only [reduceL]
    have hvs' : allBV w vs := fun u hu => hvs u (List.mem_cons_of_mem _ hu)
    clear hvs hne
    induction vs generalizing x with
    | nil => exact ⟨x, rfl⟩
    | cons u us ih =>
      obtain ⟨y, rfl⟩ := hvs' u (List.mem_cons_self ..)
      obtain ⟨r, hr⟩ := hf w x y
      simp only [List.foldlM, bin, sized2, hw, and_self, if_true, hr, bind, Except.bind, pure, Except.pure]
      exact ih r (fun v hv => hvs' v (List.mem_cons_of_mem _ hv))

theorem cmp_documented (f : Nat → Nat → Nat → Bool) (w x y : Nat) (hw : 0 < w) : Documented (cmp f (.bv x w) (.bv y w)) := by
  simp [cmp, sized2, hw, Documented]

theorem nary_documented (f : Nat → Nat → Nat → R) (hf : ∀ w x y, ∃ r, f w x y = .ok r) (vs : List CVal)
    (h : ∃ w, 0 < w ∧ 2 ≤ vs.length ∧ allBV w vs) : Documented (reduceL (bin f) vs) := by
  obtain ⟨w, hw, hl, hbv⟩ := h
  obtain ⟨r, hr⟩ := reduceL_bin_documented f hf w hw vs hbv (by intro e; subst e; simp at hl)
  rw [hr]
  trivial

theorem mask_self_ne_zero {w : Nat} (hw : 0 < w) : mask w (w : Int) ≠ 0 := by
  unfold mask
  have h1 : (w : Int) % (2 ^ w : Int) = (w : Int) := by
    apply Int.emod_eq_of_lt (by omega)
    exact_mod_cast (Nat.lt_two_pow_self : w < 2 ^ w)
  rw [h1]; simp; omega

theorem shl_ne_error (w a b : Nat) (e : Err) : shl w a b ≠ .error e := by
  unfold shl; split <;> simp

/-- the rotations go through `umod` by the (non-zero) width, `shl`, `sub`, `lshr`, `or_`, none of which raises -/
theorem rotl_documented (w x y : Nat) (hw : 0 < w) : Documented ((rotl w x y).map fun r => CVal.bv r w) := by
  have hmw := mask_self_ne_zero hw
  simp only [rotl, umod, hmw, if_false, bind, Except.bind, sub, or_, lshr]
  split
  · rename_i heq; exact absurd heq (shl_ne_error _ _ _ _)
  · simp [Documented, Except.map]
theorem rotr_documented (w x y : Nat) (hw : 0 < w) : Documented ((rotr w x y).map fun r => CVal.bv r w) := by
  have hmw := mask_self_ne_zero hw
  simp only [rotr, umod, hmw, if_false, bind, Except.bind, sub, or_, lshr]
  split
  · rename_i heq; exact absurd heq (shl_ne_error _ _ _ _)
  · simp [Documented, Except.map]

theorem ite_ok {c : Prop} [Decidable c] {a b : R} (ha : ∃ r, a = .ok r) (hb : ∃ r, b = .ok r) :
    ∃ r, (if c then a else b) = .ok r := by
  split <;> assumption

theorem reverse_cases (w x : Nat) : (∃ r, reverse w x = .ok r) ∨ reverse w x = .error .reverseNonByte := by
  unfold reverse
  by_cases h8 : w = 8
  · exact .inl ⟨_, if_pos h8⟩
  · rw [if_neg h8]
    by_cases hm : w % 8 ≠ 0
    · exact .inr (if_pos hm)
    · rw [if_neg hm]
      exact .inl (ite_ok ⟨_, rfl⟩ (ite_ok ⟨_, rfl⟩ (ite_ok ⟨_, rfl⟩ ⟨_, rfl⟩)))

/-- **C04 (model)**: folding a well-typed constant node yields a value or a documented error, for every
operator, width and constant. -/
theorem C04_fold_documented (op : Op) (vs : List CVal) (h : WT op vs) : Documented (foldOp op vs) := by
  cases op
  -- the operators of `bv.py` raise only the two documented errors; the others are tests on the operands' shape, settled by `WT`
  case add => exact nary_documented add (fun _ _ _ => ⟨_, rfl⟩) vs h
  case mul => exact nary_documented mul (fun _ _ _ => ⟨_, rfl⟩) vs h
  case band => exact nary_documented and_ (fun _ _ _ => ⟨_, rfl⟩) vs h
  case bor => exact nary_documented or_ (fun _ _ _ => ⟨_, rfl⟩) vs h
  case bxor => exact nary_documented xor_ (fun _ _ _ => ⟨_, rfl⟩) vs h
  -- `WT` makes `sub` binary, `foldOp` reduces it like the n-ary operators
  case sub =>
    obtain ⟨w, x, y, hw, rfl⟩ := h
    refine nary_documented sub (fun _ _ _ => ⟨_, rfl⟩) [.bv x w, .bv y w] ⟨w, hw, Nat.le_refl 2, fun v hv => ?_⟩
    simp only [List.mem_cons, List.mem_nil_iff, or_false] at hv
    rcases hv with rfl | rfl <;> exact ⟨_, rfl⟩
  -- the four divisions: the `split` is on the divisor being zero, the one error being `divZero`
  case udiv =>
    obtain ⟨w, x, y, hw, rfl⟩ := h
    exact bin_documented _ w x y hw (by unfold udiv; split <;> simp [Documented, Except.map])
  case umod =>
    obtain ⟨w, x, y, hw, rfl⟩ := h
    exact bin_documented _ w x y hw (by unfold umod; split <;> simp [Documented, Except.map])
  case sdiv =>
    obtain ⟨w, x, y, hw, rfl⟩ := h
    exact bin_documented _ w x y hw (by unfold sdiv; simp only []; split <;> simp [Documented, Except.map])
  case smod =>
    obtain ⟨w, x, y, hw, rfl⟩ := h
    exact bin_documented _ w x y hw (by unfold smod; simp only []; split <;> simp [Documented, Except.map])
  -- `shl` tests for a shift by the width or more; both branches return a value
  case shl =>
    obtain ⟨w, x, y, hw, rfl⟩ := h
    exact bin_documented _ w x y hw (by unfold shl; split <;> simp [Documented, Except.map])
  case ashr =>
    obtain ⟨w, x, y, hw, rfl⟩ := h
    exact bin_documented ashr w x y hw (by simp [ashr, Documented, Except.map])
  case lshr =>
    obtain ⟨w, x, y, hw, rfl⟩ := h
    exact bin_documented lshr w x y hw (by simp [lshr, Documented, Except.map])
  case rotl =>
    obtain ⟨w, x, y, hw, rfl⟩ := h
    exact bin_documented _ w x y hw (rotl_documented w x y hw)
  case rotr =>
    obtain ⟨w, x, y, hw, rfl⟩ := h
    exact bin_documented _ w x y hw (rotr_documented w x y hw)
  case ult | ule | ugt | uge | slt | sle | sgt | sge =>
    obtain ⟨w, x, y, hw, rfl⟩ := h
    exact cmp_documented _ w x y hw
  -- `WT` gives both bit-vectors the same width, so the test that raises `sizeMismatch` succeeds
  case eq | ne =>
    rcases h with ⟨w, x, y, hw, rfl⟩ | ⟨a, b, rfl⟩ <;> simp [foldOp, Documented]
  -- here and wherever `trivial` closes the case, `foldOp` on the operands `WT` gives reduces to `.ok _`
  case bnot | neg =>
    obtain ⟨w, x, hw, rfl⟩ := h
    trivial
  case reverse =>
    obtain ⟨w, x, hw, rfl⟩ := h
    show Documented (do let r ← reverse w x; pure (.bv r w))
    rcases reverse_cases w x with ⟨r, hr⟩ | hr <;> rw [hr] <;> trivial
  case extract hi lo =>
    obtain ⟨w, x, _, _, rfl⟩ := h
    trivial
  case zeroExt n | signExt n =>
    obtain ⟨w, x, hw, rfl⟩ := h
    trivial
  -- all operands are bit-vectors, so `filterMap pairOf` drops none: the test `foldOp` makes before it concatenates
  case concat =>
    replace h := h.2
    simp only [foldOp]
    have : (vs.filterMap pairOf).length = vs.length := by
      induction vs with
      | nil => rfl
      | cons v vs ih =>
        obtain ⟨x, w, rfl⟩ := h v (List.mem_cons_self ..)
        simp [List.filterMap, pairOf, ih (fun u hu => h u (List.mem_cons_of_mem _ hu))]
    split
    · simp [Documented]
    · contradiction
  case ite =>
    obtain ⟨c, t, f, rfl, _⟩ := h
    trivial
  case and => exact (boolAll_val vs h.2 ▸ trivial : Documented (boolAll vs))
  case or => exact (boolAny_val vs h.2 ▸ trivial : Documented (boolAny vs))
  case not =>
    obtain ⟨b, rfl⟩ := h
    trivial

/-- non-vacuity: a concrete well-typed node with an extreme shift amount folds to a value -/
example : foldOp .shl [.bv 1 64, .bv (2 ^ 62) 64] = .ok (.bv 0 64) := by rfl
example : WT .shl [.bv 1 64, .bv (2 ^ 62) 64] := ⟨64, 1, 2 ^ 62, by decide, rfl⟩
example : foldOp .udiv [.bv 7 8, .bv 0 8] = .error .divZero := by rfl

end Claripy.Props.C04

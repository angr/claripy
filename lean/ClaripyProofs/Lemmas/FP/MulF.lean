import ClaripyProofs.Lemmas.FP.FoldF
/-! FLOAT multiplication: the binary64 product of two binary32 values is EXACT (48 significant bits, exponent well inside the
binary64 range), so the fold performs a single rounding (`struct.pack('f')`) — the specification's, for every operand. -/
namespace Claripy.FP.Fold
open Claripy.FP

theorem narrow_mul_widen (a b : Nat) : narrow (mul D .RNE (widen a) (widen b)) = mul F .RNE a b := by
  unfold mul
  rw [isNaN_widen, isNaN_widen]
  cases hna : isNaN F a
  case true => exact narrow_nan
  cases hnb : isNaN F b
  case true => exact narrow_nan
  obtain ⟨ia, za, sa⟩ := widen_class a hna
  obtain ⟨ib, zb, sb⟩ := widen_class b hnb
  simp only [ia, ib, za, zb, sa, sb, Bool.or_self, Bool.false_eq_true, if_false, apply_ite narrow, narrow_nan, narrow_inf]
  refine ite_congr rfl (fun _ => rfl) fun hinf => ?_
  · simp only [Bool.or_eq_true, not_or, Bool.not_eq_true] at hinf
    have hfa := finite_of_not_nan_inf F a hna hinf.1
    have hfb := finite_of_not_nan_inf F b hnb hinf.2
    rw [sval_widen a hfa, sval_widen b hfb, Dq, Fq]
    obtain ⟨siga, ea, hva, hsa, hea⟩ := sval_F_form (magOf F a) hfa
    obtain ⟨sigb, eb, hvb, hsb, heb⟩ := sval_F_form (magOf F b) hfb
    -- the exact product is a double: 48 significant bits, exponent well inside the range
    have hM : siga * sigb < 2 ^ 24 * 2 ^ 24 := Nat.mul_lt_mul'' hsa hsb
    obtain ⟨g3, hg3f, hg3v⟩ := dyadic_D (siga * sigb) (ea + eb + 776) 48 (by omega) (by decide) (by omega)
    have hprod : sval D g3 = sval F (magOf F a) * sval F (magOf F b) * 2 ^ 776 := by
      rw [hg3v, hva, hvb, Nat.mul_mul_mul_comm, ← Nat.pow_add, Nat.mul_assoc (siga * sigb), ← Nat.pow_add]
    generalize sval F (magOf F a) = A at *
    generalize sval F (magOf F b) = B at *
    have hv : A * 2 ^ 925 * (B * 2 ^ 925) = sval D g3 * 2 ^ 1074 := by
      rw [hprod, Nat.mul_mul_mul_comm, Nat.mul_assoc (A * B), ← Nat.pow_add, ← Nat.pow_add]
    have e : (2 : Nat) ^ 925 = 2 ^ 149 * 2 ^ 776 := by rw [← Nat.pow_add]
    rw [roundS_exact' D wf64 .RNE _ g3 _ _ (Nat.two_pow_pos _) hg3f hv, narrow_finite _ g3 hg3f, hprod, e]
    exact roundS_scale F .RNE _ _ _ _ (Nat.two_pow_pos _) (Nat.two_pow_pos _)

theorem fpMul_F (rm : RM) (a b : Nat) : fpMul F rm a b = mul F .RNE a b := by
  unfold fpMul pyMul; rw [lift_F, lift_F, lower_F]; exact narrow_mul_widen a b

end Claripy.FP.Fold

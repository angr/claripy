import Claripy.FP.Fold
/-! The generated rounding-mode table and `decimal`'s rounding against SMT-LIB's `roundToIntegral`; for DOUBLE the model of claripy's
folding is the specification at round-to-nearest-even. -/
namespace Claripy.FP

/-- the decimal constant that implements each SMT-LIB rounding mode -/
def smtlibDecimal : RM → DecRounding
  | .RNE => .halfEven | .RNA => .halfUp | .RTP => .ceiling | .RTN => .floor | .RTZ => .down

theorem decRoundUp_smtlib (rm : RM) (neg odd : Bool) (rem dd : Nat) :
    decRoundUp (smtlibDecimal rm) neg odd rem dd = roundUp rm neg odd rem dd := by
  cases rm <;> rfl

theorem decToIntegral_smtlib (f : Fmt) (rm : RM) (a : Nat) :
    decToIntegral f (smtlibDecimal rm) a = toIntegral f rm a := by
  unfold decToIntegral toIntegral toIntegralMag
  simp only [decRoundUp_smtlib]

/-- `ROUND_UP`, upstream claripy's table entry for RNA (defect D06, fixed in /repo), is not round-to-nearest-away -/
theorem roundUp_up_ne_rna : decRoundUp .up false false 1 5 ≠ roundUp .RNA false false 1 5 := by decide

end Claripy.FP

namespace Claripy.FP.Fold
open Claripy.FP

theorem lift_F (a : Nat) : lift F a = widen a := if_pos rfl
theorem lower_F (d : Nat) : lower F d = narrow d := if_pos rfl

theorem lower_D (d : Nat) : lower D d = d := by
  unfold lower; rw [if_neg (by decide)]

theorem lift_D_notnan (a : Nat) (h : a < 2 ^ 64) (hn : isNaN D a = false) : lift D a = a := by
  unfold lift
  rw [if_neg (by decide), hn]
  simp only [Bool.false_eq_true, if_false]
  exact Nat.mod_eq_of_lt h

theorem lift_D_nan (a : Nat) (hn : isNaN D a = true) : lift D a = D.nanBits := by
  unfold lift; rw [if_neg (by decide), hn]; rfl

theorem isNaN_nanBits_D : isNaN D D.nanBits = true := by decide

/-- the float inside an FPV: the operand itself, or the canonical NaN -/
theorem lift_D_cases (a : Nat) (h : a < 2 ^ 64) :
    (isNaN D a = false ∧ lift D a = a) ∨ (isNaN D a = true ∧ lift D a = D.nanBits) := by
  cases hn : isNaN D a
  · exact Or.inl ⟨rfl, lift_D_notnan a h hn⟩
  · exact Or.inr ⟨rfl, lift_D_nan a hn⟩

/-- an operation with one and the same result `c` as soon as one operand is NaN does not see that `lift` replaces a NaN operand by
the canonical NaN -/
theorem lift_D_strict {α : Type} (op : Nat → Nat → α) (c : α) (hl : ∀ a b, isNaN D a = true → op a b = c)
    (hr : ∀ a b, isNaN D b = true → op a b = c) (a b : Nat) (ha : a < 2 ^ 64) (hb : b < 2 ^ 64) :
    op (lift D a) (lift D b) = op a b := by
  rcases lift_D_cases a ha with ⟨na, la⟩ | ⟨na, la⟩ <;> rcases lift_D_cases b hb with ⟨nb, lb⟩ | ⟨nb, lb⟩ <;> rw [la, lb]
  · rw [hr _ _ isNaN_nanBits_D, hr _ _ nb]
  · rw [hl _ _ isNaN_nanBits_D, hl _ _ na]
  · rw [hl _ _ isNaN_nanBits_D, hl _ _ na]

theorem add_nan_left (rm : RM) (a b : Nat) (h : isNaN D a = true) : add D rm a b = D.nanBits := by
  unfold add; simp [h]
theorem add_nan_right (rm : RM) (a b : Nat) (h : isNaN D b = true) : add D rm a b = D.nanBits := by
  unfold add; simp [h]

theorem fpAdd_D (rm : RM) (a b : Nat) (ha : a < 2 ^ 64) (hb : b < 2 ^ 64) : fpAdd D rm a b = add D .RNE a b := by
  unfold fpAdd pyAdd; rw [lower_D]
  exact lift_D_strict (add D .RNE) _ (add_nan_left _) (add_nan_right _) a b ha hb

theorem neg_nan (a : Nat) (h : isNaN D a = true) : isNaN D (neg D a) = true := by
  unfold neg isNaN magOf at *
  have hm : a % D.signBit < D.signBit := Nat.mod_lt _ (by decide)
  split
  · rw [Nat.mod_eq_of_lt hm]; exact h
  · have : (D.signBit + a % D.signBit) % D.signBit = a % D.signBit := by
      rw [Nat.add_mod_left, Nat.mod_eq_of_lt hm]
    rw [this]; exact h

theorem sub_nan_left (rm : RM) (a b : Nat) (h : isNaN D a = true) : sub D rm a b = D.nanBits := by
  unfold sub; split
  · rfl
  · exact add_nan_left _ _ _ h
theorem sub_nan_right (rm : RM) (a b : Nat) (h : isNaN D b = true) : sub D rm a b = D.nanBits := by
  unfold sub; simp [h]

theorem fpSub_D (rm : RM) (a b : Nat) (ha : a < 2 ^ 64) (hb : b < 2 ^ 64) : fpSub D rm a b = sub D .RNE a b := by
  unfold fpSub pySub; rw [lower_D]
  exact lift_D_strict (sub D .RNE) _ (sub_nan_left _) (sub_nan_right _) a b ha hb

theorem mul_nan_left (rm : RM) (a b : Nat) (h : isNaN D a = true) : mul D rm a b = D.nanBits := by
  unfold mul; simp [h]
theorem mul_nan_right (rm : RM) (a b : Nat) (h : isNaN D b = true) : mul D rm a b = D.nanBits := by
  unfold mul; simp [h]

theorem fpMul_D (rm : RM) (a b : Nat) (ha : a < 2 ^ 64) (hb : b < 2 ^ 64) : fpMul D rm a b = mul D .RNE a b := by
  unfold fpMul pyMul; rw [lower_D]
  exact lift_D_strict (mul D .RNE) _ (mul_nan_left _) (mul_nan_right _) a b ha hb

theorem div_nan_left (rm : RM) (a b : Nat) (h : isNaN D a = true) : div D rm a b = D.nanBits := by
  unfold div; simp [h]
theorem div_nan_right (rm : RM) (a b : Nat) (h : isNaN D b = true) : div D rm a b = D.nanBits := by
  unfold div; simp [h]

theorem isZero_not_nan (a : Nat) (h : isZero D a = true) : isNaN D a = false := by
  unfold isZero isNaN at *
  simp only [decide_eq_true_eq] at h
  simp [h]
theorem isZero_not_inf (a : Nat) (h : isZero D a = true) : isInf D a = false := by
  unfold isZero isInf at *
  simp only [decide_eq_true_eq] at h
  rw [h]; decide
theorem isInf_not_zero (a : Nat) (h : isInf D a = true) : isZero D a = false := by
  cases hz : isZero D a
  · rfl
  · rw [isZero_not_inf a hz] at h; exact absurd h (by decide)

/-- the `ZeroDivisionError` branch computes what IEEE-754 says for a zero divisor -/
theorem divByZero_spec (rm : RM) (a b : Nat) (hb : isZero D b = true) (ha : isNaN D a = false) :
    divByZero a b = div D rm a b := by
  have hbn := isZero_not_nan b hb
  have hbi := isZero_not_inf b hb
  unfold divByZero div
  simp only [ha, hbn, hbi, hb, Bool.or_false, Bool.false_eq_true, if_false, if_true]
  cases hai : isInf D a
  · cases haz : isZero D a <;> simp
    · cases signOf D a <;> cases signOf D b <;> rfl
  · have haz := isInf_not_zero a hai
    simp [haz]
    cases signOf D a <;> cases signOf D b <;> rfl

/-- the fold of a division (Python's `/`, or `_div_by_zero` after the ZeroDivisionError) is the binary64 quotient of the Python floats -/
theorem fpDiv_eq (fmt : Fmt) (rm : RM) (a b : Nat) : fpDiv fmt rm a b = lower fmt (div D .RNE (lift fmt a) (lift fmt b)) := by
  unfold fpDiv pyDiv
  cases hz : isZero D (lift fmt b)
  · rfl
  · cases hn : isNaN D (lift fmt a)
    · simp only [if_true]; rw [divByZero_spec .RNE _ _ hz hn]
    · rw [div_nan_left _ _ _ hn]; unfold divByZero; simp [hn]

theorem fpDiv_D (rm : RM) (a b : Nat) (ha : a < 2 ^ 64) (hb : b < 2 ^ 64) : fpDiv D rm a b = div D .RNE a b := by
  rw [fpDiv_eq, lower_D]
  exact lift_D_strict (div D .RNE) _ (div_nan_left _) (div_nan_right _) a b ha hb

/-- a finite pattern has a negative value exactly when its sign bit is set and its value is not zero -/
theorem sintOf_neg_iff (f : Fmt) (a : Nat) : sintOf f a < 0 ↔ signOf f a = true ∧ sval f (magOf f a) ≠ 0 := by
  unfold sintOf; split <;> simp [*] <;> omega

/-- below `+0`: negative and not a zero (`-inf` included) -/
theorem flt_zero_imp (a : Nat) (h : flt D a (mkBits D false 0) = true) : isZero D a = false ∧ signOf D a = true := by
  have hi0 : isInf D (mkBits D false 0) = false := by decide
  have hs0 : sintOf D (mkBits D false 0) = 0 := by decide
  simp only [flt, cmp, hi0, hs0, Bool.and_eq_true, beq_iff_eq, Bool.false_eq_true, if_false] at h
  obtain ⟨_, hc⟩ := h
  split at hc
  · rename_i hai
    exact ⟨isInf_not_zero a hai, by split at hc <;> simp_all⟩
  · obtain ⟨hs, hv⟩ := (sintOf_neg_iff D a).1 (Int.compare_eq_lt.1 hc)
    refine ⟨?_, hs⟩
    cases hz : isZero D a
    · rfl
    · have : magOf D a = 0 := by simpa [isZero] using hz
      rw [this] at hv; exact absurd (by decide) hv

theorem sqrt_nan (rm : RM) (a : Nat) (h : isNaN D a = true) : sqrt D rm a = D.nanBits := by
  unfold sqrt; simp [h]

/-- the fold of a square root (`nan if value < 0 else math.sqrt(value)`) is the binary64 square root of the Python float -/
theorem fpSqrt_eq (fmt : Fmt) (rm : RM) (a : Nat) : fpSqrt fmt rm a = lower fmt (sqrt D .RNE (lift fmt a)) := by
  unfold fpSqrt pySqrt
  dsimp only
  cases hf : flt D (lift fmt a) (mkBits D false 0)
  · simp only [Bool.false_eq_true, if_false]
  · obtain ⟨hz, hs⟩ := flt_zero_imp _ hf
    have hnn : isNaN D (lift fmt a) = false := by
      unfold flt unordered at hf; simp at hf; exact hf.1.1
    unfold sqrt; simp only [hnn, hz, hs, Bool.false_eq_true, if_false, if_true]

theorem fpSqrt_D (rm : RM) (a : Nat) (ha : a < 2 ^ 64) : fpSqrt D rm a = sqrt D .RNE a := by
  rw [fpSqrt_eq, lower_D]
  rcases lift_D_cases a ha with ⟨_, la⟩ | ⟨na, la⟩ <;> rw [la]
  rw [sqrt_nan _ _ isNaN_nanBits_D, sqrt_nan _ _ na]

/-- negation and absolute value act on the sign bit only (NaN stays NaN; its payload is unspecified) -/
theorem fpNeg_D (a : Nat) (ha : a < 2 ^ 64) (hn : isNaN D a = false) : fpNeg D a = neg D a := by
  unfold fpNeg; rw [lower_D, lift_D_notnan a ha hn]
theorem fpAbs_D (a : Nat) (ha : a < 2 ^ 64) (hn : isNaN D a = false) : fpAbs D a = abs D a := by
  unfold fpAbs; rw [lower_D, lift_D_notnan a ha hn]

theorem cmp_D (a b : Nat) (ha : a < 2 ^ 64) (hb : b < 2 ^ 64) :
    fpEQ D a b = feq D a b ∧ fpNEQ D a b = fneq D a b ∧ fpLT D a b = flt D a b ∧ fpLEQ D a b = fleq D a b ∧
    fpGT D a b = fgt D a b ∧ fpGEQ D a b = fgeq D a b := by
  refine ⟨lift_D_strict (feq D) false ?_ ?_ a b ha hb, lift_D_strict (fneq D) true ?_ ?_ a b ha hb,
    lift_D_strict (flt D) false ?_ ?_ a b ha hb, lift_D_strict (fleq D) false ?_ ?_ a b ha hb,
    lift_D_strict (fgt D) false ?_ ?_ a b ha hb, lift_D_strict (fgeq D) false ?_ ?_ a b ha hb⟩
  all_goals
    intro a b h
    simp [feq, fneq, flt, fleq, fgt, fgeq, unordered, h]

theorem class_D (a : Nat) (ha : a < 2 ^ 64) : fpIsNaN D a = isNaN D a ∧ fpIsInf D a = isInf D a := by
  unfold fpIsNaN fpIsInf
  rcases lift_D_cases a ha with ⟨na, la⟩ | ⟨na, la⟩ <;> rw [la]
  · simp
  · refine ⟨by rw [isNaN_nanBits_D, na], ?_⟩
    have : isInf D D.nanBits = false := by decide
    rw [this]
    unfold isNaN at na; unfold isInf
    simp only [decide_eq_true_eq] at na
    simp; omega

theorem toSBV_some (f : Fmt) (rm : RM) (a w v : Nat) (h : toSBV f rm a w = some v) :
    isFinite f a = true ∧ v = (toIntegral f rm a % (2 ^ w : Int)).toNat := by
  unfold toSBV at h
  cases hfin : isFinite f a
  · simp [hfin] at h
  · simp only [hfin, Bool.not_true, Bool.false_eq_true, if_false] at h
    split at h
    · exact ⟨rfl, (Option.some.inj h).symm⟩
    · exact absurd h (by simp)

theorem toUBV_some (f : Fmt) (rm : RM) (a w v : Nat) (h : toUBV f rm a w = some v) :
    isFinite f a = true ∧ v = (toIntegral f rm a % (2 ^ w : Int)).toNat := by
  unfold toUBV at h
  cases hfin : isFinite f a
  · simp [hfin] at h
  · simp only [hfin, Bool.not_true, Bool.false_eq_true, if_false] at h
    split at h
    · rename_i hr
      refine ⟨rfl, ?_⟩
      rw [← Option.some.inj h, Int.emod_eq_of_lt hr.1 (by omega)]
    · exact absurd h (by simp)

/-- `fpToSBV`/`fpToUBV`: when the Python float inside the FPV is finite and rounds to the same integer as the operand, the fold
computes that integer modulo `2^size` — for whatever table the translator generated, as long as it is the SMT-LIB one -/
theorem fpToBV_finite (fmt : Fmt) (rm : RM) (a w : Nat) (htab : Claripy.Gen.rmToDecimal = smtlibDecimal)
    (hf : isFinite D (lift fmt a) = true) (hi : toIntegral D rm (lift fmt a) = toIntegral fmt rm a) :
    fpToBV fmt rm a w = (toIntegral fmt rm a % (2 ^ w : Int)).toNat := by
  unfold fpToBV
  dsimp only
  rw [hf, htab, decToIntegral_smtlib, hi]
  rfl

theorem notNaN_of_finite (f : Fmt) (a : Nat) (h : isFinite f a = true) : isNaN f a = false := by
  unfold isFinite at h; unfold isNaN
  simp only [decide_eq_true_eq] at h; simp; omega

theorem fpToBV_D (rm : RM) (a w v : Nat) (ha : a < 2 ^ 64) (htab : Claripy.Gen.rmToDecimal = smtlibDecimal) :
    (toSBV D rm a w = some v → fpToBV D rm a w = v) ∧ (toUBV D rm a w = some v → fpToBV D rm a w = v) := by
  have key : isFinite D a = true → fpToBV D rm a w = (toIntegral D rm a % (2 ^ w : Int)).toNat := fun hfin => by
    have hl := lift_D_notnan a ha (notNaN_of_finite D a hfin)
    exact fpToBV_finite D rm a w htab (by rw [hl, hfin]) (by rw [hl])
  constructor <;> intro h
  · obtain ⟨hfin, rfl⟩ := toSBV_some D rm a w v h
    exact key hfin
  · obtain ⟨hfin, rfl⟩ := toUBV_some D rm a w v h
    exact key hfin

end Claripy.FP.Fold

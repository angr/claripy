import ClaripyProofs.Lemmas.FP.FoldF
/-!
# Rounding to binary64 and then to binary32 (both to nearest even)

`double_round`: let `x = sc/den` (in binary32 units `2^-149`) be below the binary32 overflow threshold, `lo` the binary32 floor of `x`
and `y` the binary64 rounding of `x`.  If `y` is the midpoint of `lo` and its successor ONLY WHEN `x` itself is that midpoint
(`NoFalseTie`), then rounding `y` to binary32 gives the binary32 rounding of `x`.  The proof needs nothing about the first rounding
except that it is monotone and the identity on binary64 values (`round_ge_of_le`, `round_le_of_ge`, `round_exact'`), and that binary32
values and the midpoints of adjacent binary32 values are binary64 values.

`narrow_roundS` carries this through `roundS` and `narrow`: for every rational `x ≥ 0`, packing the binary64 rounding of `±x` as
binary32 gives the binary32 rounding of `±x`; a first rounding to zero or to infinity and overflow of binary32 are covered.

`no_false_tie_of_gap`: if `x` is not the midpoint `mid` of its two binary32 neighbours (quantum `2^sh`) and its distance from `mid` is
at least `2^(sh-28)` — `2^-28` binary32 ulp —, then the binary64 values `mid ± 2^(sh-28)` (`(2m+1) * 2^27 ± 1` is a 52-bit
significand) separate the binary64 rounding of `x` from `mid`.
-/
namespace Claripy.FP.Fold
open Claripy.FP

theorem sval_le_iff (f : Fmt) {a b : Nat} : sval f a ≤ sval f b ↔ a ≤ b := by
  constructor
  · intro h; apply Classical.byContradiction; intro hc
    have := sval_strictMono f (show b < a by omega); omega
  · exact sval_mono f

/-- the first rounding does not create a binary32 tie that was not there -/
def NoFalseTie (sc den : Nat) : Prop :=
  2 * sval D (roundScaled D .RNE false (sc * 2 ^ 925) den) =
      (sval F (floorMag F sc den) + sval F (floorMag F sc den + 1)) * 2 ^ 925 →
    2 * sc = (sval F (floorMag F sc den) + sval F (floorMag F sc den + 1)) * den

/-- DOUBLE ROUNDING: if the binary64 rounding `y` of `x = sc/den` is a binary32 midpoint only when `x` is that midpoint,
the binary32 rounding of `y` is the binary32 rounding of `x` (round to nearest even, twice): `y` lies between the binary32
neighbours of `x` and on the same side of their midpoint, a binary64 value, as `x` -/
theorem double_round (neg : Bool) (sc den : Nat) (hden : 0 < den) (hR : sc < sval F F.infMag * den) (H : NoFalseTie sc den) :
    roundScaled F .RNE neg (sval D (roundScaled D .RNE false (sc * 2 ^ 925) den)) (2 ^ 925) = roundScaled F .RNE neg sc den := by
  unfold NoFalseTie at H
  have hu : 0 < 2 ^ 925 := Nat.two_pow_pos _
  have hRD := D_inRange_of_F sc den hR
  have hlof := floorMag_finite F sc den hden hR
  obtain ⟨fl1, fl2⟩ := floor_law F sc den hden
  rw [round_rne F wf32 neg sc den hden hR]
  generalize floorMag F sc den = lo at *
  obtain ⟨gl, _, hgl⟩ := F_val_repr lo (by omega)
  obtain ⟨gh, _, hgh⟩ := F_val_repr (lo + 1) (by omega)
  obtain ⟨gm, hgmf, hgm⟩ := F_mid_repr lo (by omega)
  have hmono := fun g => round_ge_of_le D wf64 .RNE false (sc * 2 ^ 925) den g hden hRD
  have hmono' := fun g => round_le_of_ge D wf64 .RNE false (sc * 2 ^ 925) den g hden hRD
  have hexact := fun h => round_exact' D wf64 .RNE false gm (sc * 2 ^ 925) den hden hgmf h
  generalize roundScaled D .RNE false (sc * 2 ^ 925) den = y at *
  -- the binary64 rounding stays between the two binary32 neighbours
  have hyl : sval F lo * 2 ^ 925 ≤ sval D y := by
    rw [← hgl]; apply sval_mono; apply hmono
    rw [hgl, Nat.mul_right_comm]; exact Nat.mul_le_mul_right _ fl1
  have hyh : sval D y ≤ sval F (lo + 1) * 2 ^ 925 := by
    rw [← hgh]; apply sval_mono; apply hmono'
    rw [hgh, Nat.mul_right_comm]; exact Nat.mul_le_mul_right _ (Nat.le_of_lt fl2)
  rw [round_rne_between F wf32 neg (sval D y) (2 ^ 925) lo hu hlof hyl hyh]
  -- ... and on the same side of the midpoint `gm`
  generalize sval F lo + sval F (lo + 1) = M at *
  have hmid : 2 * (sval D gm * den) = M * den * 2 ^ 925 := by rw [← Nat.mul_assoc, hgm, Nat.mul_right_comm]
  have hbelow : 2 * sc < M * den → sval D y ≤ sval D gm := fun hc => by
    apply sval_mono; apply hmono'
    have := Nat.mul_lt_mul_of_pos_right hc hu
    omega
  have habove : M * den < 2 * sc → sval D gm ≤ sval D y := fun hc => by
    apply sval_mono; apply hmono
    have := Nat.mul_lt_mul_of_pos_right hc hu
    omega
  have hat : 2 * sc = M * den → sval D y = sval D gm := fun hc => by
    rw [hexact (by rw [← hc] at hmid; omega)]
  generalize sval D y = v at *
  generalize sval D gm = vm at *
  generalize M * 2 ^ 925 = MU at *
  exact rnePick_congr (by omega) (by omega)

theorem roundScaled_rne_sign (f : Fmt) (n1 n2 : Bool) (sc den : Nat) :
    roundScaled f .RNE n1 sc den = roundScaled f .RNE n2 sc den := by
  unfold roundScaled roundUp; rfl

theorem round_overflow_F (neg : Bool) (sc den : Nat) (hden : 0 < den) (h : sval F F.infMag * den ≤ sc) :
    roundScaled F .RNE neg sc den = F.infMag := by
  rw [round_overflow F wf32 .RNE neg sc den hden h]
  rfl

theorem roundScaled_le_infMag (f : Fmt) (wf : WF f) (neg : Bool) (sc den : Nat) (hden : 0 < den) :
    roundScaled f .RNE neg sc den ≤ f.infMag := by
  by_cases hR : sc < sval f f.infMag * den
  · exact round_le_of_ge f wf .RNE neg sc den _ hden hR (Nat.le_of_lt hR)
  · rw [round_overflow f wf .RNE neg sc den hden (by omega)]
    exact Nat.le_refl _

theorem narrow_roundS (neg : Bool) (sc den : Nat) (hden : 0 < den)
    (H : sc < sval F F.infMag * den → NoFalseTie sc den) :
    narrow (roundS D .RNE neg (sc * 2 ^ 925) den) = roundS F .RNE neg sc den := by
  have hu : 0 < 2 ^ 925 := Nat.two_pow_pos _
  rw [roundS_eq D wf64 _ _ _ _ hden, roundS_eq F wf32 _ _ _ _ hden, roundScaled_rne_sign D neg false]
  obtain ⟨gi, hgif, hgi⟩ := F_val_repr F.infMag (Nat.le_refl _)
  have hyle := roundScaled_le_infMag D wf64 false (sc * 2 ^ 925) den hden
  by_cases hR : sc < sval F F.infMag * den
  · have hyf : roundScaled D .RNE false (sc * 2 ^ 925) den < D.infMag :=
      Nat.lt_of_le_of_lt (round_le_of_ge D wf64 .RNE false _ den gi hden (D_inRange_of_F sc den hR)
        (by rw [hgi, Nat.mul_right_comm]; exact Nat.mul_le_mul_right _ (Nat.le_of_lt hR))) hgif
    rw [narrow_finite _ _ hyf, roundS_eq F wf32 _ _ _ _ hu, double_round neg sc den hden hR (H hR)]
  · -- binary32 overflow: the binary64 result is infinity or a finite value beyond the binary32 range
    have hge : sval F F.infMag * den ≤ sc := by omega
    rw [round_overflow_F neg sc den hden hge]
    by_cases hyf : roundScaled D .RNE false (sc * 2 ^ 925) den < D.infMag
    · have hRD : sc * 2 ^ 925 < sval D D.infMag * den := by
        apply Classical.byContradiction; intro hc
        rw [round_overflow D wf64 .RNE false _ den hden (by omega)] at hyf
        exact Nat.lt_irrefl _ hyf
      have hyi := round_ge_of_le D wf64 .RNE false _ den gi hden hRD
        (by rw [hgi, Nat.mul_right_comm]; exact Nat.mul_le_mul_right _ hge)
      rw [narrow_finite _ _ hyf, roundS_eq F wf32 _ _ _ _ hu,
        round_overflow_F neg _ _ hu (by rw [← hgi]; exact sval_mono D hyi)]
    · rw [show roundScaled D .RNE false (sc * 2 ^ 925) den = D.infMag by omega]; exact narrow_inf neg

/-- `x = sc/den` at least `Δ/2` above the midpoint `M * S / 2`, `Δ ≥ S * 2^-27`: the value `(M * 2^27 + 1) * S * 2^-28` is `≤ x` -/
theorem gap_above (M S den sc Δ Y : Nat) (h : 2 * sc = M * (den * S) + Δ) (hg : den * S ≤ Δ * 2 ^ 27) :
    (M * 2 ^ 27 + 1) * (S * Y) * den ≤ sc * (2 ^ 28 * Y) := by
  have e1 : (M * 2 ^ 27 + 1) * (S * Y) * den = (2 ^ 27 * (M * (den * S)) + den * S) * Y := by grind
  have e2 : sc * (2 ^ 28 * Y) = (2 ^ 28 * sc) * Y := by grind
  rw [e1, e2]
  exact Nat.mul_le_mul_right _ (by omega)

theorem gap_below (M S den sc Δ Y : Nat) (hM : 1 ≤ M) (h : 2 * sc + Δ = M * (den * S)) (hg : den * S ≤ Δ * 2 ^ 27) :
    sc * (2 ^ 28 * Y) ≤ (M * 2 ^ 27 - 1) * (S * Y) * den := by
  have hMdd : den * S ≤ M * (den * S) := Nat.le_mul_of_pos_left _ hM
  have e1 : (M * 2 ^ 27 - 1) * (S * Y) * den = (2 ^ 27 * (M * (den * S)) - den * S) * Y := by
    have a1 : M * 2 ^ 27 * (S * Y) * den = 2 ^ 27 * (M * (den * S)) * Y := by grind
    have a2 : 1 * (S * Y) * den = den * S * Y := by grind
    rw [Nat.sub_mul, Nat.sub_mul, Nat.sub_mul, a1, a2]
  have e2 : sc * (2 ^ 28 * Y) = (2 ^ 28 * sc) * Y := by grind
  rw [e1, e2]
  exact Nat.mul_le_mul_right _ (by omega)

theorem off_mid (M Z v : Nat) (hM : 1 ≤ M) (hZ : 0 < Z) (h : 2 * v = M * (2 ^ 28 * Z))
    (hv : (M * 2 ^ 27 + 1) * Z ≤ v ∨ v ≤ (M * 2 ^ 27 - 1) * Z) : False := by
  have hMZ : Z ≤ M * Z := Nat.le_mul_of_pos_left _ hM
  have e3 : (M * 2 ^ 27 + 1) * Z = 2 ^ 27 * (M * Z) + Z := by grind
  have e4 : M * (2 ^ 28 * Z) = 2 ^ 28 * (M * Z) := by grind
  have e5 : (M * 2 ^ 27 - 1) * Z = 2 ^ 27 * (M * Z) - Z := by
    rw [Nat.sub_mul, Nat.one_mul, Nat.mul_right_comm, Nat.mul_comm]
  rw [e3, e5] at hv; rw [e4] at h
  omega

/-- `lo` is the binary32 floor of `x = sc/den`, with value `m * 2^sh`; the hypothesis bounds the distance `Δ/2` of `x` to the midpoint
of `lo` and its successor from below by `2^-28` of the quantum `2^sh` -/
theorem no_false_tie_of_gap (sc den : Nat) (hden : 0 < den) (hR : sc < sval F F.infMag * den)
    (hgap : ∀ lo sh m Δ, sval F lo = m * 2 ^ sh → sval F (lo + 1) = (m + 1) * 2 ^ sh → m < 2 ^ 24 → 0 < Δ →
      sc < (m + 1) * (den * 2 ^ sh) →
      (2 * sc + Δ = (2 * m + 1) * (den * 2 ^ sh) ∨ 2 * sc = (2 * m + 1) * (den * 2 ^ sh) + Δ) →
      den * 2 ^ sh ≤ Δ * 2 ^ 27) : NoFalseTie sc den := by
  intro h
  have hRD := D_inRange_of_F sc den hR
  have hlof := floorMag_finite F sc den hden hR
  have hfl2 := (floor_law F sc den hden).2
  generalize floorMag F sc den = lo at *
  obtain ⟨sh, m, hv, hv1, hm, _, _⟩ := F_mag_form lo (by omega)
  rw [hv1, Nat.mul_assoc, Nat.mul_comm (2 ^ sh) den] at hfl2
  have hsum : sval F lo + sval F (lo + 1) = (2 * m + 1) * 2 ^ sh := by
    rw [hv, hv1, ← Nat.add_mul]; congr 1; omega
  rw [hsum] at h ⊢
  have hgap' := fun Δ h3 => hgap lo sh m Δ hv hv1 hm h3 hfl2
  clear hgap hv hv1 hsum hlof hR hfl2
  have hM1 : 1 ≤ 2 * m + 1 := by omega
  have hM25 : 2 * m + 1 < 2 ^ 25 := by omega
  generalize 2 * m + 1 = M at *
  -- units: 2^sh * 2^925 = 2^28 * Z with Z = 2^(sh+897) = 2^sh * Y
  have hZ : 2 ^ sh * 2 ^ 925 = 2 ^ 28 * 2 ^ (sh + 897) := by
    calc 2 ^ sh * 2 ^ 925 = 2 ^ (sh + 925) := (Nat.pow_add 2 sh 925).symm
      _ = 2 ^ (28 + (sh + 897)) := by rw [show sh + 925 = 28 + (sh + 897) by omega]
      _ = 2 ^ 28 * 2 ^ (sh + 897) := Nat.pow_add 2 28 (sh + 897)
  have hY : 2 ^ (sh + 897) = 2 ^ sh * 2 ^ 897 := Nat.pow_add _ _ _
  have hu : (2 : Nat) ^ 925 = 2 ^ 28 * 2 ^ 897 := by rw [← Nat.pow_add]
  rw [Nat.mul_assoc, hZ] at h
  rw [Nat.mul_assoc, Nat.mul_comm (2 ^ sh) den]
  apply Classical.byContradiction; intro hne
  by_cases hgt : M * (den * 2 ^ sh) < 2 * sc
  · -- x above the midpoint by at least 2^(sh-28): the binary64 value mid + 2^(sh-28) is ≤ x
    obtain ⟨Δ, hΔ⟩ : ∃ Δ, 2 * sc = M * (den * 2 ^ sh) + Δ := ⟨2 * sc - M * (den * 2 ^ sh), by omega⟩
    have hg := hgap' Δ (by omega) (Or.inr hΔ)
    obtain ⟨gP, hgP⟩ := representable_of_dyadic D (M * 2 ^ 27 + 1) (sh + 897) (by rw [Dmbits]; omega)
    have hle : gP ≤ roundScaled D .RNE false (sc * 2 ^ 925) den := by
      apply round_ge_of_le D wf64 .RNE false _ den gP hden hRD
      rw [hgP, hY, hu]; exact gap_above M (2 ^ sh) den sc Δ (2 ^ 897) hΔ hg
    have := sval_mono D hle
    rw [hgP] at this
    exact off_mid M _ _ hM1 (Nat.two_pow_pos _) h (Or.inl this)
  · -- x below the midpoint
    obtain ⟨Δ, hΔ⟩ : ∃ Δ, 2 * sc + Δ = M * (den * 2 ^ sh) := ⟨M * (den * 2 ^ sh) - 2 * sc, by omega⟩
    have hg := hgap' Δ (by omega) (Or.inl hΔ)
    obtain ⟨gP, hgP⟩ := representable_of_dyadic D (M * 2 ^ 27 - 1) (sh + 897) (by rw [Dmbits]; omega)
    have hle : roundScaled D .RNE false (sc * 2 ^ 925) den ≤ gP := by
      apply round_le_of_ge D wf64 .RNE false _ den gP hden hRD
      rw [hgP, hY, hu]; exact gap_below M (2 ^ sh) den sc Δ (2 ^ 897) hM1 hΔ hg
    have := sval_mono D hle
    rw [hgP] at this
    exact off_mid M _ _ hM1 (Nat.two_pow_pos _) h (Or.inr this)

end Claripy.FP.Fold

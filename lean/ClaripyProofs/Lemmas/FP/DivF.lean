import ClaripyProofs.Lemmas.FP.DoubleRound
/-!
# FLOAT division: the binary64 quotient of two binary32 values is never a false binary32 tie

`x = (pa * 2^ka) / (pb * 2^eb)` with 24-bit `pa`, `pb`; a binary32 midpoint is `M * 2^(sh-1)`.  `2x - M * 2^sh = Δ / den` where
`Δ = pa * 2^(ka+1) - M * pb * 2^(eb+sh)` is divisible by `2^min(ka+1, eb+sh)`; if it is not zero, `|Δ| * 2^27 ≥ den * 2^sh`: the
quotient is at least `2^-28` binary32 ulp away from the midpoint (`div_gap`), which `no_false_tie_of_gap` turns into the statement.
NaN, infinities, zeros of both signs and division by zero are the case analysis of `narrow_div_widen`.
-/
namespace Claripy.FP.Fold
open Claripy.FP

theorem div_gap (pa pb ka eb sh M Δ : Nat) (hpa : pa < 2 ^ 24) (hpb : pb < 2 ^ 24) (hM : 1 ≤ M) (hΔ : 0 < Δ)
    (h : 2 * (pa * 2 ^ ka) + Δ = M * (pb * 2 ^ eb * 2 ^ sh) ∨ 2 * (pa * 2 ^ ka) = M * (pb * 2 ^ eb * 2 ^ sh) + Δ) :
    pb * 2 ^ eb * 2 ^ sh ≤ Δ * 2 ^ 27 := by
  have hsc : 2 * (pa * 2 ^ ka) = pa * 2 ^ (ka + 1) := by rw [Nat.pow_succ]; grind
  have hdd : pb * 2 ^ eb * 2 ^ sh = pb * 2 ^ (eb + sh) := by rw [Nat.pow_add]; grind
  rw [hsc, hdd] at h; rw [hdd]
  have hMdd : pb * 2 ^ (eb + sh) ≤ M * (pb * 2 ^ (eb + sh)) := Nat.le_mul_of_pos_left _ hM
  have hdvd := fun c => pow_le_of_dvd_diff c _ _ Δ hΔ h
  by_cases hc : eb + sh ≤ ka + 1
  · have hQ := hdvd (eb + sh) (Nat.dvd_mul_left_of_dvd (Nat.pow_dvd_pow 2 hc) pa)
      (Nat.dvd_mul_left_of_dvd (Nat.dvd_mul_left _ pb) M)
    generalize 2 ^ (eb + sh) = Q at *
    have : pb * Q ≤ 2 ^ 24 * Q := Nat.mul_le_mul_right _ (Nat.le_of_lt hpb)
    omega
  · have hR := hdvd (ka + 1) (Nat.dvd_mul_left _ pa)
      (Nat.dvd_mul_left_of_dvd (Nat.dvd_mul_left_of_dvd (Nat.pow_dvd_pow 2 (by omega)) pb) M)
    have hRpos : 0 < 2 ^ (ka + 1) := Nat.two_pow_pos _
    generalize 2 ^ (ka + 1) = R at *
    generalize pb * 2 ^ (eb + sh) = dd at *
    have : pa * R < 2 ^ 24 * R := Nat.mul_lt_mul_of_pos_right hpa hRpos
    generalize pa * R = S2 at *
    generalize M * dd = Mdd at *
    rcases h with h | h <;> omega

theorem quot_no_false_tie (ma mb : Nat) (hfa : ma < F.infMag) (hfb : mb < F.infMag) (hb0 : 0 < sval F mb)
    (hR : sval F ma * 2 ^ 149 < sval F F.infMag * sval F mb) : NoFalseTie (sval F ma * 2 ^ 149) (sval F mb) := by
  obtain ⟨pa, ea, hva, hpa, _⟩ := sval_F_form ma hfa
  obtain ⟨pb, eb, hvb, hpb, _⟩ := sval_F_form mb hfb
  apply no_false_tie_of_gap _ _ hb0 hR
  intro _ sh m Δ _ _ _ hΔ _ h
  have e : sval F ma * 2 ^ 149 = pa * 2 ^ (ea + 149) := by rw [hva, Nat.mul_assoc, ← Nat.pow_add]
  rw [e, hvb] at h; rw [hvb]
  exact div_gap pa pb (ea + 149) eb sh (2 * m + 1) Δ hpa hpb (by omega) hΔ h

theorem narrow_round_quot (ma mb : Nat) (hfa : ma < F.infMag) (hfb : mb < F.infMag) (hb0 : 0 < sval F mb) (neg : Bool) :
    narrow (roundS D .RNE neg (sval F ma * 2 ^ 149 * 2 ^ 925) (sval F mb)) =
      roundS F .RNE neg (sval F ma * 2 ^ 149) (sval F mb) := by
  exact narrow_roundS neg _ _ hb0 (quot_no_false_tie ma mb hfa hfb hb0)

theorem narrow_div_widen (a b : Nat) : narrow (div D .RNE (widen a) (widen b)) = div F .RNE a b := by
  unfold div
  rw [isNaN_widen, isNaN_widen]
  cases hna : isNaN F a
  case true => exact narrow_nan
  cases hnb : isNaN F b
  case true => exact narrow_nan
  obtain ⟨ia, za, sa⟩ := widen_class a hna
  obtain ⟨ib, zb, sb⟩ := widen_class b hnb
  -- with `narrow` pushed into the leaves both sides are the same `if` tree up to the finite leaf
  simp only [ia, ib, za, zb, sa, sb, Bool.or_self, Bool.false_eq_true, if_false, apply_ite narrow, narrow_nan, narrow_inf,
    narrow_zero]
  refine ite_congr rfl (fun _ => rfl) fun hia => ite_congr rfl (fun _ => rfl) fun hib =>
    ite_congr rfl (fun _ => rfl) fun hzb => ?_
  have hfa := finite_of_not_nan_inf F a hna (by simpa using hia)
  have hfb := finite_of_not_nan_inf F b hnb (by simpa using hib)
  have hb0 : 0 < sval F (magOf F b) := (isZero_iff_sval F b).1 (by simpa using hzb)
  rw [sval_widen a hfa, sval_widen b hfb, Dq, Fq]
  have e : sval F (magOf F a) * 2 ^ 925 * 2 ^ 1074 = sval F (magOf F a) * 2 ^ 149 * 2 ^ 925 * 2 ^ 925 := by
    rw [Nat.mul_assoc, Nat.mul_assoc, Nat.mul_assoc, ← Nat.pow_add, ← Nat.pow_add, ← Nat.pow_add]
  rw [e, roundS_scale D .RNE _ _ _ (2 ^ 925) hb0 (Nat.two_pow_pos _)]
  exact narrow_round_quot _ _ hfa hfb hb0 _

theorem fpDiv_F_narrow (rm : RM) (a b : Nat) : fpDiv F rm a b = narrow (div D .RNE (widen a) (widen b)) := by
  rw [fpDiv_eq, lift_F, lift_F, lower_F]

theorem fpDiv_F (rm : RM) (a b : Nat) : fpDiv F rm a b = div F .RNE a b := by
  rw [fpDiv_F_narrow, narrow_div_widen]

end Claripy.FP.Fold

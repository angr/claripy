import ClaripyProofs.Lemmas.FP.Round
import Claripy.FP.Fold
/-! binary64 and binary32: their constants; which dyadic numbers are binary64 values (`dyadic_D`); every binary32 value up to
infinity, and every midpoint of two adjacent ones, is a finite binary64 value (`F_val_repr`, `F_mid_repr`: in binary64 units a
binary32 value carries the factor `2^925`). -/
namespace Claripy.FP.Fold
open Claripy.FP

theorem Dq : D.q = 1074 := by decide
theorem Dmbits : D.mbits = 52 := by decide
theorem DlgMax : D.lgMax + 1 = 2098 := by decide

theorem sval_infMag_D : sval D D.infMag = 2 ^ 2098 := by rw [sval_infMag D wf64, DlgMax]

theorem finite_of_lt_pow (g k : Nat) (hk : k ≤ 2098) (h : sval D g < 2 ^ k) : g < D.infMag := by
  apply finite_of_sval_lt
  rw [sval_infMag_D]
  exact Nat.lt_of_lt_of_le h (Nat.pow_le_pow_right (by decide) hk)

theorem dyadic_D (M k a : Nat) (hM : M < 2 ^ a) (ha : a ≤ 53) (hk : a + k ≤ 2098) :
    ∃ g, g < D.infMag ∧ sval D g = M * 2 ^ k := by
  have h53 : 2 ^ a ≤ 2 * 2 ^ 52 := Nat.pow_le_pow_right (n := 2) (by decide) ha
  obtain ⟨g, hg⟩ := representable_of_dyadic D M k (by rw [Dmbits]; omega)
  refine ⟨g, finite_of_lt_pow g (a + k) hk ?_, hg⟩
  rw [hg, Nat.pow_add]
  exact Nat.mul_lt_mul_of_pos_right hM (Nat.two_pow_pos _)

theorem pow_dyadic_D (k : Nat) (hk : k ≤ 2097) : ∃ g, g < D.infMag ∧ sval D g = 2 ^ k := by
  have := dyadic_D 1 k 1 (by decide) (by decide) (by omega)
  rwa [Nat.one_mul] at this

theorem bits_decomp (b : Nat) (hb : b < 2 ^ 64) : b = mkBits D (signOf D b) (magOf D b) :=
  (Nat.mod_eq_of_lt hb).symm.trans (mod_width D (by decide) b)

theorem Fq : F.q = 149 := by decide
theorem Fmbits : F.mbits = 23 := by decide
theorem FsignBit : F.signBit = 2 ^ 31 := by decide

theorem bits_decomp_F (b : Nat) (hb : b < 2 ^ 32) : b = mkBits F (signOf F b) (magOf F b) :=
  (Nat.mod_eq_of_lt hb).symm.trans (mod_width F (by decide) b)

theorem F_mag_form (g : Nat) (hg : g ≤ F.infMag) :
    ∃ sh m, sval F g = m * 2 ^ sh ∧ sval F (g + 1) = (m + 1) * 2 ^ sh ∧ m < 2 ^ 24 ∧ sh ≤ 254 ∧ (g < F.infMag → sh ≤ 253) := by
  obtain ⟨sh, m, h1, h2, hm, hsh⟩ := sval_form F g
  rw [Fmbits] at hm hsh
  have hinf : F.infMag = 255 * 2 ^ 23 := by decide
  exact ⟨sh, m, h1, h2, by omega, by omega, fun h => by omega⟩

theorem sval_F_form (mag : Nat) (hfin : mag < F.infMag) :
    ∃ sig e, sval F mag = sig * 2 ^ e ∧ sig < 2 ^ 24 ∧ e ≤ 253 := by
  obtain ⟨sh, m, h1, _, hm, _, h253⟩ := F_mag_form mag (Nat.le_of_lt hfin)
  exact ⟨m, sh, h1, hm, h253 hfin⟩

theorem F_val_repr (g : Nat) (hg : g ≤ F.infMag) : ∃ gD, gD < D.infMag ∧ sval D gD = sval F g * 2 ^ 925 := by
  obtain ⟨sh, m, hv, _, hm, hsh, _⟩ := F_mag_form g hg
  obtain ⟨gD, hfin, hgD⟩ := dyadic_D m (sh + 925) 24 hm (by decide) (by omega)
  exact ⟨gD, hfin, by rw [hgD, hv, Nat.mul_assoc, ← Nat.pow_add]⟩

theorem sval_F_lt (mag : Nat) (hfin : mag < F.infMag) : sval F mag < 2 ^ 277 := by
  obtain ⟨sig, e, hv, hs, he⟩ := sval_F_form mag hfin
  rw [hv]
  calc sig * 2 ^ e < 2 ^ 24 * 2 ^ e := Nat.mul_lt_mul_of_pos_right hs (Nat.two_pow_pos _)
    _ = 2 ^ (24 + e) := by rw [← Nat.pow_add]
    _ ≤ 2 ^ 277 := Nat.pow_le_pow_right (by decide) (by omega)

theorem sval_infMag_F : sval F F.infMag = 2 ^ 277 := by rw [sval_infMag F wf32]; rfl

theorem F_mid_repr (g : Nat) (hg : g ≤ F.infMag) :
    ∃ gD, gD < D.infMag ∧ 2 * sval D gD = (sval F g + sval F (g + 1)) * 2 ^ 925 := by
  obtain ⟨sh, m, hv, hv1, hm, hsh, _⟩ := F_mag_form g hg
  obtain ⟨gD, hfin, hgD⟩ := dyadic_D (2 * m + 1) (sh + 924) 25 (by omega) (by decide) (by omega)
  refine ⟨gD, hfin, ?_⟩
  rw [hgD, hv, hv1]
  have e : (2 : Nat) ^ 925 = 2 * 2 ^ 924 := by rw [show (925 : Nat) = 924 + 1 by rfl, Nat.pow_succ, Nat.mul_comm]
  rw [Nat.pow_add, e]
  generalize 2 ^ sh = X; generalize 2 ^ 924 = Y
  rw [← Nat.add_mul, show m + (m + 1) = 2 * m + 1 by omega]
  simp only [Nat.mul_assoc, Nat.mul_comm, Nat.mul_left_comm]

theorem D_inRange_of_F (sc den : Nat) (hR : sc < sval F F.infMag * den) :
    sc * 2 ^ 925 < sval D D.infMag * den := by
  rw [sval_infMag_F] at hR; rw [sval_infMag_D]
  calc sc * 2 ^ 925 < 2 ^ 277 * den * 2 ^ 925 := Nat.mul_lt_mul_of_pos_right hR (Nat.two_pow_pos _)
    _ = 2 ^ 1202 * den := by
        rw [Nat.mul_assoc, Nat.mul_comm den, ← Nat.mul_assoc, ← Nat.pow_add]
    _ ≤ 2 ^ 2098 * den := Nat.mul_le_mul_right _ (Nat.pow_le_pow_right (by decide) (by decide))

end Claripy.FP.Fold

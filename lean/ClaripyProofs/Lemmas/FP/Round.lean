import ClaripyProofs.Lemmas.FP.Value
/-!
# `roundScaled` is correct rounding

Reading: a finite magnitude `g` has the real value `sval f g / 2^q`; the input denotes `x = (sc/den) / 2^q`.  So
`sval f g * den ≤ sc` says `value g ≤ x`, and `2 * sc < (sval f g + sval f (g+1)) * den` says that `x` is below the
midpoint of `g` and its successor.  `infMag` (infinity) has `sval = 2^(lgMax+1)`, i.e. the value `2^(emax+1)`.

`floorMag` is the upper adjoint of the value (`le_floorMag_iff`: `g ≤ floorMag ↔ value g ≤ x`); the range condition of
`roundScaled`, a test on `log2`, is `x < value infMag` (`inRange_iff`), and that is the form every statement below carries.
Below overflow the result is the floor or its successor, decided by `roundUp` read on values (`roundScaled_floor`); from it the five
modes against the value of the input; `roundS` is `mkBits` of `roundScaled`, zero included (`roundS_eq`); exactness on
representable inputs; monotonicity with respect to representable
values (a float below (above) the exact value stays below (above) the rounded result, in every mode and every format: all the
double-rounding argument needs to know about the FIRST rounding); invariance under a common factor of `sc` and `den`.
-/
namespace Claripy.FP

/-- the outputs of the scaling step of `roundScaled` -/
structure Scaled (f : Fmt) (sc den : Nat) where
  sh : Nat
  m : Nat
  rem : Nat

def scaled (f : Fmt) (sc den : Nat) : Scaled f sc den :=
  let lg := max (Nat.log2 (sc / den)) f.mbits
  let sh := lg - f.mbits
  ⟨sh, sc / (den * 2 ^ sh), sc % (den * 2 ^ sh)⟩

/-- no overflow: the exact value is below `2^(emax+1)` -/
def InRange (f : Fmt) (sc den : Nat) : Prop := max (Nat.log2 (sc / den)) f.mbits ≤ f.lgMax

instance (f : Fmt) (sc den : Nat) : Decidable (InRange f sc den) := by unfold InRange; exact inferInstance

theorem roundScaled_inRange (f : Fmt) (rm : RM) (neg : Bool) (sc den : Nat) (h : InRange f sc den) :
    roundScaled f rm neg sc den =
      let s := scaled f sc den
      s.sh * 2 ^ f.mbits +
        (if roundUp rm neg (s.m % 2 == 1) s.rem (den * 2 ^ s.sh) then s.m + 1 else s.m) := by
  unfold roundScaled scaled InRange at *
  simp only [show ¬ (max (sc / den).log2 f.mbits > f.lgMax) by omega, if_false]

theorem roundScaled_overflow (f : Fmt) (rm : RM) (neg : Bool) (sc den : Nat) (h : ¬ InRange f sc den) :
    roundScaled f rm neg sc den = overflowMag f rm neg := by
  unfold roundScaled InRange at *
  simp only [show (max (sc / den).log2 f.mbits > f.lgMax) by omega, if_true]

theorem scaled_props (f : Fmt) (sc den : Nat) (hden : 0 < den) :
    let s := scaled f sc den
    sc = s.m * (den * 2 ^ s.sh) + s.rem ∧ s.rem < den * 2 ^ s.sh ∧
    (s.sh = 0 ∨ 2 ^ f.mbits ≤ s.m) ∧ s.m < 2 * 2 ^ f.mbits := by
  unfold scaled
  dsimp only
  generalize hx : sc / den = x
  generalize hsh : max x.log2 f.mbits - f.mbits = sh
  have hdd : 0 < den * 2 ^ sh := Nat.mul_pos hden (Nat.two_pow_pos _)
  have hm : sc / (den * 2 ^ sh) = x / 2 ^ sh := by rw [← hx, Nat.div_div_eq_div_mul]
  refine ⟨?_, Nat.mod_lt _ hdd, ?_, ?_⟩
  · have := Nat.div_add_mod sc (den * 2 ^ sh)
    rw [Nat.mul_comm] at this; exact this.symm
  · by_cases h0 : sh = 0
    · exact Or.inl h0
    · right
      have hlg : max x.log2 f.mbits = x.log2 := by omega
      have hxl : x.log2 = sh + f.mbits := by omega
      have hx0 : x ≠ 0 := by
        intro h; rw [h] at hxl; simp [Nat.log2_zero] at hxl; omega
      have hle : 2 ^ x.log2 ≤ x := Nat.log2_self_le hx0
      rw [hm, Nat.le_div_iff_mul_le (Nat.two_pow_pos _), ← Nat.pow_add, Nat.add_comm, ← hxl]
      exact hle
  · rw [hm]
    have hlt : x < 2 ^ (x.log2 + 1) := Nat.lt_log2_self
    have hle : x.log2 + 1 ≤ sh + (f.mbits + 1) := by omega
    have : x < 2 ^ sh * (2 * 2 ^ f.mbits) := by
      calc x < 2 ^ (x.log2 + 1) := hlt
        _ ≤ 2 ^ (sh + (f.mbits + 1)) := Nat.pow_le_pow_right (by decide) hle
        _ = 2 ^ sh * (2 * 2 ^ f.mbits) := by rw [Nat.pow_add, Nat.pow_succ, Nat.mul_comm (2 ^ f.mbits) 2]
    exact Nat.div_lt_of_lt_mul this

/-- the floor: the largest magnitude whose value does not exceed the input -/
def floorMag (f : Fmt) (sc den : Nat) : Nat := (scaled f sc den).sh * 2 ^ f.mbits + (scaled f sc den).m

theorem sval_floorMag (f : Fmt) (sc den : Nat) (hden : 0 < den) :
    sval f (floorMag f sc den) * den = (scaled f sc den).m * (den * 2 ^ (scaled f sc den).sh) ∧
    sval f (floorMag f sc den + 1) * den = ((scaled f sc den).m + 1) * (den * 2 ^ (scaled f sc den).sh) := by
  have ⟨_, _, h3, h4⟩ := scaled_props f sc den hden
  unfold floorMag
  constructor
  · rw [sval_encode f _ _ h3 (by omega), Nat.mul_assoc, Nat.mul_comm (2 ^ _) den]
  · rw [Nat.add_assoc, sval_encode f _ _ (by rcases h3 with h | h; exact Or.inl h; exact Or.inr (by omega)) (by omega),
      Nat.mul_assoc, Nat.mul_comm (2 ^ _) den]

theorem floor_law (f : Fmt) (sc den : Nat) (hden : 0 < den) :
    sval f (floorMag f sc den) * den ≤ sc ∧ sc < sval f (floorMag f sc den + 1) * den := by
  have ⟨h1, h2, _, _⟩ := scaled_props f sc den hden
  have ⟨e1, e2⟩ := sval_floorMag f sc den hden
  rw [e1, e2, Nat.add_mul, Nat.one_mul]
  omega

theorem le_floorMag_iff (f : Fmt) (sc den g : Nat) (hden : 0 < den) : g ≤ floorMag f sc den ↔ sval f g * den ≤ sc := by
  have ⟨f1, f2⟩ := floor_law f sc den hden
  constructor
  · intro h; exact Nat.le_trans (Nat.mul_le_mul_right den (sval_mono f h)) f1
  · intro h
    apply Classical.byContradiction; intro hc
    have := Nat.mul_le_mul_right den (sval_mono f (show floorMag f sc den + 1 ≤ g by omega))
    omega

theorem floor_unique (f : Fmt) (sc den g : Nat) (hden : 0 < den)
    (h1 : sval f g * den ≤ sc) (h2 : sc < sval f (g + 1) * den) : floorMag f sc den = g := by
  have := (le_floorMag_iff f sc den g hden).2 h1
  have := mt (le_floorMag_iff f sc den (g + 1) hden).1 (by omega)
  omega

theorem floorMag_finite (f : Fmt) (sc den : Nat) (hden : 0 < den) (hR : sc < sval f f.infMag * den) :
    floorMag f sc den < f.infMag :=
  Nat.lt_of_not_le (mt (le_floorMag_iff f sc den f.infMag hden).1 (by omega))

theorem floorMag_parity (f : Fmt) (wf : WF f) (sc den : Nat) :
    floorMag f sc den % 2 = (scaled f sc den).m % 2 := by
  unfold floorMag
  have : 2 ^ f.mbits = 2 * 2 ^ (f.mbits - 1) := two_pow_half _ (by have := wf.sb2; unfold Fmt.mbits; omega)
  rw [this, ← Nat.mul_assoc, Nat.mul_comm _ 2, Nat.mul_assoc, Nat.mul_add_mod]

theorem two_bias (f : Fmt) (wf : WF f) : 2 * f.bias + 2 = 2 ^ f.eb := by
  unfold Fmt.bias
  have h := wf.eb2
  have e : f.eb = (f.eb - 1) + 1 := by omega
  have hp : 0 < 2 ^ (f.eb - 1) := Nat.two_pow_pos _
  rw [e, Nat.pow_succ]; simp; omega

theorem four_le_pow_eb (f : Fmt) (wf : WF f) : 4 ≤ 2 ^ f.eb :=
  Nat.pow_le_pow_right (n := 2) (by decide) wf.eb2

theorem sval_infMag (f : Fmt) (wf : WF f) : sval f f.infMag = 2 ^ (f.lgMax + 1) := by
  have hb := two_bias f wf
  have hP := Nat.two_pow_pos f.mbits
  have h4 := four_le_pow_eb f wf
  have hpos : 1 ≤ 2 * f.bias := by omega
  have h2 : 2 ^ f.eb - 1 = (2 * f.bias - 1) + 2 := by omega
  have := sval_encode f (2 * f.bias - 1) (2 * 2 ^ f.mbits) (Or.inr (by omega)) (Nat.le_refl _)
  have e : f.infMag = (2 * f.bias - 1) * 2 ^ f.mbits + 2 * 2 ^ f.mbits := by
    unfold Fmt.infMag; rw [h2, Nat.add_mul]
  rw [e, this]
  unfold Fmt.lgMax
  have : 2 * f.bias + f.mbits - 1 + 1 = (f.mbits + 1) + (2 * f.bias - 1) := by omega
  rw [this, Nat.pow_add, Nat.pow_succ, Nat.mul_comm (2 ^ f.mbits) 2]

theorem mbits_le_lgMax (f : Fmt) (wf : WF f) : f.mbits ≤ f.lgMax := by
  unfold Fmt.lgMax; have := two_bias f wf; have := four_le_pow_eb f wf
  omega

theorem inRange_iff (f : Fmt) (wf : WF f) (sc den : Nat) (hden : 0 < den) :
    InRange f sc den ↔ sc < sval f f.infMag * den := by
  rw [sval_infMag f wf]
  unfold InRange
  have hm := mbits_le_lgMax f wf
  have hx := Nat.div_add_mod sc den
  have hmod := Nat.mod_lt sc hden
  constructor
  · intro h
    have h1 : (sc / den).log2 ≤ f.lgMax := by omega
    have h2 : sc / den < 2 ^ (f.lgMax + 1) :=
      Nat.lt_of_lt_of_le Nat.lt_log2_self (Nat.pow_le_pow_right (by decide) (by omega))
    have h3 : sc / den + 1 ≤ 2 ^ (f.lgMax + 1) := h2
    have h4 := Nat.mul_le_mul_right den h3
    rw [Nat.add_mul, Nat.one_mul, Nat.mul_comm (sc / den) den] at h4
    omega
  · intro h
    have h2 : sc / den < 2 ^ (f.lgMax + 1) := (Nat.div_lt_iff_lt_mul hden).2 h
    by_cases h0 : sc / den = 0
    · rw [h0]; simp [Nat.log2_zero]; exact hm
    · have := (Nat.log2_lt h0).2 h2
      omega

/-- Below overflow every mode returns the floor `lo`, or its successor if `roundUp` says so, and `roundUp` may be read on
VALUES: the discarded part is `x - value lo`, the quantum `value (lo + 1) - value lo` (both times `den`).  This is the only
statement about a rounded result that looks inside `roundScaled`; each mode's description below is `roundUp` unfolded. -/
theorem roundScaled_floor (f : Fmt) (wf : WF f) (rm : RM) (neg : Bool) (sc den : Nat) (hden : 0 < den)
    (hR : sc < sval f f.infMag * den) :
    roundScaled f rm neg sc den =
      if roundUp rm neg (floorMag f sc den % 2 == 1) (sc - sval f (floorMag f sc den) * den)
          (sval f (floorMag f sc den + 1) * den - sval f (floorMag f sc den) * den)
      then floorMag f sc den + 1 else floorMag f sc den := by
  have ⟨h1, _, _, _⟩ := scaled_props f sc den hden
  have ⟨e1, e2⟩ := sval_floorMag f sc den hden
  rw [roundScaled_inRange f rm neg sc den ((inRange_iff f wf sc den hden).2 hR), floorMag_parity f wf, e1, e2]
  dsimp only at h1 ⊢
  have er : sc - (scaled f sc den).m * (den * 2 ^ (scaled f sc den).sh) = (scaled f sc den).rem := by omega
  have ed : ((scaled f sc den).m + 1) * (den * 2 ^ (scaled f sc den).sh) -
      (scaled f sc den).m * (den * 2 ^ (scaled f sc den).sh) = den * 2 ^ (scaled f sc den).sh := by
    rw [Nat.add_mul, Nat.one_mul, Nat.add_sub_cancel_left]
  rw [er, ed]
  unfold floorMag
  split <;> omega

/-- the same with the enclosing values named: `A = value lo * den ≤ sc < B = value (lo + 1) * den` -/
theorem roundScaled_cases (f : Fmt) (wf : WF f) (rm : RM) (neg : Bool) (sc den : Nat) (hden : 0 < den)
    (hR : sc < sval f f.infMag * den) :
    ∃ A B, A = sval f (floorMag f sc den) * den ∧ B = sval f (floorMag f sc den + 1) * den ∧ A ≤ sc ∧ sc < B ∧
      roundScaled f rm neg sc den =
        if roundUp rm neg (floorMag f sc den % 2 == 1) (sc - A) (B - A) then floorMag f sc den + 1 else floorMag f sc den :=
  ⟨_, _, rfl, rfl, (floor_law f sc den hden).1, (floor_law f sc den hden).2, roundScaled_floor f wf rm neg sc den hden hR⟩

theorem round_overflow (f : Fmt) (wf : WF f) (rm : RM) (neg : Bool) (sc den : Nat) (hden : 0 < den)
    (h : sval f f.infMag * den ≤ sc) : roundScaled f rm neg sc den = overflowMag f rm neg :=
  roundScaled_overflow f rm neg sc den (fun hI => by have := (inRange_iff f wf sc den hden).1 hI; omega)

theorem round_floor_or_succ (f : Fmt) (wf : WF f) (rm : RM) (neg : Bool) (sc den : Nat) (hden : 0 < den)
    (hR : sc < sval f f.infMag * den) :
    roundScaled f rm neg sc den = floorMag f sc den ∨ roundScaled f rm neg sc den = floorMag f sc den + 1 := by
  rw [roundScaled_floor f wf rm neg sc den hden hR]
  split
  · exact Or.inr rfl
  · exact Or.inl rfl

theorem round_toward (f : Fmt) (wf : WF f) (rm : RM) (neg : Bool) (sc den : Nat) (hden : 0 < den)
    (hR : sc < sval f f.infMag * den)
    (hrm : rm = .RTZ ∨ (rm = .RTP ∧ neg = true) ∨ (rm = .RTN ∧ neg = false)) :
    roundScaled f rm neg sc den = floorMag f sc den := by
  rw [roundScaled_floor f wf rm neg sc den hden hR]
  rcases hrm with rfl | ⟨rfl, rfl⟩ | ⟨rfl, rfl⟩ <;> simp [roundUp]

theorem round_away (f : Fmt) (wf : WF f) (rm : RM) (neg : Bool) (sc den : Nat) (hden : 0 < den)
    (hR : sc < sval f f.infMag * den)
    (hrm : (rm = .RTP ∧ neg = false) ∨ (rm = .RTN ∧ neg = true)) :
    roundScaled f rm neg sc den =
      if sc = sval f (floorMag f sc den) * den then floorMag f sc den else floorMag f sc den + 1 := by
  obtain ⟨A, B, hA, hB, h1, h2, h⟩ := roundScaled_cases f wf rm neg sc den hden hR
  rw [h, ← hA]
  by_cases h0 : sc - A = 0 <;> rcases hrm with ⟨rfl, rfl⟩ | ⟨rfl, rfl⟩ <;> simp [roundUp, h0] <;> omega

theorem round_rna (f : Fmt) (wf : WF f) (neg : Bool) (sc den : Nat) (hden : 0 < den)
    (hR : sc < sval f f.infMag * den) :
    roundScaled f .RNA neg sc den =
      if 2 * sc < (sval f (floorMag f sc den) + sval f (floorMag f sc den + 1)) * den then floorMag f sc den
      else floorMag f sc den + 1 := by
  obtain ⟨A, B, hA, hB, h1, h2, h⟩ := roundScaled_cases f wf .RNA neg sc den hden hR
  rw [h, Nat.add_mul, ← hA, ← hB]
  by_cases h0 : sc - A = 0 <;> simp [roundUp, h0] <;> repeat' split
  all_goals omega

/-- to nearest, ties to even, between `lo` and `lo + 1`: `a` is twice the input and `m` twice the midpoint, in any common unit -/
abbrev rnePick (lo a m : Nat) : Nat := if a < m then lo else if a > m then lo + 1 else if lo % 2 = 0 then lo else lo + 1

theorem rnePick_congr {lo a m a' m' : Nat} (h1 : a < m ↔ a' < m') (h2 : a > m ↔ a' > m') :
    rnePick lo a m = rnePick lo a' m' := by
  simp only [rnePick, h1, h2]

theorem round_rne (f : Fmt) (wf : WF f) (neg : Bool) (sc den : Nat) (hden : 0 < den)
    (hR : sc < sval f f.infMag * den) :
    roundScaled f .RNE neg sc den =
      rnePick (floorMag f sc den) (2 * sc) ((sval f (floorMag f sc den) + sval f (floorMag f sc den + 1)) * den) := by
  obtain ⟨A, B, hA, hB, h1, h2, h⟩ := roundScaled_cases f wf .RNE neg sc den hden hR
  rw [h, Nat.add_mul, ← hA, ← hB]
  by_cases h0 : sc - A = 0 <;> by_cases hp : floorMag f sc den % 2 = 0 <;>
    simp [rnePick, roundUp, h0, hp] <;> repeat' split
  all_goals omega

theorem round_exact (f : Fmt) (wf : WF f) (rm : RM) (neg : Bool) (g den : Nat) (hden : 0 < den) (hg : g < f.infMag) :
    roundScaled f rm neg (sval f g * den) den = g := by
  have hfl : floorMag f (sval f g * den) den = g :=
    floor_unique f _ den g hden (Nat.le_refl _) (Nat.mul_lt_mul_of_pos_right (sval_succ_lt f g) hden)
  rw [roundScaled_floor f wf rm neg _ den hden (Nat.mul_lt_mul_of_pos_right (sval_strictMono f hg) hden), hfl, Nat.sub_self]
  simp [roundUp]

theorem round_exact' (f : Fmt) (wf : WF f) (rm : RM) (neg : Bool) (g sc den : Nat) (hden : 0 < den) (hg : g < f.infMag)
    (h : sc = sval f g * den) : roundScaled f rm neg sc den = g := by
  rw [h]; exact round_exact f wf rm neg g den hden hg

theorem infMag_pos (f : Fmt) (wf : WF f) : 0 < f.infMag :=
  Nat.mul_pos (by have := four_le_pow_eb f wf; omega) (Nat.two_pow_pos f.mbits)

/-- the zero test of `roundS` is a shortcut: `roundScaled` of zero is zero -/
theorem roundS_eq (f : Fmt) (wf : WF f) (rm : RM) (neg : Bool) (sc den : Nat) (hden : 0 < den) :
    roundS f rm neg sc den = mkBits f neg (roundScaled f rm neg sc den) := by
  unfold roundS; split
  · rename_i h
    have := round_exact f wf rm neg 0 den hden (infMag_pos f wf)
    rw [sval_zero, Nat.zero_mul] at this; rw [h, this]
  · rfl

theorem roundS_exact' (f : Fmt) (wf : WF f) (rm : RM) (neg : Bool) (g sc den : Nat) (hden : 0 < den) (hg : g < f.infMag)
    (h : sc = sval f g * den) : roundS f rm neg sc den = mkBits f neg g := by
  rw [roundS_eq f wf rm neg sc den hden, h, round_exact f wf rm neg g den hden hg]

theorem round_ge_of_le (f : Fmt) (wf : WF f) (rm : RM) (neg : Bool) (sc den g : Nat) (hden : 0 < den)
    (hR : sc < sval f f.infMag * den) (h : sval f g * den ≤ sc) : g ≤ roundScaled f rm neg sc den := by
  have := (le_floorMag_iff f sc den g hden).2 h
  rcases round_floor_or_succ f wf rm neg sc den hden hR with h | h <;> omega

theorem round_le_of_ge (f : Fmt) (wf : WF f) (rm : RM) (neg : Bool) (sc den g : Nat) (hden : 0 < den)
    (hR : sc < sval f f.infMag * den) (h : sc ≤ sval f g * den) : roundScaled f rm neg sc den ≤ g := by
  by_cases hlt : floorMag f sc den < g
  · rcases round_floor_or_succ f wf rm neg sc den hden hR with h | h <;> omega
  · -- `g` is at most the floor, so the input is the value of `g`
    have hg := (le_floorMag_iff f sc den g hden).1 (by omega)
    have hfin := floorMag_finite f sc den hden hR
    exact Nat.le_of_eq (round_exact' f wf rm neg g sc den hden (by omega) (by omega))

/-- RNE between two adjacent floats `lo`, `lo + 1` that enclose the input; the upper one may be attained, and may be infinity -/
theorem round_rne_between (f : Fmt) (wf : WF f) (neg : Bool) (v u lo : Nat) (hu : 0 < u) (hlo : lo < f.infMag)
    (h1 : sval f lo * u ≤ v) (h2 : v ≤ sval f (lo + 1) * u) :
    roundScaled f .RNE neg v u = rnePick lo (2 * v) ((sval f lo + sval f (lo + 1)) * u) := by
  have hlt := Nat.mul_lt_mul_of_pos_right (sval_succ_lt f lo) hu
  by_cases h5 : v < sval f (lo + 1) * u
  · have hR : v < sval f f.infMag * u := Nat.lt_of_lt_of_le h5 (Nat.mul_le_mul_right _ (sval_mono f (by omega)))
    rw [round_rne f wf neg v u hu hR, floor_unique f v u lo hu h1 h5]
  · have h6 : v = sval f (lo + 1) * u := by omega
    rw [rnePick, Nat.add_mul, if_neg (by omega), if_pos (by omega)]
    by_cases hinf : lo + 1 < f.infMag
    · exact round_exact' f wf .RNE neg (lo + 1) v u hu hinf h6
    · have hlo1 : lo + 1 = f.infMag := by omega
      rw [round_overflow f wf .RNE neg v u hu (by rw [← hlo1]; omega), hlo1]
      rfl

/-- round-to-nearest-even sees its input only through the comparisons with half-integers `c/2` of the format's unit -/
theorem round_congr (f : Fmt) (wf : WF f) (neg : Bool) (sc den sc' den' : Nat) (hden : 0 < den) (hden' : 0 < den')
    (hle : ∀ c, c * den ≤ 2 * sc ↔ c * den' ≤ 2 * sc') (hge : ∀ c, 2 * sc ≤ c * den ↔ 2 * sc' ≤ c * den') :
    roundScaled f .RNE neg sc den = roundScaled f .RNE neg sc' den' := by
  have hint : ∀ v, (v * den ≤ sc ↔ v * den' ≤ sc') := by
    intro v
    have := hle (2 * v)
    rw [Nat.mul_assoc, Nat.mul_assoc] at this
    omega
  by_cases hR : sc < sval f f.infMag * den
  · have hR' : sc' < sval f f.infMag * den' := by
      have := hint (sval f f.infMag); omega
    obtain ⟨fl1, fl2⟩ := floor_law f sc den hden
    have hfloor : floorMag f sc' den' = floorMag f sc den := by
      apply floor_unique f sc' den' _ hden'
      · exact (hint _).1 fl1
      · have := hint (sval f (floorMag f sc den + 1)); omega
    rw [round_rne f wf neg sc den hden hR, round_rne f wf neg sc' den' hden' hR', hfloor]
    have h1 := hle (sval f (floorMag f sc den) + sval f (floorMag f sc den + 1))
    have h2 := hge (sval f (floorMag f sc den) + sval f (floorMag f sc den + 1))
    exact rnePick_congr (by omega) (by omega)
  · have hR' : ¬ sc' < sval f f.infMag * den' := by
      have := hint (sval f f.infMag); omega
    rw [round_overflow f wf .RNE neg sc den hden (by omega), round_overflow f wf .RNE neg sc' den' hden' (by omega)]

theorem roundUp_scale (rm : RM) (neg odd : Bool) (rem dd k : Nat) (hk : 0 < k) :
    roundUp rm neg odd (rem * k) (dd * k) = roundUp rm neg odd rem dd := by
  unfold roundUp
  have h0 : (rem * k = 0) ↔ (rem = 0) := by
    constructor
    · intro h; rcases Nat.mul_eq_zero.1 h with h | h <;> omega
    · intro h; rw [h, Nat.zero_mul]
  have e1 : (2 * (rem * k) > dd * k) ↔ (2 * rem > dd) := by
    rw [← Nat.mul_assoc]; exact Nat.mul_lt_mul_right hk
  have e2 : (2 * (rem * k) = dd * k) ↔ (2 * rem = dd) := by
    rw [← Nat.mul_assoc]; exact Nat.mul_right_cancel_iff hk
  have e3 : (2 * (rem * k) ≥ dd * k) ↔ (2 * rem ≥ dd) := by
    rw [← Nat.mul_assoc]; exact Nat.mul_le_mul_right_iff hk
  by_cases hr : rem = 0
  · simp [hr]
  · have hr' : ¬ rem * k = 0 := fun h => hr (h0.1 h)
    simp only [hr, hr', if_false]
    cases rm <;> simp only [e1, e2, e3]

theorem roundScaled_scale (f : Fmt) (rm : RM) (neg : Bool) (sc den k : Nat) (_hden : 0 < den) (hk : 0 < k) :
    roundScaled f rm neg (sc * k) (den * k) = roundScaled f rm neg sc den := by
  unfold roundScaled
  rw [Nat.mul_div_mul_right _ _ hk]
  dsimp only
  split
  · rfl
  · generalize max (sc / den).log2 f.mbits - f.mbits = sh
    have e : den * k * 2 ^ sh = den * 2 ^ sh * k := by rw [Nat.mul_assoc, Nat.mul_comm k, ← Nat.mul_assoc]
    rw [e, Nat.mul_div_mul_right _ _ hk, Nat.mul_mod_mul_right, roundUp_scale _ _ _ _ _ _ hk]

theorem roundS_scale (f : Fmt) (rm : RM) (neg : Bool) (sc den k : Nat) (hden : 0 < den) (hk : 0 < k) :
    roundS f rm neg (sc * k) (den * k) = roundS f rm neg sc den := by
  unfold roundS
  by_cases h0 : sc = 0
  · simp [h0]
  · have : sc * k ≠ 0 := fun h => by rcases Nat.mul_eq_zero.1 h with h | h <;> omega
    rw [if_neg h0, if_neg this, roundScaled_scale f rm neg sc den k hden hk]

end Claripy.FP

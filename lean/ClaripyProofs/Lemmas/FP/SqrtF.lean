import ClaripyProofs.Lemmas.FP.DoubleRound
/-!
# FLOAT square root: `math.sqrt` on the widened operand, packed as binary32, is the binary32 square root

Both formats round the proxy `(2 * isqrt n + sticky) / 2^(k+1)` of `sqrt w` (`n = w * 4^k`; `k = 26` for binary32, and the binary64
computation on the widened operand is the same with `k = 980` when read in binary32 units).  The proxy compares with every
half-integer `c/2` exactly as `sqrt w` does (`c² ≤ 4w`), so the binary32 rounding does not depend on `k` (`round_congr`); and the
`k = 980` proxy is never within `2^-28` ulp of a binary32 midpoint `A` (`sqrt_gap`: the same comparison at `A ± δ`, since a non-zero
`|A² - n|` is a multiple of a large power of two), so the binary64 rounding in between is harmless.
-/
namespace Claripy.FP

def sqrtProxy (n : Nat) : Nat := 2 * Nat.sqrt n + (if Nat.sqrt n * Nat.sqrt n = n then 0 else 1)

theorem sqrtProxy_spec (n : Nat) :
    ∃ r s, sqrtProxy n = 2 * r + s ∧ r * r ≤ n ∧ n < (r + 1) * (r + 1) ∧ s ≤ 1 ∧ (s = 0 ↔ r * r = n) := by
  refine ⟨Nat.sqrt n, _, rfl, Nat.sqrt_le n, Nat.lt_succ_sqrt n, ?_, ?_⟩
  · split <;> omega
  · split <;> simp_all

theorem sqrt_proxy_cmp (n C : Nat) :
    (2 * C ≤ sqrtProxy n ↔ C * C ≤ n) ∧ (sqrtProxy n ≤ 2 * C ↔ n ≤ C * C) := by
  obtain ⟨r, s, hP, h1, h2, hs, hs0⟩ := sqrtProxy_spec n
  rw [hP]
  refine ⟨⟨fun h => ?_, fun h => ?_⟩, ⟨fun h => ?_, fun h => ?_⟩⟩
  · have : C ≤ r := by omega
    exact Nat.le_trans (Nat.mul_self_le_mul_self this) h1
  · have : C < r + 1 := Nat.mul_self_lt_mul_self_iff.1 (Nat.lt_of_le_of_lt h h2)
    omega
  · by_cases hlt : r < C
    · exact Nat.le_of_lt (Nat.lt_of_lt_of_le h2 (Nat.mul_self_le_mul_self (by omega)))
    · have hrc : r = C := by omega
      have : s = 0 := by omega
      rw [← hrc, hs0.1 this]; exact Nat.le_refl _
  · have hrc : r ≤ C := Nat.mul_self_le_mul_self_iff.1 (Nat.le_trans h1 h)
    by_cases hlt : r < C
    · omega
    · have hrc : r = C := by omega
      have : r * r = n := by rw [← hrc] at h; omega
      have := hs0.2 this
      omega

/-- a non-zero difference `E` between `n = pv * 2^T` and the square of `A = M * 2^l` is a multiple of `2^min(T, 2l)` -/
theorem sq_diff_bound (pv T l M E n A : Nat) (hpv : pv < 2 ^ 24) (hn : n = pv * 2 ^ T) (hA : A = M * 2 ^ l)
    (hE : 0 < E) (h : n + E = A * A ∨ n = A * A + E) : 2 ^ l * 2 ^ l ≤ E ∨ n < 2 ^ 24 * E := by
  have hAA : A * A = M * M * 2 ^ (l + l) := by rw [hA, Nat.pow_add]; grind
  have hdvd := fun c => pow_le_of_dvd_diff c n (A * A) E hE h
  by_cases hc : l + l ≤ T
  · left
    rw [← Nat.pow_add]
    apply hdvd
    · rw [hn]; exact Nat.dvd_mul_left_of_dvd (Nat.pow_dvd_pow 2 hc) pv
    · rw [hAA]; exact Nat.dvd_mul_left _ _
  · right
    have h1 : 2 ^ T ≤ E := by
      apply hdvd
      · rw [hn]; exact Nat.dvd_mul_left _ _
      · rw [hAA]; exact Nat.dvd_mul_left_of_dvd (Nat.pow_dvd_pow 2 (by omega)) _
    rw [hn]
    calc pv * 2 ^ T < 2 ^ 24 * 2 ^ T := Nat.mul_lt_mul_of_pos_right hpv (Nat.two_pow_pos _)
      _ ≤ 2 ^ 24 * E := Nat.mul_le_mul_left _ h1

/-- `A = M * L`, `L = 2^27 * δ`, `M < 2^25`: a difference of squares `E` that is at least `L²`, or more than `A² / (2^24 + 1)`,
exceeds `(A + δ)² - A²` -/
theorem sq_step (M δ E A : Nat) (hM1 : 1 ≤ M) (hM : M < 2 ^ 25) (hA : A = M * (2 ^ 27 * δ))
    (hb : 2 ^ 27 * δ * (2 ^ 27 * δ) ≤ E ∨ A * A < (2 ^ 24 + 1) * E) : 2 * A * δ + δ * δ ≤ E := by
  have e1 : 2 * A * δ = M * (2 ^ 28 * (δ * δ)) := by rw [hA]; grind
  have e2 : 2 ^ 27 * δ * (2 ^ 27 * δ) = 2 ^ 54 * (δ * δ) := by grind
  have e3 : A * A = M * (2 ^ 26 * (M * (2 ^ 28 * (δ * δ)))) := by rw [hA]; grind
  rw [e1]; rw [e2, e3] at hb
  generalize δ * δ = D at *
  have h1 : M * (2 ^ 28 * D) ≤ 2 ^ 25 * (2 ^ 28 * D) := Nat.mul_le_mul_right _ (Nat.le_of_lt hM)
  have h2 : 1 * (2 ^ 28 * D) ≤ M * (2 ^ 28 * D) := Nat.mul_le_mul_right _ hM1
  have h3 : 1 * (2 ^ 26 * (M * (2 ^ 28 * D))) ≤ M * (2 ^ 26 * (M * (2 ^ 28 * D))) := Nat.mul_le_mul_right _ hM1
  generalize M * (2 ^ 28 * D) = X at *
  rcases hb with hb | hb <;> omega

/-- The square root of a 24-bit number is not within `2^-28` ulp of a 25-bit midpoint.  `n = pv * 2^T`; a midpoint is `A = M * 2^l`
(`M = 2m+1`), compared in the form `2 * proxy` against `4 * A`.  `E = |A² - n| ≠ 0` is a multiple of `2^min(T, 2l)` (`sq_diff_bound`), which
puts `n` beyond `(A ± δ)²`, `δ = 2^(l-27)`; `sqrt_proxy_cmp` carries that to the proxy. -/
theorem sqrt_gap (pv T l m Δ n : Nat) (hpv : pv < 2 ^ 24) (hn : n = pv * 2 ^ T) (hl : 27 ≤ l) (hm : m < 2 ^ 24) (hΔ : 0 < Δ)
    (h : 2 * sqrtProxy n + Δ = (2 * m + 1) * (4 * 2 ^ l) ∨ 2 * sqrtProxy n = (2 * m + 1) * (4 * 2 ^ l) + Δ) :
    4 * 2 ^ l ≤ Δ * 2 ^ 27 := by
  obtain ⟨k, rfl⟩ : ∃ k, l = 27 + k := ⟨l - 27, by omega⟩
  have hL : 2 ^ (27 + k) = 2 ^ 27 * 2 ^ k := Nat.pow_add _ _ _
  have hδ : 0 < 2 ^ k := Nat.two_pow_pos k
  obtain ⟨A, hA⟩ : ∃ A, A = (2 * m + 1) * (2 ^ 27 * 2 ^ k) := ⟨_, rfl⟩
  have hb := fun E hE h' => sq_diff_bound pv T (27 + k) (2 * m + 1) E n A hpv hn (by rw [hL]; exact hA) hE h'
  rw [hL] at h hb ⊢
  rw [show (2 * m + 1) * (4 * (2 ^ 27 * 2 ^ k)) = 4 * A by rw [hA]; grind] at h
  generalize 2 ^ k = δ at *
  suffices 4 * δ ≤ Δ by omega
  have hstep := fun E hb' => sq_step (2 * m + 1) δ E A (by omega) (by omega) hA hb'
  have hcmp := sqrt_proxy_cmp n
  rcases h with h | h
  · -- the proxy is below `2A`: then `n < A²`, and even `n ≤ (A - δ)²`
    have hnA : n < A * A := by
      apply Classical.byContradiction; intro hc
      have := (hcmp A).1.2 (by omega); omega
    obtain ⟨E, hE⟩ : ∃ E, n + E = A * A := ⟨A * A - n, by omega⟩
    have hs := hstep E (by rcases hb E (by omega) (Or.inl hE) with h1 | h1; exact Or.inl h1; exact Or.inr (by omega))
    obtain ⟨B, hB⟩ : ∃ B, A = B + δ := ⟨A - δ, by
      have : 1 * δ ≤ (2 * m + 1) * (2 ^ 27 * δ) := Nat.mul_le_mul (by omega) (Nat.le_mul_of_pos_left _ (by decide))
      omega⟩
    have e : A * A = B * B + (2 * B * δ + δ * δ) := by rw [hB]; grind
    have e' : 2 * A * δ = 2 * B * δ + 2 * (δ * δ) := by rw [hB]; grind
    have := (hcmp B).2.2 (by omega)
    omega
  · -- above `2A`: then `A² < n`, and even `(A + δ)² ≤ n`
    have hnA : A * A < n := by
      apply Classical.byContradiction; intro hc
      have := (hcmp A).2.2 (by omega); omega
    obtain ⟨E, hE⟩ : ∃ E, n = A * A + E := ⟨n - A * A, by omega⟩
    have hs := hstep E (by rcases hb E (by omega) (Or.inr hE) with h1 | h1; exact Or.inl h1; exact Or.inr (by omega))
    have e : (A + δ) * (A + δ) = A * A + (2 * A * δ + δ * δ) := by grind
    have := (hcmp (A + δ)).1.2 (by omega)
    omega

end Claripy.FP

namespace Claripy.FP.Fold
open Claripy.FP

/-- the proxy of `sqrt (w * 4^(j+1))` against `c * 2^j`: as `2 * sqrt w` against `c` -/
theorem sqrt_scaled_cmp (w j c : Nat) :
    (c * 2 ^ (j + 2) ≤ 2 * sqrtProxy (w * 4 ^ (j + 1)) ↔ c * c ≤ 4 * w) ∧
    (2 * sqrtProxy (w * 4 ^ (j + 1)) ≤ c * 2 ^ (j + 2) ↔ 4 * w ≤ c * c) := by
  obtain ⟨h1, h2⟩ := sqrt_proxy_cmp (w * 4 ^ (j + 1)) (c * 2 ^ j)
  have e1 : c * 2 ^ (j + 2) = 2 * (2 * (c * 2 ^ j)) := by rw [Nat.pow_add]; grind
  have e4 : (4 : Nat) ^ j = 2 ^ j * 2 ^ j := by rw [show (4 : Nat) = 2 * 2 by rfl, Nat.mul_pow]
  have e2 : c * 2 ^ j * (c * 2 ^ j) = c * c * 4 ^ j := by rw [e4]; grind
  have e3 : w * 4 ^ (j + 1) = 4 * w * 4 ^ j := by rw [Nat.pow_succ]; grind
  have hpos : 0 < 4 ^ j := Nat.pow_pos (by decide)
  rw [e1]
  rw [e2, e3] at h1 h2
  rw [e3]
  constructor
  · have h3 : c * c * 4 ^ j ≤ 4 * w * 4 ^ j ↔ c * c ≤ 4 * w := Nat.mul_le_mul_right_iff hpos
    rw [← h3, ← h1]; omega
  · have h3 : 4 * w * 4 ^ j ≤ c * c * 4 ^ j ↔ 4 * w ≤ c * c := Nat.mul_le_mul_right_iff hpos
    rw [← h3, ← h2]; omega

theorem sqrt_round_congr (w : Nat) :
    roundS F .RNE false (sqrtProxy (w * 4 ^ 26)) (2 ^ 27) = roundS F .RNE false (sqrtProxy (w * 4 ^ 980)) (2 ^ 981) := by
  have hc := round_congr F wf32 false (sqrtProxy (w * 4 ^ 26)) (2 ^ 27) (sqrtProxy (w * 4 ^ 980)) (2 ^ 981)
    (Nat.two_pow_pos _) (Nat.two_pow_pos _)
    (fun c => by rw [(sqrt_scaled_cmp w 25 c).1, (sqrt_scaled_cmp w 979 c).1])
    (fun c => by rw [(sqrt_scaled_cmp w 25 c).2, (sqrt_scaled_cmp w 979 c).2])
  rw [roundS_eq F wf32 _ _ _ _ (Nat.two_pow_pos _), roundS_eq F wf32 _ _ _ _ (Nat.two_pow_pos _), hc]

theorem four_pow (k : Nat) : (4 : Nat) ^ k = 2 ^ (2 * k) := by
  rw [show (4 : Nat) = 2 ^ 2 by rfl, ← Nat.pow_mul]

theorem sqrt_no_false_tie (mag : Nat) (hf : mag < F.infMag)
    (hR : sqrtProxy (sval F mag * 2 ^ 149 * 4 ^ 980) < sval F F.infMag * 2 ^ 981) :
    NoFalseTie (sqrtProxy (sval F mag * 2 ^ 149 * 4 ^ 980)) (2 ^ 981) := by
  obtain ⟨pv, ev, hv, hpv, _⟩ := sval_F_form mag hf
  apply no_false_tie_of_gap (sqrtProxy (sval F mag * 2 ^ 149 * 4 ^ 980)) (2 ^ 981) (Nat.two_pow_pos 981) hR
  intro _ sh m Δ _ _ hm hΔ _ h
  have e : 2 ^ 981 * 2 ^ sh = 4 * 2 ^ (979 + sh) := by
    calc 2 ^ 981 * 2 ^ sh = 2 ^ (981 + sh) := (Nat.pow_add 2 981 sh).symm
      _ = 2 ^ (2 + (979 + sh)) := by rw [show 981 + sh = 2 + (979 + sh) by omega]
      _ = 2 ^ 2 * 2 ^ (979 + sh) := Nat.pow_add 2 2 (979 + sh)
  rw [e] at h ⊢
  have hn : sval F mag * 2 ^ 149 * 4 ^ 980 = pv * 2 ^ (ev + (149 + 2 * 980)) := by
    rw [hv, four_pow, Nat.mul_assoc, Nat.mul_assoc, ← Nat.pow_add, ← Nat.pow_add]
  exact sqrt_gap pv (ev + (149 + 2 * 980)) (979 + sh) m Δ _ hpv hn (by omega) hm hΔ h

theorem narrow_round_sqrt (mag : Nat) (hf : mag < F.infMag) :
    narrow (roundS D .RNE false (sqrtProxy (sval F mag * 2 ^ 925 * 2 ^ 1074 * 4 ^ 55)) (2 ^ 56)) =
      roundS F .RNE false (sqrtProxy (sval F mag * 2 ^ 149 * 4 ^ 26)) (2 ^ 27) := by
  have ep : 2 ^ 925 * (2 ^ 1074 * 4 ^ 55) = 2 ^ 149 * 4 ^ 980 := by
    rw [four_pow, four_pow, ← Nat.pow_add, ← Nat.pow_add, ← Nat.pow_add]
  have en : sval F mag * 2 ^ 925 * 2 ^ 1074 * 4 ^ 55 = sval F mag * 2 ^ 149 * 4 ^ 980 := by
    rw [Nat.mul_assoc, Nat.mul_assoc, ep, ← Nat.mul_assoc]
  rw [en, sqrt_round_congr]
  generalize hP : sqrtProxy (sval F mag * 2 ^ 149 * 4 ^ 980) = P
  have e56 : (2 : Nat) ^ 981 = 2 ^ 56 * 2 ^ 925 := by rw [← Nat.pow_add]
  have hsc := roundS_scale D .RNE false P (2 ^ 56) (2 ^ 925) (Nat.two_pow_pos 56) (Nat.two_pow_pos 925)
  rw [← hsc, ← e56]
  exact narrow_roundS false P (2 ^ 981) (Nat.two_pow_pos _) (fun hR => hP ▸ sqrt_no_false_tie mag hf (hP ▸ hR))

theorem narrow_sqrt_widen (a : Nat) : narrow (sqrt D .RNE (widen a)) = sqrt F .RNE a := by
  unfold sqrt
  rw [isNaN_widen]
  cases hn : isNaN F a
  case true => exact narrow_nan
  obtain ⟨_, iD, sD, _⟩ := widen_props a hn
  rw [isZero_widen a hn, sD, iD]
  simp only [Bool.false_eq_true, if_false]
  cases hz : isZero F a
  case true =>
    -- ±0: the sign is kept
    have hm0 : magOf F a = 0 := by unfold isZero at hz; simpa using hz
    obtain ⟨g, hgf, hgv, hc⟩ := cvt_widen_finite .RNE a (by rw [hm0]; decide)
    have hg0 : g = 0 := sval_injective D (by rw [hgv, hm0, sval_zero, sval_zero, Nat.zero_mul])
    have h0 : 0 ≤ D.infMag := Nat.zero_le _
    rw [if_pos rfl, if_pos rfl, mod_width F (by decide), hm0, show widen a = _ from hc, hg0, mod_width D (by decide),
      signOf_mkBits D wf64 h0, magOf_mkBits D wf64 h0]
    exact narrow_zero _
  cases hs : signOf F a
  case true => exact narrow_nan
  cases hi : isInf F a
  case true => exact narrow_inf _
  have hfin := finite_of_not_nan_inf F a hn hi
  simp only [Bool.false_eq_true, if_false, Dq, Fq, show D.sb + 2 = 55 from rfl, show F.sb + 2 = 26 from rfl]
  show narrow (roundS D .RNE false (sqrtProxy (sval D (magOf D (widen a)) * 2 ^ 1074 * 4 ^ 55)) (2 ^ 56)) =
    roundS F .RNE false (sqrtProxy (sval F (magOf F a) * 2 ^ 149 * 4 ^ 26)) (2 ^ 27)
  rw [sval_widen a hfin]
  exact narrow_round_sqrt (magOf F a) hfin

theorem fpSqrt_F_narrow (rm : RM) (a : Nat) : fpSqrt F rm a = narrow (sqrt D .RNE (widen a)) := by
  rw [fpSqrt_eq, lift_F, lower_F]

theorem fpSqrt_F (rm : RM) (a : Nat) : fpSqrt F rm a = sqrt F .RNE a := by
  rw [fpSqrt_F_narrow, narrow_sqrt_widen]

end Claripy.FP.Fold

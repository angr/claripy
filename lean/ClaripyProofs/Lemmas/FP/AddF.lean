import ClaripyProofs.Lemmas.FP.DoubleRound
/-!
# FLOAT addition and subtraction: the binary64 sum of two binary32 values is never a false binary32 tie

Let `N = |±A ± B|` for two binary32 values `A`, `B`, `B = sb * 2^t` the one with the smaller quantum (`2^t` divides `N`).
Either `N / 2^t < 2^53` — then `N` is a binary64 value and the first rounding is exact — or `N ≥ 2^(53+t)`, so the quantum `2^sh` of
`N` in binary32 satisfies `sh ≥ t + 30` and `B < 2^(sh-6)`: `N` is within `2^(sh-6)` of the binary32 value `A`, which does not lie
strictly between the binary32 neighbours of `N`; hence `N` is at least `2^(sh-1) - 2^(sh-6)` away from their midpoint, far more than
`no_false_tie_of_gap` asks for.  Subtraction is `a + (-b)` in both formats, and widening commutes with negation.
-/
namespace Claripy.FP.Fold
open Claripy.FP

def SumRepresentable (a b : Nat) : Prop :=
  ∃ g3, g3 < D.infMag ∧ sval D g3 = (sintOf F a + sintOf F b).natAbs * 2 ^ 925

theorem sintOf_F_natAbs_lt (a : Nat) (hfin : magOf F a < F.infMag) : (sintOf F a).natAbs < 2 ^ 277 := by
  have := sval_F_lt (magOf F a) hfin
  unfold sintOf; split <;> simpa using this

theorem sum_natAbs_lt (a b : Nat) (hfa : magOf F a < F.infMag) (hfb : magOf F b < F.infMag) :
    (sintOf F a + sintOf F b).natAbs < 2 ^ 278 := by
  have h1 := sintOf_F_natAbs_lt a hfa
  have h2 := sintOf_F_natAbs_lt b hfb
  have := Int.natAbs_add_le (sintOf F a) (sintOf F b)
  have e : (2 : Nat) ^ 278 = 2 ^ 277 + 2 ^ 277 := by rw [show (278 : Nat) = 277 + 1 by rfl, Nat.pow_succ]; omega
  omega

theorem sumRepresentable_of_53_bits (a b M k : Nat) (hfa : magOf F a < F.infMag) (hfb : magOf F b < F.infMag)
    (hS : (sintOf F a + sintOf F b).natAbs = M * 2 ^ k) (hM : M < 2 ^ 53) : SumRepresentable a b := by
  obtain ⟨g, hg⟩ := representable_of_dyadic D M (k + 925) (by rw [Dmbits]; exact Nat.lt_of_lt_of_le hM (by decide))
  refine ⟨g, ?_, by rw [hg, hS, Nat.mul_assoc, ← Nat.pow_add]⟩
  apply finite_of_lt_pow g 1203 (by decide)
  rw [hg, Nat.pow_add, ← Nat.mul_assoc, ← hS]
  calc (sintOf F a + sintOf F b).natAbs * 2 ^ 925 < 2 ^ 278 * 2 ^ 925 :=
        Nat.mul_lt_mul_of_pos_right (sum_natAbs_lt a b hfa hfb) (Nat.two_pow_pos _)
    _ = 2 ^ 1203 := by rw [← Nat.pow_add]

/-- `N` within `X` of a number `A` that is not strictly between `64 V` and `64 V + 64 X` is at least `31 X` away from the midpoint -/
theorem near_value_gap (N A B X V Δ : Nat) (hB : B < X) (hNle : N ≤ A + B) (hNge : A ≤ N + B)
    (hA : A ≤ 64 * V ∨ 64 * V + 64 * X ≤ A)
    (h : 2 * N + Δ = 128 * V + 64 * X ∨ 2 * N = 128 * V + 64 * X + Δ) : 64 * X ≤ Δ * 2 ^ 27 := by
  omega

theorem sum_no_false_tie (magA A B N t sb : Nat) (hA : A = sval F magA) (hB : B = sb * 2 ^ t) (hsb : sb < 2 ^ 24)
    (hdvd : 2 ^ t ∣ N) (hNle : N ≤ A + B) (hNge : A ≤ N + B) (hR : N < sval F F.infMag * 1) : NoFalseTie N 1 := by
  obtain ⟨n, hn⟩ := hdvd
  by_cases hsmall : n < 2 ^ 53
  · -- the sum is a binary64 value: the first rounding is exact
    intro h
    obtain ⟨g3, hg3⟩ := representable_of_dyadic D n (t + 925) (by rw [Dmbits]; omega)
    have hval : sval D g3 = N * 2 ^ 925 := by
      rw [hg3, hn, Nat.pow_add, Nat.mul_comm (2 ^ t) n, Nat.mul_assoc]
    have hfin : g3 < D.infMag := by
      apply finite_of_sval_lt; rw [hval]; simpa using D_inRange_of_F N 1 hR
    rw [round_exact' D wf64 .RNE false g3 _ 1 Nat.zero_lt_one hfin (by rw [hval, Nat.mul_one]), hval] at h
    rw [Nat.mul_one]
    rw [← Nat.mul_assoc] at h
    exact Nat.eq_of_mul_eq_mul_right (Nat.two_pow_pos 925) h
  · -- a long sum: the small operand is below 2^-6 of the binary32 quantum 2^sh of the sum, so the sum is within 2^-6 quantum of `A`,
    -- which is not strictly between the binary32 neighbours `lo`, `lo + 1` of the sum
    apply no_false_tie_of_gap N 1 Nat.zero_lt_one hR
    intro lo sh m Δ hv hv1 hm _ hhi h
    rw [Nat.one_mul] at hhi h ⊢
    have hNlow : 2 ^ (53 + t) ≤ N := by
      rw [hn, Nat.pow_add, Nat.mul_comm]; exact Nat.mul_le_mul_left _ (by omega)
    have hNhigh : N < 2 ^ (24 + sh) := by
      rw [Nat.pow_add]
      exact Nat.lt_of_lt_of_le hhi (Nat.mul_le_mul_right _ (by omega))
    have hexp : 53 + t < 24 + sh := by
      apply Classical.byContradiction; intro hc
      have := Nat.pow_le_pow_right (show 0 < 2 by decide) (show 24 + sh ≤ 53 + t by omega)
      omega
    obtain ⟨k, hk⟩ : ∃ k, sh = k + 6 := ⟨sh - 6, by omega⟩
    have hX : 2 ^ sh = 64 * 2 ^ k := by rw [hk, Nat.pow_add]; omega
    have hBX : B < 2 ^ k := by
      rw [hB]
      calc sb * 2 ^ t < 2 ^ 24 * 2 ^ t := Nat.mul_lt_mul_of_pos_right hsb (Nat.two_pow_pos _)
        _ = 2 ^ (24 + t) := by rw [← Nat.pow_add]
        _ ≤ 2 ^ k := Nat.pow_le_pow_right (by decide) (by omega)
    have hAlo : A ≤ m * 2 ^ sh ∨ (m + 1) * 2 ^ sh ≤ A := by
      rw [hA, ← hv, ← hv1]
      by_cases hcase : magA ≤ lo
      · exact Or.inl (sval_mono F hcase)
      · exact Or.inr (sval_mono F (by omega))
    rw [hX] at h hAlo ⊢
    generalize 2 ^ k = X at *
    have e1 : m * (64 * X) = 64 * (m * X) := Nat.mul_left_comm _ _ _
    have e2 : (m + 1) * (64 * X) = 64 * (m * X) + 64 * X := by rw [Nat.add_mul, e1, Nat.one_mul]
    have e3 : (2 * m + 1) * (64 * X) = 128 * (m * X) + 64 * X := by rw [Nat.add_mul, Nat.mul_assoc, e1, Nat.one_mul]; omega
    rw [e1, e2] at hAlo; rw [e3] at h
    exact near_value_gap N A B X (m * X) Δ hBX hNle hNge hAlo h

theorem sintOf_natAbs (a : Nat) : (sintOf F a).natAbs = sval F (magOf F a) := by
  unfold sintOf; split <;> simp

theorem sum_no_false_tie_F (a b : Nat) (hfa : magOf F a < F.infMag) (hfb : magOf F b < F.infMag)
    (hR : (sintOf F a + sintOf F b).natAbs < sval F F.infMag * 1) : NoFalseTie (sintOf F a + sintOf F b).natAbs 1 := by
  obtain ⟨sa, ea, hva, hsa, _⟩ := sval_F_form (magOf F a) hfa
  obtain ⟨sb, eb, hvb, hsb, _⟩ := sval_F_form (magOf F b) hfb
  have hna := sintOf_natAbs a
  have hnb := sintOf_natAbs b
  have h1 : (sintOf F a + sintOf F b).natAbs ≤ (sintOf F a).natAbs + (sintOf F b).natAbs := Int.natAbs_add_le _ _
  have h2 : (sintOf F a).natAbs ≤ (sintOf F a + sintOf F b).natAbs + (sintOf F b).natAbs := by omega
  have h3 : (sintOf F b).natAbs ≤ (sintOf F a + sintOf F b).natAbs + (sintOf F a).natAbs := by omega
  rw [hna, hnb] at h1 h2 h3
  have hdvd : ∀ t, 2 ^ t ∣ sval F (magOf F a) → 2 ^ t ∣ sval F (magOf F b) →
      2 ^ t ∣ (sintOf F a + sintOf F b).natAbs := by
    intro t da db
    rw [← hna] at da; rw [← hnb] at db
    exact Int.ofNat_dvd_left.1 (Int.dvd_add (Int.ofNat_dvd_left.2 da) (Int.ofNat_dvd_left.2 db))
  by_cases hle : eb ≤ ea
  · -- b has the smaller quantum
    apply sum_no_false_tie (magOf F a) _ _ _ eb sb rfl hvb hsb _ h1 h2 hR
    apply hdvd
    · rw [hva]; exact Nat.dvd_mul_left_of_dvd (Nat.pow_dvd_pow 2 hle) sa
    · rw [hvb]; exact Nat.dvd_mul_left _ _
  · -- a has the smaller quantum
    apply sum_no_false_tie (magOf F b) _ _ _ ea sa rfl hva hsa _ (by omega) h3 hR
    apply hdvd
    · rw [hva]; exact Nat.dvd_mul_left _ _
    · rw [hvb]; exact Nat.dvd_mul_left_of_dvd (Nat.pow_dvd_pow 2 (by omega)) sb

theorem narrow_round_sum (a b : Nat) (hfa : magOf F a < F.infMag) (hfb : magOf F b < F.infMag) (neg : Bool) :
    narrow (roundS D .RNE neg ((sintOf F a + sintOf F b).natAbs * 2 ^ 925) 1) =
      roundS F .RNE neg (sintOf F a + sintOf F b).natAbs 1 :=
  narrow_roundS neg _ 1 Nat.zero_lt_one (sum_no_false_tie_F a b hfa hfb)

theorem int_scale (S k : Int) (hk : 0 < k) : (S * k = 0 ↔ S = 0) ∧ (S * k < 0 ↔ S < 0) := by
  refine ⟨⟨fun h => ?_, fun h => by rw [h, Int.zero_mul]⟩, ⟨fun h => ?_, fun h => Int.mul_neg_of_neg_of_pos h hk⟩⟩
  · rcases Int.mul_eq_zero.1 h with h | h
    · exact h
    · omega
  · apply Classical.byContradiction; intro hc
    have : 0 ≤ S * k := Int.mul_nonneg (by omega) (by omega)
    omega

/-- Both sides run through the same case analysis (NaN, infinities and zeros of both signs, exact zero sums) once the classification of
the widened operands is rewritten to that of the operands; the finite leaf is `narrow_round_sum`. -/
theorem narrow_add_widen (a b : Nat) : narrow (add D .RNE (widen a) (widen b)) = add F .RNE a b := by
  unfold add
  rw [isNaN_widen, isNaN_widen]
  cases hna : isNaN F a
  case true => exact narrow_nan
  cases hnb : isNaN F b
  case true => exact narrow_nan
  obtain ⟨_, ia, sa, va⟩ := widen_props a hna
  obtain ⟨_, ib, sb, vb⟩ := widen_props b hnb
  simp only [ia, ib, sa, sb, Bool.or_self, Bool.false_eq_true, if_false, apply_ite narrow, narrow_nan, narrow_inf, narrow_zero]
  refine ite_congr rfl (fun _ => rfl) fun hia => ite_congr rfl (fun _ => rfl) fun hib => ?_
  have hia : isInf F a = false := by simpa using hia
  have hib : isInf F b = false := by simpa using hib
  rw [va hia, vb hib, ← Int.add_mul]
  obtain ⟨h0, hlt⟩ := int_scale (sintOf F a + sintOf F b) (2 ^ 925) (Int.pow_pos (by decide))
  have habs : ((2 : Int) ^ 925).natAbs = 2 ^ 925 := by rw [Int.natAbs_pow]; rfl
  simp only [h0, hlt, Int.natAbs_mul, habs]
  exact ite_congr rfl (fun _ => rfl) fun _ =>
    narrow_round_sum a b (finite_of_not_nan_inf F a hna hia) (finite_of_not_nan_inf F b hnb hib) _

theorem fpAdd_F (rm : RM) (a b : Nat) : fpAdd F rm a b = add F .RNE a b := by
  unfold fpAdd pyAdd; rw [lift_F, lift_F, lower_F]; exact narrow_add_widen a b

theorem magOf_le_F (b : Nat) : magOf F b < 2 ^ 31 := by
  unfold magOf; rw [FsignBit]; exact Nat.mod_lt _ (Nat.two_pow_pos _)

theorem widen_neg (b : Nat) (hn : isNaN F b = false) : widen (neg F b) = neg D (widen b) := by
  have hmle : magOf F b ≤ F.infMag := by unfold isNaN at hn; simp at hn; omega
  have hmag : magOf F (neg F b) = magOf F b := by rw [neg_eq_mkBits, magOf_mkBits F wf32 hmle]
  have hsgn : signOf F (neg F b) = !signOf F b := by rw [neg_eq_mkBits, signOf_mkBits F wf32 hmle]
  have hn2 : isNaN F (neg F b) = false := by unfold isNaN at *; rw [hmag]; exact hn
  rcases widen_eq b hn with ⟨_, hm, hw⟩ | ⟨_, hfin, g, hgf, hgv, hw⟩ <;>
    rcases widen_eq (neg F b) hn2 with ⟨_, hm2, hw2⟩ | ⟨_, hfin2, g2, hg2f, hg2v, hw2⟩ <;> rw [hw, hw2, hsgn]
  · exact (neg_mkBits D wf64 (Nat.le_refl _)).symm
  · omega
  · omega
  · have : g2 = g := sval_injective D (by rw [hg2v, hgv, hmag])
    rw [this, neg_mkBits D wf64 (Nat.le_of_lt hgf)]

theorem narrow_sub_widen (a b : Nat) : narrow (sub D .RNE (widen a) (widen b)) = sub F .RNE a b := by
  unfold sub
  rw [isNaN_widen b]
  cases hn : isNaN F b
  · simp only [Bool.false_eq_true, if_false]
    rw [← widen_neg b hn]; exact narrow_add_widen a (neg F b)
  · simp only [if_true]; exact narrow_nan

theorem fpSub_F (rm : RM) (a b : Nat) : fpSub F rm a b = sub F .RNE a b := by
  unfold fpSub pySub; rw [lift_F, lift_F, lower_F]; exact narrow_sub_widen a b

end Claripy.FP.Fold

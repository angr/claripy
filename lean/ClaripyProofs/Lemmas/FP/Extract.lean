import ClaripyProofs.Lemmas.FP.FoldF
import Claripy.FP.Extract
/-! `_abstract_fp_val`: the three binary64 operations `sign * float(sig) * 2**exp` are all exact, so the result is the conversion of
the numeral to binary64. -/
namespace Claripy.FP.Extract
open Claripy.FP Claripy.FP.Fold

theorem mul_exact (rm : RM) (s1 s2 : Bool) (g1 g2 g3 : Nat) (h1 : g1 < D.infMag) (h2 : g2 < D.infMag) (h3 : g3 < D.infMag)
    (hv : sval D g1 * sval D g2 = sval D g3 * 2 ^ 1074) :
    mul D rm (mkBits D s1 g1) (mkBits D s2 g2) = mkBits D (s1 != s2) g3 := by
  unfold mul
  have l1 := Nat.le_of_lt h1
  have l2 := Nat.le_of_lt h2
  simp only [isNaN_mkBits D wf64 l1, isNaN_mkBits D wf64 l2, notInf_mkBits D wf64 h1, notInf_mkBits D wf64 h2,
    signOf_mkBits D wf64 l1, signOf_mkBits D wf64 l2, magOf_mkBits D wf64 l1, magOf_mkBits D wf64 l2, Bool.or_self,
    Bool.false_eq_true, if_false, Dq]
  exact roundS_exact' D wf64 rm _ g3 _ _ (Nat.two_pow_pos _) h3 hv

/-- `float("<decimal of sig / 2^mbits>")` is exact -/
theorem mant_exact (mb sig : Nat) (hmb : mb ≤ 52) (hsig : sig < 2 * 2 ^ mb) :
    ∃ g1, g1 < D.infMag ∧ sval D g1 = sig * 2 ^ (1074 - mb) ∧ pyFloatOfRat sig (2 ^ mb) = mkBits D false g1 := by
  obtain ⟨g1, hfin, hg1⟩ := dyadic_D sig (1074 - mb) (mb + 1) (by rw [Nat.pow_succ]; omega) (by omega) (by omega)
  refine ⟨g1, hfin, hg1, ?_⟩
  unfold pyFloatOfRat roundRat
  rw [Dq]
  apply roundS_exact' D wf64 .RNE false g1 _ _ (Nat.two_pow_pos _) hfin
  rw [hg1, Nat.mul_assoc, ← Nat.pow_add]; congr 2; omega

/-- `2 ** (hi - lo)` as a float is exact -/
theorem pow_exact (hi lo : Nat) (hlo : lo ≤ 1074 + hi) (hhi : hi ≤ lo + 1023) :
    ∃ g2, g2 < D.infMag ∧ sval D g2 = 2 ^ (1074 + hi - lo) ∧ pyPow2 hi lo = mkBits D false g2 := by
  obtain ⟨g2, hfin, hg2⟩ := pow_dyadic_D (1074 + hi - lo) (by omega)
  refine ⟨g2, hfin, hg2, ?_⟩
  unfold pyPow2 roundRat
  rw [Dq]
  by_cases h : hi ≥ lo
  · rw [if_pos h]
    apply roundS_exact' D wf64 .RNE false g2 _ _ (by decide) hfin
    rw [hg2, Nat.mul_one, ← Nat.pow_add]; congr 1; omega
  · rw [if_neg h]
    apply roundS_exact' D wf64 .RNE false g2 _ _ (Nat.two_pow_pos _) hfin
    rw [hg2, Nat.one_mul, ← Nat.pow_add]; congr 1; omega

/-- the exponents of significand and power of two add up to that of the value in binary64 units (`q = bias + mb - 1`) -/
theorem exp_split (mb bias E : Nat) (hmb : mb ≤ 52) (hb1 : 1 ≤ bias) (hb : bias ≤ 1023) :
    1074 - mb + (1074 + max E 1 - bias) = (E - 1) + ((1074 - (bias + mb - 1)) + 1074) := by omega

/-- `_abstract_fp_val` is the conversion to binary64, for every format whose finite values are all doubles: the significand
`float("<decimal>")`, the power `2 ** exp` and their product are exact -/
theorem abstractFpVal_eq_cvt (f : Fmt) (wf : WF f) (hmb : f.mbits ≤ 52) (hb1 : 1 ≤ f.bias) (hb : f.bias ≤ 1023)
    (hfit : ∀ mag, mag < f.infMag → ∃ g3, g3 < D.infMag ∧ sval D g3 = sval f mag * 2 ^ (1074 - f.q)) (b : Nat) :
    abstractFpVal f b = cvt f D .RNE b := by
  unfold abstractFpVal cvt
  cases hn : isNaN f b
  case true => simp only [if_true]
  cases hi : isInf f b
  case true => simp only [Bool.false_eq_true, if_false, if_true]
  simp only [Bool.false_eq_true, if_false, Dq]
  have hfin := finite_of_not_nan_inf f b hn hi
  cases hz : isZero f b
  case true =>
    have hm0 : magOf f b = 0 := by unfold isZero at hz; simpa using hz
    rw [if_pos rfl, hm0, sval_zero]; simp [roundS]
  simp only [Bool.false_eq_true, if_false]
  generalize magOf f b = mag at *
  obtain ⟨g3, hg3f, hg3v⟩ := hfit mag hfin
  have hq : f.q ≤ 1074 := by unfold Fmt.q; omega
  rw [roundS_exact' D wf64 .RNE _ g3 _ _ (Nat.two_pow_pos _) hg3f
    (by rw [hg3v, Nat.mul_assoc, ← Nat.pow_add]; congr 2; omega)]
  obtain ⟨sh, sig, _, _, hsig, _, hsigE⟩ := mag_decomp f mag
  have hE : mag / 2 ^ f.mbits ≤ 2 * f.bias := by
    have h2 := two_bias f wf
    have : mag < (2 * f.bias + 1) * 2 ^ f.mbits := by unfold Fmt.infMag at hfin; rw [← h2] at hfin; simpa using hfin
    have := (Nat.div_lt_iff_lt_mul (Nat.two_pow_pos f.mbits)).2 this
    omega
  obtain ⟨g1, hg1f, hg1v, hg1⟩ := mant_exact f.mbits sig hmb hsig
  obtain ⟨g2, hg2f, hg2v, hg2⟩ := pow_exact (max (mag / 2 ^ f.mbits) 1) f.bias (by omega) (by omega)
  rw [← hsigE, hg1, hg2]
  have hsm : (if signOf f b = true then neg D (mkBits D false g1) else mkBits D false g1) = mkBits D (signOf f b) g1 := by
    cases signOf f b
    · simp
    · simp only [if_true]; exact neg_mkBits D wf64 (Nat.le_of_lt hg1f)
  rw [hsm]
  unfold pyMul
  have hv : sval D g1 * sval D g2 = sval D g3 * 2 ^ 1074 := by
    rw [hg1v, hg2v, hg3v]
    have hs : sval f mag = sig * 2 ^ (mag / 2 ^ f.mbits - 1) := by unfold sval; rw [← hsigE]
    rw [hs]
    generalize mag / 2 ^ f.mbits = E at *
    have e1 := exp_split f.mbits f.bias E hmb hb1 hb
    rw [Nat.mul_assoc, Nat.mul_assoc, Nat.mul_assoc, ← Nat.pow_add, ← Nat.pow_add, ← Nat.pow_add, Fmt.q, e1]
  rw [mul_exact .RNE (signOf f b) false g1 g2 g3 hg1f hg2f hg3f hv]
  simp only [Bool.bne_false]

theorem abstractFpVal_D (b : Nat) (hb : b < 2 ^ 64) (hn : isNaN D b = false) : abstractFpVal D b = b := by
  rw [abstractFpVal_eq_cvt D wf64 (by decide) (by decide) (by decide) (fun mag h => ⟨mag, h, by rw [Dq]; simp⟩)]
  have hdec := bits_decomp b hb
  unfold cvt
  rw [hn]
  cases hi : isInf D b
  · simp only [Bool.false_eq_true, if_false]
    rw [roundS_exact' D wf64 .RNE _ (magOf D b) _ _ (Nat.two_pow_pos _) (finite_of_not_nan_inf D b hn hi) rfl]
    exact hdec.symm
  · unfold isInf at hi; simp only [decide_eq_true_eq] at hi
    rw [hi] at hdec
    simp only [Bool.false_eq_true, if_false, if_true]; exact hdec.symm

theorem abstractFpVal_F (b : Nat) (hb : b < 2 ^ 32) (hn : isNaN F b = false) : lower F (abstractFpVal F b) = b := by
  rw [lower_F, abstractFpVal_eq_cvt F wf32 (by decide) (by decide) (by decide) (fun mag h => by rw [Fq]; exact F_val_repr mag (Nat.le_of_lt h))]
  exact narrow_widen b hb hn

end Claripy.FP.Extract

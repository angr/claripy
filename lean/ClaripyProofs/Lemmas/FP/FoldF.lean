import ClaripyProofs.Lemmas.FP.Formats
import ClaripyProofs.Lemmas.FP.FoldD
/-! FLOAT: a binary32 value lives in claripy as a Python float.  Widening is exact (in every mode), so comparisons,
sign operations, classification, `fpToIEEEBV` and the float → integer conversions of a FLOAT are the specification's.
Integer → DOUBLE: `float(int)` never overflows for integers below 2^1023. -/
namespace Claripy.FP.Fold
open Claripy.FP

theorem narrow_nan : narrow D.nanBits = F.nanBits := by decide +kernel
theorem narrow_inf (s : Bool) : narrow (mkBits D s D.infMag) = mkBits F s F.infMag := by cases s <;> decide +kernel
theorem narrow_zero (s : Bool) : narrow (mkBits D s 0) = mkBits F s 0 := by cases s <;> decide +kernel

theorem narrow_finite (s : Bool) (g : Nat) (hg : g < D.infMag) :
    narrow (mkBits D s g) = roundS F .RNE s (sval D g) (2 ^ 925) := by
  unfold narrow cvt
  simp only [isNaN_mkBits D wf64 (Nat.le_of_lt hg), notInf_mkBits D wf64 hg, signOf_mkBits D wf64 (Nat.le_of_lt hg), magOf_mkBits D wf64 (Nat.le_of_lt hg),
    Bool.false_eq_true, if_false, Fq, Dq]
  have e : (2 : Nat) ^ 1074 = 2 ^ 925 * 2 ^ 149 := by rw [← Nat.pow_add]
  rw [e, roundS_scale F .RNE s (sval D g) (2 ^ 925) (2 ^ 149) (Nat.two_pow_pos _) (Nat.two_pow_pos _)]

theorem narrow_exact (s : Bool) (g3 mag : Nat) (h3 : g3 < D.infMag) (hm : mag < F.infMag)
    (hv : sval D g3 = sval F mag * 2 ^ 925) : narrow (mkBits D s g3) = mkBits F s mag := by
  rw [narrow_finite s g3 h3]
  exact roundS_exact' F wf32 .RNE s mag _ _ (Nat.two_pow_pos _) hm hv

theorem cvt_widen_finite (rm : RM) (a : Nat) (hfin : magOf F a < F.infMag) :
    ∃ g, g < D.infMag ∧ sval D g = sval F (magOf F a) * 2 ^ 925 ∧ cvt F D rm a = mkBits D (signOf F a) g := by
  obtain ⟨g, hgf, hgv⟩ := F_val_repr (magOf F a) (Nat.le_of_lt hfin)
  refine ⟨g, hgf, hgv, ?_⟩
  have hn : isNaN F a = false := by unfold isNaN; simp; omega
  have hi : isInf F a = false := by unfold isInf; simp; omega
  unfold cvt
  simp only [hn, hi, Bool.false_eq_true, if_false, Dq, Fq]
  apply roundS_exact' D wf64 rm _ g _ _ (Nat.two_pow_pos _) hgf
  rw [hgv, Nat.mul_assoc, ← Nat.pow_add]

theorem widen_eq (a : Nat) (hn : isNaN F a = false) :
    (isInf F a = true ∧ magOf F a = F.infMag ∧ widen a = mkBits D (signOf F a) D.infMag) ∨
    (isInf F a = false ∧ magOf F a < F.infMag ∧
      ∃ g, g < D.infMag ∧ sval D g = sval F (magOf F a) * 2 ^ 925 ∧ widen a = mkBits D (signOf F a) g) := by
  cases hi : isInf F a
  · have hfin := finite_of_not_nan_inf F a hn hi
    exact Or.inr ⟨rfl, hfin, cvt_widen_finite .RNE a hfin⟩
  · refine Or.inl ⟨rfl, ?_, by unfold widen cvt; simp [hn, hi]⟩
    unfold isInf at hi; simpa using hi

/-- the fold ignores the rounding mode of a FLOAT → DOUBLE conversion; widening being exact, it is right in all five -/
theorem cvt_widen_rm_indep (rm : RM) (a : Nat) : cvt F D rm a = cvt F D .RNE a := by
  by_cases hn : isNaN F a = true
  · unfold cvt; simp [hn]
  · by_cases hi : isInf F a = true
    · unfold cvt; simp [hn, hi]
    · have hfin : magOf F a < F.infMag := by
        unfold isNaN at hn; unfold isInf at hi; simp at hn hi; omega
      obtain ⟨g1, _, hv1, h1⟩ := cvt_widen_finite rm a hfin
      obtain ⟨g2, _, hv2, h2⟩ := cvt_widen_finite .RNE a hfin
      have : g1 = g2 := sval_injective D (by rw [hv1, hv2])
      rw [h1, h2, this]

theorem fpToFP_widen (rm : RM) (a : Nat) : fpToFP_fp F D rm a = cvt F D rm a := by
  unfold fpToFP_fp lift widen
  rw [lower_D, if_pos rfl, cvt_widen_rm_indep rm a]

/-- round trip: widening then packing as binary32 gives the pattern back (`fpToIEEEBV` of a FLOAT) -/
theorem narrow_widen (a : Nat) (ha : a < 2 ^ 32) (hn : isNaN F a = false) : narrow (widen a) = a := by
  have hdec := bits_decomp_F a ha
  rcases widen_eq a hn with ⟨_, hm, hw⟩ | ⟨_, hfin, g, hgf, hgv, hw⟩
  · rw [hw]; conv => rhs; rw [hdec, hm]
    exact narrow_inf _
  · rw [hw, narrow_exact _ g _ hgf hfin hgv]; exact hdec.symm

theorem compare_mul_pos (x y k : Int) (hk : 0 < k) : compare (x * k) (y * k) = compare x y := by
  rcases Int.lt_trichotomy x y with h | h | h
  · rw [Int.compare_eq_lt.2 h, Int.compare_eq_lt.2 (Int.mul_lt_mul_of_pos_right h hk)]
  · rw [h, Int.compare_eq_eq.2 rfl, Int.compare_eq_eq.2 rfl]
  · rw [Int.compare_eq_gt.2 h, Int.compare_eq_gt.2 (Int.mul_lt_mul_of_pos_right h hk)]

theorem widen_props (a : Nat) (hn : isNaN F a = false) :
    isNaN D (widen a) = false ∧ isInf D (widen a) = isInf F a ∧ signOf D (widen a) = signOf F a ∧
    (isInf F a = false → sintOf D (widen a) = sintOf F a * 2 ^ 925) := by
  rcases widen_eq a hn with ⟨hi, _, hw⟩ | ⟨hi, _, g, hgf, hgv, hw⟩ <;> rw [hw, hi]
  · have hle := Nat.le_refl D.infMag
    exact ⟨isNaN_mkBits D wf64 hle, by unfold isInf; rw [magOf_mkBits D wf64 hle]; exact decide_eq_true rfl,
      signOf_mkBits D wf64 hle, fun h => absurd h (by simp)⟩
  · refine ⟨isNaN_mkBits D wf64 (Nat.le_of_lt hgf), notInf_mkBits D wf64 hgf, signOf_mkBits D wf64 (Nat.le_of_lt hgf), fun _ => ?_⟩
    unfold sintOf
    rw [signOf_mkBits D wf64 (Nat.le_of_lt hgf), magOf_mkBits D wf64 (Nat.le_of_lt hgf), hgv]
    cases signOf F a <;> simp [Int.neg_mul]

theorem widen_nan (a : Nat) (hn : isNaN F a = true) : widen a = D.nanBits := by
  unfold widen cvt; simp [hn]

theorem isNaN_widen (a : Nat) : isNaN D (widen a) = isNaN F a := by
  cases hx : isNaN F a
  · exact (widen_props a hx).1
  · rw [widen_nan a hx]; decide

theorem cmp_widen (a b : Nat) (ha : isNaN F a = false) (hb : isNaN F b = false) :
    cmp D (widen a) (widen b) = cmp F a b := by
  obtain ⟨_, ia, sa, va⟩ := widen_props a ha
  obtain ⟨_, ib, sb, vb⟩ := widen_props b hb
  unfold cmp
  rw [ia, ib, sa, sb]
  cases hia : isInf F a <;> cases hib : isInf F b <;> simp only [Bool.false_eq_true, if_false, if_true]
  rw [va hia, vb hib]
  exact compare_mul_pos _ _ _ (Int.pow_pos (by decide))

theorem cmp_F (a b : Nat) :
    fpEQ F a b = feq F a b ∧ fpNEQ F a b = fneq F a b ∧ fpLT F a b = flt F a b ∧ fpLEQ F a b = fleq F a b ∧
    fpGT F a b = fgt F a b ∧ fpGEQ F a b = fgeq F a b ∧ fpIsNaN F a = isNaN F a ∧ fpIsInf F a = isInf F a := by
  have hinf : isInf D (widen a) = isInf F a := by
    cases hx : isNaN F a
    · exact (widen_props a hx).2.1
    · rw [widen_nan a hx]
      have : isInf D D.nanBits = false := by decide
      rw [this]; unfold isNaN at hx; unfold isInf; simp at hx ⊢; omega
  unfold fpEQ fpNEQ fpLT fpLEQ fpGT fpGEQ fpIsNaN fpIsInf feq fneq flt fleq fgt fgeq feq flt fleq unordered
  simp only [lift_F, isNaN_widen]
  refine ⟨?_, ?_, ?_, ?_, ?_, ?_, trivial, hinf⟩ <;>
  · cases hna : isNaN F a
    · cases hnb : isNaN F b
      · simp only [cmp_widen a b hna hnb, cmp_widen b a hnb hna]
      · simp
    · simp

theorem neg_eq_mkBits (f : Fmt) (a : Nat) : neg f a = mkBits f (!signOf f a) (magOf f a) := by
  unfold neg mkBits; cases signOf f a <;> simp

theorem abs_eq_mkBits (f : Fmt) (a : Nat) : abs f a = mkBits f false (magOf f a) := by
  unfold abs mkBits; simp

theorem narrow_resign (a : Nat) (hn : isNaN F a = false) (s : Bool) :
    narrow (mkBits D s (magOf D (widen a))) = mkBits F s (magOf F a) := by
  rcases widen_eq a hn with ⟨_, hm, hw⟩ | ⟨_, hfin, g, hgf, hgv, hw⟩ <;> rw [hw]
  · rw [hm, magOf_mkBits D wf64 (Nat.le_refl _)]; exact narrow_inf s
  · rw [magOf_mkBits D wf64 (Nat.le_of_lt hgf), narrow_exact s g _ hgf hfin hgv]

/-- NaN excepted: its payload is unspecified -/
theorem fpNeg_F (a : Nat) (hn : isNaN F a = false) : fpNeg F a = neg F a := by
  unfold fpNeg
  rw [lift_F, lower_F, neg_eq_mkBits, neg_eq_mkBits, (widen_props a hn).2.2.1]
  exact narrow_resign a hn _

theorem fpAbs_F (a : Nat) (hn : isNaN F a = false) : fpAbs F a = abs F a := by
  unfold fpAbs
  rw [lift_F, lower_F, abs_eq_mkBits, abs_eq_mkBits]
  exact narrow_resign a hn false

theorem fpToIEEEBV_ok (a : Nat) :
    (a < 2 ^ 64 → isNaN D a = false → fpToIEEEBV D a = a) ∧ (a < 2 ^ 32 → isNaN F a = false → fpToIEEEBV F a = a) := by
  constructor
  · intro ha hn; unfold fpToIEEEBV; rw [lower_D, lift_D_notnan a ha hn]
  · intro ha hn
    unfold fpToIEEEBV lift lower; rw [if_pos rfl, if_pos rfl]; exact narrow_widen a ha hn

theorem toIntegral_widen (rm : RM) (a : Nat) (hfin : magOf F a < F.infMag) :
    toIntegral D rm (widen a) = toIntegral F rm a := by
  obtain ⟨g, hgf, hgv, hc⟩ := cvt_widen_finite .RNE a hfin
  have hw : widen a = mkBits D (signOf F a) g := hc
  unfold toIntegral toIntegralMag
  rw [hw, signOf_mkBits D wf64 (Nat.le_of_lt hgf), magOf_mkBits D wf64 (Nat.le_of_lt hgf), hgv, Dq, Fq]
  have hp : (2 : Nat) ^ 1074 = 2 ^ 149 * 2 ^ 925 := by rw [← Nat.pow_add]
  have hk : 0 < 2 ^ 925 := Nat.two_pow_pos _
  rw [hp]
  dsimp only
  rw [Nat.mul_div_mul_right _ _ hk, Nat.mul_mod_mul_right, roundUp_scale _ _ _ _ _ _ hk]

theorem isFinite_widen (a : Nat) (hfin : magOf F a < F.infMag) : isFinite D (widen a) = true := by
  obtain ⟨g, hgf, _, hc⟩ := cvt_widen_finite .RNE a hfin
  have hw : widen a = mkBits D (signOf F a) g := hc
  unfold isFinite; rw [hw, magOf_mkBits D wf64 (Nat.le_of_lt hgf)]; simpa using hgf

theorem fpToBV_F (rm : RM) (a w v : Nat) (htab : Claripy.Gen.rmToDecimal = smtlibDecimal) :
    (toSBV F rm a w = some v → fpToBV F rm a w = v) ∧ (toUBV F rm a w = some v → fpToBV F rm a w = v) := by
  have key : isFinite F a = true → fpToBV F rm a w = (toIntegral F rm a % (2 ^ w : Int)).toNat := fun hf => by
    have hfin : magOf F a < F.infMag := by unfold isFinite at hf; simpa using hf
    exact fpToBV_finite F rm a w htab (by rw [lift_F, isFinite_widen a hfin]) (by rw [lift_F, toIntegral_widen rm a hfin])
  constructor <;> intro h
  · obtain ⟨hfin, rfl⟩ := toSBV_some F rm a w v h
    exact key hfin
  · obtain ⟨hfin, rfl⟩ := toUBV_some F rm a w v h
    exact key hfin

theorem sval_widen (a : Nat) (hfin : magOf F a < F.infMag) :
    sval D (magOf D (widen a)) = sval F (magOf F a) * 2 ^ 925 := by
  obtain ⟨g, hgf, hgv, hc⟩ := cvt_widen_finite .RNE a hfin
  rw [show widen a = _ from hc, magOf_mkBits D wf64 (Nat.le_of_lt hgf), hgv]

theorem isZero_widen (a : Nat) (hn : isNaN F a = false) : isZero D (widen a) = isZero F a := by
  unfold isZero
  rcases widen_eq a hn with ⟨_, hm, hw⟩ | ⟨_, hfin, g, hgf, hgv, hw⟩ <;> rw [hw]
  · rw [hm, magOf_mkBits D wf64 (Nat.le_refl _), decide_eq_false (Nat.ne_of_gt (infMag_pos D wf64)),
      decide_eq_false (Nat.ne_of_gt (infMag_pos F wf32))]
  · rw [magOf_mkBits D wf64 (Nat.le_of_lt hgf)]
    have h0 : g = 0 ↔ magOf F a = 0 := by
      constructor <;> intro h
      · apply sval_injective F
        rw [h, sval_zero] at hgv
        rcases Nat.mul_eq_zero.1 hgv.symm with h | h
        · rw [h, sval_zero]
        · exact absurd h (Nat.pos_iff_ne_zero.1 (Nat.two_pow_pos 925))
      · exact sval_injective D (by rw [hgv, h, sval_zero, sval_zero, Nat.zero_mul])
    simp only [h0]

theorem widen_class (a : Nat) (hn : isNaN F a = false) :
    isInf D (widen a) = isInf F a ∧ isZero D (widen a) = isZero F a ∧ signOf D (widen a) = signOf F a :=
  ⟨(widen_props a hn).2.1, isZero_widen a hn, (widen_props a hn).2.2.1⟩


theorem isZero_iff_sval (f : Fmt) (a : Nat) : isZero f a = false ↔ 0 < sval f (magOf f a) := by
  unfold isZero
  constructor
  · intro h
    have hm : magOf f a ≠ 0 := by simpa using h
    apply Nat.pos_of_ne_zero; intro h0
    exact hm (sval_injective f (by rw [h0, sval_zero]))
  · intro h
    have : magOf f a ≠ 0 := by intro h0; rw [h0, sval_zero] at h; omega
    simpa using this


theorem roundRat_int_finite (rm : RM) (neg : Bool) (n : Nat) (hn : n < 2 ^ 1023) :
    isInf D (roundRat D rm neg n 1) = false := by
  unfold roundRat
  rw [Dq, roundS_eq D wf64 rm neg _ 1 (by decide)]
  obtain ⟨g0, hg0f, hg0⟩ := pow_dyadic_D 2097 (by decide)
  have hsc : n * 2 ^ 1074 ≤ sval D g0 * 1 := by
    rw [hg0, Nat.mul_one, show (2097 : Nat) = 1023 + 1074 by rfl, Nat.pow_add]
    exact Nat.mul_le_mul_right _ (Nat.le_of_lt hn)
  have hR : n * 2 ^ 1074 < sval D D.infMag * 1 :=
    Nat.lt_of_le_of_lt hsc (Nat.mul_lt_mul_of_pos_right (sval_strictMono D hg0f) (by decide))
  exact notInf_mkBits D wf64 (Nat.lt_of_le_of_lt (round_le_of_ge D wf64 rm neg _ 1 g0 (by decide) hR hsc) hg0f)

theorem pyFloatOfInt_some (neg : Bool) (n : Nat) (hn : n < 2 ^ 1023) :
    pyFloatOfInt neg n = some (roundRat D .RNE neg n 1) := by
  unfold pyFloatOfInt; dsimp only; rw [roundRat_int_finite .RNE neg n hn]; rfl

/-- `float(n)` of an unsigned / signed integer of at most 1023 bits is the specification's `to_fp_unsigned` / `to_fp` under
RNE and never raises OverflowError (`fpToFPUnsigned` / `fpToFP` of a DOUBLE wrap exactly this value in an FPV) -/
theorem int_to_double_rne (w v : Nat) (hw : w ≤ 1023) :
    pyFloatOfInt false (v % 2 ^ w) = some (ofUBV D .RNE w v) ∧
    (if v % 2 ^ w ≥ 2 ^ (w - 1) then pyFloatOfInt true (2 ^ w - v % 2 ^ w) else pyFloatOfInt false (v % 2 ^ w))
      = some (ofSBV D .RNE w v) := by
  have hp : 2 ^ w ≤ 2 ^ 1023 := Nat.pow_le_pow_right (by decide) hw
  have hv : v % 2 ^ w < 2 ^ w := Nat.mod_lt _ (Nat.two_pow_pos _)
  constructor
  · unfold ofUBV
    exact pyFloatOfInt_some false _ (Nat.lt_of_lt_of_le hv hp)
  · unfold ofSBV; dsimp only
    by_cases h : v % 2 ^ w ≥ 2 ^ (w - 1)
    · have hpos : 0 < v % 2 ^ w := Nat.lt_of_lt_of_le (Nat.two_pow_pos _) h
      have hlt : 2 ^ w - v % 2 ^ w < 2 ^ 1023 :=
        Nat.lt_of_lt_of_le (Nat.sub_lt (Nat.two_pow_pos w) hpos) hp
      rw [if_pos h, if_pos h]; exact pyFloatOfInt_some true _ hlt
    · rw [if_neg h, if_neg h]; exact pyFloatOfInt_some false _ (Nat.lt_of_lt_of_le hv hp)

end Claripy.FP.Fold

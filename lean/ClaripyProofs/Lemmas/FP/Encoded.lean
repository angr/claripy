import Claripy.FP.Extract
import ClaripyProofs.Lemmas.FP.Value
/-! `_abstract_fp_encoded_val` reassembles the bit pattern. -/
namespace Claripy.FP.Extract
open Claripy.FP

theorem encoded_eq (f : Fmt) (hsb : 0 < f.sb) (b : Nat) (hn : isNaN f b = false) :
    abstractFpEncodedVal f b = b % 2 ^ f.width := by
  have hw : f.width - 1 = f.eb + f.mbits := by unfold Fmt.width Fmt.mbits; omega
  unfold abstractFpEncodedVal
  simp only [hn, Bool.false_eq_true, if_false]
  have hmag : magOf f b < 2 ^ (f.eb + f.mbits) := by
    unfold magOf Fmt.signBit; rw [hw]; exact Nat.mod_lt _ (Nat.two_pow_pos _)
  have hlow : magOf f b % 2 ^ f.mbits < 2 ^ f.mbits := Nat.mod_lt _ (Nat.two_pow_pos _)
  rw [Nat.or_assoc, shiftLeft_or_of_lt _ hlow, Nat.div_add_mod' (magOf f b) (2 ^ f.mbits), shiftLeft_or_of_lt _ hmag]
  rw [mod_width f (by unfold Fmt.width; omega)]
  unfold mkBits Fmt.signBit
  rw [hw]; split <;> simp

end Claripy.FP.Extract

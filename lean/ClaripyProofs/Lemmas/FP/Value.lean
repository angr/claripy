import Claripy.FP.Spec
import ClaripyProofs.Lemmas.Util.Pow2
/-! Magnitudes and their scaled values: `sval (sh * 2^mbits + m) = m * 2^sh`; `sval` is strictly increasing; dyadic numbers with a
short significand are values (`representable_of_dyadic`, by doubling).  Bit patterns, for every format: a pattern of the format's
width is its sign bit plus its magnitude (`mod_width`); sign, magnitude, negation and classification of `mkBits f s g` for every
magnitude up to infinity. -/
namespace Claripy.FP

/-- well-formed format: at least 2 exponent bits and 2 significand bits (hidden bit + 1) -/
structure WF (f : Fmt) : Prop where
  eb2 : 2 ≤ f.eb
  sb2 : 2 ≤ f.sb

theorem wf32 : WF binary32 := ⟨by decide, by decide⟩
theorem wf64 : WF binary64 := ⟨by decide, by decide⟩

theorem div_of_lt (k r P : Nat) (hP : 0 < P) (hr : r < P) : (k * P + r) / P = k := by
  rw [Nat.add_comm, Nat.add_mul_div_right _ _ hP, Nat.div_eq_of_lt hr, Nat.zero_add]

/-- the magnitude `sh * 2^mbits + m` (quantum exponent `sh`, integer significand `m`, a carry to `2^sb` allowed)
has scaled value `m * 2^sh` -/
theorem sval_encode (f : Fmt) (sh m : Nat) (h : sh = 0 ∨ 2 ^ f.mbits ≤ m) (hm : m ≤ 2 * 2 ^ f.mbits) :
    sval f (sh * 2 ^ f.mbits + m) = m * 2 ^ sh := by
  have hP := Nat.two_pow_pos f.mbits
  unfold sval sigOf
  generalize 2 ^ f.mbits = P at *
  by_cases h1 : m < P
  · have hsh : sh = 0 := by rcases h with h | h <;> omega
    subst hsh
    simp only [Nat.zero_mul, Nat.zero_add, Nat.div_eq_of_lt h1, Nat.mod_eq_of_lt h1]
    simp
  · by_cases h2 : m < 2 * P
    · have e : sh * P + m = (sh + 1) * P + (m - P) := by rw [Nat.add_mul]; omega
      rw [e, div_of_lt _ _ _ hP (by omega), Nat.mul_add_mod_of_lt (by omega)]
      have : sh + 1 ≠ 0 := by omega
      simp only [this, if_false, Nat.add_sub_cancel]
      congr 1; omega
    · have hm2 : m = 2 * P := by omega
      have e : sh * P + m = (sh + 2) * P + 0 := by rw [Nat.add_mul, hm2]; omega
      rw [e, div_of_lt _ _ _ hP hP, Nat.mul_add_mod_of_lt hP]
      have : sh + 2 ≠ 0 := by omega
      simp only [this, if_false, Nat.add_zero]
      rw [hm2, show sh + 2 - 1 = sh + 1 by omega, Nat.pow_succ]
      rw [Nat.mul_comm 2 P, Nat.mul_assoc, Nat.mul_comm 2]

theorem mag_decomp (f : Fmt) (g : Nat) :
    ∃ sh m, g = sh * 2 ^ f.mbits + m ∧ (sh = 0 ∨ 2 ^ f.mbits ≤ m) ∧ m < 2 * 2 ^ f.mbits ∧
      sh = g / 2 ^ f.mbits - 1 ∧ m = sigOf f g := by
  have hP := Nat.two_pow_pos f.mbits
  unfold sigOf
  generalize hPd : 2 ^ f.mbits = P at *
  have hdm := Nat.div_add_mod g P
  have hmod := Nat.mod_lt g hP
  by_cases hE : g / P = 0
  · refine ⟨0, g % P, ?_, Or.inl rfl, by omega, by rw [hE], by simp [hE]⟩
    rw [hE, Nat.mul_zero, Nat.zero_add] at hdm
    rw [Nat.zero_mul, Nat.zero_add]; exact hdm.symm
  · refine ⟨g / P - 1, P + g % P, ?_, Or.inr (by omega), by omega, rfl, by simp [hE]⟩
    have : g / P = (g / P - 1) + 1 := (Nat.sub_add_cancel (Nat.pos_of_ne_zero hE)).symm
    calc g = P * (g / P) + g % P := hdm.symm
      _ = P * ((g / P - 1) + 1) + g % P := by rw [← this]
      _ = (g / P - 1) * P + (P + g % P) := by rw [Nat.mul_add, Nat.mul_one, Nat.mul_comm]; omega

theorem sval_form (f : Fmt) (g : Nat) :
    ∃ sh m, sval f g = m * 2 ^ sh ∧ sval f (g + 1) = (m + 1) * 2 ^ sh ∧ m < 2 * 2 ^ f.mbits ∧ sh = g / 2 ^ f.mbits - 1 := by
  obtain ⟨sh, m, hg, hsh, hm, hshE, _⟩ := mag_decomp f g
  have h1 := sval_encode f sh m hsh (by omega)
  have h2 := sval_encode f sh (m + 1) (by rcases hsh with h | h; exact Or.inl h; exact Or.inr (by omega)) (by omega)
  rw [← hg] at h1; rw [← Nat.add_assoc, ← hg] at h2
  exact ⟨sh, m, h1, h2, hm, hshE⟩

theorem sval_succ_lt (f : Fmt) (g : Nat) : sval f g < sval f (g + 1) := by
  obtain ⟨sh, m, h1, h2, _, _⟩ := sval_form f g
  rw [h1, h2]
  exact Nat.mul_lt_mul_of_pos_right (by omega) (Nat.two_pow_pos _)

theorem sval_strictMono (f : Fmt) : ∀ {a b : Nat}, a < b → sval f a < sval f b := by
  intro a b h
  induction b with
  | zero => omega
  | succ b ih =>
    by_cases hab : a = b
    · subst hab; exact sval_succ_lt f a
    · exact Nat.lt_trans (ih (by omega)) (sval_succ_lt f b)

theorem sval_mono (f : Fmt) {a b : Nat} (h : a ≤ b) : sval f a ≤ sval f b := by
  by_cases he : a = b
  · rw [he]; exact Nat.le_refl _
  · exact Nat.le_of_lt (sval_strictMono f (by omega))

theorem sval_injective (f : Fmt) {a b : Nat} (h : sval f a = sval f b) : a = b := by
  by_cases hlt : a < b
  · have := sval_strictMono f hlt; omega
  · by_cases hgt : b < a
    · have := sval_strictMono f hgt; omega
    · omega

theorem sval_zero (f : Fmt) : sval f 0 = 0 := by
  have := sval_encode f 0 0 (Or.inl rfl) (by omega)
  simpa using this


theorem sval_small (f : Fmt) (g : Nat) (h : g < 2 * 2 ^ f.mbits) : sval f g = g := by
  have := sval_encode f 0 g (Or.inl rfl) (by omega)
  simpa using this

/-- twice a value is a value (no overflow in this reading: magnitudes are unbounded) -/
theorem sval_double (f : Fmt) (g : Nat) : ∃ g', sval f g' = 2 * sval f g := by
  obtain ⟨sh, m, hg, hsh, hm, _, _⟩ := mag_decomp f g
  have hP := Nat.two_pow_pos f.mbits
  rw [hg, sval_encode f sh m hsh (by omega)]
  by_cases h : m < 2 ^ f.mbits
  · -- subnormal: double the significand
    have h0 : sh = 0 := by rcases hsh with h' | h' <;> omega
    exact ⟨2 * m, by rw [sval_small f _ (by omega), h0]; simp⟩
  · exact ⟨(sh + 1) * 2 ^ f.mbits + m, by
      rw [sval_encode f (sh + 1) m (Or.inr (by omega)) (by omega), Nat.pow_succ]; grind⟩

theorem representable_of_dyadic (f : Fmt) (M k : Nat) (hM : M < 2 * 2 ^ f.mbits) : ∃ g, sval f g = M * 2 ^ k := by
  induction k with
  | zero => exact ⟨M, by rw [sval_small f M hM]; simp⟩
  | succ k ih =>
    obtain ⟨g, hg⟩ := ih
    obtain ⟨g', hg'⟩ := sval_double f g
    exact ⟨g', by rw [hg', hg, Nat.pow_succ]; grind⟩

theorem finite_of_sval_lt (f : Fmt) (g : Nat) (h : sval f g < sval f f.infMag) : g < f.infMag := by
  apply Classical.byContradiction; intro hc
  by_cases he : g = f.infMag
  · rw [he] at h; omega
  · have := sval_strictMono f (show f.infMag < g by omega); omega


theorem pow_le_of_dvd_diff (c a b Δ : Nat) (hΔ : 0 < Δ) (h : a + Δ = b ∨ a = b + Δ) (d1 : 2 ^ c ∣ a) (d2 : 2 ^ c ∣ b) :
    2 ^ c ≤ Δ := by
  apply Nat.le_of_dvd hΔ
  rcases h with h | h
  · exact (Nat.dvd_add_right d1).1 (h ▸ d2)
  · exact (Nat.dvd_add_right d2).1 (h ▸ d1)

theorem mod_width (f : Fmt) (hw : 0 < f.width) (b : Nat) : b % 2 ^ f.width = mkBits f (signOf f b) (magOf f b) := by
  unfold mkBits signOf magOf Fmt.signBit
  have hp : 2 ^ f.width = 2 * 2 ^ (f.width - 1) := two_pow_half _ hw
  rw [hp]
  have hP : 0 < 2 ^ (f.width - 1) := Nat.two_pow_pos _
  generalize 2 ^ (f.width - 1) = P at *
  have hmm : b % (2 * P) % P = b % P := by rw [Nat.mul_comm]; exact Nat.mod_mul_right_mod b P 2
  have hr := Nat.mod_lt b (by omega : 0 < 2 * P)
  by_cases hs : b % (2 * P) ≥ P
  · simp only [hs, decide_true, if_true]
    have : b % P = b % (2 * P) - P := by rw [← hmm, Nat.mod_eq_sub_mod hs, Nat.mod_eq_of_lt (by omega)]
    omega
  · simp only [hs, decide_false, Bool.false_eq_true, if_false]
    have : b % P = b % (2 * P) := by rw [← hmm, Nat.mod_eq_of_lt (by omega)]
    omega

theorem infMag_lt_signBit (f : Fmt) (wf : WF f) : f.infMag < f.signBit := by
  have hsb := wf.sb2
  have e : f.signBit = 2 ^ f.eb * 2 ^ f.mbits := by
    unfold Fmt.signBit Fmt.width Fmt.mbits; rw [← Nat.pow_add]; congr 1; omega
  have hE : 0 < 2 ^ f.eb := Nat.two_pow_pos _
  rw [e]; unfold Fmt.infMag
  exact Nat.mul_lt_mul_of_pos_right (by omega) (Nat.two_pow_pos f.mbits)

theorem magOf_mkBits (f : Fmt) (wf : WF f) {s : Bool} {g : Nat} (hg : g ≤ f.infMag) : magOf f (mkBits f s g) = g := by
  have hlt := infMag_lt_signBit f wf
  unfold magOf mkBits
  cases s <;> simp [Nat.mod_eq_of_lt (Nat.lt_of_le_of_lt hg hlt)]

theorem signOf_mkBits (f : Fmt) (wf : WF f) {s : Bool} {g : Nat} (hg : g ≤ f.infMag) : signOf f (mkBits f s g) = s := by
  have hlt := infMag_lt_signBit f wf
  have hsb := wf.sb2
  have hw : 2 ^ f.width = 2 * f.signBit := two_pow_half _ (by unfold Fmt.width; omega)
  unfold signOf mkBits
  rw [hw]
  cases s
  · simp [Nat.mod_eq_of_lt (show g < 2 * f.signBit by omega)]; omega
  · simp [Nat.mod_eq_of_lt (show f.signBit + g < 2 * f.signBit by omega)]

theorem neg_mkBits (f : Fmt) (wf : WF f) {s : Bool} {g : Nat} (hg : g ≤ f.infMag) :
    neg f (mkBits f s g) = mkBits f (!s) g := by
  unfold neg
  rw [signOf_mkBits f wf hg, magOf_mkBits f wf hg]
  cases s <;> simp [mkBits]

theorem isNaN_mkBits (f : Fmt) (wf : WF f) {s : Bool} {g : Nat} (hg : g ≤ f.infMag) : isNaN f (mkBits f s g) = false := by
  unfold isNaN; rw [magOf_mkBits f wf hg]; simpa using hg

theorem notInf_mkBits (f : Fmt) (wf : WF f) {s : Bool} {g : Nat} (hg : g < f.infMag) : isInf f (mkBits f s g) = false := by
  unfold isInf; rw [magOf_mkBits f wf (Nat.le_of_lt hg)]; simpa using Nat.ne_of_lt hg

theorem finite_of_not_nan_inf (f : Fmt) (a : Nat) (hn : isNaN f a = false) (hi : isInf f a = false) :
    magOf f a < f.infMag := by
  unfold isNaN at hn; unfold isInf at hi; simp at hn hi; omega

end Claripy.FP

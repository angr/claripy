import Claripy.BV.Concrete
/-!
Bridge lemmas: every function of the concrete backend model (`Claripy.BV`, Python-int formulas as
written) computes the SMT-LIB operation, i.e. Lean core's `BitVec` operation, at EVERY width.
Operands are the stored values of `BVV` objects, hence `< 2^w` (a hypothesis only where needed).
-/
namespace Claripy.BV

theorem mask_eq (w : Nat) (v : Int) : mask w v = (BitVec.ofInt w v).toNat := by
  simp [mask, BitVec.toNat_ofInt]

theorem mask_nat (w n : Nat) : mask w (n : Int) = (BitVec.ofNat w n).toNat := by
  rw [mask_eq, BitVec.ofInt_natCast]

theorem mask_lt (w : Nat) (v : Int) : mask w v < 2 ^ w := by
  rw [mask_eq]; exact (BitVec.ofInt w v).isLt

theorem ofNat_toNat_lt {w a : Nat} (h : a < 2 ^ w) : (BitVec.ofNat w a).toNat = a := by
  simp [BitVec.toNat_ofNat, Nat.mod_eq_of_lt h]

theorem ofNat_inj_of_lt {w a b : Nat} (ha : a < 2 ^ w) (hb : b < 2 ^ w) : BitVec.ofNat w a = BitVec.ofNat w b ↔ a = b := by
  rw [← BitVec.toNat_inj, ofNat_toNat_lt ha, ofNat_toNat_lt hb]

theorem add_spec (w a b : Nat) :
    add w a b = .ok (BitVec.ofNat w a + BitVec.ofNat w b).toNat := by
  simp only [add, mask_eq]
  congr 2
  rw [← BitVec.ofInt_natCast, ← BitVec.ofInt_natCast, ← BitVec.ofInt_add]
  congr 1

theorem sub_spec (w a b : Nat) :
    sub w a b = .ok (BitVec.ofNat w a - BitVec.ofNat w b).toNat := by
  simp only [sub, mask_eq]
  congr 2
  rw [Int.sub_eq_add_neg, BitVec.ofInt_add, BitVec.ofInt_neg, BitVec.ofInt_natCast, BitVec.ofInt_natCast,
    BitVec.sub_eq_add_neg]

theorem mul_spec (w a b : Nat) :
    mul w a b = .ok (BitVec.ofNat w a * BitVec.ofNat w b).toNat := by
  simp only [mul, mask_eq]
  congr 2
  rw [← BitVec.ofInt_natCast, ← BitVec.ofInt_natCast, ← BitVec.ofInt_mul]
  congr 1

theorem neg_spec (w a : Nat) : neg w a = .ok (-(BitVec.ofNat w a)).toNat := by
  simp only [neg, mask_eq]
  congr 2
  rw [← BitVec.ofInt_natCast, ← BitVec.ofInt_neg]
  apply BitVec.eq_of_toNat_eq
  simp only [BitVec.toNat_ofInt]
  have : ((2 ^ w : Nat) : Int) = (2 : Int) ^ w := by simp
  rw [this, Int.emod_emod]

theorem and_spec (w a b : Nat) :
    and_ w a b = .ok (BitVec.ofNat w a &&& BitVec.ofNat w b).toNat := by
  simp only [and_, mask_nat]
  congr 2
  apply BitVec.eq_of_toNat_eq
  simp

theorem or_spec (w a b : Nat) :
    or_ w a b = .ok (BitVec.ofNat w a ||| BitVec.ofNat w b).toNat := by
  simp only [or_, mask_nat]
  congr 2
  apply BitVec.eq_of_toNat_eq
  simp

theorem xor_spec (w a b : Nat) :
    xor_ w a b = .ok (BitVec.ofNat w a ^^^ BitVec.ofNat w b).toNat := by
  simp only [xor_, mask_nat]
  congr 2
  apply BitVec.eq_of_toNat_eq
  simp

theorem ofNat_allOnes (w : Nat) : BitVec.ofNat w (2 ^ w - 1) = BitVec.allOnes w := by
  apply BitVec.eq_of_toNat_eq
  simp only [BitVec.toNat_ofNat, BitVec.toNat_allOnes]
  exact Nat.mod_eq_of_lt (by have := Nat.two_pow_pos w; omega)

theorem not_spec (w a : Nat) : not_ w a = .ok (~~~(BitVec.ofNat w a)).toNat := by
  simp only [not_, mask_nat]
  congr 2
  rw [← BitVec.xor_allOnes, ← ofNat_allOnes]
  apply BitVec.eq_of_toNat_eq
  simp

/-- SMT-LIB `bvshl` takes a bit-vector shift amount; `x <<< y` for `y : BitVec` is `x <<< y.toNat`. -/
theorem shl_spec (w a b : Nat) (hb : b < 2 ^ w) :
    shl w a b = .ok (BitVec.ofNat w a <<< BitVec.ofNat w b).toNat := by
  rw [BitVec.shiftLeft_eq', ofNat_toNat_lt hb]
  unfold shl
  split
  · rename_i h
    congr 1
    simp only [BitVec.toNat_shiftLeft, Nat.shiftLeft_eq]
    have : 2 ^ w ∣ (BitVec.ofNat w a).toNat * 2 ^ b :=
      Nat.dvd_trans (Nat.pow_dvd_pow 2 h) (Nat.dvd_mul_left _ _)
    exact (Nat.mod_eq_zero_of_dvd this).symm
  · congr 1
    rw [mask_nat]
    simp only [BitVec.toNat_shiftLeft, Nat.shiftLeft_eq, BitVec.toNat_ofNat]
    exact (Nat.mod_mul_mod a (2 ^ b) (2 ^ w)).symm

theorem lshr_spec (w a b : Nat) (ha : a < 2 ^ w) (hb : b < 2 ^ w) :
    lshr w a b = .ok (BitVec.ofNat w a >>> BitVec.ofNat w b).toNat := by
  rw [BitVec.ushiftRight_eq', ofNat_toNat_lt hb]
  simp only [lshr, mask_nat, BitVec.toNat_ushiftRight, BitVec.toNat_ofNat, Nat.mod_eq_of_lt ha]
  congr 1
  apply Nat.mod_eq_of_lt
  exact Nat.lt_of_le_of_lt (Nat.shiftRight_le a b) ha

theorem signed_eq_toInt (w a : Nat) (hw : 0 < w) (ha : a < 2 ^ w) :
    signed w a = (BitVec.ofNat w a).toInt := by
  rw [BitVec.toInt_eq_toNat_cond, ofNat_toNat_lt ha]
  unfold signed
  obtain ⟨k, rfl⟩ : ∃ k, w = k + 1 := ⟨w - 1, by omega⟩
  have h2 : 2 ^ (k + 1) = 2 * 2 ^ k := by rw [Nat.pow_succ]; omega
  rw [h2] at ha ⊢
  have hpos : 0 < 2 ^ k := Nat.two_pow_pos k
  generalize 2 ^ k = h at *
  have hh : 2 * h / 2 = h := by omega
  rw [hh]
  by_cases hlt : a < h
  · have : 2 * a < 2 * h := by omega
    simp [hlt, this]
  · have h' : ¬ 2 * a < 2 * h := by omega
    have hm : a % h = a - h := by
      rw [Nat.mod_eq_sub_mod (by omega), Nat.mod_eq_of_lt (by omega)]
    simp only [hlt, h', if_false, hm]
    omega

/-- SMT-LIB `bvashr`. -/
theorem ashr_spec (w a b : Nat) (hw : 0 < w) (ha : a < 2 ^ w) (hb : b < 2 ^ w) :
    ashr w a b = .ok (BitVec.sshiftRight' (BitVec.ofNat w a) (BitVec.ofNat w b)).toNat := by
  rw [BitVec.sshiftRight_eq', ofNat_toNat_lt hb]
  simp only [ashr, mask_eq, signed_eq_toInt w a hw ha]
  rfl

theorem udiv_spec (w a b : Nat) (ha : a < 2 ^ w) (hb : b < 2 ^ w) (h0 : b ≠ 0) :
    udiv w a b = .ok (BitVec.ofNat w a / BitVec.ofNat w b).toNat := by
  simp only [udiv, h0, if_false, mask_nat, BitVec.toNat_udiv, BitVec.toNat_ofNat, Nat.mod_eq_of_lt ha,
    Nat.mod_eq_of_lt hb]
  congr 1
  exact Nat.mod_eq_of_lt (Nat.lt_of_le_of_lt (Nat.div_le_self a b) ha)

theorem umod_spec (w a b : Nat) (ha : a < 2 ^ w) (hb : b < 2 ^ w) (h0 : b ≠ 0) :
    umod w a b = .ok (BitVec.ofNat w a % BitVec.ofNat w b).toNat := by
  simp only [umod, h0, if_false, mask_nat, BitVec.toNat_umod, BitVec.toNat_ofNat, Nat.mod_eq_of_lt ha,
    Nat.mod_eq_of_lt hb]
  congr 1
  exact Nat.mod_eq_of_lt (Nat.lt_of_le_of_lt (Nat.mod_le a b) ha)

theorem udiv_zero (w a : Nat) : udiv w a 0 = .error .divZero := by simp [udiv]
theorem umod_zero (w a : Nat) : umod w a 0 = .error .divZero := by simp [umod]

theorem zeroExt_spec (n w a : Nat) (ha : a < 2 ^ w) :
    zeroExt n w a = .ok (BitVec.zeroExtend (w + n) (BitVec.ofNat w a)).toNat := by
  simp only [zeroExt, mask_nat, BitVec.zeroExtend, BitVec.toNat_setWidth, BitVec.toNat_ofNat,
    Nat.mod_eq_of_lt ha]

theorem signExt_spec (n w a : Nat) (hw : 0 < w) (ha : a < 2 ^ w) :
    signExt n w a = .ok (BitVec.signExtend (w + n) (BitVec.ofNat w a)).toNat := by
  simp only [signExt, mask_eq, signed_eq_toInt w a hw ha, BitVec.signExtend]

/-- `Extract(f, t, o)`: the source masks with one bit too many (`f + 2 - t`) and relies on the `BVV`
constructor to cut to `f + 1 - t` bits; the result is SMT-LIB `extract`. -/
theorem extract_spec (w f t a : Nat) (ht : t ≤ f) :
    extract f t a = .ok (BitVec.extractLsb f t (BitVec.ofNat w a)).toNat ∨ ¬ a < 2 ^ w := by
  by_cases ha : a < 2 ^ w
  · left
    simp only [extract, mask_nat, BitVec.extractLsb_toNat, BitVec.toNat_ofNat, Nat.mod_eq_of_lt ha]
    congr 1
    have e1 : f + 2 - t = (f + 1 - t) + 1 := by omega
    have e2 : f - t + 1 = f + 1 - t := by omega
    rw [e1, e2, Nat.and_two_pow_sub_one_eq_mod]
    exact Nat.mod_mod_of_dvd _ (Nat.pow_dvd_pow 2 (Nat.le_succ _))
  · right; exact ha

theorem extract_spec_lt (w f t a : Nat) (ht : t ≤ f) (ha : a < 2 ^ w) :
    extract f t a = .ok (BitVec.extractLsb f t (BitVec.ofNat w a)).toNat := by
  rcases extract_spec w f t a ht with h | h
  · exact h
  · exact absurd ha h

theorem concat2_spec (wa wb a b : Nat) (ha : a < 2 ^ wa) (hb : b < 2 ^ wb) :
    concat2 wb a b = (BitVec.ofNat wa a ++ BitVec.ofNat wb b).toNat := by
  simp only [concat2, BitVec.toNat_append, BitVec.toNat_ofNat, Nat.mod_eq_of_lt ha, Nat.mod_eq_of_lt hb,
    Nat.shiftLeft_eq]

theorem eq_spec (w a b : Nat) (ha : a < 2 ^ w) (hb : b < 2 ^ w) :
    eq a b = (BitVec.ofNat w a == BitVec.ofNat w b) := by
  rw [eq, Bool.eq_iff_iff, beq_iff_eq, beq_iff_eq, ofNat_inj_of_lt ha hb]

theorem ult_spec (w a b : Nat) (ha : a < 2 ^ w) (hb : b < 2 ^ w) :
    ult a b = BitVec.ult (BitVec.ofNat w a) (BitVec.ofNat w b) := by
  simp [ult, BitVec.ult, ofNat_toNat_lt ha, ofNat_toNat_lt hb]

theorem ule_spec (w a b : Nat) (ha : a < 2 ^ w) (hb : b < 2 ^ w) :
    ule a b = BitVec.ule (BitVec.ofNat w a) (BitVec.ofNat w b) := by
  simp [ule, BitVec.ule, ofNat_toNat_lt ha, ofNat_toNat_lt hb]

theorem ugt_spec (w a b : Nat) (ha : a < 2 ^ w) (hb : b < 2 ^ w) :
    ugt a b = BitVec.ult (BitVec.ofNat w b) (BitVec.ofNat w a) := by
  simp [ugt, BitVec.ult, ofNat_toNat_lt ha, ofNat_toNat_lt hb]

theorem uge_spec (w a b : Nat) (ha : a < 2 ^ w) (hb : b < 2 ^ w) :
    uge a b = BitVec.ule (BitVec.ofNat w b) (BitVec.ofNat w a) := by
  simp [uge, BitVec.ule, ofNat_toNat_lt ha, ofNat_toNat_lt hb]

theorem slt_spec (w a b : Nat) (hw : 0 < w) (ha : a < 2 ^ w) (hb : b < 2 ^ w) :
    slt w a b = BitVec.slt (BitVec.ofNat w a) (BitVec.ofNat w b) := by
  simp [slt, BitVec.slt, signed_eq_toInt w _ hw ha, signed_eq_toInt w _ hw hb]

theorem sle_spec (w a b : Nat) (hw : 0 < w) (ha : a < 2 ^ w) (hb : b < 2 ^ w) :
    sle w a b = BitVec.sle (BitVec.ofNat w a) (BitVec.ofNat w b) := by
  simp [sle, BitVec.sle, signed_eq_toInt w _ hw ha, signed_eq_toInt w _ hw hb]

theorem sgt_spec (w a b : Nat) (hw : 0 < w) (ha : a < 2 ^ w) (hb : b < 2 ^ w) :
    sgt w a b = BitVec.slt (BitVec.ofNat w b) (BitVec.ofNat w a) := by
  simp [sgt, BitVec.slt, signed_eq_toInt w _ hw ha, signed_eq_toInt w _ hw hb]

theorem sge_spec (w a b : Nat) (hw : 0 < w) (ha : a < 2 ^ w) (hb : b < 2 ^ w) :
    sge w a b = BitVec.sle (BitVec.ofNat w b) (BitVec.ofNat w a) := by
  simp [sge, BitVec.sle, signed_eq_toInt w _ hw ha, signed_eq_toInt w _ hw hb]

theorem fdiv_eq_tdiv_of_mul_nonneg (x b : Int) (h : 0 ≤ x * b) (hb : b ≠ 0) : Int.fdiv x b = Int.tdiv x b := by
  by_cases hb0 : 0 < b
  · have hx : 0 ≤ x := by
      rcases (by omega : x < 0 ∨ 0 ≤ x) with hx | hx
      · have : x * b < 0 := Int.mul_neg_of_neg_of_pos hx hb0
        omega
      · exact hx
    exact Int.fdiv_eq_tdiv_of_nonneg hx (by omega)
  · have hbneg : b < 0 := by omega
    have hx : x ≤ 0 := by
      rcases (by omega : 0 < x ∨ x ≤ 0) with hx | hx
      · have : x * b < 0 := Int.mul_neg_of_pos_of_neg hx hbneg
        omega
      · exact hx
    have := Int.fdiv_eq_tdiv_of_nonneg (a := -x) (b := -b) (by omega) (by omega)
    rwa [Int.neg_fdiv_neg, Int.neg_tdiv_neg] at this

/-- the case split of bv.py's SDiv computes truncating division -/
theorem sdivCore_eq_tdiv (a b : Int) (hb : b ≠ 0) : sdivCore a b = Int.tdiv a b := by
  unfold sdivCore pyDiv pyMod
  split
  · rename_i h
    exact fdiv_eq_tdiv_of_mul_nonneg a b (by omega) hb
  · rename_i h
    -- -a = r + q * b  with  r = fmod (-a) b, q = fdiv (-a) b
    have hdecomp := Int.fmod_add_fdiv_mul (-a) b
    have e : a + Int.fmod (-a) b = (-(Int.fdiv (-a) b)) * b := by
      have : Int.fmod (-a) b = -a - Int.fdiv (-a) b * b := by omega
      rw [this, Int.neg_mul]; omega
    rw [e, Int.mul_fdiv_cancel _ hb]
    have hq : Int.fdiv (-a) b = Int.tdiv (-a) b :=
      fdiv_eq_tdiv_of_mul_nonneg (-a) b (by rw [Int.neg_mul]; omega) hb
    rw [hq, Int.neg_tdiv]; omega

theorem smtSDiv_eq_sdiv_of_ne {w : Nat} (x y : BitVec w) (hy : y ≠ 0#w) : BitVec.smtSDiv x y = x.sdiv y := by
  have hny : -y ≠ 0#w := by
    intro h
    apply hy
    have := congrArg (fun z => -z) h
    simpa using this
  unfold BitVec.smtSDiv BitVec.sdiv
  have e1 : ∀ a : BitVec w, BitVec.smtUDiv a y = BitVec.udiv a y := by intro a; simp [BitVec.smtUDiv, hy]
  have e2 : ∀ a : BitVec w, BitVec.smtUDiv a (BitVec.neg y) = BitVec.udiv a (BitVec.neg y) := by
    intro a; simp only [BitVec.smtUDiv]; rw [if_neg]; exact hny
  cases x.msb <;> cases y.msb <;> simp only [e1, e2]

theorem ofNat_ne_zero {w b : Nat} (hb : b < 2 ^ w) (h0 : b ≠ 0) : BitVec.ofNat w b ≠ 0#w :=
  fun e => h0 ((ofNat_inj_of_lt hb (Nat.two_pow_pos w)).mp e)

theorem signed_ne_zero {w b : Nat} (hw : 0 < w) (hb : b < 2 ^ w) (h0 : b ≠ 0) : signed w b ≠ 0 := by
  rw [signed_eq_toInt w b hw hb]
  intro h
  have : BitVec.ofNat w b = 0#w := BitVec.eq_of_toInt_eq (by simpa using h)
  exact ofNat_ne_zero hb h0 this

/-- SMT-LIB `bvsdiv` (for a non-zero divisor; claripy raises on zero) -/
theorem sdiv_spec (w a b : Nat) (hw : 0 < w) (ha : a < 2 ^ w) (hb : b < 2 ^ w) (h0 : b ≠ 0) :
    sdiv w a b = .ok (BitVec.smtSDiv (BitVec.ofNat w a) (BitVec.ofNat w b)).toNat := by
  have hs := signed_ne_zero hw hb h0
  simp only [sdiv, hs, if_false, mask_eq]
  congr 2
  rw [smtSDiv_eq_sdiv_of_ne _ _ (ofNat_ne_zero hb h0), sdivCore_eq_tdiv _ _ hs,
    signed_eq_toInt w a hw ha, signed_eq_toInt w b hw hb]
  apply BitVec.eq_of_toInt_eq
  rw [BitVec.toInt_ofInt, BitVec.toInt_sdiv]

/-- claripy `SMod` is SMT-LIB `bvsrem` (sign follows the dividend) -/
theorem smod_spec (w a b : Nat) (hw : 0 < w) (ha : a < 2 ^ w) (hb : b < 2 ^ w) (h0 : b ≠ 0) :
    smod w a b = .ok (BitVec.srem (BitVec.ofNat w a) (BitVec.ofNat w b)).toNat := by
  have hs := signed_ne_zero hw hb h0
  simp only [smod, hs, if_false, mask_eq]
  congr 2
  rw [sdivCore_eq_tdiv _ _ hs, signed_eq_toInt w a hw ha, signed_eq_toInt w b hw hb]
  apply BitVec.eq_of_toInt_eq
  rw [BitVec.toInt_ofInt, BitVec.toInt_srem, Int.tmod_def, Int.mul_comm]
  rw [← Int.tmod_def, ← BitVec.toInt_srem, BitVec.toInt_bmod_cancel]


theorem mask_self (w : Nat) : mask w (w : Int) = w := by
  rw [mask_nat, ofNat_toNat_lt Nat.lt_two_pow_self]

theorem mask_of_lt {w n : Nat} (h : n < 2 ^ w) : mask w (n : Int) = n := by
  rw [mask_nat, ofNat_toNat_lt h]

theorem rot_amounts (w b : Nat) (hw : 0 < w) :
    umod w b (mask w w) = .ok (b % w) ∧ sub w (mask w w) (b % w) = .ok (w - b % w) ∧ b % w < 2 ^ w ∧ w - b % w < 2 ^ w := by
  have hww : w < 2 ^ w := Nat.lt_two_pow_self
  have hbs : b % w < w := Nat.mod_lt _ hw
  have hbs2 : b % w < 2 ^ w := by omega
  have hk : w - b % w < 2 ^ w := by omega
  refine ⟨?_, ?_, hbs2, hk⟩
  · simp only [umod, mask_self, show w ≠ 0 by omega, if_false, mask_of_lt hbs2]
  · have : ((w : Int) - ((b % w : Nat) : Int)) = ((w - b % w : Nat) : Int) := by omega
    simp only [sub, mask_self, this, mask_of_lt hk]

/-- SMT-LIB `ext_rotate_left` (rotation amount taken modulo the width) -/
theorem rotl_spec (w a b : Nat) (hw : 0 < w) (ha : a < 2 ^ w) (hb : b < 2 ^ w) :
    rotl w a b = .ok ((BitVec.ofNat w a).rotateLeft (BitVec.ofNat w b).toNat).toNat := by
  obtain ⟨e1, e2, hbs2, hk⟩ := rot_amounts w b hw
  simp only [rotl, e1, e2, bind, Except.bind, shl_spec w a _ hbs2, lshr_spec w a _ ha hk, or_spec]
  congr 2
  simp only [BitVec.ofNat_toNat, BitVec.setWidth_eq, BitVec.shiftLeft_eq', BitVec.ushiftRight_eq', ofNat_toNat_lt hbs2, ofNat_toNat_lt hk,
    ofNat_toNat_lt hb]
  rfl

theorem rotr_spec (w a b : Nat) (hw : 0 < w) (ha : a < 2 ^ w) (hb : b < 2 ^ w) :
    rotr w a b = .ok ((BitVec.ofNat w a).rotateRight (BitVec.ofNat w b).toNat).toNat := by
  obtain ⟨e1, e2, hbs2, hk⟩ := rot_amounts w b hw
  simp only [rotr, e1, e2, bind, Except.bind, lshr_spec w a _ ha hbs2, shl_spec w a _ hk, or_spec]
  congr 2
  simp only [BitVec.ofNat_toNat, BitVec.setWidth_eq, BitVec.shiftLeft_eq', BitVec.ushiftRight_eq', ofNat_toNat_lt hbs2, ofNat_toNat_lt hk,
    ofNat_toNat_lt hb]
  rfl

end Claripy.BV

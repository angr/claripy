import Claripy.BV.Concrete
import ClaripyProofs.Lemmas.BV.Bridge
import ClaripyProofs.Lemmas.AST.Eval
/-!
Bridge lemma for `Reverse`: the byte-swap formulas of backend_concrete/bv.py (the generic loop and the unrolled 16/32/64-bit
versions) compute `bytesRev`, the byte reversal the denotation `valReverse` uses — for every width that is a multiple of 8.
-/
namespace Claripy.BV
open Claripy.AST (bytesRev bytesRev_lt pow256 bytesRev_lt_two_pow)

theorem testBit_ff_shift (p m : Nat) : ((0xFF : Nat) <<< p).testBit m = (decide (p ≤ m) && decide (m - p < 8)) := by
  rw [Nat.testBit_shiftLeft, show (0xFF : Nat) = 2 ^ 8 - 1 by decide, Nat.testBit_two_pow_sub_one]

def byteAt (a k s : Nat) : Nat := ((a &&& (0xFF <<< (8 * k))) >>> (8 * k)) <<< s

theorem testBit_byteAt (a k s j : Nat) :
    (byteAt a k s).testBit j = (decide (s ≤ j) && decide (j - s < 8) && a.testBit (8 * k + (j - s))) := by
  unfold byteAt
  rw [Nat.testBit_shiftLeft, Nat.testBit_shiftRight, Nat.testBit_and, testBit_ff_shift]
  have : 8 * k + (j - s) - 8 * k = j - s := by omega
  rw [this]
  by_cases h1 : s ≤ j <;> by_cases h2 : j - s < 8 <;> cases a.testBit (8 * k + (j - s)) <;> simp [h1, h2]

theorem shl_form (a k s : Nat) : (a &&& (0xFF <<< (8 * k))) <<< s = byteAt a k (8 * k + s) := by
  apply Nat.eq_of_testBit_eq
  intro j
  rw [testBit_byteAt, Nat.testBit_shiftLeft, Nat.testBit_and, testBit_ff_shift]
  by_cases h1 : 8 * k + s ≤ j
  · have e : 8 * k + (j - (8 * k + s)) = j - s := by omega
    have e2 : j - s - 8 * k = j - (8 * k + s) := by omega
    simp [h1, e, e2, show s ≤ j by omega, show 8 * k ≤ j - s by omega, Bool.and_comm]
  · by_cases h2 : s ≤ j
    · simp [h1, h2, show ¬ 8 * k ≤ j - s by omega]
    · simp [h1, h2]

theorem shr_form (a k s : Nat) (hs : s ≤ 8 * k) : (a &&& (0xFF <<< (8 * k))) >>> s = byteAt a k (8 * k - s) := by
  apply Nat.eq_of_testBit_eq
  intro j
  rw [testBit_byteAt, Nat.testBit_shiftRight, Nat.testBit_and, testBit_ff_shift]
  by_cases h1 : 8 * k - s ≤ j
  · have e : 8 * k + (j - (8 * k - s)) = s + j := by omega
    have e2 : s + j - 8 * k = j - (8 * k - s) := by omega
    simp [h1, e, e2, show 8 * k ≤ s + j by omega, Bool.and_comm]
  · simp [h1, show ¬ 8 * k ≤ s + j by omega]

theorem testBit_foldl_or (f : Nat → Nat) (l : List Nat) (init j : Nat) :
    (l.foldl (fun out k => out ||| f k) init).testBit j = (init.testBit j || l.any fun k => (f k).testBit j) := by
  induction l generalizing init with
  | nil => simp
  | cons k l ih => simp [List.foldl, ih, Nat.testBit_or, Bool.or_assoc]

theorem reverseLoop_eq_byteAt (w a : Nat) :
    reverseLoop w a = (List.range (w / 8)).foldl (fun out k => out ||| byteAt a k (w - 8 - 8 * k)) 0 := rfl

theorem testBit_bytesRev (k : Nat) : ∀ (n i : Nat), i < 8 * k →
    (bytesRev k n).testBit i = n.testBit (8 * (k - 1 - i / 8) + i % 8) := by
  induction k with
  | zero => intro n i hi; omega
  | succ k ih =>
    intro n i hi
    simp only [bytesRev]
    have hlt : bytesRev k (n / 256) < 2 ^ (8 * k) := pow256 k ▸ bytesRev_lt k (n / 256)
    rw [pow256, Nat.mul_comm, Nat.testBit_two_pow_mul_add _ hlt]
    by_cases h : i < 8 * k
    · rw [if_pos h, ih _ _ h, show (256 : Nat) = 2 ^ 8 by rfl, Nat.testBit_div_two_pow]
      congr 1
      have : i / 8 < k := by omega
      omega
    · rw [if_neg h, show (256 : Nat) = 2 ^ 8 by rfl, Nat.testBit_mod_two_pow]
      have h1 : i / 8 = k := by omega
      have h2 : i - 8 * k < 8 := by omega
      simp only [h2, decide_true, Bool.true_and]
      congr 1
      rw [h1]
      omega

theorem testBit_bytesRev' (k n i : Nat) :
    (bytesRev k n).testBit i = (decide (i < 8 * k) && n.testBit (8 * (k - 1 - i / 8) + i % 8)) := by
  by_cases hi : i < 8 * k
  · simp only [hi, decide_true, Bool.true_and, testBit_bytesRev k n i hi]
  · have hlt : bytesRev k n < 2 ^ (8 * k) := pow256 k ▸ bytesRev_lt k n
    have hle : 2 ^ (8 * k) ≤ 2 ^ i := Nat.pow_le_pow_right (by omega) (by omega)
    simp [hi, Nat.testBit_lt_two_pow (Nat.lt_of_lt_of_le hlt hle)]

theorem reverseLoop_eq (w a : Nat) (h8 : w % 8 = 0) (ha : a < 2 ^ w) : reverseLoop w a = bytesRev (w / 8) a := by
  apply Nat.eq_of_testBit_eq
  intro j
  have hw : 8 * (w / 8) = w := by omega
  rw [reverseLoop_eq_byteAt, testBit_foldl_or, testBit_bytesRev', hw]
  simp only [Nat.zero_testBit, Bool.false_or]
  rw [Bool.eq_iff_iff]
  simp only [List.any_eq_true, List.mem_range, testBit_byteAt, Bool.and_eq_true, decide_eq_true_eq]
  constructor
  · rintro ⟨k, hk, ⟨h1, h2⟩, h3⟩
    have hjw : j < w := by omega
    refine ⟨hjw, ?_⟩
    have hk0 : w / 8 - 1 - j / 8 = k := by omega
    have hm : j - (w - 8 - 8 * k) = j % 8 := by omega
    rw [hk0, ← hm]
    exact h3
  · rintro ⟨hjw, h3⟩
    refine ⟨w / 8 - 1 - j / 8, by omega, ⟨by omega, by omega⟩, ?_⟩
    have hm : j - (w - 8 - 8 * (w / 8 - 1 - j / 8)) = j % 8 := by omega
    rw [hm]
    exact h3

theorem reverse16_eq (a : Nat) : reverse16 a = reverseLoop 16 a := by
  have r : List.range (16 / 8) = [0, 1] := by decide
  rw [reverseLoop_eq_byteAt, r]
  simp only [List.foldl, reverse16]
  have c1 : (0xFF00 : Nat) = 0xFF <<< (8 * 1) := by decide
  have c0 : (0xFF : Nat) = 0xFF <<< (8 * 0) := by decide
  rw [c1]
  conv => lhs; arg 1; rw [c0]
  rw [shl_form, shr_form _ _ _ (by omega)]
  simp

theorem reverse32_eq (a : Nat) : reverse32 a = reverseLoop 32 a := by
  have r : List.range (32 / 8) = [0, 1, 2, 3] := by decide
  rw [reverseLoop_eq_byteAt, r]
  simp only [List.foldl, reverse32]
  have c0 : (0xFF : Nat) = 0xFF <<< (8 * 0) := by decide
  have c1 : (0xFF00 : Nat) = 0xFF <<< (8 * 1) := by decide
  have c2 : (0xFF0000 : Nat) = 0xFF <<< (8 * 2) := by decide
  have c3 : (0xFF000000 : Nat) = 0xFF <<< (8 * 3) := by decide
  rw [c1, c2, c3]
  conv => lhs; arg 1; arg 1; arg 1; rw [c0]
  rw [shl_form, shl_form, shr_form _ _ _ (by omega), shr_form _ _ _ (by omega)]
  simp

theorem reverse64_eq (a : Nat) : reverse64 a = reverseLoop 64 a := by
  have r : List.range (64 / 8) = [0, 1, 2, 3, 4, 5, 6, 7] := by decide
  rw [reverseLoop_eq_byteAt, r]
  simp only [List.foldl, reverse64]
  have c0 : (0xFF : Nat) = 0xFF <<< (8 * 0) := by decide
  have c1 : (0xFF00 : Nat) = 0xFF <<< (8 * 1) := by decide
  have c2 : (0xFF0000 : Nat) = 0xFF <<< (8 * 2) := by decide
  have c3 : (0xFF000000 : Nat) = 0xFF <<< (8 * 3) := by decide
  have c4 : (0xFF00000000 : Nat) = 0xFF <<< (8 * 4) := by decide
  have c5 : (0xFF0000000000 : Nat) = 0xFF <<< (8 * 5) := by decide
  have c6 : (0xFF000000000000 : Nat) = 0xFF <<< (8 * 6) := by decide
  have c7 : (0xFF00000000000000 : Nat) = 0xFF <<< (8 * 7) := by decide
  rw [c1, c2, c3, c4, c5, c6, c7]
  conv => lhs; arg 1; arg 1; arg 1; arg 1; arg 1; arg 1; arg 1; rw [c0]
  rw [shl_form, shl_form, shl_form, shl_form, shr_form _ _ _ (by omega), shr_form _ _ _ (by omega), shr_form _ _ _ (by omega),
    shr_form _ _ _ (by omega)]
  simp

theorem reverse_spec (w a r : Nat) (ha : a < 2 ^ w) (h : reverse w a = .ok r) : w % 8 = 0 ∧ r = bytesRev (w / 8) a := by
  unfold reverse at h
  have hb : ∀ w', w' % 8 = 0 → a < 2 ^ w' → mask w' ((bytesRev (w' / 8) a : Nat) : Int) = bytesRev (w' / 8) a :=
    fun w' h8 _ => mask_of_lt (bytesRev_lt_two_pow h8 a)
  by_cases h8 : w = 8
  · rw [if_pos h8] at h
    subst h8
    cases h
    refine ⟨by decide, ?_⟩
    simp only [bytesRev, show (8 / 8 : Nat) = 1 by decide, Nat.pow_zero, Nat.mul_one, Nat.add_zero]
    exact (Nat.mod_eq_of_lt (by simpa using ha)).symm
  rw [if_neg h8] at h
  by_cases hm : w % 8 ≠ 0
  · rw [if_pos hm] at h
    cases h
  rw [if_neg hm] at h
  have h8' : w % 8 = 0 := by omega
  refine ⟨h8', ?_⟩
  by_cases h64 : w = 64
  · rw [if_pos h64] at h
    subst h64
    cases h
    rw [reverse64_eq, reverseLoop_eq 64 a (by decide) ha, hb 64 (by decide) ha]
  rw [if_neg h64] at h
  by_cases h32 : w = 32
  · rw [if_pos h32] at h
    subst h32
    cases h
    rw [reverse32_eq, reverseLoop_eq 32 a (by decide) ha, hb 32 (by decide) ha]
  rw [if_neg h32] at h
  by_cases h16 : w = 16
  · rw [if_pos h16] at h
    subst h16
    cases h
    rw [reverse16_eq, reverseLoop_eq 16 a (by decide) ha, hb 16 (by decide) ha]
  rw [if_neg h16] at h
  cases h
  rw [reverseLoop_eq w a h8' ha, hb w h8' ha]

end Claripy.BV

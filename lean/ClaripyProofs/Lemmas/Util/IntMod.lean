/-! Python's `x % 2**w` on integers, as the model writes it in `VSA.imod` and `Solver.wrap`: the natural number
`(i % (2 ^ w : Nat)).toNat`.  (`BV.mask` takes the power in `Int`; its facts are in `BV/Bridge`, through `BitVec.ofInt`.) -/
namespace Claripy

theorem toNat_emod_lt (i : Int) (w : Nat) : (i % ((2 ^ w : Nat) : Int)).toNat < 2 ^ w := by
  have h : (0 : Int) < ((2 ^ w : Nat) : Int) := Int.natCast_pos.2 (Nat.two_pow_pos w)
  have := Int.emod_nonneg i (Int.ne_of_gt h); have := Int.emod_lt_of_pos i h; omega

theorem toNat_emod_nat (n w : Nat) : ((n : Int) % ((2 ^ w : Nat) : Int)).toNat = n % 2 ^ w := by
  rw [← Int.natCast_emod]; exact Int.toNat_natCast _

theorem toNat_emod_of_nonneg {i : Int} {w : Nat} (h0 : 0 ≤ i) (h1 : i < ((2 ^ w : Nat) : Int)) :
    (((i % ((2 ^ w : Nat) : Int)).toNat : Nat) : Int) = i := by
  rw [Int.emod_eq_of_lt h0 h1]; omega

theorem toNat_emod_of_neg {i : Int} {w : Nat} (h0 : i < 0) (h1 : -((2 ^ w : Nat) : Int) ≤ i) :
    (((i % ((2 ^ w : Nat) : Int)).toNat : Nat) : Int) = i + ((2 ^ w : Nat) : Int) := by
  rw [← Int.add_mul_emod_self_left i ((2 ^ w : Nat) : Int) 1, Int.mul_one, Int.emod_eq_of_lt (by omega) (by omega)]; omega

end Claripy

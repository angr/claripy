/-! A Python `dict` is modelled five times as a list of pairs read by
`(l.find? fun e => test e.1).map (·.2)` (`Solver.alGet?`, `VSA.dictGet`, `AST.lookup`, `Hashcons.Table.get`, `Conc.lookup`).
What such a lookup returns, said once for any test on the keys. -/
namespace Claripy

variable {κ ν : Type} {p : κ → Bool} {l : List (κ × ν)}

theorem find?_snd_some {v : ν} (h : (l.find? fun e => p e.1).map (·.2) = some v) : ∃ k, (k, v) ∈ l ∧ p k = true := by
  obtain ⟨⟨k, v'⟩, hf, rfl⟩ := Option.map_eq_some_iff.1 h
  exact ⟨k, List.mem_of_find?_eq_some hf, List.find?_some (p := fun e : κ × ν => p e.1) hf⟩

theorem find?_snd_none (h : (l.find? fun e => p e.1).map (·.2) = none) : ∀ e ∈ l, p e.1 = false := fun e he =>
  Bool.eq_false_iff.2 (List.find?_eq_none.1 (Option.map_eq_none_iff.1 h) e he)

end Claripy

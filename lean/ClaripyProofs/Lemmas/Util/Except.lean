/-! Reading a successful run of an `Except` computation backwards.  The models of the interval operations
(`VSA.R`) and of the balancer (`VSA.Bal.M`) are written in `Except`; the proofs under `Lemmas/VSA` take them apart with these. -/
namespace Claripy

theorem bind_ok {ε α β : Type} {x : Except ε α} {f : α → Except ε β} {r : β} (h : (x >>= f) = .ok r) :
    ∃ a, x = .ok a ∧ f a = .ok r := by
  cases x with
  | error e => cases h
  | ok a => exact ⟨a, rfl, h⟩

theorem pure_ok {ε α : Type} {a r : α} (h : (pure a : Except ε α) = .ok r) : r = a := by cases h; rfl

/-- one exit of a chain of `if`s; cheaper than `split at h`, which simplifies the whole chain at every step -/
theorem ite_pure_ok {ε α : Type} {c : Prop} [Decidable c] {x r : α} {m : Except ε α}
    (h : (if c then pure x else m) = .ok r) : c ∧ r = x ∨ ¬c ∧ m = .ok r := by
  by_cases hc : c
  · rw [if_pos hc] at h
    exact .inl ⟨hc, pure_ok h⟩
  · rw [if_neg hc] at h
    exact .inr ⟨hc, h⟩

end Claripy

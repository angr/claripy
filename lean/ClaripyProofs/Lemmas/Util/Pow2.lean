/-! Two facts about powers of two.  `two_pow_half` is used by the interval proofs (`Lemmas/VSA`), the float proofs (`FP/Value`, `Round`)
and `Solver/Extrema`; `shiftLeft_or_of_lt` by `Str/Numeral` and `FP/Encoded`. -/
namespace Claripy

theorem two_pow_half (w : Nat) (hw : 0 < w) : 2 ^ w = 2 * 2 ^ (w - 1) := by
  rw [Nat.mul_comm, Nat.two_pow_pred_mul_two hw]

/-- putting `x` into the low `k` bits under `a` -/
theorem shiftLeft_or_of_lt {x k : Nat} (a : Nat) (hx : x < 2 ^ k) : a <<< k ||| x = a * 2 ^ k + x := by
  rw [← Nat.shiftLeft_add_eq_or_of_lt hx, Nat.shiftLeft_eq]

end Claripy

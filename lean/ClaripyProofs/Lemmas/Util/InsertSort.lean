/-! `sorted(...)` is modelled three times as a fold of an insertion (`Solver.insertSorted`, `AST.insertSorted`,
`VSA.insertByLb`).  A fold of any insertion that keeps exactly the old elements and the new one keeps the elements. -/
namespace Claripy

variable {α : Type} {ins : α → List α → List α}

theorem mem_foldl_ins (hins : ∀ x l y, y ∈ ins x l ↔ y = x ∨ y ∈ l) (l : List α) :
    ∀ (acc : List α) (y : α), y ∈ l.foldl (fun acc x => ins x acc) acc ↔ y ∈ acc ∨ y ∈ l := by
  induction l with
  | nil => simp
  | cons a t ih => intro acc y; rw [List.foldl_cons, ih, hins, List.mem_cons, or_left_comm, or_assoc]

theorem mem_foldr_ins (hins : ∀ x l y, y ∈ ins x l ↔ y = x ∨ y ∈ l) (l : List α) (y : α) :
    y ∈ l.foldr ins [] ↔ y ∈ l := by
  induction l with
  | nil => simp
  | cons a t ih => rw [List.foldr_cons, hins, ih, List.mem_cons]

end Claripy

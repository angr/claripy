/-! The iteration order of a Python `set` or `dict` is modelled in four places (`Solver.listInsert`/`listUnion`,
`VSA.dedupe`, `VSA.dedupeInts`, the group keys of `_split_constraints`) as a left fold that appends an element unless a
test finds it among those collected so far.  What the proofs need of such a fold is said here once, for any test. -/
namespace Claripy

variable {α : Type} {has : List α → α → Bool}

theorem mem_foldl_addNew (hhas : ∀ acc x, has acc x = true → x ∈ acc) (l : List α) :
    ∀ (acc : List α) (y : α),
      y ∈ l.foldl (fun acc x => if has acc x then acc else acc ++ [x]) acc ↔ y ∈ acc ∨ y ∈ l := by
  induction l with
  | nil => simp
  | cons x t ih =>
    intro acc y
    rw [List.foldl_cons, ih, List.mem_cons]
    split
    · have := hhas acc x ‹_›
      exact ⟨Or.imp_right .inr, fun h => h.elim .inl fun h => h.elim (fun e => .inl (e ▸ this)) .inr⟩
    · simp only [List.mem_append, List.mem_singleton, or_assoc]

theorem nodup_foldl_addNew (hhas : ∀ acc x, x ∈ acc → has acc x = true) (l : List α) :
    ∀ acc : List α, acc.Nodup → (l.foldl (fun acc x => if has acc x then acc else acc ++ [x]) acc).Nodup := by
  induction l with
  | nil => exact fun _ h => h
  | cons x t ih =>
    intro acc h
    rw [List.foldl_cons]
    refine ih _ ?_
    split
    · exact h
    · refine List.nodup_append.2 ⟨h, List.pairwise_singleton _ x, fun a ha b hb e => ?_⟩
      rw [List.mem_singleton.1 hb] at e
      exact ‹¬ _› (hhas acc x (e ▸ ha))

end Claripy

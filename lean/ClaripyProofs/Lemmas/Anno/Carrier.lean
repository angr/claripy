import Claripy.Anno.Model
/-!
Carrier-level facts about `_handle_annotations`: what the gate returns is the proposal with relocatable annotations
appended to its top node — nothing else changes — and an annotation reachable in a term sits on one of its sub-expressions.
-/
namespace Claripy.Anno

theorem isReloc_not_isUnelim (a : Anno) (h : isReloc a = true) : isUnelim a = false := by
  simp only [isReloc, isUnelim, Bool.and_eq_true, Bool.not_eq_eq_eq_not, Bool.not_true] at h ⊢
  simp [h.1, h.2]

def TopOnly (s s' : AExpr) : Prop :=
  s'.tag = s.tag ∧ s'.args = s.args ∧ (∀ u, u ∈ s'.unelim → u ∈ s.unelim)

theorem TopOnly.refl (s : AExpr) : TopOnly s s := ⟨rfl, rfl, fun _ h => h⟩
theorem TopOnly.trans {a b c : AExpr} (h1 : TopOnly a b) (h2 : TopOnly b c) : TopOnly a c :=
  ⟨h2.1.trans h1.1, h2.2.1.trans h1.2.1, fun u h => h1.2.2 u (h2.2.2 u h)⟩

theorem TopOnly.append (s : AExpr) (a : Anno) (ha : isReloc a = true) : TopOnly s (s.appendAnno a) := by
  cases s with
  | mk t as an =>
    refine ⟨rfl, rfl, ?_⟩
    intro u hu
    simp only [AExpr.appendAnno, AExpr.unelim, List.filter_append, List.mem_append] at hu ⊢
    rcases hu with (hu | hu) | hu
    · exact Or.inl hu
    · simp only [List.filter_cons, List.filter_nil, isReloc_not_isUnelim a ha] at hu
      simp at hu
    · exact Or.inr hu

theorem relocateFrom_topOnly (preserved : List Anno) (l : List Anno) (s : AExpr) (rel : List Anno)
    (hl : ∀ x ∈ l, isReloc x = true) : TopOnly s (relocateFrom preserved l (s, rel)).1 := by
  induction l generalizing s rel with
  | nil => exact TopOnly.refl s
  | cons oa rest ih =>
    simp only [relocateFrom]
    have hrest : ∀ x ∈ rest, isReloc x = true := fun x hx => hl x (List.mem_cons_of_mem _ hx)
    split
    · exact ih s rel hrest
    · exact TopOnly.trans (TopOnly.append s oa (hl oa (by simp))) (ih _ _ hrest)

theorem relocs_isReloc (e : AExpr) : ∀ x ∈ e.relocs, isReloc x = true := by
  intro x hx
  simp only [AExpr.relocs, List.mem_filter] at hx
  exact hx.2

end Claripy.Anno

namespace Claripy.Props.C07
open Claripy.Anno

/-- one round of the loop of `_handle_annotations`: `handle` is the fold of it over the arguments (`handle_eq`) -/
def hstep (preserved : List Anno) (st : AExpr × List Anno × Nat) (aa : AExpr) : AExpr × List Anno × Nat :=
  let (s, relocated, bad) := st
  let (s', relocated') := relocateFrom preserved aa.relocs (s, relocated)
  let lost := aa.unelim.filter fun u => !s'.unelim.contains u
  (s', relocated', bad + lost.length)

theorem hstep_eq (preserved : List Anno) (s : AExpr) (rel : List Anno) (bad : Nat) (aa : AExpr) :
    hstep preserved (s, rel, bad) aa =
      ((relocateFrom preserved aa.relocs (s, rel)).1, (relocateFrom preserved aa.relocs (s, rel)).2,
        bad + (aa.unelim.filter fun u => !(relocateFrom preserved aa.relocs (s, rel)).1.unelim.contains u).length) := by
  simp [hstep]

theorem handle_eq (simp : AExpr) (args : List AExpr) :
    handle simp args =
      (let r := args.foldl (hstep simp.relocs) (simp, [], 0); if r.2.2 = 0 then some r.1 else none) := by
  rfl

end Claripy.Props.C07

namespace Claripy.Anno
open Claripy.Props.C07 (hstep hstep_eq handle_eq)

theorem gfold_topOnly (preserved : List Anno) (args : List AExpr) (s : AExpr) (rel : List Anno) (bad : Nat) :
    TopOnly s (args.foldl (hstep preserved) (s, rel, bad)).1 := by
  induction args generalizing s rel bad with
  | nil => exact TopOnly.refl s
  | cons aa rest ih =>
    simp only [List.foldl]
    have h1 := relocateFrom_topOnly preserved aa.relocs s rel (relocs_isReloc aa)
    rw [hstep_eq]
    exact TopOnly.trans h1 (ih _ _ _)

theorem handle_some {simp : AExpr} {args : List AExpr} {r : AExpr} (h : handle simp args = some r) :
    (args.foldl (hstep simp.relocs) (simp, [], 0)).2.2 = 0 ∧ (args.foldl (hstep simp.relocs) (simp, [], 0)).1 = r := by
  rw [handle_eq] at h
  simp only at h
  split at h
  · exact ⟨‹_›, Option.some.inj h⟩
  · cases h

theorem handle_topOnly (simp : AExpr) (args : List AExpr) (r : AExpr) (h : handle simp args = some r) :
    TopOnly simp r :=
  (handle_some h).2 ▸ gfold_topOnly simp.relocs args simp [] 0

mutual
theorem unelim_carrier (e : AExpr) (u : Anno) (h : u ∈ e.unelim) :
    ∃ n ∈ e.subterms, u ∈ n.annos ∧ isUnelim u = true := by
  match e with
  | .mk t args an =>
    simp only [AExpr.unelim, List.mem_append, List.mem_filter] at h
    rcases h with h | h
    · exact ⟨.mk t args an, by simp [AExpr.subterms], h.1, h.2⟩
    · obtain ⟨n, hn, hu⟩ := unelimList_carrier args u h
      exact ⟨n, by simp only [AExpr.subterms, List.mem_cons]; exact Or.inr hn, hu⟩
theorem unelimList_carrier (es : List AExpr) (u : Anno) (h : u ∈ AExpr.unelimList es) :
    ∃ n ∈ AExpr.subtermsList es, u ∈ n.annos ∧ isUnelim u = true := by
  match es with
  | [] => simp [AExpr.unelimList] at h
  | e :: rest =>
    simp only [AExpr.unelimList, List.mem_append] at h
    rcases h with h | h
    · obtain ⟨n, hn, hu⟩ := unelim_carrier e u h
      exact ⟨n, by simp only [AExpr.subtermsList, List.mem_append]; exact Or.inl hn, hu⟩
    · obtain ⟨n, hn, hu⟩ := unelimList_carrier rest u h
      exact ⟨n, by simp only [AExpr.subtermsList, List.mem_append]; exact Or.inr hn, hu⟩
end

mutual
theorem mem_unelim_of_carrier (e c : AExpr) (u : Anno) (hc : c ∈ e.subterms) (hu : u ∈ c.annos)
    (hk : isUnelim u = true) : u ∈ e.unelim := by
  match e with
  | .mk t args an =>
    simp only [AExpr.subterms, List.mem_cons] at hc
    simp only [AExpr.unelim, List.mem_append, List.mem_filter]
    rcases hc with rfl | hc
    · exact Or.inl ⟨hu, hk⟩
    · exact Or.inr (mem_unelimList_of_carrier args c u hc hu hk)
theorem mem_unelimList_of_carrier (es : List AExpr) (c : AExpr) (u : Anno) (hc : c ∈ AExpr.subtermsList es)
    (hu : u ∈ c.annos) (hk : isUnelim u = true) : u ∈ AExpr.unelimList es := by
  match es with
  | [] => simp [AExpr.subtermsList] at hc
  | e :: rest =>
    simp only [AExpr.subtermsList, List.mem_append] at hc
    simp only [AExpr.unelimList, List.mem_append]
    rcases hc with hc | hc
    · exact Or.inl (mem_unelim_of_carrier e c u hc hu hk)
    · exact Or.inr (mem_unelimList_of_carrier rest c u hc hu hk)
end

end Claripy.Anno

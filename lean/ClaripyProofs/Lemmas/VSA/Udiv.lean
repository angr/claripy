import ClaripyProofs.Lemmas.VSA.Split
import Claripy.VSA.Conc
/-! `udiv` is sound (division by zero exempt) and closed, for every iteration order of its set of partial results. -/
namespace Claripy.VSA

theorem wudiv_piece (w : Nat) (p q : SI) (hp : WFw w p) (hq : WFw w q) (hple : p.lb ≤ p.ub) (hqle : q.lb ≤ q.ub) :
    WFw w (wrappedUnsignedDiv p q) ∧
      ∀ x y, p.mem x → q.mem y → y ≠ 0 → (wrappedUnsignedDiv p q).mem (x / y) := by
  have hw := hp.pos
  have hbits : Nat.max p.bits q.bits = w := by rw [hp.2, hq.2]; exact Nat.max_self _
  unfold wrappedUnsignedDiv
  simp only [hbits]
  by_cases hz : q.lb = 0 ∧ q.ub = 0
  · rw [if_pos hz]
    refine ⟨empty_WFw w hw, ?_⟩
    intro x y _ hy hy0
    obtain ⟨h1, h2⟩ := mem_between q w hq hqle y hy
    omega
  · rw [if_neg hz]
    refine ⟨⟨new_WF _ _ _ _ hw (by intro h; cases h), new_bits _ _ _ _⟩, ?_⟩
    intro x y hx hy hy0
    obtain ⟨hx1, hx2⟩ := mem_between p w hp hple x hx
    obtain ⟨hy1, hy2⟩ := mem_between q w hq hqle y hy
    have hpu := hp.ub_lt
    have hqu := hq.ub_lt
    have hqub : q.ub ≠ 0 := by omega
    have hdub : (if q.ub = 0 then maxInt w else q.ub) = q.ub := by rw [if_neg hqub]
    rw [hdub]
    have hlo : p.lb / q.ub ≤ x / y := Nat.div_le_div hx1 hy2 hy0
    have hdlb : (if q.lb = 0 then 1 else q.lb) ≤ y ∧ (if q.lb = 0 then 1 else q.lb) ≠ 0 := by
      split_ifs <;> omega
    have hhi : x / y ≤ p.ub / (if q.lb = 0 then 1 else q.lb) := Nat.div_le_div hx2 hdlb.1 hdlb.2
    have hhilt : p.ub / (if q.lb = 0 then 1 else q.lb) < 2 ^ w := Nat.lt_of_le_of_lt (Nat.div_le_self _ _) hpu
    generalize hlo' : p.lb / q.ub = lo at hlo
    generalize hhi' : p.ub / (if q.lb = 0 then 1 else q.lb) = hi at hhi hhilt
    generalize hz' : x / y = z at hlo hhi
    exact mem_new_lin w 1 lo hi z hhilt hlo hhi (Nat.one_dvd _)

/-- a partial result of `udiv`: empty, or of stride 1 -/
theorem wudiv_good (w : Nat) (p q : SI) (hp : WFw w p) (hq : WFw w q) (hple : p.lb ≤ p.ub)
    (hqle : q.lb ≤ q.ub) : Good w True (wrappedUnsignedDiv p q) ∧
      ∀ x y, p.mem x → q.mem y → y ≠ 0 → (wrappedUnsignedDiv p q).mem (x / y) := by
  obtain ⟨g1, g2⟩ := wudiv_piece w p q hp hq hple hqle
  refine ⟨⟨g1, ?_, fun _ => ?_⟩, g2⟩
  · unfold wrappedUnsignedDiv
    split
    · rfl
    · exact nrm_new _ _ _ _ (Nat.lt_of_lt_of_le hp.pos (hp.2 ▸ Nat.le_max_left _ _))
  · unfold wrappedUnsignedDiv
    split
    · exact empty_aligned _
    · rcases new_stride_dvd (Nat.max p.bits q.bits) 1 _ _ with h0 | h1
      · exact Or.inl h0
      · exact aligned_of_stride_one _ h1

theorem udiv_good (s o r : SI) (order : List Nat) (hs : s.WF) (ho : o.WF) (hbits : s.bits = o.bits)
    (hsb : s.bottom = false) (hob : o.bottom = false) (h : s.udiv o order = .ok r) :
    Good s.bits True r ∧ ∀ x y, s.mem x → o.mem y → y ≠ 0 → r.mem (Conc.udiv s.bits x y) := by
  obtain ⟨ds, hds, hdp, hdcov⟩ := ssplit_pieces s hs hsb
  obtain ⟨vs, hvs, hvp, hvcov⟩ := ssplit_pieces o ho hob
  unfold SI.udiv at h
  obtain ⟨ds', hds', h⟩ := bind_ok h
  obtain ⟨vs', hvs', h⟩ := bind_ok h
  cases hds.symm.trans hds'
  cases hvs.symm.trans hvs'
  simp only [] at h
  cases hperm : permute (dedupe (ds.map fun d => vs.map fun v => wrappedUnsignedDiv d v).flatten) order with
  | none => rw [hperm] at h; cases h
  | some l =>
    rw [hperm] at h
    obtain ⟨u, hlub, h⟩ := bind_ok h
    cases pure_ok h
    have g := lub_pairs_good s.bits True ds vs wrappedUnsignedDiv l u s.mem o.mem (fun _ y => y ≠ 0)
      (fun x y => x / y) hdcov hvcov (fun d v hd hv =>
        wudiv_good s.bits d v (hdp d hd).good.wf (hbits ▸ (hvp v hv).good.wf) (hdp d hd).le (hvp v hv).le)
      (fun t ht => (mem_table ds vs _ t).1 (dedupe_subset _ t (permute_subset _ _ _ hperm t ht)))
      (fun d v hd hv => permute_mem _ _ _ hperm _ (dedupe_mem _ _ ((mem_table ds vs _ _).2 ⟨d, v, hd, hv, rfl⟩))) hlub
    rw [g.1.nrm]
    exact g

theorem udiv_sound (s o r : SI) (order : List Nat) (hs : s.WF) (ho : o.WF) (hbits : s.bits = o.bits)
    (hsb : s.bottom = false) (hob : o.bottom = false) (h : s.udiv o order = .ok r) :
    WFw s.bits r ∧ ∀ x y, s.mem x → o.mem y → y ≠ 0 → r.mem (x / y) :=
  have g := udiv_good s o r order hs ho hbits hsb hob h
  ⟨g.1.wf, g.2⟩

theorem udiv_aligned (s o r : SI) (order : List Nat) (hs : s.WF) (ho : o.WF) (hbits : s.bits = o.bits)
    (hsb : s.bottom = false) (hob : o.bottom = false) (h : s.udiv o order = .ok r) : r.Aligned :=
  (udiv_good s o r order hs ho hbits hsb hob h).1.aligned trivial

end Claripy.VSA

import ClaripyProofs.Lemmas.VSA.Cmp
/-! `_nsplit` (the split at the north pole: `nsplit_eq`, `nsplit_pieces`), the signed value along an arc (`along_signed`),
`_signed_bounds`, and the signed orderings `SLT`, `SLE`, `SGT`, `SGE`. -/
namespace Claripy.VSA

/-- signed value in terms of the half-range `H = 2^(w-1)` -/
def ti (H v : Nat) : Int := if v < H then (v : Int) else (v : Int) - ((2 * H : Nat) : Int)

theorem toInt_ti (w v : Nat) (hw : 0 < w) : Conc.toInt w v = ti (2 ^ (w - 1)) v := by
  unfold Conc.toInt ti
  rw [← two_pow_half w hw]

theorem isMsbZero_iff (v w : Nat) (hw : 0 < w) (hv : v < 2 ^ w) : isMsbZero (v : Int) w = true ↔ v < 2 ^ (w - 1) := by
  have hm := two_pow_half w hw
  have hH := Nat.two_pow_pos (w - 1)
  unfold isMsbZero
  rw [imod_of_lt v w hv]
  by_cases h : v < 2 ^ (w - 1)
  · rw [Nat.div_eq_of_lt h]; simp [h]
  · have h1 : v / 2 ^ (w - 1) = 1 := Nat.div_eq_of_lt_le (by omega) (by omega)
    rw [h1]; simp [h]

theorem toSigned_nat (v w : Nat) (hw : 0 < w) (hv : v < 2 ^ w) : toSigned (v : Int) w = Conc.toInt w v := by
  unfold toSigned Conc.toInt
  by_cases h : v < 2 ^ (w - 1)
  · rw [if_pos ((isMsbZero_iff v w hw hv).2 h), if_pos h]
  · rw [if_neg (fun hh => h ((isMsbZero_iff v w hw hv).1 hh)), if_neg h]
    omega

/-- the arc `lb → ub` passes from `H - 1` to `H` (what `_nsplit` tests) -/
def Str (H lb ub : Nat) : Prop := if ub ≥ H then (lb > ub ∨ lb ≤ H - 1) else (lb > ub ∧ lb ≤ H - 1)

theorem Str_iff (m H lb ub : Nat) (hm : m = 2 * H) (hH : 0 < H) (hl : lb < m) (hu : ub < m) :
    Str H lb ub ↔ cd m lb (H - 1) < cd m lb ub := by
  subst hm
  rw [← Nat.not_le]
  unfold Str
  -- `ub` lies on the arc from `lb` to `H - 1`, read in the numeric order
  rcases Nat.lt_or_ge (H - 1) lb with h | h
  · rw [arc_wrap_iff _ lb (H - 1) ub hl hu h]
    split_ifs <;> omega
  · rw [arc_nowrap_iff _ lb (H - 1) ub (by omega) h]
    split_ifs <;> omega

theorem crosses_north (w a u : Nat) (hw : 0 < w) (ha : a < 2 ^ w) (hu : u < 2 ^ w) :
    Crosses (2 ^ w) (2 ^ (w - 1) - 1) a u ↔ Str (2 ^ (w - 1)) a u :=
  (Str_iff _ _ _ _ (two_pow_half w hw) (Nat.two_pow_pos _) ha hu).symm

theorem ti_eq_cd (H v : Nat) : ti H v = (cd (2 * H) H v : Int) - (H : Int) := by
  unfold ti cd
  split_ifs <;> omega

theorem toInt_eq_cd (w v : Nat) (hw : 0 < w) :
    Conc.toInt w v = (cd (2 ^ w) (2 ^ (w - 1)) v : Int) - ((2 ^ (w - 1) : Nat) : Int) := by
  rw [toInt_ti w v hw, ti_eq_cd, ← two_pow_half w hw]

theorem straddling_iff (s : SI) :
    (if s.ub ≥ 2 ^ (s.bits - 1) then (decide (s.lb > s.ub) || decide (s.lb ≤ maxInt (s.bits - 1)))
      else (decide (s.lb > s.ub) && decide (s.lb ≤ maxInt (s.bits - 1)))) = true ↔
    Str (2 ^ (s.bits - 1)) s.lb s.ub := by
  unfold Str maxInt
  split_ifs <;> simp

theorem nsplit_eq (s : SI) (hw : s.WF) : s.nsplit = .ok (splitAt s (2 ^ (s.bits - 1) - 1)) := by
  have hc := crosses_north s.bits s.lb s.ub hw.1 hw.2.1 hw.2.2.1
  unfold Crosses at hc
  unfold splitAt
  by_cases hstr : Str (2 ^ (s.bits - 1)) s.lb s.ub
  · have hsne : s.stride ≠ 0 := by
      intro h
      have := hc.2 hstr
      rw [← hw.2.2.2.1 h, cd_self] at this
      omega
    have hm2 := two_pow_half s.bits hw.1
    have hH := Nat.two_pow_pos (s.bits - 1)
    have hnpl : 2 ^ (s.bits - 1) - 1 < 2 ^ s.bits := by omega
    unfold SI.nsplit
    simp only []
    rw [if_pos ((straddling_iff s).2 hstr), if_neg hsne, if_pos (hc.2 hstr), pure_ite,
      cutAt_eq s hw (2 ^ (s.bits - 1) - 1) hnpl _ _ (by
        rw [emod_eq_imod]; unfold maxInt
        rw [imod_sub _ _ _ hnpl hw.2.1, ← Int.natCast_emod]) rfl]
  · rw [if_neg (fun h => hstr (hc.1 h))]
    unfold SI.nsplit
    simp only []
    rw [if_neg (fun h => hstr ((straddling_iff s).1 h))]
    rfl

/-- `renorm` rewrites a full circle `[l, l - 1]` of stride 1 to `[0, 2^w - 1]`, which crosses the north pole: hence `hn`. -/
theorem nsplit_pieces (s : SI) (hw : s.WF) (hnb : s.bottom = false) (hn : Nrm s) :
    ∃ ps, s.nsplit = .ok ps ∧
      (∀ p, p ∈ ps → Piece s (2 ^ (s.bits - 1) - 1) p ∧ ¬ Str (2 ^ (s.bits - 1)) p.lb p.ub) ∧
      ∀ x, s.mem x → ∃ p, p ∈ ps ∧ p.mem x := by
  have hH := Nat.two_pow_pos (s.bits - 1)
  have hm2 := two_pow_half s.bits hw.1
  obtain ⟨h1, h2⟩ := splitAt_spec s hw hnb (2 ^ (s.bits - 1) - 1) (by omega) (fun _ => by rw [hn]; exact ⟨rfl, rfl⟩)
  refine ⟨_, nsplit_eq s hw, fun p hp => ⟨h1 p hp, fun hstr => ?_⟩, h2⟩
  exact (h1 p hp).nocross ((crosses_north s.bits p.lb p.ub hw.1 (h1 p hp).good.lb_lt (h1 p hp).good.ub_lt).2 hstr)

theorem nsplit_cover (s : SI) (hw : s.WF) (hnb : s.bottom = false) (hn : s.renorm = s) :
    ∃ ps, s.nsplit = .ok ps ∧
      (∀ p, p ∈ ps → WFw s.bits p ∧ p.bottom = false ∧ ¬ Str (2 ^ (s.bits - 1)) p.lb p.ub) ∧
      (∀ x, s.mem x → ∃ p, p ∈ ps ∧ p.mem x) := by
  obtain ⟨ps, hns, hprop, hcov⟩ := nsplit_pieces s hw hnb hn
  exact ⟨ps, hns, fun p hp => ⟨(hprop p hp).1.good.wf, (hprop p hp).1.nb, (hprop p hp).2⟩, hcov⟩

theorem along_ti (H : Nat) (hH : 0 < H) (a u : Nat) (ha : a < 2 * H) (hu : u < 2 * H)
    (hn : ¬ Crosses (2 * H) (H - 1) a u) : Along (ti H) (2 * H) a u :=
  along_of_cd _ _ _ H (-(H : Int)) (by omega) (Or.inl (by omega)) (fun x _ => by rw [ti_eq_cd]; omega) a u ha hu hn

theorem along_signed (w : Nat) (hw : 0 < w) (a u : Nat) (ha : a < 2 ^ w) (hu : u < 2 ^ w)
    (hn : ¬ Crosses (2 ^ w) (2 ^ (w - 1) - 1) a u) : Along (Conc.toInt w) (2 ^ w) a u := by
  rw [two_pow_half w hw] at ha hu hn ⊢
  rw [funext fun v => toInt_ti w v hw]
  exact along_ti _ (Nat.two_pow_pos _) a u ha hu hn

theorem ti_arc_nostraddle (H lb ub d : Nat) (hH : 0 < H) (hl : lb < 2 * H) (hu : ub < 2 * H)
    (hns : ¬ (if ub ≥ H then (lb > ub ∨ lb ≤ H - 1) else (lb > ub ∧ lb ≤ H - 1)))
    (hd : d ≤ cd (2 * H) lb ub) : ti H ((lb + d) % (2 * H)) = ti H lb + (d : Int) :=
  along_ti H hH lb ub hl hu (fun h => hns ((Str_iff _ H lb ub rfl hH hl hu).2 h)) d hd

theorem ti_arc_A (H lb K d : Nat) (hH : 0 < H) (hl : lb < 2 * H) (hK : K ≤ cd (2 * H) lb (H - 1)) (hd : d ≤ K) :
    ti H ((lb + d) % (2 * H)) = ti H lb + (d : Int) :=
  along_ti H hH lb (H - 1) hl (by omega) (Nat.lt_irrefl _) d (Nat.le_trans hd hK)

theorem ti_arc_B (H lb K' bl e span : Nat) (hH : 0 < H) (hl : lb < 2 * H) (hbl : bl < 2 * H)
    (hble : bl = lb + K' ∨ bl + 2 * H = lb + K') (hK : cd (2 * H) lb (H - 1) < K') (he : K' + e ≤ span) (hsp : span < 2 * H) :
    ti H ((bl + e) % (2 * H)) = ti H bl + (e : Int) := by
  have hc := cd_add_right (2 * H) bl e hbl (by omega)
  refine along_ti H hH bl ((bl + e) % (2 * H)) hbl (Nat.mod_lt _ (by omega)) ?_ e (Nat.le_of_eq hc.symm)
  unfold Crosses
  rw [hc]
  unfold cd at hK ⊢
  split_ifs at hK ⊢ <;> omega

theorem signedBounds_eq (s : SI) (hw : s.WF) (ps : List SI) (hns : s.nsplit = .ok ps)
    (hlt : ∀ p, p ∈ ps → p.lb < 2 ^ s.bits ∧ p.ub < 2 ^ s.bits) :
    s.signedBounds = .ok (ps.map fun p => (Conc.toInt s.bits p.lb, Conc.toInt s.bits p.ub)) := by
  unfold SI.signedBounds
  rw [hns]
  show Except.ok _ = Except.ok _
  congr 1
  apply List.map_congr_left
  intro p hp
  rw [toSigned_nat _ _ hw.1 (hlt p hp).1, toSigned_nat _ _ hw.1 (hlt p hp).2]

theorem signedBounds_spec (s : SI) (hw : s.WF) (hnb : s.bottom = false) (hn : s.renorm = s) :
    ∃ bs, s.signedBounds = .ok bs ∧
      ∀ x, s.mem x → ∃ p, p ∈ bs ∧ p.1 ≤ Conc.toInt s.bits x ∧ Conc.toInt s.bits x ≤ p.2 := by
  obtain ⟨ps, hns, hprop, hcov⟩ := nsplit_pieces s hw hnb hn
  exact ⟨_, signedBounds_eq s hw ps hns (fun p hp => ⟨(hprop p hp).1.good.lb_lt, (hprop p hp).1.good.ub_lt⟩),
    pieces_enclose (Conc.toInt s.bits) s _ ps (fun p hp => (hprop p hp).1) hcov (along_signed s.bits hw.1)⟩

theorem scmp_sound (op : CmpOp) (hop : op = .slt ∨ op = .sle ∨ op = .sgt ∨ op = .sge) (a b : AV) (br : BoolRes)
    (ha : a.si.WF) (hb : b.si.WF) (hbits : a.si.bits = b.si.bits) (hna : a.si.renorm = a.si) (hnb : b.si.renorm = b.si)
    (h : applyCmp op a b = .ok br) (x y : Nat) (hx : a.si.mem x) (hy : b.si.mem y) :
    br.has (concCmp op a.si.bits x y) = true := by
  obtain ⟨ba, hba, hca⟩ := signedBounds_spec a.si ha hx.1 hna
  obtain ⟨bb, hbb, hcb⟩ := signedBounds_spec b.si hb hy.1 hnb
  obtain ⟨p, hp, hp1, hp2⟩ := hca x hx
  obtain ⟨q, hq, hq1, hq2⟩ := hcb y hy
  rw [← hbits] at hq1 hq2
  obtain ⟨c1, c2, c3, c4⟩ := cmpWith_order ba bb p q hp hq _ _ hp1 hp2 hq1 hq2
  rcases hop with h1 | h1 | h1 | h1 <;> subst h1
  · simp only [applyCmp, SI.SLT, hba, hbb] at h
    cases h
    simpa [concCmp] using c1
  · simp only [applyCmp, SI.SLE, hba, hbb] at h
    cases h
    simpa [concCmp] using c2
  · simp only [applyCmp, SI.SGT, hba, hbb] at h
    cases h
    simpa [concCmp] using c3
  · simp only [applyCmp, SI.SGE, hba, hbb] at h
    cases h
    simpa [concCmp] using c4

end Claripy.VSA

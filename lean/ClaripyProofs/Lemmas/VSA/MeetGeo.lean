import ClaripyProofs.Lemmas.VSA.Basic
/-! Geometry of two arcs on the circle for the meet.  Membership in an arc and the order seen from its start in the numeric
order are `arc_wrap_iff`, `arc_nowrap_iff` (Basic.lean).  In coordinates relative to the lower bound of the first arc
(`s = [0, S]`, `b = [p, q]`): when the common points form ONE arc (not all four bounds lie on the other arc, or one arc lies
inside the other) they lie on `[0, M]`, which `b` does not start in, or on `[p, M]`, `M = min S q`, and along such an arc the
distances from both lower bounds grow in lockstep (`lock_zero`, `lock_p`); hence `geo_single`, for either upper bound: every
branch of `_multi_valued_intersection` with one result is an instance (`lockOK_single`, MeetMain.lean). -/
namespace Claripy.VSA

theorem wraps_of_sur (N l u z : Nat) (_hl : l < N) (hu : u < N) (_hz : z < N) (h1 : cd N l z ≤ cd N l u) (h2 : u < z) :
    u < l := by
  apply Nat.lt_of_not_le
  intro hlu
  have := ((arc_nowrap_iff N l u z hu hlu).1 h1).2
  omega

theorem arc_tail (N l u n x : Nat) (hl : l < N) (hu : u < N) (hn : n < N) (hx : x < N)
    (h1 : cd N l n ≤ cd N l x) (h2 : cd N l x ≤ cd N l u) : cd N n x ≤ cd N n u := by
  rw [cd_between N l n x hl hn hx h1, cd_between N l n u hl hn hu (Nat.le_trans h1 h2)]
  omega

/-- two wrapping arcs with a point of mixed kind overlap at both ends and have different bounds -/
theorem num_nc (N sl su bl bu : Nat) (h1 : sl < N) (h2 : su < N) (h3 : bl < N) (h4 : bu < N)
    (h : su < sl ∧ bu < bl ∧ (sl ≤ bu ∨ bl ≤ su)) :
    cd N sl bl ≤ cd N sl su ∧ cd N sl bu ≤ cd N sl su ∧ cd N bl sl ≤ cd N bl bu ∧ cd N bl su ≤ cd N bl bu ∧
      ¬ (bl = sl ∧ bu = su) := by
  rw [arc_wrap_iff N sl su bl h1 h3 h.1, arc_wrap_iff N sl su bu h1 h4 h.1, arc_wrap_iff N bl bu sl h3 h1 h.2.1,
    arc_wrap_iff N bl bu su h3 h2 h.2.1]
  omega

/-- a common point of two arcs, not both wrapping with an end of one past the start of the other, lies before the pole in
every wrapping arc or after it in every wrapping arc -/
theorem num_cross (N Xl Xu Yl Yu x : Nat) (h1 : Xl < N) (_h2 : Xu < N) (h3 : Yl < N) (_h4 : Yu < N) (h5 : x < N)
    (hxs : cd N Xl x ≤ cd N Xl Xu) (hxb : cd N Yl x ≤ cd N Yl Yu)
    (hnc : ¬ (Xu < Xl ∧ Yu < Yl ∧ (Xl ≤ Yu ∨ Yl ≤ Xu))) :
    ((Xu < Xl → Xl ≤ x) ∧ (Yu < Yl → Yl ≤ x)) ∨ ((Xu < Xl → x ≤ Xu) ∧ (Yu < Yl → x ≤ Yu)) := by
  by_cases wX : Xu < Xl
  · rw [arc_wrap_iff N Xl Xu x h1 h5 wX] at hxs
    by_cases wY : Yu < Yl
    · rw [arc_wrap_iff N Yl Yu x h3 h5 wY] at hxb
      omega
    · omega
  · by_cases wY : Yu < Yl
    · rw [arc_wrap_iff N Yl Yu x h3 h5 wY] at hxb
      omega
    · omega

/-- **the first common member precedes every common member in the order of an operand `[l, u]`**.  The search looks at
the points of one kind (`U`: before the pole in every wrapping operand) in increasing order, then at those of the other kind
(`L`); that is the order along `[l, u]` when it wraps, and when no operand wraps (every point is of kind `U`). -/
theorem first_precedes (N l u x n : Nat) (hu : u < N) (hn : n < N) (Ux Lx Un : Prop)
    (mn : cd N l n ≤ cd N l u)
    (hLx : Lx → u < l → x ≤ u) (hUn : Un → u < l → l ≤ n)
    (hxk : Ux ∨ Lx) (hord : (Ux → Un ∧ n ≤ x) ∧ (Lx → Un ∨ n ≤ x)) (hT : ¬ u < l → Ux) :
    cd N l n ≤ cd N l x := by
  by_cases w : u < l
  · rcases hxk with hU | hL
    · obtain ⟨un, hnx⟩ := hord.1 hU
      have := hUn un w
      rw [cd_pos _ _ _ this, cd_pos _ _ _ (Nat.le_trans this hnx)]
      omega
    · have hxu := hLx hL w
      rw [cd_neg _ _ _ (show ¬ l ≤ x by omega)]
      rcases hord.2 hL with un | hnx
      · rw [cd_pos _ _ _ (hUn un w)]; omega
      · rw [cd_neg _ _ _ (show ¬ l ≤ n by omega)]; omega
  · obtain ⟨_, hnx⟩ := hord.1 (hT w)
    have hln := ((arc_nowrap_iff N l u n hu (by omega)).1 mn).1
    rw [cd_pos _ _ _ hln, cd_pos _ _ _ (Nat.le_trans hln hnx)]
    omega

/-- the common points lie in `[0, U]` and `b` does not start among them, except at `0`: there the distance from `p` is the
position plus a constant -/
theorem lock_zero (N p U x n : Nat) (hp : p < N) (h : p = 0 ∨ U < p) (hx : x ≤ U) (hn : n ≤ U)
    (ho : n ≤ x ∨ cd N p n ≤ cd N p x) : n ≤ x ∧ cd N p n ≤ cd N p x ∧ cd N n x ≤ cd N n U := by
  have e : ∀ z, z ≤ U → cd N p z + p = z + (if p = 0 then 0 else N) := by
    intro z hz
    rcases h with h | h
    · rw [h, cd_zero]; rfl
    · rw [cd_neg _ _ _ (show ¬ p ≤ z by omega), if_neg (by omega)]; omega
  have en := e n hn
  have ex := e x hx
  have hnx : n ≤ x := by omega
  rw [cd_pos _ _ _ hnx, cd_pos _ _ _ hn]
  omega

/-- the common points lie in `[p, U]` -/
theorem lock_p (N p U x n : Nat) (hpn : p ≤ n) (hpx : p ≤ x) (hx : x ≤ U) (hn : n ≤ U)
    (ho : n ≤ x ∨ cd N p n ≤ cd N p x) : n ≤ x ∧ cd N p n ≤ cd N p x ∧ cd N n x ≤ cd N n U := by
  rw [cd_pos _ _ _ hpn, cd_pos _ _ _ hpx] at ho ⊢
  have hnx : n ≤ x := by omega
  rw [cd_pos _ _ _ hnx, cd_pos _ _ _ hn]
  omega

/-- mutual overlap without one arc surrounding the other: `b` wraps around `0` -/
theorem cfg_C3 (N S p q : Nat) (_hS : S < N) (_hp : p < N) (hq : q < N)
    (g0 : p ≤ S ∧ q ≤ S ∧ cd N p 0 ≤ cd N p q ∧ cd N p S ≤ cd N p q)
    (g1 : ¬ (cd N p 0 ≤ cd N p q ∧ cd N p S ≤ cd N p q ∧ ((p = 0 ∧ q = S) ∨ ¬ p ≤ S ∨ ¬ q ≤ S))) : q < p := by
  apply Nat.lt_of_not_le
  intro hpq
  rw [arc_nowrap_iff N p q 0 hq hpq, arc_nowrap_iff N p q S hq hpq] at g0 g1
  omega

theorem le_of_cd_le (N p q x : Nat) (hp : p < N) (hq : q < N) (hx : x < N) (h : p = 0 ∨ x < p)
    (hxq : cd N p x ≤ cd N p q) : x ≤ q := by
  rcases Nat.lt_or_ge q p with hw | hpq
  · rw [arc_wrap_iff N p q x hp hx hw] at hxq
    omega
  · exact ((arc_nowrap_iff N p q x hq hpq).1 hxq).2

/-- what a configuration supplies, in coordinates relative to `s.lb` (`s = [0, S]`, `b = [p, q]`): of two common points, one
before the other seen from `0` or from `p`, the first comes first from both and the second lies between the first and `U` -/
def GeoOK (N S p q U : Nat) : Prop :=
  ∀ x n, x ≤ S → n ≤ S → cd N p x ≤ cd N p q → cd N p n ≤ cd N p q → (n ≤ x ∨ cd N p n ≤ cd N p x) →
    n ≤ x ∧ cd N p n ≤ cd N p x ∧ cd N n x ≤ cd N n U

/-- **the common points form one arc**: not all four bounds lie on the other arc, or `s` lies inside `b`, or `b` inside `s`
(the clauses of `_is_surrounded`).  Then either upper bound will do for `U`: the choice `_multi_valued_intersection` makes
matters for precision only. -/
theorem geo_single (N S p q U : Nat) (hS : S < N) (hp : p < N) (hq : q < N)
    (one : ¬ (p ≤ S ∧ q ≤ S ∧ cd N p 0 ≤ cd N p q ∧ cd N p S ≤ cd N p q) ∨
      (cd N p 0 ≤ cd N p q ∧ cd N p S ≤ cd N p q ∧ ((p = 0 ∧ q = S) ∨ ¬ p ≤ S ∨ ¬ q ≤ S)) ∨
      (p ≤ S ∧ q ≤ S ∧ ((0 = p ∧ S = q) ∨ ¬ cd N p 0 ≤ cd N p q ∨ ¬ cd N p S ≤ cd N p q)))
    (hU : U = S ∨ U = q) : GeoOK N S p q U := by
  intro x n hx hn xb nb ho
  -- the common points lie on `[0, M]`, or on `[p, M]`, with `M = min S q ≤ U`
  have tail : ∀ M, M ≤ U → n ≤ x ∧ cd N p n ≤ cd N p x ∧ cd N n x ≤ cd N n M → n ≤ M →
      n ≤ x ∧ cd N p n ≤ cd N p x ∧ cd N n x ≤ cd N n U := by
    intro M hM ⟨r1, r2, r3⟩ hnM
    rw [cd_pos _ _ _ hnM] at r3
    rw [cd_pos N n U (by omega)]
    exact ⟨r1, r2, by omega⟩
  by_cases hz : p = 0 ∨ S < p
  · have hxq := le_of_cd_le N p q x hp hq (by omega) (by omega) xb
    have hnq := le_of_cd_le N p q n hp hq (by omega) (by omega) nb
    exact tail (min S q) (by omega) (lock_zero N p (min S q) x n hp (by omega) (by omega) (by omega) ho) (by omega)
  · have hpq : p ≤ q := by
      apply Nat.le_of_not_lt
      intro hqp
      rw [arc_wrap_iff N p q 0 hp (by omega) hqp, arc_wrap_iff N p q S hp hS hqp] at one
      omega
    obtain ⟨x1, x2⟩ := (arc_nowrap_iff N p q x hq hpq).1 xb
    obtain ⟨n1, n2⟩ := (arc_nowrap_iff N p q n hq hpq).1 nb
    exact tail (min S q) (by omega) (lock_p N p (min S q) x n n1 x1 (by omega) (by omega) ho) (by omega)

/-- mutual overlap: a common point lies on one of the two arcs -/
theorem geo_C3c (N S p q x : Nat) (hS : S < N) (hp : p < N) (hq : q < N) (hx : x < N)
    (g0 : p ≤ S ∧ q ≤ S ∧ cd N p 0 ≤ cd N p q ∧ cd N p S ≤ cd N p q)
    (g1 : ¬ (cd N p 0 ≤ cd N p q ∧ cd N p S ≤ cd N p q ∧ ((p = 0 ∧ q = S) ∨ ¬ p ≤ S ∨ ¬ q ≤ S)))
    (g3 : x ≤ S) (g4 : cd N p x ≤ cd N p q) :
    x ≤ q ∨ cd N p x ≤ cd N p S := by
  rw [arc_wrap_iff N p q x hp hx (cfg_C3 N S p q hS hp hq g0 g1)] at g4
  rw [arc_nowrap_iff N p S x hS g0.1]
  omega

/-- no bound of one arc inside the other: the arcs are disjoint -/
theorem geo_none (N S p q x : Nat) (g0 : ¬ p ≤ S) (g2 : ¬ cd N p 0 ≤ cd N p q) (g4 : x ≤ S) (g5 : cd N p x ≤ cd N p q) :
    False := by
  rw [cd_neg _ _ _ (show ¬ p ≤ x by omega)] at g5
  rw [cd_neg _ _ _ (show ¬ p ≤ 0 by omega)] at g2
  omega

end Claripy.VSA

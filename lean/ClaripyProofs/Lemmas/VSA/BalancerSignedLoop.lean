import ClaripyProofs.Lemmas.VSA.BalancerHandle
/-!
`_handle` of a SIGNED ordering whose unsigned reading holds (what the arms that drop extension bits leave, `Step.dropU`):
the lone signed bound it records, read modulo `2^w` with the unsigned default of the other side, contains the value.
-/
namespace Claripy.VSA.Bal
open Claripy.VSA

theorem cmpInfo_uOf (op : CmpOp) (h : sOrd op) :
    uOrd (uOf op) ∧ cmpInfo (uOf op) = ((cmpInfo op).1, (cmpInfo op).2.1, true) := by
  rcases h with h | h | h | h <;> rw [h] <;> simp [uOf, uOrd, cmpInfo]

def Tru.holdsSU (env : Nat → Nat) (t : Tru) : Prop := t.holds env ∨ t.holdsU env

/-! When the UNSIGNED reading `v OPu r` of a signed truism holds, the bound `_handle_comparison` records for it — a SIGNED
integer — read modulo `2^w` with the unsigned default of the other side contains `v`: the signed values of `v` and of the
bound are representatives less than a turn apart of two naturals in the unsigned order. -/

/-- what `_handle_comparison` records for a signed ordering against a literal, given the signed minimum / maximum of the
left side -/
def cmpResS (t : Tru) (bs : Bounds) (lmin lmax : Int) : Bounds :=
  match t.op with
  | .slt => addUpper bs t.lhs (min ((2 : Int) ^ (wd t.lhs - 1) - 1) (min lmax (Conc.toInt t.w t.r - 1)))
  | .sle => addUpper bs t.lhs (min ((2 : Int) ^ (wd t.lhs - 1) - 1) (min lmax (Conc.toInt t.w t.r)))
  | .sgt => addLower bs t.lhs (max (-((2 : Int) ^ (wd t.lhs - 1))) (max lmin (Conc.toInt t.w t.r + 1)))
  | .sge => addLower bs t.lhs (max (-((2 : Int) ^ (wd t.lhs - 1))) (max lmin (Conc.toInt t.w t.r)))
  | _ => bs

section
variable (anno : Nat → SI) (env : Nat → Nat) (hctx : ∀ i, (anno i).WF ∧ (anno i).mem (env i)) (hnrm : ∀ i, Nrm (anno i))
include hctx hnrm

theorem handleCmp_U_lone (t : Tru) (bs' : Bounds) (hok : TruWT anno env t) (hop : sOrd t.op) (hh : t.holdsU env)
    (h : handleCmp anno t [] = .ok bs') : Sound env bs' := by
  obtain ⟨v, hv, hc⟩ := hh
  obtain ⟨lmin, lmax, hax, hxb, hb⟩ := handleCmp_hull anno env hctx hnrm t [] bs' hok h v hv
  have hwd := hok.wd_eq
  obtain ⟨hvlt, hwpos⟩ := hok.range anno env hctx v hv
  rw [sOrd_signed t.op hop, Bool.not_false] at hax hxb hb
  obtain ⟨hu, hinfo⟩ := cmpInfo_uOf t.op hop
  have hk : cmpShift (uOf t.op) = cmpShift t.op := by unfold cmpShift; rw [hinfo]
  rw [concCmp_rd _ _ _ _ (ord_ne _ (Or.inl hu)), hinfo, hk] at hc
  simp only [rd, Bool.not_true, Bool.false_eq_true, if_false] at hc
  obtain ⟨v1, v2⟩ := rd_range true t.w v hwpos hvlt
  obtain ⟨r1, r2⟩ := rd_range true t.w t.r hwpos hok.r_lt
  obtain ⟨hspan, hiMin⟩ := rd_span true t.w hwpos
  have one : ∀ (lo hi : Option Int), bs' = [(t.lhs, lo, hi)] → InB t.w lo hi v → Sound env bs' :=
    fun lo hi hbs hin => hbs ▸ sound_single env _ _ _ v hv (hwd ▸ hvlt) (hwd ▸ hin)
  -- the literal moved by the strictness of the comparison, as a natural
  have hn : imod (rd true t.w t.r + cmpShift t.op) t.w = ((t.r : Int) + cmpShift t.op).toNat →
      ((t.r : Int) + cmpShift t.op).toNat < 2 ^ t.w := fun h => h ▸ imod_lt _ _
  have hrlt := hok.r_lt
  have hkr := cmpShift_range t.op
  obtain ⟨hk1, hk2⟩ := cmpShift_sign t.op
  by_cases hlt : (cmpInfo t.op).1 = true
  · have hk1 := hk1 hlt
    simp only [hlt, if_true] at hb hc
    simp only [addUpper] at hb
    rw [← Int.min_assoc] at hb
    have hU : imod (rd true t.w t.r + cmpShift t.op) t.w = ((t.r : Int) + cmpShift t.op).toNat := by
      rw [imod_rd_add, ← imod_of_lt _ t.w (show ((t.r : Int) + cmpShift t.op).toNat < 2 ^ t.w by omega)]
      congr 1; omega
    exact one _ _ hb (InB_lone_upper t.w _ v (rd true t.w v) _ _ (hn hU) (imod_rd true t.w v hvlt) hU (by omega) (by omega)
      (by omega))
  · have hlt' : (cmpInfo t.op).1 = false := by simpa using hlt
    have hk2 := hk2 hlt'
    simp only [hlt', Bool.false_eq_true, if_false] at hb hc
    simp only [addLower] at hb
    rw [← Int.max_assoc] at hb
    have hL : imod (rd true t.w t.r + cmpShift t.op) t.w = ((t.r : Int) + cmpShift t.op).toNat := by
      rw [imod_rd_add, ← imod_of_lt _ t.w (show ((t.r : Int) + cmpShift t.op).toNat < 2 ^ t.w by omega)]
      congr 1; omega
    exact one _ _ hb (InB_lone_lower t.w _ v (rd true t.w v) _ _ (hn hL) hvlt (imod_rd true t.w v hvlt) hL (by omega)
      (by omega) (by omega))

theorem handle_U_lone (t : Tru) (bs' : Bounds) (hok : TruWT anno env t) (hop : sOrd t.op) (hh : t.holdsU env)
    (h : handle anno t [] = .ok bs') : Sound env bs' := by
  obtain ⟨c, _, hbs'⟩ := handle_ord anno t [] bs' (Or.inr hop) h
  by_cases hc1 : c = 1
  · rw [if_pos hc1] at hbs'; subst hbs'
    exact sound_nil env
  · rw [if_neg hc1] at hbs'
    exact handleCmp_U_lone anno env hctx hnrm t bs' hok hop hh hbs'

end

end Claripy.VSA.Bal

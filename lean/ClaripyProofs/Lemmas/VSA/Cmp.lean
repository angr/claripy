import ClaripyProofs.Lemmas.VSA.Split
import Claripy.VSA.BackendSpec
/-! The orderings on enclosing boxes admit every truth value that occurs (`cmpWith_order`); the unsigned orderings
`ULT`, `ULE`, `UGT`, `UGE`. -/
namespace Claripy.VSA

theorem combine_has (l : List BoolRes) (v : BoolRes) (t : Bool) (hv : v ∈ l) (h : v.has t = true) :
    (combine l).has t = true := by
  unfold combine
  split
  · rename_i h1
    have : v = .t := by simpa using List.all_eq_true.1 h1 v hv
    rw [← this]
    exact h
  · split
    · rename_i _ h2
      have : v = .f := by simpa using List.all_eq_true.1 h2 v hv
      rw [← this]
      exact h
    · cases t <;> rfl

theorem mem_cmp_list (b1 b2 : List (Int × Int)) (isT isF : Int → Int → Int → Int → Bool) (p q : Int × Int)
    (hp : p ∈ b1) (hq : q ∈ b2) :
    (if isT p.1 p.2 q.1 q.2 then BoolRes.t else if isF p.1 p.2 q.1 q.2 then BoolRes.f else BoolRes.m) ∈
      (b1.map fun p => b2.map fun q =>
        if isT p.1 p.2 q.1 q.2 then BoolRes.t else if isF p.1 p.2 q.1 q.2 then BoolRes.f else BoolRes.m).flatten := by
  rw [List.mem_flatten]
  exact ⟨_, List.mem_map.2 ⟨p, hp, rfl⟩, List.mem_map.2 ⟨q, hq, rfl⟩⟩

theorem cmpWith_sound (b1 b2 : List (Int × Int)) (isT isF : Int → Int → Int → Int → Bool) (p q : Int × Int)
    (hp : p ∈ b1) (hq : q ∈ b2) (truth : Bool)
    (hT : isT p.1 p.2 q.1 q.2 = true → truth = true) (hF : isF p.1 p.2 q.1 q.2 = true → truth = false) :
    (cmpWith b1 b2 isT isF).has truth = true := by
  unfold cmpWith
  refine combine_has _ _ truth (mem_cmp_list b1 b2 isT isF p q hp hq) ?_
  split
  · rename_i h1
    rw [hT h1]
    rfl
  · split
    · rename_i _ h2
      rw [hF h2]
      rfl
    · cases truth <;> rfl

theorem cmpWith_order (ba bb : List (Int × Int)) (p q : Int × Int) (hp : p ∈ ba) (hq : q ∈ bb) (X Y : Int)
    (hp1 : p.1 ≤ X) (hp2 : X ≤ p.2) (hq1 : q.1 ≤ Y) (hq2 : Y ≤ q.2) :
    (cmpWith ba bb ltT ltF).has (decide (X < Y)) = true ∧ (cmpWith ba bb leT leF).has (decide (X ≤ Y)) = true ∧
    (cmpWith ba bb gtT gtF).has (decide (X > Y)) = true ∧ (cmpWith ba bb geT geF).has (decide (X ≥ Y)) = true := by
  refine ⟨cmpWith_sound ba bb ltT ltF p q hp hq _ ?_ ?_, cmpWith_sound ba bb leT leF p q hp hq _ ?_ ?_,
    cmpWith_sound ba bb gtT gtF p q hp hq _ ?_ ?_, cmpWith_sound ba bb geT geF p q hp hq _ ?_ ?_⟩
  · intro ht; simp only [ltT, decide_eq_true_eq] at ht ⊢; omega
  · intro hf; simp only [ltF, ge_iff_le, decide_eq_true_eq, decide_eq_false_iff_not] at hf ⊢; omega
  · intro ht; simp only [leT, decide_eq_true_eq] at ht ⊢; omega
  · intro hf; simp only [leF, gt_iff_lt, decide_eq_true_eq, decide_eq_false_iff_not] at hf ⊢; omega
  · intro ht; simp only [gtT, gt_iff_lt, decide_eq_true_eq] at ht ⊢; omega
  · intro hf; simp only [gtF, gt_iff_lt, decide_eq_true_eq, decide_eq_false_iff_not] at hf ⊢; omega
  · intro ht; simp only [geT, ge_iff_le, decide_eq_true_eq] at ht ⊢; omega
  · intro hf; simp only [geF, ge_iff_le, decide_eq_true_eq, decide_eq_false_iff_not] at hf ⊢; omega

theorem unsignedBounds_spec (s : SI) (hw : s.WF) (hnb : s.bottom = false) :
    ∃ bs, s.unsignedBounds = .ok bs ∧ ∀ x, s.mem x → ∃ p, p ∈ bs ∧ p.1 ≤ (x : Int) ∧ (x : Int) ≤ p.2 := by
  obtain ⟨ps, hps, hprop, hcov⟩ := ssplit_pieces s hw hnb
  exact ⟨_, unsignedBounds_eq s ps hps,
    pieces_enclose (fun x => (x : Int)) s _ ps hprop hcov (along_unsigned _ (Nat.two_pow_pos _))⟩

theorem ucmp_sound (op : CmpOp) (hop : op = .ult ∨ op = .ule ∨ op = .ugt ∨ op = .uge) (a b : AV) (br : BoolRes)
    (ha : a.si.WF) (hb : b.si.WF) (h : applyCmp op a b = .ok br) (x y : Nat) (hx : a.si.mem x) (hy : b.si.mem y) :
    br.has (concCmp op a.si.bits x y) = true := by
  obtain ⟨ba, hba, hca⟩ := unsignedBounds_spec a.si ha hx.1
  obtain ⟨bb, hbb, hcb⟩ := unsignedBounds_spec b.si hb hy.1
  obtain ⟨p, hp, hp1, hp2⟩ := hca x hx
  obtain ⟨q, hq, hq1, hq2⟩ := hcb y hy
  obtain ⟨c1, c2, c3, c4⟩ := cmpWith_order ba bb p q hp hq x y hp1 hp2 hq1 hq2
  rcases hop with h1 | h1 | h1 | h1 <;> subst h1
  · simp only [applyCmp, SI.ULT, hba, hbb] at h
    cases h
    simpa [concCmp] using c1
  · simp only [applyCmp, SI.ULE, hba, hbb] at h
    cases h
    simpa [concCmp] using c2
  · simp only [applyCmp, SI.UGT, hba, hbb] at h
    cases h
    simpa [concCmp] using c3
  · simp only [applyCmp, SI.UGE, hba, hbb] at h
    cases h
    simpa [concCmp] using c4

end Claripy.VSA

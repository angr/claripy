import ClaripyProofs.Lemmas.VSA.Basic
import ClaripyProofs.Lemmas.VSA.BitsAux
/-! Warren's `min_or` / `max_or` (Hacker's Delight 4-3) as the code computes them are bounds of `x ||| y` over the box
`a ≤ x ≤ b`, `c ≤ y ≤ d`.  The loops scan the bit positions from the top; the induction hypothesis is stated for the
remaining positions `< k` and for values that agree with `a`, `c` (resp. `b`, `d`) above position `k`. -/
namespace Claripy.VSA

theorem sacb_eq (a k : Nat) : setAndClearBelow a k = (a / 2 ^ k ||| 1) * 2 ^ k := by
  unfold setAndClearBelow
  rw [Nat.shiftLeft_eq, Nat.shiftRight_eq_div_pow, or_div_pow, Nat.div_self (Nat.two_pow_pos k)]

theorem sacb_div (a k : Nat) : setAndClearBelow a k / 2 ^ k = a / 2 ^ k ||| 1 := by
  rw [sacb_eq, Nat.mul_div_cancel _ (Nat.two_pow_pos k)]

theorem sacb_mod (a k : Nat) : setAndClearBelow a k % 2 ^ k = 0 := by
  rw [sacb_eq, Nat.mul_mod_left]

theorem minOrLoop_high : ∀ (k a b c d : Nat), minOrLoop k a b c d / 2 ^ k = a / 2 ^ k ||| c / 2 ^ k
  | 0, a, b, c, d => by simp [minOrLoop]
  | k + 1, a, b, c, d => by
    have ih := minOrLoop_high k a b c d
    have hrec : minOrLoop k a b c d / 2 ^ (k + 1) = a / 2 ^ (k + 1) ||| c / 2 ^ (k + 1) := by
      rw [div_succ_pow, ih, Nat.or_div_two, ← div_succ_pow, ← div_succ_pow]
    have h1 : (setAndClearBelow a k ||| c) / 2 ^ (k + 1) = a / 2 ^ (k + 1) ||| c / 2 ^ (k + 1) := by
      rw [or_div_pow]
      congr 1
      rw [div_succ_pow, sacb_div, Nat.or_div_two, div_succ_pow]
      simp
    have h2 : (a ||| setAndClearBelow c k) / 2 ^ (k + 1) = a / 2 ^ (k + 1) ||| c / 2 ^ (k + 1) := by
      rw [or_div_pow]
      congr 1
      rw [div_succ_pow, sacb_div, Nat.or_div_two, div_succ_pow]
      simp
    unfold minOrLoop
    simp only []
    have step := fun {t : Prop} [Decidable t] (x y : Nat) =>
      ite_ind (c := t) (fun v => v / 2 ^ (k + 1) = a / 2 ^ (k + 1) ||| c / 2 ^ (k + 1)) x y
    exact step _ _ (step _ _ h1 hrec) (step _ _ (step _ _ h2 hrec) hrec)

theorem or_congr_bits (u v u' v' : Nat) (h1 : u / 2 ||| v / 2 = u' / 2 ||| v' / 2)
    (h2 : (u % 2 = 1 ∨ v % 2 = 1) ↔ (u' % 2 = 1 ∨ v' % 2 = 1)) : u ||| v = u' ||| v' := by
  rw [or_eq_half u v, or_eq_half u' v', h1]
  by_cases h : u % 2 = 1 ∨ v % 2 = 1
  · rw [if_pos h, if_pos (h2.1 h)]
  · rw [if_neg h, if_neg (fun h' => h (h2.2 h'))]

/-- two or-combinations with the same halves: the one whose lowest bits are both clear is below the one with a lowest bit
set (the step of both loops when they pass a position without an exit) -/
theorem or_lt_or_of_bit (u v u' v' : Nat) (h1 : u' / 2 = u / 2) (h2 : v' / 2 = v / 2) (hu : u % 2 = 0) (hv : v % 2 = 0)
    (h : u' % 2 = 1 ∨ v' % 2 = 1) : u ||| v < u' ||| v' := by
  rw [or_eq_half u, or_eq_half u', h1, h2, if_pos h, if_neg (by omega)]
  omega

/-- the first exit of `min_or`: bit `k` of `a` is 0, of `c` is 1 -/
theorem minOr_exit (k a c x y : Nat) (hax : a / 2 ^ k / 2 = x / 2 ^ k / 2) (hcy : c / 2 ^ k = y / 2 ^ k)
    (hle : c ≤ y) (_ha : a / 2 ^ k % 2 = 0) (hc : c / 2 ^ k % 2 = 1) :
    setAndClearBelow a k ||| c ≤ x ||| y := by
  apply le_of_div_eq (2 ^ k)
  · rw [or_div_pow, or_div_pow, sacb_div, hcy]
    apply or_congr_bits
    · rw [Nat.or_div_two, hax]; simp
    · rw [hcy] at hc; simp [hc]
  · rw [Nat.or_mod_two_pow, Nat.or_mod_two_pow, sacb_mod, Nat.zero_or]
    exact Nat.le_trans (mod_le_of_div_eq _ _ _ hle hcy) Nat.right_le_or

/-- if bit `k` of `x` were set, `x` would be at least `setAndClearBelow a k` -/
theorem sacb_le (k a x : Nat) (hax : a / 2 ^ k / 2 = x / 2 ^ k / 2) (ha : a / 2 ^ k % 2 = 0) (hx : x / 2 ^ k % 2 = 1) :
    setAndClearBelow a k ≤ x := by
  rw [sacb_eq, or_one_even _ ha]
  have : a / 2 ^ k + 1 = x / 2 ^ k := by omega
  rw [this]
  exact Nat.div_mul_le_self x (2 ^ k)

theorem minOrLoop_le : ∀ (k a b c d x y : Nat), a ≤ x → x ≤ b → c ≤ y → y ≤ d →
    x / 2 ^ k = a / 2 ^ k → y / 2 ^ k = c / 2 ^ k → minOrLoop k a b c d ≤ x ||| y
  | 0, a, b, c, d, x, y, _, _, _, _, hx, hy => by
    simp only [Nat.pow_zero, Nat.div_one] at hx hy
    subst hx; subst hy
    exact Nat.le_refl _
  | k + 1, a, b, c, d, x, y, hax, hxb, hcy, hyd, hx, hy => by
    have ih := minOrLoop_le k a b c d x y hax hxb hcy hyd
    rw [div_succ_pow, div_succ_pow] at hx hy
    have hza : a / 2 ^ k ≤ x / 2 ^ k := Nat.div_le_div_right hax
    have hzc : c / 2 ^ k ≤ y / 2 ^ k := Nat.div_le_div_right hcy
    -- the recursive call is fine unless one of the exits' premises holds
    have hrec : (a / 2 ^ k % 2 = 0 → c / 2 ^ k % 2 = 1 → x / 2 ^ k % 2 = 0) →
        (a / 2 ^ k % 2 = 1 → c / 2 ^ k % 2 = 0 → y / 2 ^ k % 2 = 0) → minOrLoop k a b c d ≤ x ||| y := by
      intro g1 g2
      by_cases he : x / 2 ^ k = a / 2 ^ k ∧ y / 2 ^ k = c / 2 ^ k
      · exact ih he.1 he.2
      · -- both bits of `a`, `c` are 0 and one of `x`, `y` has the bit set: compare above position `k`
        have hpa : a / 2 ^ k % 2 = 0 := by omega
        have hpc : c / 2 ^ k % 2 = 0 := by omega
        apply Nat.le_of_lt
        apply Nat.lt_of_div_lt_div (c := 2 ^ k)
        rw [minOrLoop_high, or_div_pow]
        exact or_lt_or_of_bit _ _ _ _ hx hy hpa hpc (by omega)
    unfold minOrLoop
    by_cases h1 : (!a.testBit k && c.testBit k) = true
    · rw [if_pos h1]
      have h1' : a.testBit k = false ∧ c.testBit k = true := by simpa using h1
      have hpa := (testBit_false_iff a k).1 h1'.1
      have hpc := (testBit_iff c k).1 h1'.2
      have hyc : c / 2 ^ k = y / 2 ^ k := by omega
      simp only []
      by_cases h2 : setAndClearBelow a k ≤ b
      · rw [if_pos h2]
        exact minOr_exit k a c x y hx.symm hyc hcy hpa hpc
      · rw [if_neg h2]
        apply hrec
        · intro _ _
          rcases Nat.mod_two_eq_zero_or_one (x / 2 ^ k) with h | h
          · exact h
          · have := sacb_le k a x hx.symm hpa h
            omega
        · intro h; omega
    · rw [if_neg h1]
      by_cases h3 : (a.testBit k && !c.testBit k) = true
      · rw [if_pos h3]
        have h3' : a.testBit k = true ∧ c.testBit k = false := by simpa using h3
        have hpa := (testBit_iff a k).1 h3'.1
        have hpc := (testBit_false_iff c k).1 h3'.2
        have hxa : a / 2 ^ k = x / 2 ^ k := by omega
        simp only []
        by_cases h2 : setAndClearBelow c k ≤ d
        · rw [if_pos h2]
          rw [Nat.or_comm a, Nat.or_comm x]
          exact minOr_exit k c a y x hy.symm hxa hax hpc hpa
        · rw [if_neg h2]
          apply hrec
          · intro h; omega
          · intro _ _
            rcases Nat.mod_two_eq_zero_or_one (y / 2 ^ k) with h | h
            · exact h
            · have := sacb_le k c y hy.symm hpc h
              omega
      · rw [if_neg h3]
        apply hrec
        · intro ha hc
          exfalso; apply h1
          simp [(testBit_false_iff a k).2 ha, (testBit_iff c k).2 hc]
        · intro ha hc
          exfalso; apply h3
          simp [(testBit_iff a k).2 ha, (testBit_false_iff c k).2 hc]

theorem minOr_le (a b c d w x y : Nat) (hax : a ≤ x) (hxb : x ≤ b) (hcy : c ≤ y) (hyd : y ≤ d)
    (hb : b < 2 ^ w) (hd : d < 2 ^ w) : minOr a b c d w ≤ x ||| y := by
  unfold minOr
  apply minOrLoop_le w a b c d x y hax hxb hcy hyd
  · rw [Nat.div_eq_of_lt (by omega), Nat.div_eq_of_lt (by omega)]
  · rw [Nat.div_eq_of_lt (by omega), Nat.div_eq_of_lt (by omega)]

/-- `(b - 2^k) | (2^k - 1)`: bit `k` cleared (when set), everything below set -/
theorem mtemp_div (b k : Nat) : ((b - 2 ^ k) ||| (2 ^ k - 1)) / 2 ^ k = b / 2 ^ k - 1 := by
  have hp := Nat.two_pow_pos k
  rw [or_div_pow, Nat.div_eq_of_lt (show 2 ^ k - 1 < 2 ^ k by omega), Nat.or_zero]
  have := Nat.sub_mul_div b (2 ^ k) 1
  rw [Nat.mul_one] at this
  exact this

theorem mtemp_mod (b k : Nat) : ((b - 2 ^ k) ||| (2 ^ k - 1)) % 2 ^ k = 2 ^ k - 1 := by
  have hp := Nat.two_pow_pos k
  rw [Nat.or_mod_two_pow, Nat.mod_eq_of_lt (show 2 ^ k - 1 < 2 ^ k by omega)]
  exact or_ones _ _ (Nat.mod_lt _ hp)

theorem maxOrLoop_high : ∀ (k a b c d : Nat), maxOrLoop k a b c d / 2 ^ k = b / 2 ^ k ||| d / 2 ^ k
  | 0, a, b, c, d => by simp [maxOrLoop]
  | k + 1, a, b, c, d => by
    have ih := maxOrLoop_high k a b c d
    have hrec : maxOrLoop k a b c d / 2 ^ (k + 1) = b / 2 ^ (k + 1) ||| d / 2 ^ (k + 1) := by
      rw [div_succ_pow, ih, Nat.or_div_two, ← div_succ_pow, ← div_succ_pow]
    unfold maxOrLoop
    by_cases h1 : (b.testBit k && d.testBit k) = true
    · rw [if_pos h1]
      have h1' : b.testBit k = true ∧ d.testBit k = true := by simpa using h1
      have hpb := (testBit_iff b k).1 h1'.1
      have hpd := (testBit_iff d k).1 h1'.2
      have e1 : (((b - 2 ^ k) ||| (2 ^ k - 1)) ||| d) / 2 ^ (k + 1) = b / 2 ^ (k + 1) ||| d / 2 ^ (k + 1) := by
        rw [or_div_pow]
        congr 1
        rw [div_succ_pow, mtemp_div, div_succ_pow]
        generalize b / 2 ^ k = zb at *
        generalize d / 2 ^ k = zd at *
        omega
      have e2 : (b ||| ((d - 2 ^ k) ||| (2 ^ k - 1))) / 2 ^ (k + 1) = b / 2 ^ (k + 1) ||| d / 2 ^ (k + 1) := by
        rw [or_div_pow]
        congr 1
        rw [div_succ_pow, mtemp_div, div_succ_pow]
        generalize b / 2 ^ k = zb at *
        generalize d / 2 ^ k = zd at *
        omega
      simp only []
      have step := fun {t : Prop} [Decidable t] (x y : Nat) =>
        ite_ind (c := t) (fun v => v / 2 ^ (k + 1) = b / 2 ^ (k + 1) ||| d / 2 ^ (k + 1)) x y
      exact step _ _ e1 (step _ _ e2 hrec)
    · rw [if_neg h1]; exact hrec

/-- an exit of `max_or`: bit `k` of both `b` and `d` is set -/
theorem maxOr_exit (k b d x y : Nat) (hbx : b / 2 ^ k / 2 = x / 2 ^ k / 2) (hdy : d / 2 ^ k / 2 = y / 2 ^ k / 2)
    (hb : b / 2 ^ k % 2 = 1) (hd : d / 2 ^ k % 2 = 1) :
    x ||| y ≤ ((b - 2 ^ k) ||| (2 ^ k - 1)) ||| d := by
  have hp := Nat.two_pow_pos k
  apply le_of_div_le_mod_max (2 ^ k) _ _ hp
  · rw [or_div_pow, or_div_pow, mtemp_div]
    generalize b / 2 ^ k = zb at *
    generalize d / 2 ^ k = zd at *
    generalize x / 2 ^ k = zx at *
    generalize y / 2 ^ k = zy at *
    have e : (zb - 1) / 2 = zx / 2 := by omega
    rw [or_eq_half zx, or_eq_half (zb - 1), e, hdy, if_pos (Or.inr hd)]
    split_ifs <;> omega
  · rw [Nat.or_mod_two_pow, mtemp_mod, Nat.or_comm]
    exact or_ones _ _ (Nat.mod_lt _ hp)

/-- if bit `k` of `x` were clear, `x` would be at most `(b - 2^k) | (2^k - 1)` -/
theorem le_mtemp (k b x : Nat) (hbx : b / 2 ^ k / 2 = x / 2 ^ k / 2) (hb : b / 2 ^ k % 2 = 1) (hx : x / 2 ^ k % 2 = 0) :
    x ≤ (b - 2 ^ k) ||| (2 ^ k - 1) := by
  have hp := Nat.two_pow_pos k
  apply le_of_div_le_mod_max (2 ^ k) _ _ hp
  · rw [mtemp_div]
    generalize b / 2 ^ k = zb at *
    generalize x / 2 ^ k = zx at *
    omega
  · exact mtemp_mod b k

theorem maxOrLoop_ge : ∀ (k a b c d x y : Nat), a ≤ x → x ≤ b → c ≤ y → y ≤ d →
    x / 2 ^ k = b / 2 ^ k → y / 2 ^ k = d / 2 ^ k → x ||| y ≤ maxOrLoop k a b c d
  | 0, a, b, c, d, x, y, _, _, _, _, hx, hy => by
    simp only [Nat.pow_zero, Nat.div_one] at hx hy
    subst hx; subst hy
    exact Nat.le_refl _
  | k + 1, a, b, c, d, x, y, hax, hxb, hcy, hyd, hx, hy => by
    have ih := maxOrLoop_ge k a b c d x y hax hxb hcy hyd
    rw [div_succ_pow, div_succ_pow] at hx hy
    have hzb : x / 2 ^ k ≤ b / 2 ^ k := Nat.div_le_div_right hxb
    have hzd : y / 2 ^ k ≤ d / 2 ^ k := Nat.div_le_div_right hyd
    have hrec : (b / 2 ^ k % 2 = 1 → d / 2 ^ k % 2 = 1 → x / 2 ^ k % 2 = 1 ∧ y / 2 ^ k % 2 = 1) →
        x ||| y ≤ maxOrLoop k a b c d := by
      intro g
      by_cases he : x / 2 ^ k = b / 2 ^ k ∧ y / 2 ^ k = d / 2 ^ k
      · exact ih he.1 he.2
      · apply Nat.le_of_lt
        apply Nat.lt_of_div_lt_div (c := 2 ^ k)
        rw [maxOrLoop_high, or_div_pow]
        -- a bit of `b`, `d` is set where the bit of `x`, `y` is clear, and not both are set
        exact or_lt_or_of_bit _ _ _ _ hx.symm hy.symm (by omega) (by omega) (by omega)
    unfold maxOrLoop
    by_cases h1 : (b.testBit k && d.testBit k) = true
    · rw [if_pos h1]
      have h1' : b.testBit k = true ∧ d.testBit k = true := by simpa using h1
      have hpb := (testBit_iff b k).1 h1'.1
      have hpd := (testBit_iff d k).1 h1'.2
      simp only []
      by_cases h2 : (b - 2 ^ k) ||| (2 ^ k - 1) ≥ a
      · rw [if_pos h2]
        exact maxOr_exit k b d x y hx.symm hy.symm hpb hpd
      · rw [if_neg h2]
        by_cases h3 : (d - 2 ^ k) ||| (2 ^ k - 1) ≥ c
        · rw [if_pos h3, Nat.or_comm b, Nat.or_comm x]
          exact maxOr_exit k d b y x hy.symm hx.symm hpd hpb
        · rw [if_neg h3]
          apply hrec
          intro _ _
          constructor
          · rcases Nat.mod_two_eq_zero_or_one (x / 2 ^ k) with h | h
            · have := le_mtemp k b x hx.symm hpb h
              omega
            · exact h
          · rcases Nat.mod_two_eq_zero_or_one (y / 2 ^ k) with h | h
            · have := le_mtemp k d y hy.symm hpd h
              omega
            · exact h
    · rw [if_neg h1]
      apply hrec
      intro hb hd
      exfalso; apply h1
      simp [(testBit_iff b k).2 hb, (testBit_iff d k).2 hd]

theorem le_maxOr (a b c d w x y : Nat) (hax : a ≤ x) (hxb : x ≤ b) (hcy : c ≤ y) (hyd : y ≤ d)
    (hb : b < 2 ^ w) (hd : d < 2 ^ w) : x ||| y ≤ maxOr a b c d w := by
  unfold maxOr
  apply maxOrLoop_ge w a b c d x y hax hxb hcy hyd
  · rw [Nat.div_eq_of_lt (by omega), Nat.div_eq_of_lt (by omega)]
  · rw [Nat.div_eq_of_lt (by omega), Nat.div_eq_of_lt (by omega)]

/-- the degenerate boxes `{0} × [c, d]`, `[a, b] × {0}` (used by the stride shortcut of `bitwise_or`) -/
theorem minOrLoop_zero_left : ∀ (k c d : Nat), minOrLoop k 0 0 c d = c
  | 0, c, d => by simp [minOrLoop]
  | k + 1, c, d => by
    have hp := Nat.two_pow_pos k
    unfold minOrLoop
    have : ¬ setAndClearBelow 0 k ≤ 0 := by
      rw [sacb_eq]; simp
    simp [this, minOrLoop_zero_left k c d]

theorem minOrLoop_zero_right : ∀ (k a b : Nat), minOrLoop k a b 0 0 = a
  | 0, a, b => by simp [minOrLoop]
  | k + 1, a, b => by
    have hp := Nat.two_pow_pos k
    unfold minOrLoop
    have : ¬ setAndClearBelow 0 k ≤ 0 := by
      rw [sacb_eq]; simp
    simp [this, minOrLoop_zero_right k a b]

theorem maxOrLoop_zero_left : ∀ (k c d : Nat), maxOrLoop k 0 0 c d = d
  | 0, c, d => by simp [maxOrLoop]
  | k + 1, c, d => by
    unfold maxOrLoop
    simp [maxOrLoop_zero_left k c d]

theorem maxOrLoop_zero_right : ∀ (k a b : Nat), maxOrLoop k a b 0 0 = b
  | 0, a, b => by simp [maxOrLoop]
  | k + 1, a, b => by
    unfold maxOrLoop
    simp [maxOrLoop_zero_right k a b]

end Claripy.VSA

import ClaripyProofs.Lemmas.VSA.ConvertProved
/-!
The alignment guard of `convBV_rest_good` (`alBV` / `alB`: the abstract operands of every `==`, `!=`, `*` node are aligned) is
discharged syntactically: every interval operation the backend dispatches to returns an aligned interval when its operands
are aligned (the `aligned` field of its `op_good` theorem), several return one whatever the operands are.

* `alSrc anno e` (`ConvertProved.lean`) — a syntactic sufficient condition for "the abstract value of `e` is aligned": the annotations of the variables
  that reach the root through `+ | % concat If zext sext extract`, the left operand of `- << >> >>>`, are aligned; everything below
  a `neg ~ & ^ /u *` node is irrelevant (these operations always return aligned intervals).
* `guardFreeBV/B anno e` — at every `==` / `!=` / `*` node both operands satisfy `alSrc` (`%` needs no guard: `mod_sound_full`).

`aligned_of_alSrc` reads "aligned if `alSrc`" off the invariant of `opsProved`;
`alBV_of_guardFree`: `guardFree → alBV` (for ASTs with a value at every node, over normal annotations).
-/
namespace Claripy.VSA

mutual
def guardFreeBV (anno : Nat → SI) : BV → Prop
  | .var _ _ => True
  | .free _ _ => True
  | .const _ _ => True
  | .bin op a b => guardFreeBV anno a ∧ guardFreeBV anno b ∧ (op = .mul → alSrc anno a) ∧ (op = .mul → alSrc anno b)
  | .neg a => guardFreeBV anno a
  | .not a => guardFreeBV anno a
  | .zext _ a => guardFreeBV anno a
  | .sext _ a => guardFreeBV anno a
  | .extract _ _ a => guardFreeBV anno a
  | .concat a b => guardFreeBV anno a ∧ guardFreeBV anno b
  | .ite c a b => guardFreeB anno c ∧ guardFreeBV anno a ∧ guardFreeBV anno b
def guardFreeB (anno : Nat → SI) : BExp → Prop
  | .lit _ => True
  | .cmp op a b => guardFreeBV anno a ∧ guardFreeBV anno b ∧ (restCmp op = true → alSrc anno a ∧ alSrc anno b)
  | .not c => guardFreeB anno c
  | .and c d => guardFreeB anno c ∧ guardFreeB anno d
  | .or c d => guardFreeB anno c ∧ guardFreeB anno d
  | .ite c a b => guardFreeB anno c ∧ guardFreeB anno a ∧ guardFreeB anno b
end

theorem alSrc_of_all {anno : Nat → SI} (hall : ∀ i, (anno i).Aligned) : ∀ e : BV, alSrc anno e
  | .var i _ => hall i
  | .free _ _ => trivial
  | .const _ _ => trivial
  | .bin _ a b => ⟨fun _ => alSrc_of_all hall a, fun _ => alSrc_of_all hall b⟩
  | .neg _ => trivial
  | .not _ => trivial
  | .zext _ a => alSrc_of_all hall a
  | .sext _ a => alSrc_of_all hall a
  | .extract _ _ a => alSrc_of_all hall a
  | .concat a b => ⟨alSrc_of_all hall a, alSrc_of_all hall b⟩
  | .ite _ a b => ⟨alSrc_of_all hall a, alSrc_of_all hall b⟩

mutual
theorem guardFreeBV_of_all {anno : Nat → SI} (hall : ∀ i, (anno i).Aligned) : ∀ e : BV, guardFreeBV anno e
  | .var _ _ => trivial
  | .free _ _ => trivial
  | .const _ _ => trivial
  | .bin _ a b => ⟨guardFreeBV_of_all hall a, guardFreeBV_of_all hall b, fun _ => alSrc_of_all hall a,
      fun _ => alSrc_of_all hall b⟩
  | .neg a => guardFreeBV_of_all hall a
  | .not a => guardFreeBV_of_all hall a
  | .zext _ a => guardFreeBV_of_all hall a
  | .sext _ a => guardFreeBV_of_all hall a
  | .extract _ _ a => guardFreeBV_of_all hall a
  | .concat a b => ⟨guardFreeBV_of_all hall a, guardFreeBV_of_all hall b⟩
  | .ite c a b => ⟨guardFreeB_of_all hall c, guardFreeBV_of_all hall a, guardFreeBV_of_all hall b⟩
theorem guardFreeB_of_all {anno : Nat → SI} (hall : ∀ i, (anno i).Aligned) : ∀ c : BExp, guardFreeB anno c
  | .lit _ => trivial
  | .cmp _ a b => ⟨guardFreeBV_of_all hall a, guardFreeBV_of_all hall b,
      fun _ => ⟨alSrc_of_all hall a, alSrc_of_all hall b⟩⟩
  | .not c => guardFreeB_of_all hall c
  | .and c d => ⟨guardFreeB_of_all hall c, guardFreeB_of_all hall d⟩
  | .or c d => ⟨guardFreeB_of_all hall c, guardFreeB_of_all hall d⟩
  | .ite c a b => ⟨guardFreeB_of_all hall c, guardFreeB_of_all hall a, guardFreeB_of_all hall b⟩
end

theorem noRest (e : BV) : usesRestBV e = true → OpsRest := fun hh => by rw [usesRestBV_false e] at hh; cases hh
theorem noRestB (c : BExp) : usesRestB c = true → OpsRest := fun hh => by rw [usesRestB_false c] at hh; cases hh

theorem aligned_of_alSrc {anno : Nat → SI} {env : Nat → Nat}
    (hctx : ∀ i, (anno i).WF ∧ (anno i).mem (env i)) (hnrm : ∀ i, Nrm (anno i))
    {e : BV} {o : Orders} (hal : alBV anno e o) (hdef : DefBV env e) (hwt : WTBV anno env e) (hs : alSrc anno e)
    {av : AV} {o' : Orders} (h : convBV anno e o = .ok (av, o')) : av.si.Aligned :=
  (convBV_sound (opsProved anno hnrm) hctx e (fun _ => ⟨hal, hdef⟩) hwt h).2.2 hs

mutual
/-- At a `*`, `==` or `!=` node the operands have `alSrc`, and the guard of the operand, just obtained, makes its abstract
value aligned. -/
theorem guardFreeBV_alBV {anno : Nat → SI} {env : Nat → Nat}
    (hctx : ∀ i, (anno i).WF ∧ (anno i).mem (env i)) (hnrm : ∀ i, Nrm (anno i)) :
    ∀ (e : BV) (o : Orders), guardFreeBV anno e → DefBV env e → WTBV anno env e → alBV anno e o
  | .var _ _, _, _, _, _ => trivial
  | .free _ _, _, _, _, _ => trivial
  | .const _ _, _, _, _, _ => trivial
  | .bin _ a b, o, hg, hdef, hwt =>
    have ha := guardFreeBV_alBV hctx hnrm a o hg.1 hdef.1 hwt.1
    ⟨ha, fun p1 h1 =>
      have hb := guardFreeBV_alBV hctx hnrm b p1.2 hg.2.1 hdef.2.1 hwt.2.1
      ⟨hb, fun _ h2 =>
        ⟨fun hm => aligned_of_alSrc hctx hnrm ha hdef.1 hwt.1 (hg.2.2.1 hm) h1,
          fun hm => aligned_of_alSrc hctx hnrm hb hdef.2.1 hwt.2.1 (hg.2.2.2 hm) h2⟩⟩⟩
  | .neg a, o, hg, hdef, hwt => guardFreeBV_alBV hctx hnrm a o hg hdef hwt
  | .not a, o, hg, hdef, hwt => guardFreeBV_alBV hctx hnrm a o hg hdef hwt
  | .zext _ a, o, hg, hdef, hwt => guardFreeBV_alBV hctx hnrm a o hg hdef hwt
  | .sext _ a, o, hg, hdef, hwt => guardFreeBV_alBV hctx hnrm a o hg hdef hwt
  | .extract _ _ a, o, hg, hdef, hwt => guardFreeBV_alBV hctx hnrm a o hg hdef hwt.1
  | .concat a b, o, hg, hdef, hwt =>
    ⟨guardFreeBV_alBV hctx hnrm a o hg.1 hdef.1 hwt.1,
      fun p1 _ => guardFreeBV_alBV hctx hnrm b p1.2 hg.2 hdef.2 hwt.2⟩
  | .ite c a b, o, hg, hdef, hwt =>
    ⟨alB_of_guardFree hctx hnrm c o hg.1 hdef.1 hwt.1, fun pc _ =>
      ⟨guardFreeBV_alBV hctx hnrm a pc.2 hg.2.1 hdef.2.1 hwt.2.1,
        fun p1 _ => guardFreeBV_alBV hctx hnrm b p1.2 hg.2.2 hdef.2.2 hwt.2.2.1⟩⟩
theorem alB_of_guardFree {anno : Nat → SI} {env : Nat → Nat}
    (hctx : ∀ i, (anno i).WF ∧ (anno i).mem (env i)) (hnrm : ∀ i, Nrm (anno i)) :
    ∀ (c : BExp) (o : Orders), guardFreeB anno c → DefB env c → WTB anno env c → alB anno c o
  | .lit _, _, _, _, _ => trivial
  | .cmp _ a b, o, hg, hdef, hwt =>
    have ha := guardFreeBV_alBV hctx hnrm a o hg.1 hdef.1 hwt.1
    ⟨ha, fun p1 h1 =>
      have hb := guardFreeBV_alBV hctx hnrm b p1.2 hg.2.1 hdef.2 hwt.2.1
      ⟨hb, fun hr _ h2 =>
        ⟨aligned_of_alSrc hctx hnrm ha hdef.1 hwt.1 (hg.2.2 hr).1 h1,
          aligned_of_alSrc hctx hnrm hb hdef.2 hwt.2.1 (hg.2.2 hr).2 h2⟩⟩⟩
  | .not c, o, hg, hdef, hwt => alB_of_guardFree hctx hnrm c o hg hdef hwt
  | .and c d, o, hg, hdef, hwt =>
    ⟨alB_of_guardFree hctx hnrm c o hg.1 hdef.1 hwt.1,
      fun p _ => alB_of_guardFree hctx hnrm d p.2 hg.2 hdef.2 hwt.2⟩
  | .or c d, o, hg, hdef, hwt =>
    ⟨alB_of_guardFree hctx hnrm c o hg.1 hdef.1 hwt.1,
      fun p _ => alB_of_guardFree hctx hnrm d p.2 hg.2 hdef.2 hwt.2⟩
  | .ite c a b, o, hg, hdef, hwt =>
    ⟨alB_of_guardFree hctx hnrm c o hg.1 hdef.1 hwt.1, fun pc _ =>
      ⟨alB_of_guardFree hctx hnrm a pc.2 hg.2.1 hdef.2.1 hwt.2.1,
        fun p _ => alB_of_guardFree hctx hnrm b p.2 hg.2.2 hdef.2.2 hwt.2.2⟩⟩
end

theorem alBV_of_guardFree (anno : Nat → SI) (env : Nat → Nat)
    (hctx : ∀ i, (anno i).WF ∧ (anno i).mem (env i)) (hnrm : ∀ i, Nrm (anno i)) :
    ∀ (e : BV) (o : Orders), guardFreeBV anno e → DefBV env e → WTBV anno env e →
      alBV anno e o ∧ (alSrc anno e → ∀ av o', convBV anno e o = .ok (av, o') → av.si.Aligned) :=
  fun e o hg hdef hwt =>
    have hal := guardFreeBV_alBV hctx hnrm e o hg hdef hwt
    ⟨hal, fun hs _ _ => aligned_of_alSrc hctx hnrm hal hdef hwt hs⟩

end Claripy.VSA

import ClaripyProofs.Lemmas.VSA.MulTop
import ClaripyProofs.Lemmas.VSA.Udiv
import ClaripyProofs.Lemmas.VSA.Members
/-! **`__mod__`** (unsigned remainder) for every divisor, aligned or not.  Per pair of non-wrapping pieces either the quotient
interval is a single value `k` and the remainder is `p - k * t` (through `mul` and `sub`), or the remainder is below the divisor's
upper bound (`modPair_of_mul`, with what `mul` does on `{k}` and the divisor piece as a parameter).  For an aligned divisor piece
that is `mul_good` (`modPair_sound`).  For an unaligned piece `t` the product `{k} * t` is the second instance of `mulPair_sound`:
`k` has no sign bit and `k·t` does not overflow, so neither partial product wraps and the meet needs no alignment
(`mul_single_sound`, `modPair_full`).  The whole operation is `mod_good`. -/
namespace Claripy.VSA

/-- the contribution of one pair of pieces to `__mod__` -/
def modPair (w : Nat) (p t : SI) : R (List SI) :=
  udivPiece p t >>= fun q => q.cardinality >>= fun card =>
    if card = 1 then q.mul t >>= fun m => pure [p.sub m] else pure [SI.new w 1 0 ((t.ub : Int) - 1)]

theorem modOuter_eq (w : Nat) (ts : List SI) (l : List SI) :
    (forIn l [] (fun p r => (do
      let r' ← forIn ts r (fun t r2 => (do
        let q ← udivPiece p t
        let card ← q.cardinality
        if card = 1 then do
          let m ← q.mul t
          pure (ForInStep.yield (r2 ++ [p.sub m]))
        else pure (ForInStep.yield (r2 ++ [SI.new w 1 0 ((t.ub : Int) - 1)])) : R _))
      pure (ForInStep.yield r') : R _))) =
      collect (fun p => collect (modPair w p) ts) l := by
  have := forIn_append2 (modPair w) l ts []
  simp only [List.nil_append, bind_pure] at this
  rw [← this]
  congr
  funext p r
  congr
  funext t r2
  unfold modPair
  generalize udivPiece p t = rq
  cases rq with
  | error e => rfl
  | ok q =>
    simp only [bind, Except.bind]
    generalize q.cardinality = rc
    cases rc with
    | error e => rfl
    | ok card =>
      simp only []
      by_cases hc : card = 1
      · rw [if_pos hc, if_pos hc]
        generalize q.mul t = rm
        cases rm <;> rfl
      · rw [if_neg hc, if_neg hc]; rfl

theorem mod_eq (s o : SI) :
    s.mod o =
      if o.isInteger && o.lb == 0 then pure (SI.empty o.bits)
      else if s.isInteger && o.isInteger then pure (SI.new s.bits 0 ((s.lb % o.lb : Nat) : Int) ((s.lb % o.lb : Nat) : Int))
      else s.ssplit >>= fun ss => o.ssplit >>= fun ts => collect (fun p => collect (modPair s.bits p) ts) ss >>= fun all =>
        leastUpperBound all >>= fun u => pure u.renorm := by
  unfold SI.mod
  split
  · rfl
  · split
    · rfl
    · congr
      funext ss
      congr
      funext ts
      rw [← modOuter_eq]

theorem new_stride1_aligned (w : Nat) (l u : Int) : (SI.new w 1 l u).Aligned := by
  rcases new_stride_dvd w 1 l u with h | h
  · left; exact h
  · exact aligned_of_stride_one _ h

theorem udivPiece_eq (p t : SI) (ple : p.lb ≤ p.ub) (tle : t.lb ≤ t.ub) :
    udivPiece p t = .ok (wrappedUnsignedDiv p.renorm t.renorm).renorm := by
  unfold udivPiece
  rw [ssplit_nowrap p (by omega), ssplit_nowrap t (by omega)]
  simp only [bind, Except.bind, List.map_cons, List.map_nil, List.flatten_cons, List.flatten_nil, List.append_nil]
  have hd : dedupe [wrappedUnsignedDiv p.renorm t.renorm] = [wrappedUnsignedDiv p.renorm t.renorm] := by
    unfold dedupe; simp
  rw [hd]; rfl

theorem udivPiece_spec (w : Nat) (p t q : SI) (hp : WFw w p) (ht : WFw w t) (pb : p.bottom = false) (tb : t.bottom = false)
    (ple : p.lb ≤ p.ub) (tle : t.lb ≤ t.ub) (h : udivPiece p t = .ok q) :
    Good w True q ∧ ∀ x y, p.mem x → t.mem y → y ≠ 0 → q.mem (x / y) := by
  rw [udivPiece_eq p t ple tle] at h
  obtain ⟨g1, g2⟩ := wudiv_good w p.renorm t.renorm (renorm_WFw w p hp) (renorm_WFw w t ht)
    (renorm_le p hp.1 pb ple) (renorm_le t ht.1 tb tle)
  cases h
  exact ⟨g1.renorm, fun x y hx hy hy0 =>
    (renorm_mem _ g1.wf.1 _).2 (g2 x y ((renorm_mem p hp.1 x).2 hx) ((renorm_mem t ht.1 y).2 hy) hy0)⟩

theorem single_member (q : SI) (hq : q.WF) (h : q.cardinality = .ok 1) :
    ∃ k, q.mem k ∧ ∀ z, q.mem z → z = k := by
  rw [cardinality_exact q hq] at h
  have hl : q.members.length = 1 := Except.ok.inj h
  match hm : q.members, hl with
  | [k], _ =>
    refine ⟨k, (mem_members q hq k).1 (by rw [hm]; exact List.mem_cons_self), ?_⟩
    intro z hz
    have := (mem_members q hq z).2 hz
    rw [hm] at this
    simpa using this

/-- **one pair of pieces of `__mod__`**, given what `mul` does on the single quotient `k` and the divisor piece: the product
interval is well formed and contains `k·y` for the divisors `y` with quotient `k` -/
theorem modPair_of_mul (w : Nat) (p t : SI) (hp : WFw w p) (ht : WFw w t) (pb : p.bottom = false) (tb : t.bottom = false)
    (ple : p.lb ≤ p.ub) (tle : t.lb ≤ t.ub) (l : List SI) (h : modPair w p t = .ok l)
    (hmul : ∀ q k m, udivPiece p t = .ok q → q.mem k → (∀ z, q.mem z → z = k) → q.mul t = .ok m →
      WFw w m ∧ (t.Aligned → m.bottom = false) ∧ ∀ x y, p.mem x → t.mem y → y ≠ 0 → x / y = k → m.mem (k * y)) :
    (∀ r, r ∈ l → Good w (p.Aligned ∧ t.Aligned) r) ∧
      ∀ x y, p.mem x → t.mem y → y ≠ 0 → ∃ r, r ∈ l ∧ r.mem (x % y) := by
  have hw0 := hp.pos
  unfold modPair at h
  obtain ⟨q, hq, h⟩ := bind_ok h
  obtain ⟨card, hc, h⟩ := bind_ok h
  obtain ⟨qg, qm⟩ := udivPiece_spec w p t q hp ht pb tb ple tle hq
  by_cases h1 : card = 1
  -- one quotient `k` for the whole pair: the piece is `p - {k} * t`
  · rw [if_pos h1] at h
    obtain ⟨m, hm, h⟩ := bind_ok h
    have hl := pure_ok h
    subst hl
    rw [h1] at hc
    obtain ⟨k, hk, hkall⟩ := single_member q qg.wf.1 hc
    obtain ⟨mw, mnb, mm⟩ := hmul q k m hq hk hkall hm
    have hbits : p.bits = m.bits := by rw [hp.2, mw.2]
    obtain ⟨sw, sb⟩ := sub_WF p m hp.1 mw.1 hbits
    refine ⟨?_, ?_⟩
    · intro r hr
      rw [List.mem_singleton] at hr
      rw [hr]
      -- `sub_aligned` wants the product not empty, which `hmul` grants for an aligned divisor only
      exact ⟨⟨sw, by rw [sb, hp.2]⟩, sub_nrm p m hp.1, fun al => sub_aligned p m hp.1 mw.1 hbits pb (mnb al.2) al.1⟩
    · intro x y hx hy hy0
      refine ⟨_, List.mem_cons_self, ?_⟩
      have hk' : x / y = k := hkall _ (qm x y hx hy hy0)
      have hxl : x < 2 ^ w := by have := hx.2.1; rwa [hp.2] at this
      have hmul' : k * y ≤ x := by rw [← hk']; exact Nat.div_mul_le_self x y
      have := sub_sound p m x (k * y) hbits hp.1 mw.1 hx (mm x y hx hy hy0 hk')
      rw [hp.2] at this
      -- `sub` is modulo `2 ^ w`, but `k * y ≤ x < 2 ^ w`, so the difference is `x - (x / y) * y`
      have e : (x + 2 ^ w - k * y) % 2 ^ w = x % y := by
        have h2 : x + 2 ^ w - k * y = (x - k * y) + 2 ^ w := by omega
        rw [h2, Nat.add_mod_right, Nat.mod_eq_of_lt (by omega)]
        have := Nat.div_add_mod x y
        rw [hk'] at this
        have e3 : y * k = k * y := Nat.mul_comm _ _
        omega
      rw [e] at this
      exact this
  -- several quotients: the piece is `[0, t.ub - 1]`, and a remainder is below its divisor
  · rw [if_neg h1] at h
    have hl := pure_ok h
    subst hl
    refine ⟨?_, ?_⟩
    · intro r hr
      rw [List.mem_singleton] at hr
      rw [hr]
      exact ⟨new_WF_nz w 1 _ _ hw0 (by decide), nrm_new _ _ _ _ hw0, fun _ => new_stride1_aligned _ _ _⟩
    · intro x y hx hy hy0
      refine ⟨_, List.mem_cons_self, ?_⟩
      obtain ⟨_, hy2⟩ := mem_between t w ht tle y hy
      have htu := ht.ub_lt
      have hlt := Nat.mod_lt x (Nat.pos_of_ne_zero hy0)
      -- no truncation: `0 < y ≤ t.ub`
      have e : (t.ub : Int) - 1 = ((t.ub - 1 : Nat) : Int) := by omega
      rw [e]
      exact mem_new_lin w 1 0 (t.ub - 1) (x % y) (by omega) (Nat.zero_le _) (by omega) (Nat.one_dvd _)

theorem modPair_sound (w : Nat) (p t : SI) (hp : WFw w p) (ht : WFw w t) (pb : p.bottom = false) (tb : t.bottom = false)
    (ple : p.lb ≤ p.ub) (tle : t.lb ≤ t.ub) (tA : t.Aligned) (tn : Nrm t) (l : List SI) (h : modPair w p t = .ok l) :
    (∀ r, r ∈ l → Good w (p.Aligned ∧ t.Aligned) r) ∧
      ∀ x y, p.mem x → t.mem y → y ≠ 0 → ∃ r, r ∈ l ∧ r.mem (x % y) := by
  apply modPair_of_mul w p t hp ht pb tb ple tle l h
  intro q k m hq hk _ hm
  obtain ⟨qg, _⟩ := udivPiece_spec w p t q hp ht pb tb ple tle hq
  obtain ⟨mg, mm⟩ := mul_good w q t m qg.wf ht hk.1 tb (qg.aligned trivial) tA qg.nrm tn hm
  refine ⟨mg.wf, fun _ => (mm k t.lb hk (mem_lb t ht.1 tb)).1, ?_⟩
  intro x y hx hy _ hk'
  have hxl : x < 2 ^ w := by have := hx.2.1; rwa [hp.2] at this
  have hmul : k * y ≤ x := by rw [← hk']; exact Nat.div_mul_le_self x y
  have := mm k y hk hy
  rwa [Nat.mod_eq_of_lt (by omega)] at this

structure Single (w k : Nat) (a : SI) : Prop where
  wf : WFw w a
  nb : a.bottom = false
  lb : a.lb = k
  ub : a.ub = k

theorem Single.stride {w k : Nat} {a : SI} (h : Single w k a) : a.stride = 0 :=
  h.wf.1.2.2.2.2 (by rw [h.lb, h.ub])

theorem Single.piece {w k : Nat} {a : SI} (h : Single w k a) : SignPiece w a :=
  have hw := two_pow_half w h.wf.pos
  ⟨h.wf, h.nb, Nat.le_of_eq (by rw [h.lb, h.ub]), by rw [h.lb, h.ub]; omega⟩

theorem umul_single_WF (w k : Nat) (a b : SI) (ha : Single w k a) (hb : WFw w b) :
    WFw w (wrappedUnsignedMul a b) ∧ (wrappedUnsignedMul a b).bottom = false :=
  have g := umul_WF w a b ha.wf hb
  ⟨g.1, g.2.1⟩

theorem smul_single_WF (w k : Nat) (a b sm : SI) (ha : Single w k a) (hb : WFw w b)
    (h : wrappedSignedMul a b = .ok sm) : WFw w sm ∧ sm.bottom = false :=
  have g := smul_WF w a b sm ha.wf hb h
  ⟨g.1, g.2.1⟩

theorem umul_single_eq (w k : Nat) (a b : SI) (ha : Single w k a) (hb : WFw w b) (hbi : b.lb ≠ b.ub) (hle : b.lb ≤ b.ub)
    (hno : k * b.ub < 2 ^ w) :
    wrappedUnsignedMul a b = SI.new w (k * b.stride) ((k * b.lb : Nat) : Int) ((k * b.ub : Nat) : Int) := by
  have hbI : b.isInteger = false := by simp [SI.isInteger, hbi]
  have haI : a.isInteger = true := by simp [SI.isInteger, ha.lb, ha.ub]
  have hlu : k * b.lb ≤ k * b.ub := Nat.mul_le_mul_left _ hle
  have hN : ((2 : Int) ^ w) = ((2 ^ w : Nat) : Int) := by push_cast; rfl
  rw [wrappedUnsignedMul_pieces w a b ha.wf.2 hb.2]
  unfold finSI
  rw [ha.lb, ha.ub, hbI, haI, if_neg Bool.false_ne_true, if_pos rfl, ← Int.natCast_mul, ← Int.natCast_mul,
    if_pos (by rw [hN]; omega)]

theorem smul_single_eq (w k : Nat) (a b : SI) (ha : Single w k a) (hb : WFw w b) (hbi : b.lb ≠ b.ub) (hle : b.lb ≤ b.ub)
    (hhalf : b.ub < 2 ^ (w - 1) ∨ 2 ^ (w - 1) ≤ b.lb) (hk : k < 2 ^ (w - 1)) (hno : k * b.ub < 2 ^ w)
    (hhi : 2 ^ (w - 1) ≤ b.lb → k ≤ 1) :
    wrappedSignedMul a b = .ok (SI.new w (k * b.stride) ((k * b.lb : Nat) : Int) ((k * b.ub : Nat) : Int)) := by
  have hw0 := hb.pos
  have hm2 := two_pow_half w hw0
  have hbl := hb.lb_lt
  have hbu := hb.ub_lt
  have hbI : b.isInteger = false := by simp [SI.isInteger, hbi]
  have haI : a.isInteger = true := by simp [SI.isInteger, ha.lb, ha.ub]
  have fk : isMsbZero (k : Int) w = true := (isMsbZero_iff k w hw0 (by omega)).2 hk
  have hlu : k * b.lb ≤ k * b.ub := Nat.mul_le_mul_left _ hle
  have hpow : ((2 : Int) ^ w) = ((2 ^ w : Nat) : Int) := by push_cast; rfl
  unfold wrappedSignedMul
  simp only [ha.wf.2, hb.2, Nat.max_self, ha.lb, ha.ub, haI, hbI, fk, Bool.false_eq_true, if_false, if_true, Bool.true_and,
    Bool.not_true, Bool.false_and]
  rcases hhalf with hlow | hhigh
  · have f3 : isMsbZero (b.lb : Int) w = true := (isMsbZero_iff b.lb w hw0 hbl).2 (by omega)
    have f4 : isMsbZero (b.ub : Int) w = true := (isMsbZero_iff b.ub w hw0 hbu).2 hlow
    simp only [f3, f4, Bool.and_self, if_true]
    rw [if_pos (by rw [hpow]; omega), Nat.mul_comm b.stride k]
    rfl
  · -- `k ≤ 1`: the bounds `k·b.lb`, `k·b.ub` read as signed numbers lie one turn below
    have f3 : isMsbZero (b.lb : Int) w = false := isMsbZero_false b.lb w hw0 hbl hhigh
    have f4 : isMsbZero (b.ub : Int) w = false := isMsbZero_false b.ub w hw0 hbu (by omega)
    have s3 : toSigned (b.lb : Int) w = (b.lb : Int) - ((2 ^ w : Nat) : Int) := by
      rw [toSigned_nat _ _ hw0 hbl]; unfold Conc.toInt; rw [if_neg (by omega)]
    have s4 : toSigned (b.ub : Int) w = (b.ub : Int) - ((2 ^ w : Nat) : Int) := by
      rw [toSigned_nat _ _ hw0 hbu]; unfold Conc.toInt; rw [if_neg (by omega)]
    simp only [f3, f4, Bool.false_eq_true, if_false, Bool.not_false, Bool.and_self, if_true, s3, s4]
    have hk01 : k = 0 ∨ k = 1 := by have := hhi hhigh; omega
    rcases hk01 with h0 | h1
    · subst h0
      simp only [Int.natCast_zero, Int.zero_mul, Nat.zero_mul, Nat.mul_zero, Int.sub_self]
      rw [if_pos (by rw [hpow]; have := Nat.two_pow_pos w; omega)]
      rfl
    · subst h1
      simp only [Int.natCast_one, Int.one_mul, Nat.one_mul, Nat.mul_one]
      rw [if_pos (by rw [hpow]; omega)]
      congr 1
      apply new_congr
      · rw [imod_nat]
        apply imod_shift _ (-1); omega
      · rw [imod_nat]
        apply imod_shift _ (-1); omega

/-- `{k}` times a piece, `k` without the sign bit and `k·b.ub` without overflow: neither partial product wraps, so the meet
needs no alignment (the second alternative of `mulPair_sound`) -/
theorem mulPair_single_mem (w k : Nat) (a b : SI) (ha : Single w k a) (hb : SignPiece w b) (l : List SI)
    (h : mulPair a b = .ok l) (hk : k < 2 ^ (w - 1)) (hno : k * b.ub < 2 ^ w) (y : Nat) (hy : b.mem y) :
    ∃ r, r ∈ l ∧ r.mem (k * y) := by
  have := mulPair_sound w a b ha.piece hb l h (fun _ => Or.inl ha.stride) (fun hh => by rw [ha.lb] at hh; omega)
    (Or.inr ⟨by rw [ha.lb, ha.ub], by rw [ha.ub]; exact hk, by rw [ha.ub]; exact hno⟩) k y
    (by have := mem_lb a ha.wf.1 ha.nb; rwa [ha.lb] at this) hy
  rwa [Nat.mod_eq_of_lt (Nat.lt_of_le_of_lt (Nat.mul_le_mul_left _ (mem_between b w hb.wf hb.le y hy).2) hno)] at this

theorem mulPair_single (w k : Nat) (a b : SI) (ha : Single w k a) (hb : WFw w b) (hbb : b.bottom = false)
    (hle : b.lb ≤ b.ub) (hhalf : b.ub < 2 ^ (w - 1) ∨ 2 ^ (w - 1) ≤ b.lb) (l : List SI) (h : mulPair a b = .ok l) :
    (∀ r, r ∈ l → WFw w r) ∧
    (b.lb ≠ b.ub → k < 2 ^ (w - 1) → k * b.ub < 2 ^ w → (2 ^ (w - 1) ≤ b.lb → k ≤ 1) →
      ∀ y, b.mem y → ∃ r, r ∈ l ∧ r.mem (k * y)) :=
  ⟨fun r hr => (mulPair_good w a b ha.wf hb l h r hr).wf,
    fun _ hk hno _ => mulPair_single_mem w k a b ha ⟨hb, hbb, hle, hhalf⟩ l h hk hno⟩

theorem psplit_nostraddle (s : SI) (hn : Nrm s) (hle : s.lb ≤ s.ub)
    (hns : s.ub < 2 ^ (s.bits - 1) ∨ 2 ^ (s.bits - 1) ≤ s.lb) : s.psplit = .ok [s] := by
  have hH := Nat.two_pow_pos (s.bits - 1)
  have hstr : ¬ ((if s.ub ≥ 2 ^ (s.bits - 1) then (decide (s.lb > s.ub) || decide (s.lb ≤ maxInt (s.bits - 1)))
          else (decide (s.lb > s.ub) && decide (s.lb ≤ maxInt (s.bits - 1)))) = true) := by
    unfold maxInt
    split_ifs <;> simp <;> omega
  have hnsp : s.nsplit = .ok [s] := by
    unfold SI.nsplit
    simp only []
    rw [if_neg hstr, hn]; rfl
  have hss : s.ssplit = .ok [s] := by
    unfold SI.ssplit; rw [if_neg (by omega), hn]; rfl
  rw [psplit_eq, hnsp]
  exact collect_total _ (fun _ => [s]) [s] (fun x hx => by rw [List.mem_singleton.1 hx]; exact hss)

theorem mul_single_sound (w k : Nat) (q t m : SI) (hq : Single w k q) (nq : Nrm q) (ht : WFw w t) (htb : t.bottom = false)
    (nt : Nrm t) (hle : t.lb ≤ t.ub) (h : q.mul t = .ok m) :
    WFw w m ∧ (t.lb ≠ t.ub → k < 2 ^ (w - 1) → k * t.ub < 2 ^ w → ∀ y, t.mem y → m.mem (k * y)) := by
  have hw0 := ht.pos
  have hm2 := two_pow_half w hw0
  have htu := ht.ub_lt
  rw [mul_eq] at h
  by_cases hint : (q.isInteger && t.isInteger) = true
  · rw [if_pos hint] at h
    have hi : q.lb = q.ub ∧ t.lb = t.ub := by simpa [SI.isInteger] using hint
    rw [pure_ok h, hq.wf.2]
    exact ⟨⟨new_WF _ _ _ _ hw0 (fun _ => rfl), new_bits _ _ _ _⟩, fun hne => absurd hi.2 hne⟩
  · rw [if_neg hint] at h
    obtain ⟨p1, hp1, h⟩ := bind_ok h
    obtain ⟨p2, hp2, h⟩ := bind_ok h
    obtain ⟨all, hall, h⟩ := bind_ok h
    obtain ⟨u, hu, h⟩ := bind_ok h
    have hr := pure_ok h
    -- the single value is its own only piece
    have qP := hq.piece
    have e1 := psplit_nostraddle q nq qP.le (by rw [hq.wf.2]; exact qP.half)
    rw [hp1] at e1
    have hp1' : p1 = [q] := by injection e1
    subst hp1'
    obtain ⟨pr2, cov2⟩ := psplit_pieces w t ht htb nt p2 hp2
    have pc : ∀ b, b ∈ p2 → SignPiece w b := fun b hb => (pr2 b hb).1
    obtain ⟨m1, m2⟩ := pairOuter_lub w True mulPair p2 [q] all u hall hu (fun a b l ha hb hl => by
      have : a = q := by simpa using ha
      subst this
      exact mulPair_good w a b qP.wf (pc b hb).wf l hl)
    rw [hr]
    refine ⟨m1.wf, ?_⟩
    intro hti hk hno y hy
    obtain ⟨b, hb, hby⟩ := cov2 y hy
    have hbu := (pc b hb).wf.ub_lt
    apply m2 q b _ List.mem_cons_self hb
    intro lab hl
    -- no overflow on the piece: `t` is its own piece, or it straddles the north pole and then `k ≤ 1`
    have hnob : k * b.ub < 2 ^ w := by
      by_cases hst : t.ub < 2 ^ (w - 1) ∨ 2 ^ (w - 1) ≤ t.lb
      · have e := psplit_nostraddle t nt hle (by rw [ht.2]; exact hst)
        rw [hp2] at e
        have : p2 = [t] := by injection e
        subst this
        have : b = t := by simpa using hb
        subst this
        exact hno
      · have hk1 := le_one_of_mul_lt w k t.ub hw0 (by omega) hno
        have : k * b.ub ≤ 1 * b.ub := Nat.mul_le_mul_right _ hk1
        omega
    exact mulPair_single_mem w k q b hq (pc b hb) lab hl hk hnob y hby

theorem udivPiece_lb (w : Nat) (p t q : SI) (hp : WFw w p) (ht : WFw w t) (pb : p.bottom = false) (tb : t.bottom = false)
    (ple : p.lb ≤ p.ub) (tle : t.lb ≤ t.ub) (htu0 : t.ub ≠ 0) (h : udivPiece p t = .ok q) : q.lb = p.lb / t.ub := by
  have hw0 := hp.pos
  have hpu := hp.ub_lt
  rw [udivPiece_eq p t ple tle] at h
  have hq := (Except.ok.inj h).symm
  obtain ⟨pr1, pr2⟩ := renorm_bounds_nowrap p hp.1 pb ple
  obtain ⟨tr1, tr2⟩ := renorm_bounds_nowrap t ht.1 tb tle
  have hbits : Nat.max p.renorm.bits t.renorm.bits = w := by
    rw [(renorm_WFw w p hp).2, (renorm_WFw w t ht).2]; exact Nat.max_self _
  rw [hq]
  unfold wrappedUnsignedDiv
  simp only [hbits, pr1, pr2, tr1, tr2]
  rw [if_neg (by omega), if_neg htu0, new_renorm _ _ _ _ hw0]
  have hdl : (if t.lb = 0 then 1 else t.lb) ≤ t.ub ∧ 0 < (if t.lb = 0 then 1 else t.lb) := by split_ifs <;> omega
  have hlohi : p.lb / t.ub ≤ p.ub / (if t.lb = 0 then 1 else t.lb) :=
    Nat.div_le_div ple hdl.1 (by omega)
  exact (new_bounds_nowrap w 1 _ _ (Nat.lt_of_le_of_lt (Nat.div_le_self _ _) hpu) hlohi).1

theorem modPair_full (w : Nat) (p t : SI) (hp : WFw w p) (ht : WFw w t) (pb : p.bottom = false) (tb : t.bottom = false)
    (ple : p.lb ≤ p.ub) (tle : t.lb ≤ t.ub) (tn : Nrm t) (l : List SI) (h : modPair w p t = .ok l) :
    (∀ r, r ∈ l → Good w (p.Aligned ∧ t.Aligned) r) ∧
      ∀ x y, p.mem x → t.mem y → y ≠ 0 → ∃ r, r ∈ l ∧ r.mem (x % y) := by
  by_cases tA : t.Aligned
  · exact modPair_sound w p t hp ht pb tb ple tle tA tn l h
  have hw0 := hp.pos
  have hm2 := two_pow_half w hw0
  have hti : t.lb ≠ t.ub := fun he => tA (by left; exact ht.1.2.2.2.2 he)
  have hpl := hp.lb_lt
  have htu := ht.ub_lt
  have htu0 : t.ub ≠ 0 := by omega
  apply modPair_of_mul w p t hp ht pb tb ple tle l h
  intro q k m hq hk hkall hm
  obtain ⟨qg, _⟩ := udivPiece_spec w p t q hp ht pb tb ple tle hq
  have qb : q.bottom = false := hk.1
  -- the quotient interval is aligned with one member: it is the single value `k`
  have e1 := hkall q.lb (mem_lb q qg.wf.1 qb)
  have e2 := hkall q.ub (mem_ub_of_aligned q qg.wf.1 qb (qg.aligned trivial))
  have hklb : k * t.ub ≤ p.lb := by
    have := udivPiece_lb w p t q hp ht pb tb ple tle htu0 hq
    rw [e1] at this
    rw [this]; exact Nat.div_mul_le_self _ _
  have hno : k * t.ub < 2 ^ w := by omega
  obtain ⟨mw, mm⟩ := mul_single_sound w k q t m ⟨qg.wf, qb, e1, e2⟩ qg.nrm ht tb tn tle hm
  refine ⟨mw, fun hA => absurd hA tA, ?_⟩
  intro x y _ hy hy0 _
  -- a non-zero member below the upper bound: `t.ub ≥ 2`, so `k` has no sign bit
  obtain ⟨_, hy2⟩ := mem_between t w ht tle y hy
  have hyub : y < t.ub := by
    rcases Nat.lt_or_ge y t.ub with hlt | hge
    · exact hlt
    · exfalso
      apply tA
      have : y = t.ub := by omega
      rw [this] at hy
      exact aligned_of_mem_ub t hy
  have hk2 : k < 2 ^ (w - 1) := by
    apply Classical.byContradiction; intro hge
    have h1 : 2 ^ (w - 1) * t.ub ≤ k * t.ub := Nat.mul_le_mul_right _ (by omega)
    have h2 : 2 ^ (w - 1) * 2 ≤ 2 ^ (w - 1) * t.ub := Nat.mul_le_mul_left _ (by omega)
    omega
  exact mm hti hk2 hno y hy

theorem mod_good (w : Nat) (s o r : SI) (hs : WFw w s) (ho : WFw w o) (hsb : s.bottom = false) (hob : o.bottom = false)
    (h : s.mod o = .ok r) :
    Good w (s.Aligned ∧ o.Aligned) r ∧ ∀ x y, s.mem x → o.mem y → y ≠ 0 → r.mem (x % y) := by
  have hw0 := hs.pos
  rw [mod_eq] at h
  by_cases c1 : (o.isInteger && o.lb == 0) = true
  · rw [if_pos c1] at h
    have hr := pure_ok h
    have hi : o.lb = o.ub ∧ o.lb = 0 := by simpa [SI.isInteger] using c1
    rw [hr, ho.2]
    refine ⟨good_empty w _ hw0, ?_⟩
    intro x y _ hy hy0
    have := mem_integer o y ho.1 hi.1 hy
    omega
  · rw [if_neg c1] at h
    by_cases c2 : (s.isInteger && o.isInteger) = true
    · rw [if_pos c2] at h
      have hr := pure_ok h
      have hi : s.lb = s.ub ∧ o.lb = o.ub := by simpa [SI.isInteger] using c2
      have hsl := hs.lb_lt
      have hv : s.lb % o.lb < 2 ^ w := Nat.lt_of_le_of_lt (Nat.mod_le _ _) hsl
      rw [hr, hs.2]
      refine ⟨good_const w _ _ hw0, ?_⟩
      intro x y hx hy _
      rw [mem_integer s x hs.1 hi.1 hx, mem_integer o y ho.1 hi.2 hy]
      exact const_mem _ w hv
    · rw [if_neg c2] at h
      obtain ⟨ss, hss, h⟩ := bind_ok h
      obtain ⟨ts, hts, h⟩ := bind_ok h
      obtain ⟨all, hall, h⟩ := bind_ok h
      obtain ⟨u, hu, h⟩ := bind_ok h
      have hr := pure_ok h
      obtain ⟨q1, e1, pr1, cov1⟩ := ssplit_pieces s hs.1 hsb
      obtain ⟨q2, e2, pr2, cov2⟩ := ssplit_pieces o ho.1 hob
      rw [hss] at e1; cases e1
      rw [hts] at e2; cases e2
      rw [hs.2] at hall
      have pair : ∀ p t, p ∈ ss → t ∈ ts → ∀ l, modPair w p t = .ok l →
          (∀ r, r ∈ l → Good w (s.Aligned ∧ o.Aligned) r) ∧
            ∀ x y, p.mem x → t.mem y → y ≠ 0 → ∃ r, r ∈ l ∧ r.mem (x % y) := by
        intro p t hp ht l hl
        have gp := (pr1 p hp).good
        have gt := (pr2 t ht).good
        rw [hs.2] at gp
        rw [ho.2] at gt
        obtain ⟨k1, k2⟩ := modPair_full w p t gp.wf gt.wf (pr1 p hp).nb (pr2 t ht).nb (pr1 p hp).le (pr2 t ht).le gt.nrm l hl
        exact ⟨fun r hr => (k1 r hr).mono (fun al => ⟨gp.aligned al.1, gt.aligned al.2⟩), k2⟩
      obtain ⟨m1, m2⟩ := pairOuter_lub w _ (modPair w) ts ss all u hall hu (fun p t l hp ht hl => (pair p t hp ht l hl).1)
      rw [hr]
      refine ⟨m1, ?_⟩
      intro x y hx hy hy0
      obtain ⟨p, hp, hpx⟩ := cov1 x hx
      obtain ⟨t, ht, hty⟩ := cov2 y hy
      exact m2 p t _ hp ht (fun l hl => (pair p t hp ht l hl).2 x y hpx hty hy0)

theorem mod_sound_full (w : Nat) (s o r : SI) (hs : WFw w s) (ho : WFw w o) (hsb : s.bottom = false) (hob : o.bottom = false)
    (h : s.mod o = .ok r) : (WFw w r ∧ Nrm r) ∧ ∀ x y, s.mem x → o.mem y → y ≠ 0 → r.mem (x % y) :=
  have g := mod_good w s o r hs ho hsb hob h
  ⟨⟨g.1.wf, g.1.nrm⟩, g.2⟩

theorem mod_aligned (w : Nat) (s o r : SI) (hs : WFw w s) (ho : WFw w o) (hsb : s.bottom = false) (hob : o.bottom = false)
    (hsA : s.Aligned) (hoA : o.Aligned) (h : s.mod o = .ok r) : r.Aligned :=
  (mod_good w s o r hs ho hsb hob h).1.aligned ⟨hsA, hoA⟩

/-- the statement for an aligned divisor: an instance of `mod_sound_full`, which does not use `hoA` -/
theorem mod_sound (w : Nat) (s o r : SI) (hs : WFw w s) (ho : WFw w o) (hsb : s.bottom = false) (hob : o.bottom = false)
    (hoA : o.Aligned) (h : s.mod o = .ok r) :
    (WFw w r ∧ Nrm r) ∧ ∀ x y, s.mem x → o.mem y → y ≠ 0 → r.mem (x % y) :=
  mod_sound_full w s o r hs ho hsb hob h

end Claripy.VSA

import ClaripyProofs.Lemmas.VSA.Signed
/-! `min` / `max` (unsigned and signed) bound every member; the unsigned minimum is attained, and so is the unsigned
maximum of an aligned interval.  The folds the code runs over its list of bounds are `List.min?` / `List.max?` of the lower
resp. upper bounds (`foldl_fmin`, `foldl_fmax`), so that order and attainment are the library's facts about these. -/
namespace Claripy.VSA

def fmin (m : Int) (p : Int × Int) : Int := if p.1 < m then p.1 else m
def fmax (m : Int) (p : Int × Int) : Int := if p.2 > m then p.2 else m

theorem foldl_fmin (rest : List (Int × Int)) (m : Int) : (m :: rest.map (·.1)).min? = some (rest.foldl fmin m) := by
  rw [List.min?_cons', List.foldl_map]
  congr 2
  funext a q
  unfold fmin
  rw [Int.min_def]
  split <;> split <;> omega

theorem foldl_fmax (rest : List (Int × Int)) (m : Int) : (m :: rest.map (·.2)).max? = some (rest.foldl fmax m) := by
  rw [List.max?_cons', List.foldl_map]
  congr 2
  funext a q
  unfold fmax
  rw [Int.max_def]
  split <;> split <;> omega

theorem foldl_max_attained (rest : List (Int × Int)) : ∀ (m : Int),
    rest.foldl fmax m = m ∨ ∃ p, p ∈ rest ∧ rest.foldl fmax m = p.2 := by
  intro m
  rcases List.mem_cons.1 (List.max?_mem (foldl_fmax rest m)) with h | h
  · exact Or.inl h
  · obtain ⟨p, hp, e⟩ := List.mem_map.1 h
    exact Or.inr ⟨p, hp, e.symm⟩

theorem min_of_bounds (bs : List (Int × Int)) (m : Int)
    (h : (match bs with
      | [] => (throw Err.typeError : R (Option Int))
      | (l, _) :: rest => pure (some (rest.foldl (fun (m : Int) (p : Int × Int) => if p.1 < m then p.1 else m) l))) = .ok (some m)) :
    (∀ p, p ∈ bs → m ≤ p.1) ∧ ∃ p, p ∈ bs ∧ m = p.1 := by
  cases bs with
  | nil => cases h
  | cons q rest =>
    have hm : ((q :: rest).map (·.1)).min? = some m := by cases h; exact foldl_fmin rest q.1
    refine ⟨fun p hp => (List.le_min?_iff hm).1 (Int.le_refl _) _ (List.mem_map.2 ⟨p, hp, rfl⟩), ?_⟩
    obtain ⟨p, hp, e⟩ := List.mem_map.1 (List.min?_mem hm)
    exact ⟨p, hp, e.symm⟩

theorem max_of_bounds (bs : List (Int × Int)) (m : Int)
    (h : (match bs with
      | [] => (throw Err.typeError : R (Option Int))
      | (_, u) :: rest => pure (some (rest.foldl (fun (m : Int) (p : Int × Int) => if p.2 > m then p.2 else m) u))) = .ok (some m)) :
    (∀ p, p ∈ bs → p.2 ≤ m) ∧ ∃ p, p ∈ bs ∧ m = p.2 := by
  cases bs with
  | nil => cases h
  | cons q rest =>
    have hm : ((q :: rest).map (·.2)).max? = some m := by cases h; exact foldl_fmax rest q.2
    refine ⟨fun p hp => (List.max?_le_iff hm).1 (Int.le_refl _) _ (List.mem_map.2 ⟨p, hp, rfl⟩), ?_⟩
    obtain ⟨p, hp, e⟩ := List.mem_map.1 (List.max?_mem hm)
    exact ⟨p, hp, e.symm⟩

theorem min_spec (s : SI) (signed : Bool) (m : Int) (bs : List (Int × Int)) (hnb : s.bottom = false)
    (hbs : (if signed then s.signedBounds else s.unsignedBounds) = .ok bs) (h : s.min signed = .ok (some m)) :
    (∀ p, p ∈ bs → m ≤ p.1) ∧ ∃ p, p ∈ bs ∧ m = p.1 := by
  unfold SI.min at h
  rw [hnb] at h
  cases signed
  · simp only [Bool.false_eq_true, if_false] at h hbs
    simp only [hbs, bind, Except.bind] at h
    exact min_of_bounds bs m h
  · simp only [Bool.false_eq_true, if_false, if_true] at h hbs
    simp only [hbs, bind, Except.bind] at h
    exact min_of_bounds bs m h

theorem max_spec (s : SI) (signed : Bool) (m : Int) (bs : List (Int × Int)) (hnb : s.bottom = false)
    (hbs : (if signed then s.signedBounds else s.unsignedBounds) = .ok bs) (h : s.max signed = .ok (some m)) :
    (∀ p, p ∈ bs → p.2 ≤ m) ∧ ∃ p, p ∈ bs ∧ m = p.2 := by
  unfold SI.max at h
  rw [hnb] at h
  cases signed
  · simp only [Bool.false_eq_true, if_false] at h hbs
    simp only [hbs, bind, Except.bind] at h
    exact max_of_bounds bs m h
  · simp only [Bool.false_eq_true, if_false, if_true] at h hbs
    simp only [hbs, bind, Except.bind] at h
    exact max_of_bounds bs m h

theorem min_le (s : SI) (m : Int) (x : Nat) (hs : s.WF) (hx : s.mem x) (h : s.min false = .ok (some m)) : m ≤ x := by
  obtain ⟨bs, hbs, hc⟩ := unsignedBounds_spec s hs hx.1
  obtain ⟨p, hp, hp1, _⟩ := hc x hx
  exact Int.le_trans ((min_spec s false m bs hx.1 hbs h).1 p hp) hp1

theorem le_max (s : SI) (m : Int) (x : Nat) (hs : s.WF) (hx : s.mem x) (h : s.max false = .ok (some m)) : (x : Int) ≤ m := by
  obtain ⟨bs, hbs, hc⟩ := unsignedBounds_spec s hs hx.1
  obtain ⟨p, hp, _, hp2⟩ := hc x hx
  exact Int.le_trans hp2 ((max_spec s false m bs hx.1 hbs h).1 p hp)

theorem smin_le (s : SI) (m : Int) (x : Nat) (hs : s.WF) (hn : s.renorm = s) (hx : s.mem x)
    (h : s.min true = .ok (some m)) : m ≤ Conc.toInt s.bits x := by
  obtain ⟨bs, hbs, hc⟩ := signedBounds_spec s hs hx.1 hn
  obtain ⟨p, hp, hp1, _⟩ := hc x hx
  exact Int.le_trans ((min_spec s true m bs hx.1 hbs h).1 p hp) hp1

theorem le_smax (s : SI) (m : Int) (x : Nat) (hs : s.WF) (hn : s.renorm = s) (hx : s.mem x)
    (h : s.max true = .ok (some m)) : Conc.toInt s.bits x ≤ m := by
  obtain ⟨bs, hbs, hc⟩ := signedBounds_spec s hs hx.1 hn
  obtain ⟨p, hp, _, hp2⟩ := hc x hx
  exact Int.le_trans hp2 ((max_spec s true m bs hx.1 hbs h).1 p hp)

/-- the minimum is the lower bound of a piece, a member -/
theorem min_attained (s : SI) (m : Int) (hs : s.WF) (hnb : s.bottom = false) (h : s.min false = .ok (some m)) :
    ∃ x, s.mem x ∧ (x : Int) = m := by
  obtain ⟨ps, hps, hprop, _⟩ := ssplit_pieces s hs hnb
  obtain ⟨b, hb, e⟩ := (min_spec s false m _ hnb (unsignedBounds_eq s ps hps) h).2
  obtain ⟨p, hp, rfl⟩ := List.mem_map.1 hb
  exact ⟨p.lb, (hprop p hp).sub _ (mem_lb p (hprop p hp).good.wf.1 (hprop p hp).nb), e.symm⟩

/-- for unaligned intervals the maximum is not attained (`max_unaligned_wrong`); every piece of an aligned `s` ends at a
member, since it is aligned because `s` is and lies inside `s` -/
theorem max_attained (s : SI) (m : Int) (hs : s.WF) (hnb : s.bottom = false) (hal : s.Aligned)
    (h : s.max false = .ok (some m)) : ∃ x, s.mem x ∧ (x : Int) = m := by
  obtain ⟨ps, hps, hprop, _⟩ := ssplit_pieces s hs hnb
  obtain ⟨b, hb, e⟩ := (max_spec s false m _ hnb (unsignedBounds_eq s ps hps) h).2
  obtain ⟨p, hp, rfl⟩ := List.mem_map.1 hb
  exact ⟨p.ub, (hprop p hp).sub _ (mem_ub p (hprop p hp).good.wf.1 (hprop p hp).nb ((hprop p hp).good.aligned hal)), e.symm⟩

end Claripy.VSA

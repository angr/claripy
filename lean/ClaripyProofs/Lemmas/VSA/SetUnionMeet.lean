import ClaripyProofs.Lemmas.VSA.SetCmpEval
/-! `union` and `intersection` of `DiscreteStridedIntervalSet`s (with an interval, with a set). -/
namespace Claripy.VSA

theorem collapse_NE (w : Nat) (d : DSIS) (r : SI) (hne : ∃ s, s ∈ d.sis) (hP : ∀ s, s ∈ d.sis → NE w s)
    (h : d.collapse = .ok r) : NE w r := by
  obtain ⟨s0, hs0⟩ := hne
  have hW : ∀ s, s ∈ d.sis → WFw w s := fun s hs => ⟨(hP s hs).wf, (hP s hs).bits⟩
  have hm : r.mem s0.lb := collapse_sound (WFw w) (joinOK w) d r hW h s0.lb
    ⟨s0, hs0, mem_lb s0 (hP s0 hs0).wf (hP s0 hs0).nb⟩
  have hwf := (collapse_keeps w (fun _ => True) (fun _ => trivial) (fun _ _ _ _ _ _ => trivial) d r
    (fun s hs => ⟨hW s hs, trivial⟩) h).1 hm.1
  exact ⟨hwf.1, hwf.2, hm.1⟩

theorem finishSet_NE (w : Nat) (results : List SI) (order : List Nat) (v : Val) (hne : ∃ s, s ∈ results)
    (hP : ∀ s, s ∈ results → NE w s) (h : finishSet w results order = .ok v) : Vok w (NE w) v :=
  finishSet_P w (NE w) results order v
    (fun d r _ hsub hd hc => collapse_NE w d r (by obtain ⟨s, hs⟩ := hne; exact ⟨s, hsub s hs⟩) hd hc)
    (fun s hs => (hP s hs).bits) hP h

theorem NE_WFw {w : Nat} {s : SI} (h : NE w s) : WFw w s := ⟨h.wf, h.bits⟩

theorem eq_true (a b : SI) (h : a.eq b = .ok .t) : a.lb = a.ub ∧ b.lb = b.ub ∧ a.lb = b.lb := by
  unfold SI.eq at h
  by_cases hint : (a.isInteger && b.isInteger) = true
  · rw [if_pos hint] at h
    have hi : a.lb = a.ub ∧ b.lb = b.ub := by simpa [SI.isInteger] using hint
    have := pure_ok h
    by_cases hl : a.lb = b.lb
    · exact ⟨hi.1, hi.2, hl⟩
    · rw [if_neg hl] at this; cases this
  · rw [if_neg hint] at h
    obtain ⟨m, _, h⟩ := bind_ok h
    have := pure_ok h
    split at this <;> cases this

theorem unionFind_true (s : SI) : ∀ l : List SI, unionFind s l = .ok true → ∃ m, m ∈ l ∧ m.eq s = .ok .t
  | [], h => by unfold unionFind at h; cases h
  | m :: ms, h => by
    obtain ⟨r, hr, h⟩ := bind_ok h
    by_cases ht : r = .t
    · subst ht; exact ⟨m, List.mem_cons_self, hr⟩
    · rw [if_neg ht] at h
      obtain ⟨m', hm', he⟩ := unionFind_true s ms h
      exact ⟨m', List.mem_cons_of_mem _ hm', he⟩

theorem dsis_unionSI (w : Nat) (d : DSIS) (s : SI) (order : List Nat) (v : Val) (hdb : d.bits = w)
    (hd : ∀ m, m ∈ d.sis → NE w m) (hs : WFw w s) (h : d.unionSI s order = .ok v) :
    Vok w (NE w) v ∧ ∀ x, (d.mem x ∨ s.mem x) → v.mem x := by
  unfold DSIS.unionSI at h
  by_cases hsb : s.bottom = true
  · rw [if_pos hsb] at h
    have hv := pure_ok h
    subst hv
    refine ⟨⟨hdb, hd⟩, ?_⟩
    rintro x (hx | hx)
    · exact hx
    · have := hx.1; rw [hsb] at this; cases this
  · rw [if_neg hsb] at h
    have hsN : NE w s := ⟨hs.1, hs.2, by simpa using hsb⟩
    obtain ⟨found, hf, h⟩ := bind_ok h
    cases found with
    | true =>
      simp only [if_true] at h
      have hv := pure_ok h
      subst hv
      refine ⟨⟨hdb, hd⟩, ?_⟩
      rintro x (hx | hx)
      · exact hx
      · obtain ⟨m, hm, he⟩ := unionFind_true s d.sis hf
        obtain ⟨e1, e2, e3⟩ := eq_true m s he
        have : x = s.lb := mem_integer s x hs.1 e2 hx
        refine ⟨m, hm, ?_⟩
        rw [this, ← e3]
        exact mem_lb m (hd m hm).wf (hd m hm).nb
    | false =>
      simp only [Bool.false_eq_true, if_false] at h
      rw [hdb] at h
      have hP : ∀ t, t ∈ d.sis ++ [s] → NE w t := by
        intro t ht
        rcases List.mem_append.1 ht with h1 | h1
        · exact hd t h1
        · rw [List.mem_singleton] at h1; rw [h1]; exact hsN
      refine ⟨finishSet_NE w _ order v ⟨s, by simp⟩ hP h, ?_⟩
      intro x hx
      apply finishSet_sound (WFw w) (joinOK w) w _ order v (fun t ht => NE_WFw (hP t ht)) h x
      rcases hx with ⟨m, hm, hmx⟩ | hx
      · exact ⟨m, List.mem_append.2 (Or.inl hm), hmx⟩
      · exact ⟨s, by simp, hx⟩

theorem val_unionSI (w : Nat) (v : Val) (s : SI) (order : List Nat) (v' : Val) (hv : Vok w (NE w) v) (hs : WFw w s)
    (h : v.unionSI s order = .ok v') : Vok w (NE w) v' ∧ ∀ x, (v.mem x ∨ s.mem x) → v'.mem x := by
  cases v with
  | ds d => exact dsis_unionSI w d s order v' hv.1 hv.2 hs h
  | si t =>
    obtain ⟨u, hu, h⟩ := bind_ok h
    have hv' := pure_ok h
    subst hv'
    have ht : NE w t := hv
    obtain ⟨g1, g2⟩ := union_sup w t s u (NE_WFw ht) hs hu
    refine ⟨⟨g1.1, g1.2, ?_⟩, g2⟩
    have := pure_ok hu
    rw [this]; exact pseudoJoin_nb t s true (Or.inl ht.nb)

theorem unionFold_sound (w : Nat) : ∀ (ss : List SI) (os : List (List Nat)) (v r : Val), Vok w (NE w) v →
    (∀ s, s ∈ ss → WFw w s) → unionFold v ss os = .ok r →
    Vok w (NE w) r ∧ ∀ x, (v.mem x ∨ memL ss x) → r.mem x
  | [], _, v, r, hv, _, h => by
    have := pure_ok h
    subst this
    refine ⟨hv, ?_⟩
    rintro x (hx | ⟨s, hs, _⟩)
    · exact hx
    · cases hs
  | s :: ss, [], v, r, _, _, h => by unfold unionFold at h; cases h
  | s :: ss, o :: os, v, r, hv, hss, h => by
    obtain ⟨v', hv', h⟩ := bind_ok h
    obtain ⟨g1, g2⟩ := val_unionSI w v s o v' hv (hss s List.mem_cons_self) hv'
    obtain ⟨k1, k2⟩ := unionFold_sound w ss os v' r g1 (fun t ht => hss t (List.mem_cons_of_mem _ ht)) h
    refine ⟨k1, ?_⟩
    rintro x (hx | ⟨t, ht, htx⟩)
    · exact k2 x (Or.inl (g2 x (Or.inl hx)))
    · rcases List.mem_cons.1 ht with he | he
      · subst he; exact k2 x (Or.inl (g2 x (Or.inr htx)))
      · exact k2 x (Or.inr ⟨t, he, htx⟩)

theorem dsis_unionDS (w : Nat) (a b : DSIS) (orders : List (List Nat)) (v : Val) (hab : a.bits = w)
    (ha : ∀ m, m ∈ a.sis → NE w m) (hb : ∀ m, m ∈ b.sis → WFw w m) (h : a.unionDS b orders = .ok v) :
    ∀ x, (a.mem x ∨ b.mem x) → v.mem x := by
  obtain ⟨u, hu, h⟩ := bind_ok h
  obtain ⟨g1, g2⟩ := unionFold_sound w b.sis orders (.ds a) u ⟨hab, ha⟩ hb hu
  intro x hx
  have hux : u.mem x := g2 x hx
  cases u with
  | si s =>
    have := pure_ok h
    subst this
    have hs : NE w s := g1
    exact (renorm_mem s hs.wf x).2 hux
  | ds d => exact normalize_sound (WFw w) (joinOK w) d v (fun t ht => NE_WFw (g1.2 t ht)) h x hux

theorem meet_NEa (w : Nat) (a b r : SI) (ha : NEa w a) (hb : NEa w b) (h : a.intersection b = .ok r) :
    WFw w r ∧ ∀ x, a.mem x → b.mem x → r.mem x :=
  meet_sound w a b r (NE_WFw ha.1) (NE_WFw hb.1) ha.1.nb hb.1.nb ha.2.2 hb.2.2 ha.2.1 hb.2.1 h

theorem dsis_meetSI (w : Nat) (hw : 0 < w) (a : DSIS) (s : SI) (order : List Nat) (v : Val) (hab : a.bits = w)
    (ha : ∀ m, m ∈ a.sis → NEa w m) (hs : NEa w s) (h : a.meetSI s order = .ok v) :
    Vok w (WFw w) v ∧ ∀ x, a.mem x → s.mem x → v.mem x := by
  subst hab
  obtain ⟨L, l, hL, hl, hW⟩ := meetSI_wrap a s order v h
  have hPl : ∀ r, r ∈ l → WFw a.bits r := fun r hr => by
    obtain ⟨m, hm, hmr⟩ := mapM_ok_mem_rev _ _ _ hL r ((hl r).1 hr)
    exact (meet_NEa _ m s r (ha m hm) hs hmr).1
  refine ⟨hW.vok (WFw a.bits) hPl (fun r hr => collapse_WFw _ hw ⟨a.bits, l⟩ r rfl hPl hr), ?_⟩
  intro x ⟨m, hm, hmx⟩ hsx
  obtain ⟨r, hrL, hmr⟩ := applyEach1_mem _ a.sis L hL m hm
  exact hW.mem (WFw _) (joinOK _) hPl x ⟨r, (hl r).2 hrL, (meet_NEa _ m s r (ha m hm) hs hmr).2 x hmx hsx⟩

theorem meetParts_sound (w : Nat) (hw : 0 < w) (a : DSIS) (hab : a.bits = w) (ha : ∀ m, m ∈ a.sis → NEa w m) :
    ∀ (ss : List SI) (os : List (List Nat)) (acc out : List SI), (∀ s, s ∈ ss → NEa w s) → (∀ t, t ∈ acc → WFw w t) →
      meetParts a ss os acc = .ok out →
      (∀ t, t ∈ out → WFw w t) ∧ (∀ x, memL acc x → memL out x) ∧ ∀ x, a.mem x → memL ss x → memL out x
  | [], _, acc, out, _, hacc, h => by
    have := pure_ok h
    subst this
    exact ⟨hacc, fun x hx => hx, fun x _ ⟨s, hs, _⟩ => by cases hs⟩
  | s :: ss, [], acc, out, _, _, h => by unfold meetParts at h; cases h
  | s :: ss, o :: os, acc, out, hss, hacc, h => by
    obtain ⟨r, hr, h⟩ := bind_ok h
    obtain ⟨g1, g2⟩ := dsis_meetSI w hw a s o r hab ha (hss s List.mem_cons_self) hr
    have hss' : ∀ t, t ∈ ss → NEa w t := fun t ht => hss t (List.mem_cons_of_mem _ ht)
    -- either way the accumulator grows: by well-formed intervals that hold the common members of `a` and `s`
    obtain ⟨acc', hacc', hold, hnew, h⟩ : ∃ acc', (∀ t, t ∈ acc' → WFw w t) ∧ (∀ x, memL acc x → memL acc' x) ∧
        (∀ x, a.mem x → s.mem x → memL acc' x) ∧ meetParts a ss os acc' = .ok out := by
      cases r with
      | ds d =>
        refine ⟨acc ++ d.sis, fun t ht => (List.mem_append.1 ht).elim (hacc t) (g1.2 t),
          fun x ⟨t, ht, htx⟩ => ⟨t, List.mem_append.2 (Or.inl ht), htx⟩, fun x hx hsx => ?_, h⟩
        obtain ⟨q, hq, hqx⟩ := g2 x hx hsx
        exact ⟨q, List.mem_append.2 (Or.inr hq), hqx⟩
      | si t0 =>
        refine ⟨if t0.bottom then acc else acc ++ [t0], fun t ht => ?_, fun x ⟨t, ht, htx⟩ => ?_, fun x hx hsx => ?_, h⟩
        · split at ht
          · exact hacc t ht
          · exact (List.mem_append.1 ht).elim (hacc t) (fun h1 => by rw [List.mem_singleton.1 h1]; exact g1)
        · split
          · exact ⟨t, ht, htx⟩
          · exact ⟨t, List.mem_append.2 (Or.inl ht), htx⟩
        · have hm : t0.mem x := g2 x hx hsx
          rw [if_neg (by rw [hm.1]; decide)]
          exact ⟨t0, List.mem_append.2 (Or.inr List.mem_cons_self), hm⟩
    obtain ⟨k1, k2, k3⟩ := meetParts_sound w hw a hab ha ss os acc' out hss' hacc' h
    refine ⟨k1, fun x hx => k2 x (hold x hx), ?_⟩
    intro x hx ⟨t, ht, htx⟩
    rcases List.mem_cons.1 ht with he | he
    · subst he; exact k2 x (hnew x hx htx)
    · exact k3 x hx ⟨t, he, htx⟩

theorem dsis_meetDS (w : Nat) (hw : 0 < w) (a b : DSIS) (orders : List (List Nat)) (order : List Nat) (v : Val)
    (hab : a.bits = w) (ha : ∀ m, m ∈ a.sis → NEa w m) (hb : ∀ m, m ∈ b.sis → NEa w m)
    (h : a.meetDS b orders order = .ok v) : ∀ x, a.mem x → b.mem x → v.mem x := by
  obtain ⟨parts, hp, h⟩ := bind_ok h
  obtain ⟨k1, _, k3⟩ := meetParts_sound w hw a hab ha b.sis orders [] parts hb (fun t ht => by cases ht) hp
  intro x hx hbx
  have hm := k3 x hx hbx
  match parts, k1, hm, h with
  | [], _, hm, _ => obtain ⟨t, ht, _⟩ := hm; cases ht
  | q :: qs, k1, hm, h =>
    rw [hab] at h
    exact finishSet_sound (WFw w) (joinOK w) w _ order v k1 h x hm

end Claripy.VSA

import ClaripyProofs.Lemmas.VSA.JoinSound
/-! The two invariants the interval operations keep besides well-formedness, and their base facts: constructor-normal
form (`Nrm`: `renorm` is the identity; Python normalises in the constructor, so every interval it holds has this form) and
alignment (`SI.Aligned`: the upper bound is a member).  A non-empty interval is aligned iff its upper bound is one of its
members, so alignment of a constructed result is soundness of the operation at one point (`new_aligned_of_mem`).  Both
are kept by `pseudo_join`. -/
namespace Claripy.VSA

theorem new_renorm (b s : Nat) (l u : Int) (hb : 0 < b) : (SI.new b s l u).renorm = SI.new b s l u := by
  unfold SI.renorm
  rw [new_bottom]
  simp only [Bool.false_eq_true, if_false, new_bits]
  have hl := imod_lt l b
  have hu := imod_lt u b
  have hm := Nat.two_pow_pos b
  have h2 := two_le_two_pow b hb
  rw [new_eq b s l u]
  generalize imod l b = l' at hl
  generalize imod u b = u' at hu
  by_cases h1 : l' = u'
  · rw [if_pos h1]
    subst h1
    rw [new_eq]; simp [imod_of_lt _ _ hl]
  · rw [if_neg h1]
    by_cases h3 : l' = (u' + 1) % 2 ^ b ∧ s = 1
    · rw [if_pos h3]
      simp only []
      rw [new_eq, imod_of_lt 0 b hm, imod_of_lt _ _ (by omega : 2 ^ b - 1 < 2 ^ b)]
      have e : (2 ^ b - 1 + 1) % 2 ^ b = 0 := by
        have : 2 ^ b - 1 + 1 = 2 ^ b := by omega
        rw [this, Nat.mod_self]
      rw [if_neg (by omega), e]
      simp [h3.2]
    · rw [if_neg h3]
      simp only []
      rw [new_eq, imod_of_lt _ _ hl, imod_of_lt _ _ hu, if_neg h1, if_neg h3]

def Nrm (s : SI) : Prop := s.renorm = s

theorem nrm_new (b s : Nat) (l u : Int) (hb : 0 < b) : Nrm (SI.new b s l u) := new_renorm b s l u hb

theorem nrm_top (w : Nat) (hw : 0 < w) : Nrm (SI.top w) := by unfold SI.top; exact nrm_new _ _ _ _ hw

theorem nrm_of_renorm (u r : SI) (h : r = u.renorm) (hw : r.WF) : Nrm r := by
  subst h
  unfold Nrm
  by_cases hb : u.bottom = true
  · have e : u.renorm = u := by unfold SI.renorm; rw [if_pos hb]
    rw [e, e]
  · have hbf : u.bottom = false := by simpa using hb
    have e : u.renorm = SI.new u.bits u.stride u.lb u.ub := by unfold SI.renorm; rw [hbf]; rfl
    rw [e] at hw ⊢
    have hb0 : 0 < u.bits := by have := hw.1; rwa [new_bits] at this
    exact new_renorm _ _ _ _ hb0

theorem pseudoJoin_nrm_nb (s b : SI) (smart : Bool) (hw : 0 < s.bits) (hsb : s.bottom = false) (hbb : b.bottom = false) :
    Nrm (pseudoJoin s b smart) := by
  rcases pseudoJoin_new s b smart hsb hbb with h | ⟨g, l, u, _, h⟩
  · rw [h]; exact nrm_top _ hw
  · rw [h]; exact nrm_new _ _ _ _ hw

/-- the join returns an operand only when the other is empty -/
theorem pseudoJoin_nrm (s b : SI) (smart : Bool) (hs : s.WF) (ns : Nrm s) (nb : Nrm b) : Nrm (pseudoJoin s b smart) := by
  cases hsb : s.bottom with
  | true => rw [pseudoJoin_botS s b smart hsb]; exact nb
  | false =>
  cases hbb : b.bottom with
  | true => rw [pseudoJoin_botB s b smart hsb hbb]; exact ns
  | false => exact pseudoJoin_nrm_nb s b smart hs.1 hsb hbb

/-- constructor-normal form of a non-empty well-formed interval: a full circle of stride 1 is written `[0, 2^w - 1]` -/
theorem nrm_iff (a : SI) (ha : a.WF) (hnb : a.bottom = false) :
    Nrm a ↔ (a.stride = 1 → a.lb = (a.ub + 1) % 2 ^ a.bits → a.lb = 0 ∧ a.ub = 2 ^ a.bits - 1) := by
  obtain ⟨_, hl, hu, hst⟩ := ha
  unfold Nrm
  rw [renorm_new a hnb, new_eq, imod_of_lt _ _ hl, imod_of_lt _ _ hu]
  cases a with
  | mk bits stride lb ub bottom =>
    simp only at hl hu hst hnb ⊢
    subst hnb
    by_cases h1 : lb = ub
    · rw [if_pos h1, hst.2 h1]
      simp
    · rw [if_neg h1]
      by_cases h2 : lb = (ub + 1) % 2 ^ bits ∧ stride = 1
      · rw [if_pos h2]
        simp only [SI.mk.injEq, true_and, and_true]
        constructor
        · rintro ⟨e1, e2⟩ _ _; exact ⟨e1.symm, e2.symm⟩
        · intro h; obtain ⟨e1, e2⟩ := h h2.2 h2.1; exact ⟨e1.symm, e2.symm⟩
      · rw [if_neg h2]
        simp only [true_iff]
        intro hs hl'
        exact absurd ⟨hl', hs⟩ h2

theorem nrm_full (t : SI) (ht : Nrm t) (hw : t.WF) (hb : t.bottom = false) (hs : t.stride = 1)
    (h : t.lb = (t.ub + 1) % 2 ^ t.bits) : t.ub = 2 ^ t.bits - 1 :=
  ((nrm_iff t hw hb).1 ht hs h).2

/-- the only full circle that does not wrap is `[0, 2^w - 1]` -/
theorem nrm_of_nowrap (a : SI) (ha : a.WF) (hnb : a.bottom = false) (hle : a.lb ≤ a.ub) : Nrm a := by
  rw [nrm_iff a ha hnb]
  intro _ h
  have hu := ha.2.2.1
  rw [succ_mod_cases _ _ hu] at h
  split_ifs at h <;> omega

theorem aligned_new_int (w st : Nat) (l u : Int) (hd : st ∣ cd (2 ^ w) (imod l w) (imod u w)) :
    (SI.new w st l u).Aligned := by
  unfold SI.Aligned SI.span
  rw [new_eq]
  by_cases he : imod l w = imod u w
  · rw [if_pos he]; left; rfl
  · rw [if_neg he]
    by_cases ht : imod l w = (imod u w + 1) % 2 ^ w ∧ st = 1
    · rw [if_pos ht]; right
      show modSub _ _ _ % st = 0
      rw [ht.2]; exact Nat.mod_one _
    · rw [if_neg ht]; right
      show modSub ((imod u w : Nat) : Int) ((imod l w : Nat) : Int) w % st = 0
      rw [modSub_nat _ _ _ (imod_lt u w) (imod_lt l w)]
      exact Nat.mod_eq_zero_of_dvd hd

theorem aligned_new (w st l u : Nat) (hl : l < 2 ^ w) (hu : u < 2 ^ w) (hd : st ∣ cd (2 ^ w) l u) :
    (SI.new w st (l : Int) (u : Int)).Aligned := by
  apply aligned_new_int
  rw [imod_of_lt _ _ hl, imod_of_lt _ _ hu]
  exact hd

theorem new_singleton_aligned (w : Nat) (st : Nat) (l : Int) : (SI.new w st l l).Aligned := by
  left; rw [new_eq, if_pos rfl]

theorem aligned_dvd (X : SI) (hX : X.WF) (hal : X.Aligned) : X.stride ∣ cd (2 ^ X.bits) X.lb X.ub := by
  obtain ⟨_, hl, hu, hst⟩ := hX
  unfold SI.Aligned SI.span at hal
  rw [modSub_nat _ _ _ hu hl] at hal
  rcases hal with h | h
  · rw [h, hst.1 h, cd_self]
    exact Nat.dvd_refl 0
  · exact Nat.dvd_of_mod_eq_zero h

theorem renorm_aligned (X : SI) (hX : X.WF) (hal : X.Aligned) : X.renorm.Aligned := by
  unfold SI.renorm
  split
  · exact hal
  · exact aligned_new _ _ _ _ hX.2.1 hX.2.2.1 (aligned_dvd X hX hal)

theorem aligned_of_dvd (r : SI) (hl : r.lb < 2 ^ r.bits) (hu : r.ub < 2 ^ r.bits)
    (hd : r.stride ∣ cd (2 ^ r.bits) r.lb r.ub) : r.Aligned := by
  unfold SI.Aligned SI.span
  rw [modSub_nat _ _ _ hu hl]
  exact Or.inr (Nat.mod_eq_zero_of_dvd hd)

theorem aligned_of_stride_one (r : SI) (h : r.stride = 1) : r.Aligned := by
  right; rw [h]; exact Nat.mod_one _

theorem aligned_of_mem_ub (r : SI) (h : r.mem r.ub) : r.Aligned := by
  obtain ⟨_, _, _, h4⟩ := h
  unfold SI.Aligned SI.span
  by_cases h0 : r.stride = 0
  · left; exact h0
  · right; rw [if_neg h0] at h4; exact h4

theorem mem_ub_of_aligned (r : SI) (hw : r.WF) (hnb : r.bottom = false) (h : r.Aligned) : r.mem r.ub := mem_ub r hw hnb h

theorem new_ub_or (w st : Nat) (l u : Int) :
    (SI.new w st l u).stride = 1 ∨ (SI.new w st l u).ub = imod u w := by
  rw [new_eq]
  split
  · right; rfl
  · split
    · rename_i h; left; exact h.2
    · right; rfl

theorem new_aligned_of_mem (w st : Nat) (l u : Int) (h : (SI.new w st l u).mem (imod u w)) :
    (SI.new w st l u).Aligned := by
  rcases new_ub_or w st l u with h1 | h1
  · exact aligned_of_stride_one _ h1
  · apply aligned_of_mem_ub; rw [h1]; exact h

theorem top_aligned (w : Nat) : (SI.top w).Aligned := by
  unfold SI.top
  rcases new_ub_or w 1 0 (maxInt w) with h | h
  · exact aligned_of_stride_one _ h
  · unfold SI.Aligned
    rw [new_eq]
    split
    · left; rfl
    · split <;> (right; exact Nat.mod_one _)

theorem empty_aligned (w : Nat) : (SI.empty w).Aligned := by
  right; show _ % 1 = 0; exact Nat.mod_one _

theorem pseudoJoin_ub (s b : SI) (smart : Bool) (hs : s.WF) (hb : b.WF) (hbits : s.bits = b.bits) :
    pseudoJoin s b smart = b ∨ pseudoJoin s b smart = s ∨ (pseudoJoin s b smart).stride = 1 ∨
      (pseudoJoin s b smart).ub = s.ub ∨ (pseudoJoin s b smart).ub = b.ub := by
  cases hsb : s.bottom with
  | true => exact Or.inl (pseudoJoin_botS s b smart hsb)
  | false =>
  cases hbb : b.bottom with
  | true => exact Or.inr (Or.inl (pseudoJoin_botB s b smart hsb hbb))
  | false =>
  right; right
  rcases pseudoJoin_new s b smart hsb hbb with h | ⟨g, l, u, hu, h⟩
  · rw [h]
    exact Or.inl (top_stride _ hs.1)
  · rw [h]
    rcases new_ub_or s.bits g l (u : Int) with h1 | h1
    · exact Or.inl h1
    · rw [h1]
      rcases hu with rfl | rfl
      · exact Or.inr (Or.inl (imod_of_lt _ _ hs.2.2.1))
      · exact Or.inr (Or.inr (imod_of_lt _ _ (hbits ▸ hb.2.2.1)))

theorem pseudoJoin_aligned (s b : SI) (smart : Bool) (hs : s.WF) (hb : b.WF) (hbits : s.bits = b.bits)
    (als : s.Aligned) (alb : b.Aligned) : (pseudoJoin s b smart).Aligned := by
  cases hsb : s.bottom with
  | true => rw [pseudoJoin_botS s b smart hsb]; exact alb
  | false =>
  cases hbb : b.bottom with
  | true => rw [pseudoJoin_botB s b smart hsb hbb]; exact als
  | false =>
  have hsup := pseudoJoin_sup s b smart hs hb hbits
  rcases pseudoJoin_new s b smart hsb hbb with h | ⟨g, l, u, hu, h⟩
  · rw [h]; exact top_aligned _
  · rw [h] at hsup ⊢
    apply new_aligned_of_mem
    rcases hu with rfl | rfl
    · rw [imod_of_lt _ _ hs.2.2.1]; exact hsup _ (Or.inl (mem_ub s hs hsb als))
    · rw [imod_of_lt _ _ (hbits ▸ hb.2.2.1)]; exact hsup _ (Or.inr (mem_ub b hb hbb alb))

end Claripy.VSA

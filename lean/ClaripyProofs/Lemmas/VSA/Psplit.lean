import ClaripyProofs.Lemmas.VSA.ZextBounds
import ClaripyProofs.Lemmas.VSA.Collect
/-! `_psplit` (split at both poles): the south splits of the pieces of the north split, collected; what the pieces guarantee — well
formed, not empty, not wrapping, inside one half of the circle (all members have the sign bit of the lower bound),
stride 0 or the original stride, covering the members. -/
namespace Claripy.VSA

theorem psplit_eq (s : SI) : s.psplit = s.nsplit >>= collect SI.ssplit := by
  unfold SI.psplit
  congr
  funext ns
  have := forIn_append SI.ssplit ns []
  simp only [List.nil_append, bind_pure] at this
  rw [← this]
  simp

theorem ssplit_halves (p : SI) (hw : p.WF) (hns : ¬ Str (2 ^ (p.bits - 1)) p.lb p.ub) (l : List SI)
    (hl : p.ssplit = .ok l) : ∀ q, q ∈ l → q.ub < 2 ^ (p.bits - 1) ∨ 2 ^ (p.bits - 1) ≤ q.lb := by
  have hm := Nat.two_pow_pos p.bits
  have hm2 := two_pow_half p.bits hw.1
  have hcs := crosses_south (2 ^ p.bits) p.lb p.ub hw.2.1 hw.2.2.1
  unfold Crosses at hcs
  rw [ssplit_eq p hw] at hl
  cases hl
  unfold Str at hns
  unfold splitAt
  by_cases hwrap : p.ub < p.lb
  · -- the arc runs from the upper half over the south pole into the lower half: the first piece starts at `p.lb`, the
    -- second ends at `p.ub`
    have hsne : p.stride ≠ 0 := fun h => by have := hw.2.2.2.1 h; omega
    have hpl : 2 ^ (p.bits - 1) ≤ p.lb ∧ p.ub < 2 ^ (p.bits - 1) := by split_ifs at hns <;> omega
    rw [if_pos (hcs.2 hwrap)]
    obtain ⟨K, ak, _, _, _, _, _, hA1, _, hcut⟩ := cut_shape p hw hsne (2 ^ p.bits - 1) (by omega) (hcs.2 hwrap)
    intro q hq
    rcases hcut with ⟨_, hcut⟩ | ⟨bl, _, _, _, _, _, hB2, hcut⟩
    · rw [hcut] at hq
      rw [List.mem_singleton.1 hq, hA1]
      exact Or.inr hpl.1
    · rw [hcut] at hq
      rcases List.mem_cons.1 hq with h | h
      · rw [h, hA1]
        exact Or.inr hpl.1
      · rw [List.mem_singleton.1 h, hB2]
        exact Or.inl hpl.2
  · rw [if_neg (fun hc => hwrap (hcs.1 hc))]
    intro q hq
    have hb : p.renorm.lb = p.lb ∧ p.renorm.ub = p.ub := by
      cases hpb : p.bottom with
      | true => unfold SI.renorm; rw [if_pos hpb]; exact ⟨rfl, rfl⟩
      | false => exact renorm_bounds_nowrap p hw hpb (by omega)
    rw [List.mem_singleton.1 hq, hb.1, hb.2]
    split_ifs at hns <;> omega

theorem psplit_good (s : SI) (hw : s.WF) (hnb : s.bottom = false) (hn : Nrm s) :
    ∃ ps, s.psplit = .ok ps ∧
      (∀ q, q ∈ ps → Good s.bits s.Aligned q ∧ q.bottom = false ∧ q.lb ≤ q.ub ∧
        (q.ub < 2 ^ (s.bits - 1) ∨ 2 ^ (s.bits - 1) ≤ q.lb) ∧ (q.stride = 0 ∨ q.stride = s.stride)) ∧
      ∀ x, s.mem x → ∃ q, q ∈ ps ∧ q.mem x := by
  obtain ⟨ns, hns, hnp, hncov⟩ := nsplit_pieces s hw hnb hn
  have hnw : ∀ n, n ∈ ns → n.WF := fun n hn' => (hnp n hn').1.good.wf.1
  have hsouth := fun n hn' => splitAt_south n (hnw n hn') (hnp n hn').1.nb
  refine ⟨_, by rw [psplit_eq, hns]; exact collect_total _ _ ns (fun n hn' => ssplit_eq n (hnw n hn')),
    fun q hq => ?_, fun x hx => ?_⟩
  · obtain ⟨n, hn', hq⟩ := List.mem_flatMap.1 hq
    obtain ⟨pn, _⟩ := hnp n hn'
    have hb := pn.good.wf.2
    have pq := (hsouth n hn').1 q hq
    have hH := Nat.two_pow_pos (s.bits - 1)
    have hm2 := two_pow_half s.bits hw.1
    have hql : q.lb < 2 ^ s.bits := hb ▸ pq.good.lb_lt
    have hqu : q.ub < 2 ^ s.bits := hb ▸ pq.good.ub_lt
    -- the piece lies on `n`, which does not cross the north pole
    have hnc := nocross_sub _ _ _ _ _ _ pn.good.lb_lt (by omega) hql hqu pn.nocross (hb ▸ pq.arc.1) (hb ▸ pq.arc.2)
    have hstr : ¬ Str (2 ^ (s.bits - 1)) q.lb q.ub := fun h' => hnc ((crosses_north s.bits q.lb q.ub hw.1 hql hqu).2 h')
    have hle := pq.le
    refine ⟨⟨hb ▸ pq.good.wf, pq.good.nrm, fun al => pq.good.aligned (pn.good.aligned al)⟩, pq.nb, hle, ?_, ?_⟩
    · unfold Str at hstr
      split_ifs at hstr <;> omega
    · rcases pq.stride with h | h
      · exact Or.inl h
      · rcases pn.stride with h' | h'
        · exact Or.inl (h.trans h')
        · exact Or.inr (h.trans h')
  · obtain ⟨n, hn', hnx⟩ := hncov x hx
    obtain ⟨q, hq, hqx⟩ := (hsouth n hn').2 x hnx
    exact ⟨q, List.mem_flatMap.2 ⟨n, hn', hq⟩, hqx⟩

theorem psplit_spec (s : SI) (hw : s.WF) (hnb : s.bottom = false) (hn : s.renorm = s) :
    ∃ ps, s.psplit = .ok ps ∧
      (∀ q, q ∈ ps → WFw s.bits q ∧ q.bottom = false ∧ q.lb ≤ q.ub ∧
        (q.ub < 2 ^ (s.bits - 1) ∨ 2 ^ (s.bits - 1) ≤ q.lb) ∧ (q.stride = 0 ∨ q.stride = s.stride) ∧ Nrm q) ∧
      (∀ x, s.mem x → ∃ q, q ∈ ps ∧ q.mem x) := by
  obtain ⟨ps, hps, hprop, hcov⟩ := psplit_good s hw hnb hn
  refine ⟨ps, hps, fun q hq => ?_, hcov⟩
  obtain ⟨hg, hqb, hle, hh, hst⟩ := hprop q hq
  exact ⟨hg.wf, hqb, hle, hh, hst, hg.nrm⟩

theorem psplit_aligned (s : SI) (hw : s.WF) (hnb : s.bottom = false) (hn : s.renorm = s) (hal : s.Aligned)
    (ps : List SI) (h : s.psplit = .ok ps) : ∀ q, q ∈ ps → q.Aligned := by
  obtain ⟨q, e, pr, _⟩ := psplit_good s hw hnb hn
  rw [h] at e; cases e
  exact fun p hp => (pr p hp).1.aligned hal

end Claripy.VSA

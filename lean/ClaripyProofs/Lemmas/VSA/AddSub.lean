import ClaripyProofs.Lemmas.VSA.Good
import Claripy.VSA.Conc
/-! `add`, `sub`, `neg`: sound, closed, normal; the upper bound of the result is the image of members of the operands
(`a.ub + b.ub`, `a.ub − b.lb`), so alignment is soundness at that point. -/
namespace Claripy.VSA

theorem overflow_false (a b : SI) (ha : a.WF) (hb : b.WF) (hbits : a.bits = b.bits)
    (h : wrappedOverflowAdd a b = false) :
    cd (2 ^ a.bits) a.lb a.ub + cd (2 ^ a.bits) b.lb b.ub < 2 ^ a.bits := by
  obtain ⟨ha0, hal, hau, has⟩ := ha
  obtain ⟨hb0, hbl, hbu, hbs⟩ := hb
  rw [← hbits] at hbl hbu
  have hm := Nat.two_pow_pos a.bits
  unfold wrappedOverflowAdd at h
  simp only [decide_eq_false_iff_not, Nat.not_lt] at h
  rw [← hbits, wrappedCard_nat _ _ _ hal hau, wrappedCard_nat _ _ _ hbl hbu] at h
  unfold maxInt at h
  -- an operand counted as 0 is the singleton `{0}`
  have za : (a.isInteger && a.lb == 0) = true → cd (2 ^ a.bits) a.lb a.ub = 0 := by
    intro h1
    have : a.lb = a.ub ∧ a.lb = 0 := by simpa [SI.isInteger] using h1
    exact (cd_eq_zero _ _ _ hal hau).2 this.1
  have zb : (b.isInteger && b.lb == 0) = true → cd (2 ^ a.bits) b.lb b.ub = 0 := by
    intro h2
    have : b.lb = b.ub ∧ b.lb = 0 := by simpa [SI.isInteger] using h2
    exact (cd_eq_zero _ _ _ hbl hbu).2 this.1
  by_cases h1 : (a.isInteger && a.lb == 0) = true <;> by_cases h2 : (b.isInteger && b.lb == 0) = true
  · rw [za h1, zb h2]
    exact hm
  · rw [if_pos h1, if_neg h2] at h
    rw [za h1]
    omega
  · rw [if_neg h1, if_pos h2] at h
    rw [zb h2]
    omega
  · rw [if_neg h1, if_neg h2] at h
    omega

theorem add_sound (a b : SI) (x y : Nat) (hbits : a.bits = b.bits) (ha : a.WF) (hb : b.WF)
    (hx : a.mem x) (hy : b.mem y) : (a.add b).mem ((x + y) % 2 ^ a.bits) := by
  have hm := Nat.two_pow_pos a.bits
  unfold SI.add
  by_cases ov : wrappedOverflowAdd a b = true
  · simp only [ov, if_true]
    rw [mem_top]; exact Nat.mod_lt _ hm
  · have ov' : wrappedOverflowAdd a b = false := by simpa using ov
    have hsum := overflow_false a b ha hb hbits ov'
    simp only [ov', Bool.false_eq_true, if_false, ← hbits, Nat.max_self]
    obtain ⟨ha0, hal, hau, has⟩ := ha
    obtain ⟨hb0, hbl, hbu, hbs⟩ := hb
    rw [← hbits] at hbl hbu
    rw [mem_iff _ _ hal hau] at hx
    rw [mem_iff _ _ (by rw [← hbits]; exact hbl) (by rw [← hbits]; exact hbu), ← hbits] at hy
    obtain ⟨_, hxl, hx1, hx2⟩ := hx
    obtain ⟨_, hyl, hy1, hy2⟩ := hy
    rw [mem_new, modAdd_nat, modAdd_nat, imod_of_lt _ _ (Nat.mod_lt _ hm), imod_of_lt _ _ (Nat.mod_lt _ hm)]
    have key1 := cd_add _ _ _ _ _ hal hbl hxl hyl (by omega)
    have key2 := cd_add _ _ _ _ _ hal hbl hau hbu (by omega)
    refine ⟨Nat.mod_lt _ hm, ?_, ?_⟩
    · rw [key1, key2]; omega
    · rw [key1]
      exact stride_cond _ _ (Nat.dvd_add (dvd_of_stride _ _ _ (Nat.gcd_dvd_left _ _) hx2)
        (dvd_of_stride _ _ _ (Nat.gcd_dvd_right _ _) hy2))

theorem add_WF (a b : SI) (ha : a.WF) (hb : b.WF) (hbits : a.bits = b.bits) :
    (a.add b).WF ∧ (a.add b).bits = a.bits := by
  unfold SI.add
  by_cases ov : wrappedOverflowAdd a b = true
  · simp only [ov, if_true]; exact ⟨top_WF _ ha.1, top_bits _⟩
  · have ov' : wrappedOverflowAdd a b = false := by simpa using ov
    simp only [ov', Bool.false_eq_true, if_false, ← hbits, Nat.max_self]
    refine ⟨new_WF _ _ _ _ ha.1 ?_, new_bits _ _ _ _⟩
    intro hg
    have h1 := ha.2.2.2.1 (Nat.eq_zero_of_gcd_eq_zero_left hg)
    have h2 := hb.2.2.2.1 (Nat.eq_zero_of_gcd_eq_zero_right hg)
    rw [h1, h2]

theorem modSub_nat' (a b w : Nat) (ha : a < 2 ^ w) (hb : b < 2 ^ w) :
    modSub (a : Int) (b : Int) w = (a + 2 ^ w - b) % 2 ^ w := by
  rw [modSub_nat a b w ha hb, sub_mod_cases a b _ ha hb]
  rfl

theorem lastMember_facts (b : SI) (hb : b.WF) :
    b.lastMember < 2 ^ b.bits ∧
    cd (2 ^ b.bits) b.lb b.lastMember = (if b.stride = 0 then 0 else cd (2 ^ b.bits) b.lb b.ub / b.stride * b.stride) := by
  obtain ⟨h0, hl, hu, hs⟩ := hb
  have hm := Nat.two_pow_pos b.bits
  unfold SI.lastMember
  by_cases hz : b.stride = 0
  · simp only [hz, if_true]; exact ⟨hl, cd_self _ _⟩
  · simp only [hz, if_false]
    rw [modSub_nat _ _ _ hu hl, modAdd_nat]
    have hL : cd (2 ^ b.bits) b.lb b.ub / b.stride * b.stride < 2 ^ b.bits := by
      have := Nat.div_mul_le_self (cd (2 ^ b.bits) b.lb b.ub) b.stride
      have := cd_lt _ _ _ hl hu
      omega
    exact ⟨Nat.mod_lt _ hm, cd_add_right _ _ _ hl hL⟩

theorem mem_le_last (span s d : Nat) (h1 : d ≤ span) (h2 : if s = 0 then d = 0 else d % s = 0) :
    d ≤ (if s = 0 then 0 else span / s * s) ∧ s ∣ (if s = 0 then 0 else span / s * s) - d := by
  by_cases hz : s = 0
  · simp only [hz, if_true] at h2 ⊢; subst h2; simp
  · simp only [hz, if_false] at h2 ⊢
    have hsp : 0 < s := Nat.pos_of_ne_zero hz
    obtain ⟨k, hk⟩ := Nat.dvd_of_mod_eq_zero h2
    subst hk
    have hkle : k ≤ span / s := by
      rw [Nat.le_div_iff_mul_le hsp]; rw [Nat.mul_comm]; exact h1
    constructor
    · calc s * k = k * s := Nat.mul_comm _ _
        _ ≤ span / s * s := Nat.mul_le_mul_right _ hkle
    · refine ⟨span / s - k, ?_⟩
      rw [Nat.mul_sub, Nat.mul_comm s (span / s)]

/-- the subtrahend need not be aligned: its last member anchors the result -/
theorem sub_sound (a b : SI) (x y : Nat) (hbits : a.bits = b.bits) (ha : a.WF) (hb : b.WF)
    (hx : a.mem x) (hy : b.mem y) : (a.sub b).mem ((x + 2 ^ a.bits - y) % 2 ^ a.bits) := by
  have hm := Nat.two_pow_pos a.bits
  unfold SI.sub
  by_cases ov : wrappedOverflowAdd a b = true
  · simp only [ov, if_true]
    rw [mem_top]; exact Nat.mod_lt _ hm
  · have ov' : wrappedOverflowAdd a b = false := by simpa using ov
    have hsum := overflow_false a b ha hb hbits ov'
    simp only [ov', Bool.false_eq_true, if_false, ← hbits, Nat.max_self]
    obtain ⟨hlastlt, hlastcd⟩ := lastMember_facts b hb
    rw [← hbits] at hlastlt hlastcd
    obtain ⟨ha0, hal, hau, has⟩ := ha
    obtain ⟨hb0, hbl, hbu, hbs⟩ := hb
    rw [← hbits] at hbl hbu
    rw [mem_iff _ _ hal hau] at hx
    rw [mem_iff _ _ (by rw [← hbits]; exact hbl) (by rw [← hbits]; exact hbu), ← hbits] at hy
    obtain ⟨_, hxl, hx1, hx2⟩ := hx
    obtain ⟨_, hyl, hy1, hy2⟩ := hy
    obtain ⟨hle, hdv⟩ := mem_le_last _ _ _ hy1 hy2
    rw [← hlastcd] at hle hdv
    have hLle : cd (2 ^ a.bits) b.lb b.lastMember ≤ cd (2 ^ a.bits) b.lb b.ub := by
      rw [hlastcd]; split_ifs
      · omega
      · exact Nat.div_mul_le_self _ _
    have hbtw := cd_between _ _ _ _ hbl hyl hlastlt hle
    have hbtw0 := cd_between _ _ _ _ hbl hbl hlastlt (by rw [cd_self]; omega)
    rw [cd_self] at hbtw0
    rw [mem_new, modSub_nat' _ _ _ hal hlastlt, modSub_nat' _ _ _ hau hbl,
      imod_of_lt _ _ (Nat.mod_lt _ hm), imod_of_lt _ _ (Nat.mod_lt _ hm)]
    have key1 := cd_sub _ _ _ _ _ hal hxl hyl hlastlt (by omega)
    have key2 := cd_sub _ _ _ _ _ hal hau hbl hlastlt (by omega)
    refine ⟨Nat.mod_lt _ hm, ?_, ?_⟩
    · rw [key1, key2]; omega
    · rw [key1, hbtw]
      exact stride_cond _ _ (Nat.dvd_add (dvd_of_stride _ _ _ (Nat.gcd_dvd_left _ _) hx2)
        (Nat.dvd_trans (Nat.gcd_dvd_right _ _) hdv))

theorem sub_WF (a b : SI) (ha : a.WF) (hb : b.WF) (hbits : a.bits = b.bits) :
    (a.sub b).WF ∧ (a.sub b).bits = a.bits := by
  unfold SI.sub
  by_cases ov : wrappedOverflowAdd a b = true
  · simp only [ov, if_true]; exact ⟨top_WF _ ha.1, top_bits _⟩
  · have ov' : wrappedOverflowAdd a b = false := by simpa using ov
    simp only [ov', Bool.false_eq_true, if_false, ← hbits, Nat.max_self]
    refine ⟨new_WF _ _ _ _ ha.1 ?_, new_bits _ _ _ _⟩
    intro hg
    have h1 := ha.2.2.2.1 (Nat.eq_zero_of_gcd_eq_zero_left hg)
    have h2z := Nat.eq_zero_of_gcd_eq_zero_right hg
    have h2 := hb.2.2.2.1 h2z
    have hlast : b.lastMember = b.lb := by unfold SI.lastMember; simp [h2z]
    rw [hlast, h1, h2]

theorem neg_sound (a : SI) (x : Nat) (ha : a.WF) (hx : a.mem x) : a.neg.mem ((2 ^ a.bits - x) % 2 ^ a.bits) := by
  unfold SI.neg
  have hz : (SI.new a.bits 0 0 0).WF := const_WF 0 a.bits ha.1
  have hzb : (SI.new a.bits 0 0 0).bits = a.bits := new_bits _ _ _ _
  have hzm : (SI.new a.bits 0 0 0).mem 0 := const_mem 0 a.bits (Nat.two_pow_pos _)
  have := sub_sound (SI.new a.bits 0 0 0) a 0 x hzb hz ha hzm hx
  rw [hzb] at this
  simpa using this

theorem neg_WF (a : SI) (ha : a.WF) : a.neg.WF ∧ a.neg.bits = a.bits := by
  unfold SI.neg
  have hz : (SI.new a.bits 0 0 0).WF := const_WF 0 a.bits ha.1
  have hzb : (SI.new a.bits 0 0 0).bits = a.bits := new_bits _ _ _ _
  have := sub_WF (SI.new a.bits 0 0 0) a hz ha hzb
  rw [hzb] at this
  exact this

theorem add_nrm (a b : SI) (ha : a.WF) : Nrm (a.add b) := by
  unfold SI.add
  have : 0 < Nat.max a.bits b.bits := Nat.lt_of_lt_of_le ha.1 (Nat.le_max_left _ _)
  simp only []
  split_ifs
  · exact nrm_top _ ha.1
  · exact nrm_new _ _ _ _ this

theorem sub_nrm (a b : SI) (ha : a.WF) : Nrm (a.sub b) := by
  unfold SI.sub
  have : 0 < Nat.max a.bits b.bits := Nat.lt_of_lt_of_le ha.1 (Nat.le_max_left _ _)
  simp only []
  split_ifs
  · exact nrm_top _ ha.1
  · exact nrm_new _ _ _ _ this

theorem neg_nrm (a : SI) (ha : a.WF) : Nrm a.neg := by
  unfold SI.neg
  exact sub_nrm _ _ (new_WF _ _ _ _ ha.1 (fun _ => rfl))

theorem add_aligned (a b : SI) (ha : a.WF) (hb : b.WF) (hbits : a.bits = b.bits) (hab : a.bottom = false)
    (hbb : b.bottom = false) (ala : a.Aligned) (alb : b.Aligned) : (a.add b).Aligned := by
  have hm := add_sound a b a.ub b.ub hbits ha hb (mem_ub_of_aligned a ha hab ala) (mem_ub_of_aligned b hb hbb alb)
  unfold SI.add at hm ⊢
  by_cases ov : wrappedOverflowAdd a b = true
  · simp only [ov, if_true]; exact top_aligned _
  · have ov' : wrappedOverflowAdd a b = false := by simpa using ov
    simp only [ov', Bool.false_eq_true, if_false, ← hbits, Nat.max_self] at hm ⊢
    apply new_aligned_of_mem
    simp only [modAdd_nat] at hm ⊢
    rw [imod_of_lt _ _ (Nat.mod_lt _ (Nat.two_pow_pos _))]
    exact hm

theorem sub_aligned (a b : SI) (ha : a.WF) (hb : b.WF) (hbits : a.bits = b.bits) (hab : a.bottom = false)
    (hbb : b.bottom = false) (ala : a.Aligned) : (a.sub b).Aligned := by
  have hm := sub_sound a b a.ub b.lb hbits ha hb (mem_ub_of_aligned a ha hab ala) (mem_lb b hb hbb)
  have hbl : b.lb < 2 ^ a.bits := by rw [hbits]; exact hb.2.1
  unfold SI.sub at hm ⊢
  by_cases ov : wrappedOverflowAdd a b = true
  · simp only [ov, if_true]; exact top_aligned _
  · have ov' : wrappedOverflowAdd a b = false := by simpa using ov
    simp only [ov', Bool.false_eq_true, if_false, ← hbits, Nat.max_self] at hm ⊢
    apply new_aligned_of_mem
    rw [modSub_nat' _ _ _ ha.2.2.1 hbl, imod_of_lt _ _ (Nat.mod_lt _ (Nat.two_pow_pos _))]
    rw [modSub_nat' _ _ _ ha.2.2.1 hbl] at hm
    exact hm

/-- `0 − a`: the minuend is a singleton -/
theorem neg_aligned (a : SI) (ha : a.WF) (hab : a.bottom = false) : a.neg.Aligned := by
  unfold SI.neg
  have hz : (SI.new a.bits 0 0 0).WF := const_WF 0 a.bits ha.1
  exact sub_aligned _ a hz ha (new_bits _ _ _ _) (new_bottom _ _ _ _) hab
    (by left; rw [new_eq]; simp)

theorem add_good (a b : SI) (ha : a.WF) (hb : b.WF) (hbits : a.bits = b.bits) (hab : a.bottom = false)
    (hbb : b.bottom = false) :
    Good a.bits (a.Aligned ∧ b.Aligned) (a.add b) ∧ ∀ x y, a.mem x → b.mem y → (a.add b).mem (Conc.add a.bits x y) :=
  ⟨⟨add_WF a b ha hb hbits, add_nrm a b ha, fun al => add_aligned a b ha hb hbits hab hbb al.1 al.2⟩,
    fun x y hx hy => add_sound a b x y hbits ha hb hx hy⟩

theorem sub_good (a b : SI) (ha : a.WF) (hb : b.WF) (hbits : a.bits = b.bits) (hab : a.bottom = false)
    (hbb : b.bottom = false) :
    Good a.bits a.Aligned (a.sub b) ∧ ∀ x y, a.mem x → b.mem y → (a.sub b).mem (Conc.sub a.bits x y) := by
  refine ⟨⟨sub_WF a b ha hb hbits, sub_nrm a b ha, fun al => sub_aligned a b ha hb hbits hab hbb al⟩, fun x y hx hy => ?_⟩
  -- `Conc.sub` reduces the subtrahend first; members are below `2^bits` already
  have hyl : y < 2 ^ a.bits := hbits ▸ hy.2.1
  have := sub_sound a b x y hbits ha hb hx hy
  unfold Conc.sub
  rw [Nat.mod_eq_of_lt hyl, show x + (2 ^ a.bits - y) = x + 2 ^ a.bits - y by omega]
  exact this

theorem neg_good (a : SI) (ha : a.WF) (hab : a.bottom = false) :
    Good a.bits True a.neg ∧ ∀ x, a.mem x → a.neg.mem (Conc.neg a.bits x) := by
  refine ⟨⟨neg_WF a ha, neg_nrm a ha, fun _ => neg_aligned a ha hab⟩, fun x hx => ?_⟩
  unfold Conc.neg
  rw [Nat.mod_eq_of_lt hx.2.1]
  exact neg_sound a x ha hx

end Claripy.VSA

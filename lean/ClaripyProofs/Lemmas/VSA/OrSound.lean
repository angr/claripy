import ClaripyProofs.Lemmas.VSA.Extract
import ClaripyProofs.Lemmas.VSA.Warren
/-! `bitwise_or` is sound and closed: per pair of non-wrapping pieces the low `t` bits (`2^t` divides both strides) are
constant, the part above is bounded by Warren's `min_or`/`max_or`; the pieces are joined by `least_upper_bound`. -/
namespace Claripy.VSA

theorem clearLow_eq (x st w : Nat) (hx : x < 2 ^ w) : clearLow x st w = x / 2 ^ st * 2 ^ st := by
  unfold clearLow
  rw [Nat.mod_eq_of_lt hx, Nat.shiftLeft_eq, Nat.shiftRight_eq_div_pow]

theorem floor_or (x y t : Nat) : x / 2 ^ t * 2 ^ t ||| y / 2 ^ t * 2 ^ t = (x / 2 ^ t ||| y / 2 ^ t) * 2 ^ t := by
  have hp := Nat.two_pow_pos t
  have h := (Nat.div_add_mod (x / 2 ^ t * 2 ^ t ||| y / 2 ^ t * 2 ^ t) (2 ^ t)).symm
  rw [or_div_pow, Nat.or_mod_two_pow, Nat.mul_div_cancel _ hp, Nat.mul_div_cancel _ hp, Nat.mul_mod_left,
    Nat.mul_mod_left] at h
  simp only [Nat.or_self, Nat.add_zero] at h
  rw [h, Nat.mul_comm]

theorem or_split (x y t : Nat) : x ||| y = (x / 2 ^ t ||| y / 2 ^ t) * 2 ^ t + (x % 2 ^ t ||| y % 2 ^ t) := by
  have h := (Nat.div_add_mod (x ||| y) (2 ^ t)).symm
  rw [or_div_pow, Nat.or_mod_two_pow, Nat.mul_comm] at h
  exact h

theorem minOr_lt (a b c d w : Nat) (ha : a < 2 ^ w) (hc : c < 2 ^ w) : minOr a b c d w < 2 ^ w := by
  have := minOrLoop_high w a b c d
  rw [Nat.div_eq_of_lt ha, Nat.div_eq_of_lt hc] at this
  simp only [Nat.or_self] at this
  unfold minOr
  exact (Nat.div_eq_zero_iff_lt (Nat.two_pow_pos w)).1 this

theorem maxOr_lt (a b c d w : Nat) (hb : b < 2 ^ w) (hd : d < 2 ^ w) : maxOr a b c d w < 2 ^ w := by
  have := maxOrLoop_high w a b c d
  rw [Nat.div_eq_of_lt hb, Nat.div_eq_of_lt hd] at this
  simp only [Nat.or_self] at this
  unfold maxOr
  exact (Nat.div_eq_zero_iff_lt (Nat.two_pow_pos w)).1 this

/-- numeric core of one `(u, v)` iteration of `bitwise_or`: `2^t` divides both strides, so the low `t` bits of the
members are those of the lower bounds -/
theorem or_core (w t ul uu vl vu x y : Nat)
    (hx1 : ul ≤ x) (hx2 : x ≤ uu) (huu : uu < 2 ^ w) (hy1 : vl ≤ y) (hy2 : y ≤ vu) (hvu : vu < 2 ^ w)
    (hxm : x % 2 ^ t = ul % 2 ^ t) (hym : y % 2 ^ t = vl % 2 ^ t)
    (lo hi : Nat)
    (hlo : lo = minOr (ul / 2 ^ t * 2 ^ t) (uu / 2 ^ t * 2 ^ t) (vl / 2 ^ t * 2 ^ t) (vu / 2 ^ t * 2 ^ t) w)
    (hhi : hi = maxOr (ul / 2 ^ t * 2 ^ t) (uu / 2 ^ t * 2 ^ t) (vl / 2 ^ t * 2 ^ t) (vu / 2 ^ t * 2 ^ t) w) :
    lo / 2 ^ t * 2 ^ t ||| (ul % 2 ^ t ||| vl % 2 ^ t) ≤ x ||| y ∧
    x ||| y ≤ hi / 2 ^ t * 2 ^ t ||| (ul % 2 ^ t ||| vl % 2 ^ t) ∧
    2 ^ t ∣ (x ||| y) - (lo / 2 ^ t * 2 ^ t ||| (ul % 2 ^ t ||| vl % 2 ^ t)) ∧
    hi / 2 ^ t * 2 ^ t ||| (ul % 2 ^ t ||| vl % 2 ^ t) < 2 ^ w ∧ (lo = hi → x ||| y = lo / 2 ^ t * 2 ^ t ||| (ul % 2 ^ t ||| vl % 2 ^ t)) := by
  have hp := Nat.two_pow_pos t
  have fl : ∀ p q : Nat, p ≤ q → p / 2 ^ t * 2 ^ t ≤ q / 2 ^ t * 2 ^ t :=
    fun p q h => Nat.mul_le_mul_right _ (Nat.div_le_div_right h)
  have fle : ∀ p : Nat, p / 2 ^ t * 2 ^ t ≤ p := fun p => Nat.div_mul_le_self p _
  have hB : uu / 2 ^ t * 2 ^ t < 2 ^ w := Nat.lt_of_le_of_lt (fle uu) huu
  have hD : vu / 2 ^ t * 2 ^ t < 2 ^ w := Nat.lt_of_le_of_lt (fle vu) hvu
  have h1 := minOr_le _ _ _ _ w _ _ (fl _ _ hx1) (fl _ _ hx2) (fl _ _ hy1) (fl _ _ hy2) hB hD
  have h2 := le_maxOr _ _ _ _ w _ _ (fl _ _ hx1) (fl _ _ hx2) (fl _ _ hy1) (fl _ _ hy2) hB hD
  rw [← hlo, floor_or] at h1
  rw [← hhi, floor_or] at h2
  have hr : ul % 2 ^ t ||| vl % 2 ^ t < 2 ^ t := Nat.or_lt_two_pow (Nat.mod_lt _ hp) (Nat.mod_lt _ hp)
  have hr2 : ul % 2 ^ t ||| vl % 2 ^ t < 2 ^ w :=
    Nat.or_lt_two_pow (Nat.lt_of_le_of_lt (Nat.mod_le _ _) (by omega)) (Nat.lt_of_le_of_lt (Nat.mod_le _ _) (by omega))
  have hhilt : hi < 2 ^ w := by rw [hhi]; exact maxOr_lt _ _ _ _ w hB hD
  have hU : hi / 2 ^ t * 2 ^ t ||| (ul % 2 ^ t ||| vl % 2 ^ t) < 2 ^ w :=
    Nat.or_lt_two_pow (Nat.lt_of_le_of_lt (fle hi) hhilt) hr2
  rw [or_split x y t, hxm, hym, mul_or_low _ _ _ hr, mul_or_low _ _ _ hr]
  rw [mul_or_low _ _ _ hr] at hU
  generalize x / 2 ^ t ||| y / 2 ^ t = q at *
  generalize ul % 2 ^ t ||| vl % 2 ^ t = r at *
  have g1 : lo / 2 ^ t ≤ q := by
    have := Nat.div_le_div_right (c := 2 ^ t) h1
    rwa [Nat.mul_div_cancel _ hp] at this
  have g2 : q ≤ hi / 2 ^ t := (Nat.le_div_iff_mul_le hp).2 h2
  have g1' := Nat.mul_le_mul_right (2 ^ t) g1
  have g2' := Nat.mul_le_mul_right (2 ^ t) g2
  refine ⟨by omega, by omega, ?_, hU, ?_⟩
  · rw [Nat.add_sub_add_right, ← Nat.sub_mul]
    exact Nat.dvd_mul_left _ _
  · intro he
    subst he
    have : q = lo / 2 ^ t := by omega
    rw [this]

/-- the number of low bits `bitwise_or` treats as constant -/
def orSt (u v : SI) : Nat :=
  if u.isInteger then ntz v.stride else if v.isInteger then ntz u.stride else Nat.min (ntz u.stride) (ntz v.stride)

def orNs0 (u v : SI) : Nat :=
  if u.isInteger && u.lb == 0 then v.stride else if v.isInteger && v.lb == 0 then u.stride else 2 ^ orSt u v

theorem orPiece_eq (u v : SI) :
    orPiece u v =
      SI.new u.bits
        (if minOr (clearLow u.lb (orSt u v) u.bits) (clearLow u.ub (orSt u v) u.bits) (clearLow v.lb (orSt u v) u.bits)
              (clearLow v.ub (orSt u v) u.bits) u.bits =
            maxOr (clearLow u.lb (orSt u v) u.bits) (clearLow u.ub (orSt u v) u.bits) (clearLow v.lb (orSt u v) u.bits)
              (clearLow v.ub (orSt u v) u.bits) u.bits then 0 else orNs0 u v)
        ((clearLow (minOr (clearLow u.lb (orSt u v) u.bits) (clearLow u.ub (orSt u v) u.bits)
            (clearLow v.lb (orSt u v) u.bits) (clearLow v.ub (orSt u v) u.bits) u.bits) (orSt u v) u.bits |||
            (u.lb % 2 ^ orSt u v ||| v.lb % 2 ^ orSt u v) : Nat) : Int)
        ((clearLow (maxOr (clearLow u.lb (orSt u v) u.bits) (clearLow u.ub (orSt u v) u.bits)
            (clearLow v.lb (orSt u v) u.bits) (clearLow v.ub (orSt u v) u.bits) u.bits) (orSt u v) u.bits |||
            (u.lb % 2 ^ orSt u v ||| v.lb % 2 ^ orSt u v) : Nat) : Int) := rfl

theorem orSt_dvd (u v : SI) (hu : u.WF) (hv : v.WF) : 2 ^ orSt u v ∣ u.stride ∧ 2 ^ orSt u v ∣ v.stride := by
  unfold orSt
  by_cases h1 : u.isInteger = true
  · rw [if_pos h1]
    have : u.stride = 0 := hu.2.2.2.2 ((isInteger_iff u).1 h1)
    rw [this]
    exact ⟨Nat.dvd_zero _, ntz_dvd _⟩
  · rw [if_neg h1]
    by_cases h2 : v.isInteger = true
    · rw [if_pos h2]
      have : v.stride = 0 := hv.2.2.2.2 ((isInteger_iff v).1 h2)
      rw [this]
      exact ⟨ntz_dvd _, Nat.dvd_zero _⟩
    · rw [if_neg h2]
      constructor
      · exact Nat.dvd_trans (Nat.pow_dvd_pow 2 (Nat.min_le_left _ _)) (ntz_dvd _)
      · exact Nat.dvd_trans (Nat.pow_dvd_pow 2 (Nat.min_le_right _ _)) (ntz_dvd _)

theorem mod_of_dvd_sub (T l x : Nat) (hle : l ≤ x) (h : T ∣ x - l) : x % T = l % T := by
  obtain ⟨m, hm⟩ := h
  have : x = l + T * m := by omega
  rw [this, Nat.add_mul_mod_self_left]

theorem floor_sub_of_dvd (T a b : Nat) (hle : a ≤ b) (h : T ∣ b - a) : b / T * T - a / T * T = b - a := by
  have hm := mod_of_dvd_sub T a b hle h
  have e1 := Nat.div_add_mod b T
  have e2 := Nat.div_add_mod a T
  rw [Nat.mul_comm] at e1 e2
  omega

theorem orPiece_good (w : Nat) (u v : SI) (hu : WFw w u) (hv : WFw w v)
    (hule : u.lb ≤ u.ub) (hvle : v.lb ≤ v.ub) :
    Good w (u.Aligned ∧ v.Aligned) (orPiece u v) ∧ ∀ x y, u.mem x → v.mem y → (orPiece u v).mem (x ||| y) := by
  have hw0 := hu.pos
  obtain ⟨hT1, hT2⟩ := orSt_dvd u v hu.1 hv.1
  have hub := hu.2
  have hvb := hv.2
  obtain ⟨_, hul, huu, hust⟩ := hu.1
  obtain ⟨_, hvl, hvu, hvst⟩ := hv.1
  rw [hub] at hul huu
  rw [hvb] at hvl hvu
  rw [orPiece_eq, hub]
  generalize ht : orSt u v = t at *
  rw [clearLow_eq _ _ _ hul, clearLow_eq _ _ _ huu, clearLow_eq _ _ _ hvl, clearLow_eq _ _ _ hvu]
  have fle : ∀ p : Nat, p / 2 ^ t * 2 ^ t ≤ p := fun p => Nat.div_mul_le_self p _
  have hlolt := minOr_lt (u.lb / 2 ^ t * 2 ^ t) (u.ub / 2 ^ t * 2 ^ t) (v.lb / 2 ^ t * 2 ^ t) (v.ub / 2 ^ t * 2 ^ t) w
    (Nat.lt_of_le_of_lt (fle _) hul) (Nat.lt_of_le_of_lt (fle _) hvl)
  have hhilt := maxOr_lt (u.lb / 2 ^ t * 2 ^ t) (u.ub / 2 ^ t * 2 ^ t) (v.lb / 2 ^ t * 2 ^ t) (v.ub / 2 ^ t * 2 ^ t) w
    (Nat.lt_of_le_of_lt (fle _) huu) (Nat.lt_of_le_of_lt (fle _) hvu)
  rw [clearLow_eq _ _ _ hlolt, clearLow_eq _ _ _ hhilt]
  generalize hlo : minOr (u.lb / 2 ^ t * 2 ^ t) (u.ub / 2 ^ t * 2 ^ t) (v.lb / 2 ^ t * 2 ^ t) (v.ub / 2 ^ t * 2 ^ t) w = lo at *
  generalize hhi : maxOr (u.lb / 2 ^ t * 2 ^ t) (u.ub / 2 ^ t * 2 ^ t) (v.lb / 2 ^ t * 2 ^ t) (v.ub / 2 ^ t * 2 ^ t) w = hi at *
  -- the facts of the numeric core at the lower bounds themselves (they are members)
  have core := fun x y hx1 hx2 hy1 hy2 hxm hym =>
    or_core w t u.lb u.ub v.lb v.ub x y hx1 hx2 huu hy1 hy2 hvu hxm hym lo hi hlo.symm hhi.symm
  obtain ⟨cL1, cL2, _, cU, _⟩ := core u.lb v.lb (Nat.le_refl _) hule (Nat.le_refl _) hvle rfl rfl
  have hLlt : lo / 2 ^ t * 2 ^ t ||| (u.lb % 2 ^ t ||| v.lb % 2 ^ t) < 2 ^ w := by omega
  -- the degenerate boxes: `0 | v` and `u | 0`
  have hz1 : (u.isInteger && u.lb == 0) = true → lo = v.lb / 2 ^ t * 2 ^ t ∧ hi = v.ub / 2 ^ t * 2 ^ t ∧ u.lb = 0 ∧ u.ub = 0 := by
    intro h
    have h' : u.lb = u.ub ∧ u.lb = 0 := by simpa [SI.isInteger] using h
    have e0 : u.ub = 0 := by omega
    rw [← hlo, ← hhi, h'.2, e0]
    simp only [Nat.zero_div, Nat.zero_mul]
    exact ⟨minOrLoop_zero_left _ _ _, maxOrLoop_zero_left _ _ _, trivial, trivial⟩
  have hz2 : (v.isInteger && v.lb == 0) = true → lo = u.lb / 2 ^ t * 2 ^ t ∧ hi = u.ub / 2 ^ t * 2 ^ t ∧ v.lb = 0 ∧ v.ub = 0 := by
    intro h
    have h' : v.lb = v.ub ∧ v.lb = 0 := by simpa [SI.isInteger] using h
    have e0 : v.ub = 0 := by omega
    rw [← hlo, ← hhi, h'.2, e0]
    simp only [Nat.zero_div, Nat.zero_mul]
    exact ⟨minOrLoop_zero_right _ _ _, maxOrLoop_zero_right _ _ _, trivial, trivial⟩
  have hp := Nat.two_pow_pos t
  -- the stride the code picks: that of the other piece when one piece is `{0}`, else `2^t`
  have hns : (orNs0 u v = v.stride ∧ lo = v.lb / 2 ^ t * 2 ^ t ∧ hi = v.ub / 2 ^ t * 2 ^ t ∧ u.lb = 0 ∧ u.ub = 0) ∨
      (orNs0 u v = u.stride ∧ lo = u.lb / 2 ^ t * 2 ^ t ∧ hi = u.ub / 2 ^ t * 2 ^ t ∧ v.lb = 0 ∧ v.ub = 0) ∨
      orNs0 u v = 2 ^ t := by
    unfold orNs0
    rw [ht]
    by_cases d1 : (u.isInteger && u.lb == 0) = true
    · rw [if_pos d1]
      exact Or.inl ⟨rfl, hz1 d1⟩
    · rw [if_neg d1]
      by_cases d2 : (v.isInteger && v.lb == 0) = true
      · rw [if_pos d2]
        exact Or.inr (Or.inl ⟨rfl, hz2 d2⟩)
      · rw [if_neg d2]
        exact Or.inr (Or.inr rfl)
  -- the stride is 0 only if the result is a single value
  have hzero : (if lo = hi then 0 else orNs0 u v) = 0 → lo = hi := by
    intro h0
    by_cases he : lo = hi
    · exact he
    · rw [if_neg he] at h0
      rcases hns with ⟨e, f1, f2, _, _⟩ | ⟨e, f1, f2, _, _⟩ | e
      · rw [f1, f2, hvst.1 (e ▸ h0)]
      · rw [f1, f2, hust.1 (e ▸ h0)]
      · rw [e] at h0
        omega
  refine ⟨⟨⟨new_WF _ _ _ _ hw0 (fun h0 => by rw [hzero h0]), new_bits _ _ _ _⟩, nrm_new _ _ _ _ hw0, fun al => ?_⟩, ?_⟩
  · -- alignment: with `t` low bits held constant the bounds are `⌊lo⌋ + r`, `⌊hi⌋ + r` (floors to multiples of `2^t`), and
    -- the stride divides `⌊hi⌋ - ⌊lo⌋`
    have hud : u.stride ∣ u.ub - u.lb := by
      have := aligned_dvd u hu.1 al.1
      rwa [cd_pos _ _ _ hule] at this
    have hvd : v.stride ∣ v.ub - v.lb := by
      have := aligned_dvd v hv.1 al.2
      rwa [cd_pos _ _ _ hvle] at this
    have hr : u.lb % 2 ^ t ||| v.lb % 2 ^ t < 2 ^ t := Nat.or_lt_two_pow (Nat.mod_lt _ hp) (Nat.mod_lt _ hp)
    have hLU := Nat.le_trans cL1 cL2
    apply aligned_new w _ _ _ hLlt cU
    rw [cd_pos _ _ _ hLU, mul_or_low _ _ _ hr, mul_or_low _ _ _ hr, Nat.add_sub_add_right]
    by_cases he : lo = hi
    · rw [if_pos he, he, Nat.sub_self]
      exact Nat.dvd_zero _
    · rw [if_neg he]
      rcases hns with ⟨e, f1, f2, _, _⟩ | ⟨e, f1, f2, _, _⟩ | e
      · rw [e, f1, f2, Nat.mul_div_cancel _ hp, Nat.mul_div_cancel _ hp,
          floor_sub_of_dvd _ _ _ hvle (Nat.dvd_trans hT2 hvd)]
        exact hvd
      · rw [e, f1, f2, Nat.mul_div_cancel _ hp, Nat.mul_div_cancel _ hp,
          floor_sub_of_dvd _ _ _ hule (Nat.dvd_trans hT1 hud)]
        exact hud
      · rw [e, ← Nat.sub_mul]
        exact Nat.dvd_mul_left _ _
  · intro x y hx hy
    obtain ⟨hx1, hx2, hx3⟩ := mem_nowrap w u hu hule x hx
    obtain ⟨hy1, hy2, hy3⟩ := mem_nowrap w v hv hvle y hy
    have hxm := mod_of_dvd_sub _ _ _ hx1 (Nat.dvd_trans hT1 hx3)
    have hym := mod_of_dvd_sub _ _ _ hy1 (Nat.dvd_trans hT2 hy3)
    obtain ⟨c1, c2, c3, c4, c5⟩ := core x y hx1 hx2 hy1 hy2 hxm hym
    have hxy : x ||| y < 2 ^ w := by omega
    generalize hL : lo / 2 ^ t * 2 ^ t ||| (u.lb % 2 ^ t ||| v.lb % 2 ^ t) = L at *
    generalize hU : hi / 2 ^ t * 2 ^ t ||| (u.lb % 2 ^ t ||| v.lb % 2 ^ t) = U at *
    apply mem_new_lin w _ L U (x ||| y) c4 (by omega) (by omega)
    · by_cases he : lo = hi
      · rw [if_pos he, c5 he]
        simp
      · rw [if_neg he]
        -- when one piece is `{0}` the result is the other piece, with its stride
        have hmul : ∀ z : Nat, z / 2 ^ t * 2 ^ t / 2 ^ t * 2 ^ t ||| (0 % 2 ^ t ||| z % 2 ^ t) = z ∧
            z / 2 ^ t * 2 ^ t / 2 ^ t * 2 ^ t ||| (z % 2 ^ t ||| 0 % 2 ^ t) = z := by
          intro z
          rw [Nat.mul_div_cancel _ hp]
          simp only [Nat.zero_mod, Nat.zero_or, Nat.or_zero]
          rw [mul_or_low _ _ _ (Nat.mod_lt _ hp), Nat.mul_comm]
          exact ⟨Nat.div_add_mod _ _, Nat.div_add_mod _ _⟩
        rcases hns with ⟨e, f1, _, f3, _⟩ | ⟨e, f1, _, f3, _⟩ | e
        · have hx0 : x = 0 := by omega
          rw [e, hx0, Nat.zero_or, ← hL, f1, f3, (hmul v.lb).1]
          exact hy3
        · have hy0 : y = 0 := by omega
          rw [e, hy0, Nat.or_zero, ← hL, f1, f3, (hmul u.lb).2]
          exact hx3
        · rw [e]
          exact c3

theorem or_good (s t r : SI) (hs : s.WF) (ht : t.WF) (hbits : s.bits = t.bits) (hsb : s.bottom = false)
    (htb : t.bottom = false) (h : s.bitwiseOr t = .ok r) :
    Good s.bits (s.Aligned ∧ t.Aligned) r ∧ ∀ x y, s.mem x → t.mem y → r.mem (Conc.or s.bits x y) := by
  obtain ⟨us, hus, hup, hucov⟩ := ssplit_pieces s hs hsb
  obtain ⟨vs, hvs, hvp, hvcov⟩ := ssplit_pieces t ht htb
  unfold SI.bitwiseOr at h
  rw [hus, hvs] at h
  obtain ⟨m, hl, h⟩ := bind_ok (x := leastUpperBound _) h
  cases h
  have g := lub_pairs_good s.bits (s.Aligned ∧ t.Aligned) us vs orPiece _ m s.mem t.mem (fun _ _ => True)
    (fun x y => x ||| y) hucov hvcov (fun u v hu hv => by
      have pu := hup u hu
      have pv := hvp v hv
      have wv : WFw s.bits v := hbits ▸ pv.good.wf
      obtain ⟨g1, g2⟩ := orPiece_good s.bits u v pu.good.wf wv pu.le pv.le
      exact ⟨g1.mono (fun al => ⟨pu.good.aligned al.1, pv.good.aligned al.2⟩), fun x y hx hy _ => g2 x y hx hy⟩)
    (fun t ht => (mem_table us vs orPiece t).1 ht) (fun u v hu hv => (mem_table us vs orPiece _).2 ⟨u, v, hu, hv, rfl⟩) hl
  rw [g.1.nrm]
  exact ⟨g.1, fun x y hx hy => g.2 x y hx hy trivial⟩

theorem or_sound (s t r : SI) (hs : s.WF) (ht : t.WF) (hbits : s.bits = t.bits) (hsb : s.bottom = false)
    (htb : t.bottom = false) (h : s.bitwiseOr t = .ok r) :
    WFw s.bits r ∧ ∀ x y, s.mem x → t.mem y → r.mem (x ||| y) :=
  have g := or_good s t r hs ht hbits hsb htb h
  ⟨g.1.wf, g.2⟩

theorem or_aligned (s t r : SI) (hs : s.WF) (ht : t.WF) (hbits : s.bits = t.bits) (hsb : s.bottom = false)
    (htb : t.bottom = false) (als : s.Aligned) (alt : t.Aligned) (h : s.bitwiseOr t = .ok r) : r.Aligned :=
  (or_good s t r hs ht hbits hsb htb h).1.aligned ⟨als, alt⟩

end Claripy.VSA

import ClaripyProofs.Lemmas.VSA.Lift
import ClaripyProofs.Lemmas.VSA.MinMax
/-! `min` / `max` of a discrete set (as repaired: over the members) bound every member of every member interval. -/
namespace Claripy.VSA

theorem foldl_pick (R : Int → Int → Prop) (hrefl : ∀ a, R a a) (htrans : ∀ a b c, R a b → R b c → R a c)
    (f : Int → Int → Int) (hf : ∀ m x, R (f m x) m ∧ R (f m x) x) :
    ∀ (vs : List Int) (m : Int), R (vs.foldl f m) m ∧ ∀ v, v ∈ vs → R (vs.foldl f m) v
  | [], m => ⟨hrefl m, fun v hv => nomatch hv⟩
  | q :: qs, m => by
    obtain ⟨h1, h2⟩ := foldl_pick R hrefl htrans f hf qs (f m q)
    refine ⟨htrans _ _ _ h1 (hf m q).1, fun v hv => ?_⟩
    rcases List.mem_cons.1 hv with he | hin
    · subst he; exact htrans _ _ _ h1 (hf m v).2
    · exact h2 v hin

theorem min_some (s : SI) (signed : Bool) (o : Option Int) (hnb : s.bottom = false) (h : s.min signed = .ok o) : ∃ m, o = some m := by
  unfold SI.min at h
  rw [hnb] at h
  cases signed <;>
  · simp only [Bool.false_eq_true, if_false, if_true] at h
    obtain ⟨bs, _, h⟩ := bind_ok h
    split at h <;> cases h
    exact ⟨_, rfl⟩

theorem max_some (s : SI) (signed : Bool) (o : Option Int) (hnb : s.bottom = false) (h : s.max signed = .ok o) : ∃ m, o = some m := by
  unfold SI.max at h
  rw [hnb] at h
  cases signed <;>
  · simp only [Bool.false_eq_true, if_false, if_true] at h
    obtain ⟨bs, _, h⟩ := bind_ok h
    split at h <;> cases h
    exact ⟨_, rfl⟩

/-- `h` is the body that `minQ` and `maxQ` share, for the query `q` and the fold function `f`. -/
theorem pickQ_bound (Rel : Int → Int → Prop) (hrefl : ∀ a, Rel a a) (htrans : ∀ a b c, Rel a b → Rel b c → Rel a c)
    (f : Int → Int → Int) (hf : ∀ m x, Rel (f m x) m ∧ Rel (f m x) x) (q : SI → R (Option Int)) (d : DSIS) (s : SI) (X m : Int)
    (hs : s ∈ d.sis) (hnb : s.bottom = false) (hq : ∀ o, q s = .ok o → ∃ mv, o = some mv ∧ Rel mv X)
    (h : ((d.sis.filter fun s => !s.bottom).mapM q >>= fun vals =>
      match vals.filterMap id with
      | [] => pure none
      | v :: vs => pure (some (vs.foldl f v))) = .ok (some m)) : Rel m X := by
  obtain ⟨vals, hvals, h⟩ := bind_ok h
  obtain ⟨o, ho, hso⟩ := mapM_ok_mem _ _ _ hvals s (List.mem_filter.2 ⟨hs, by rw [hnb]; rfl⟩)
  obtain ⟨mv, rfl, hle⟩ := hq o hso
  have hmem : mv ∈ vals.filterMap id := List.mem_filterMap.2 ⟨some mv, ho, rfl⟩
  split at h
  · cases h
  · rename_i v vs hfm
    cases h
    rw [hfm] at hmem
    obtain ⟨f1, f2⟩ := foldl_pick Rel hrefl htrans f hf vs v
    rcases List.mem_cons.1 hmem with rfl | hin
    · exact htrans _ _ _ f1 hle
    · exact htrans _ _ _ (f2 mv hin) hle

theorem dsis_min_le (d : DSIS) (m : Int) (s : SI) (x : Nat) (hs : s ∈ d.sis) (hw : s.WF) (hx : s.mem x)
    (h : d.minQ false = .ok (some m)) : m ≤ x :=
  pickQ_bound (· ≤ ·) Int.le_refl (fun _ _ _ => Int.le_trans) _ (fun m x => by split_ifs <;> omega) _ d s x m hs hx.1
    (fun o ho => by obtain ⟨mv, rfl⟩ := min_some s false o hx.1 ho; exact ⟨mv, rfl, min_le s mv x hw hx ho⟩) h

theorem dsis_le_max (d : DSIS) (m : Int) (s : SI) (x : Nat) (hs : s ∈ d.sis) (hw : s.WF) (hx : s.mem x)
    (h : d.maxQ false = .ok (some m)) : (x : Int) ≤ m :=
  pickQ_bound (· ≥ ·) Int.le_refl (fun _ _ _ h1 h2 => Int.le_trans h2 h1) _ (fun m x => by split_ifs <;> omega) _ d s x m hs hx.1
    (fun o ho => by obtain ⟨mv, rfl⟩ := max_some s false o hx.1 ho; exact ⟨mv, rfl, le_max s mv x hw hx ho⟩) h

end Claripy.VSA

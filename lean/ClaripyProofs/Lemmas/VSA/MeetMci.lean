import ClaripyProofs.Lemmas.VSA.MeetDiop
import ClaripyProofs.Lemmas.VSA.Mem
/-! `_minimal_common_integer_splitted`: on two non-wrapping intervals it returns the least common member, or `None`
when there is none. -/
namespace Claripy.VSA

/-- member of a non-wrapping interval, in linear form -/
def LM (p : SI) (x : Nat) : Prop := p.lb ≤ x ∧ x ≤ p.ub ∧ p.stride ∣ x - p.lb

def LeastCommon (P Q : SI) (o : Option Int) : Prop :=
  (∀ m, o = some m → ∃ n : Nat, m = (n : Int) ∧ LM P n ∧ LM Q n ∧ ∀ x, LM P x → LM Q x → n ≤ x) ∧
    (o = none → ∀ x, ¬ (LM P x ∧ LM Q x))

theorem LeastCommon.none {P Q : SI} (h : ∀ x, LM P x → LM Q x → False) : LeastCommon P Q none :=
  ⟨(fun _ hm => nomatch hm), fun _ x hx => h x hx.1 hx.2⟩

theorem LeastCommon.some {P Q : SI} (n : Nat) (hP : LM P n) (hQ : LM Q n) (hmin : ∀ x, LM P x → LM Q x → n ≤ x) :
    LeastCommon P Q (some (n : Int)) :=
  ⟨fun m hm => by cases hm; exact ⟨n, rfl, hP, hQ, hmin⟩, fun hn => nomatch hn⟩

theorem leastCommon_symm (P Q : SI) (o : Option Int) (h : LeastCommon Q P o) : LeastCommon P Q o := by
  refine ⟨?_, ?_⟩
  · intro m hm
    obtain ⟨n, h1, h2, h3, h4⟩ := h.1 m hm
    exact ⟨n, h1, h3, h2, fun x hp hq => h4 x hq hp⟩
  · intro hn x hx
    exact h.2 hn x ⟨hx.2, hx.1⟩

theorem mci_int (fuel : Nat) (P Q : SI) (o : Option Int) (hP : P.lb = P.ub) (hQst : Q.stride = 0 ↔ Q.lb = Q.ub)
    (h : mciSplitted (fuel + 1) P Q = .ok o) : LeastCommon P Q o := by
  unfold mciSplitted at h
  have hPi : P.isInteger = true := (isInteger_iff P).2 hP
  simp only [hPi, if_true] at h
  have hPm : ∀ x, LM P x → x = P.lb := fun x hx => by unfold LM at hx; omega
  have hPl : LM P P.lb := ⟨Nat.le_refl _, by omega, by simp⟩
  by_cases hQi : Q.isInteger = true
  · rw [if_pos hQi] at h
    have hQ : Q.lb = Q.ub := (isInteger_iff Q).1 hQi
    by_cases he : P.lb = Q.lb
    · rw [if_neg (fun hh => hh he)] at h
      cases pure_ok h
      exact .some P.lb hPl ⟨by omega, by omega, (by rw [he, Nat.sub_self]; exact Nat.dvd_zero _)⟩
        (fun x hx _ => Nat.le_of_eq (hPm x hx).symm)
    · rw [if_pos he] at h
      cases pure_ok h
      refine .none fun x hx1 hx2 => ?_
      have := hPm x hx1
      unfold LM at hx2
      omega
  · rw [if_neg hQi] at h
    have hQne : Q.lb ≠ Q.ub := fun he => hQi ((isInteger_iff Q).2 he)
    have hQs : Q.stride ≠ 0 := fun h0 => hQne (hQst.1 h0)
    by_cases hin : P.lb ≥ Q.lb ∧ P.lb ≤ Q.ub
    · rw [if_pos hin, if_neg hQs] at h
      by_cases hmod : (P.lb - Q.lb) % Q.stride = 0
      · rw [if_pos hmod] at h
        cases pure_ok h
        exact .some P.lb hPl ⟨hin.1, hin.2, Nat.dvd_of_mod_eq_zero hmod⟩ (fun x hx _ => Nat.le_of_eq (hPm x hx).symm)
      · rw [if_neg hmod] at h
        cases pure_ok h
        refine .none fun x hx1 hx2 => ?_
        rw [hPm x hx1] at hx2
        exact hmod (Nat.mod_eq_zero_of_dvd hx2.2.2)
    · rw [if_neg hin] at h
      cases pure_ok h
      refine .none fun x hx1 hx2 => ?_
      rw [hPm x hx1] at hx2
      unfold LM at hx2
      omega

theorem mci_general (fuel : Nat) (P Q : SI) (o : Option Int) (hP : P.lb ≠ P.ub) (hQ : Q.lb ≠ Q.ub)
    (hPst : P.stride = 0 ↔ P.lb = P.ub) (hQst : Q.stride = 0 ↔ Q.lb = Q.ub)
    (h : mciSplitted (fuel + 1) P Q = .ok o) : LeastCommon P Q o := by
  unfold mciSplitted at h
  have hPi : ¬ P.isInteger = true := fun hh => hP ((isInteger_iff P).1 hh)
  have hQi : ¬ Q.isInteger = true := fun hh => hQ ((isInteger_iff Q).1 hh)
  have hPs : P.stride ≠ 0 := fun h0 => hP (hPst.1 h0)
  have hQs : Q.stride ≠ 0 := fun h0 => hQ (hQst.1 h0)
  simp only [] at h
  rw [if_neg hPi, if_neg hQi] at h
  by_cases hdis : P.ub < Q.lb ∨ Q.ub < P.lb
  · rw [if_pos hdis] at h
    cases pure_ok h
    refine .none fun x hx1 hx2 => ?_
    unfold LM at hx1 hx2
    omega
  · rw [if_neg hdis] at h
    have hg0 : Nat.gcd P.stride Q.stride ≠ 0 := fun h0 => hPs (Nat.eq_zero_of_gcd_eq_zero_left h0)
    rw [if_neg hg0] at h
    -- a common member forces `gcd ∣ d - b`
    have hcommon : ∀ x, LM P x → LM Q x →
        ∃ i j : Int, 0 ≤ i ∧ 0 ≤ j ∧ (x : Int) = (P.stride : Int) * i + P.lb ∧ (x : Int) = (Q.stride : Int) * j + Q.lb := by
      intro x hx1 hx2
      obtain ⟨h1, _, i, hi⟩ := hx1
      obtain ⟨h2, _, j, hj⟩ := hx2
      refine ⟨i, j, Int.natCast_nonneg _, Int.natCast_nonneg _, ?_, ?_⟩
      · have : x = P.stride * i + P.lb := by omega
        exact_mod_cast this
      · have : x = Q.stride * j + Q.lb := by omega
        exact_mod_cast this
    by_cases hem : Int.emod ((Q.lb : Int) - (P.lb : Int)) ((Nat.gcd P.stride Q.stride : Nat) : Int) ≠ 0
    · rw [if_pos hem] at h
      cases pure_ok h
      refine .none fun x hx1 hx2 => ?_
      obtain ⟨i, j, _, _, e1, e2⟩ := hcommon x hx1 hx2
      apply hem
      have hd1 : ((Nat.gcd P.stride Q.stride : Nat) : Int) ∣ (P.stride : Int) := Int.natCast_dvd_natCast.2 (Nat.gcd_dvd_left _ _)
      have hd2 : ((Nat.gcd P.stride Q.stride : Nat) : Int) ∣ (Q.stride : Int) := Int.natCast_dvd_natCast.2 (Nat.gcd_dvd_right _ _)
      have : (Q.lb : Int) - (P.lb : Int) = (P.stride : Int) * i - (Q.stride : Int) * j := by grind
      show ((Q.lb : Int) - (P.lb : Int)) % ((Nat.gcd P.stride Q.stride : Nat) : Int) = 0
      rw [this]
      exact Int.emod_eq_zero_of_dvd (Int.dvd_sub (Int.dvd_mul_of_dvd_left hd1) (Int.dvd_mul_of_dvd_left hd2))
    · rw [if_neg hem] at h
      have hem' : ((Q.lb : Int) - (P.lb : Int)) % ((Nat.gcd P.stride Q.stride : Nat) : Int) = 0 := by
        apply Classical.byContradiction; intro hh; exact hem hh
      have hpa : (0 : Int) < (P.stride : Int) := by exact_mod_cast Nat.pos_of_ne_zero hPs
      have hnc : -((Q.stride : Int)) < 0 := by
        have : (0 : Int) < (Q.stride : Int) := by exact_mod_cast Nat.pos_of_ne_zero hQs
        omega
      have hgd : ((Nat.gcd (P.stride : Int).natAbs (-(Q.stride : Int)).natAbs : Nat) : Int) ∣ -((P.lb : Int) - (Q.lb : Int)) := by
        rw [Int.natAbs_neg, Int.natAbs_natCast, Int.natAbs_natCast]
        have : -((P.lb : Int) - (Q.lb : Int)) = (Q.lb : Int) - (P.lb : Int) := by grind
        rw [this]
        exact Int.dvd_of_emod_eq_zero hem'
      obtain ⟨x, y, hd, heq, hx0, hy0, hmin⟩ := diop_spec _ _ _ hpa hnc hgd
      obtain ⟨r, hr, h⟩ := bind_ok h
      rw [hd] at hr
      cases hr
      simp only [] at h
      have hfirst : x * (P.stride : Int) + (P.lb : Int) = y * (Q.stride : Int) + (Q.lb : Int) := by grind
      rw [if_neg (fun hne => hne hfirst)] at h
      -- the first common value of the two progressions, as a natural number
      have hnn : 0 ≤ x * (P.stride : Int) + (P.lb : Int) := by
        have := Int.mul_nonneg hx0 (Int.le_of_lt hpa)
        have : (0 : Int) ≤ (P.lb : Int) := Int.natCast_nonneg _
        omega
      obtain ⟨n, hn⟩ := Int.eq_ofNat_of_zero_le hnn
      have hminx : ∀ x', LM P x' → LM Q x' → n ≤ x' := by
        intro x' h1 h2
        obtain ⟨i, j, hi, hj, e1, e2⟩ := hcommon x' h1 h2
        have := hmin i j hi hj (by grind)
        have h3 : x * (P.stride : Int) ≤ i * (P.stride : Int) := Int.mul_le_mul_of_nonneg_right this (Int.le_of_lt hpa)
        have : (n : Int) ≤ (x' : Int) := by rw [← hn, e1]; grind
        exact_mod_cast this
      by_cases hin : (P.lb : Int) ≤ x * (P.stride : Int) + (P.lb : Int) ∧ x * (P.stride : Int) + (P.lb : Int) ≤ (P.ub : Int) ∧
          (Q.lb : Int) ≤ x * (P.stride : Int) + (P.lb : Int) ∧ x * (P.stride : Int) + (P.lb : Int) ≤ (Q.ub : Int)
      · rw [if_pos hin] at h
        cases pure_ok h
        rw [hn] at hin ⊢
        obtain ⟨i1, i2, i3, i4⟩ := hin
        refine .some n ⟨by exact_mod_cast i1, by exact_mod_cast i2, ?_⟩ ⟨by exact_mod_cast i3, by exact_mod_cast i4, ?_⟩ hminx
        · have hx' : x = ((x.toNat : Nat) : Int) := (Int.toNat_of_nonneg hx0).symm
          refine ⟨x.toNat, ?_⟩
          have : (n : Int) = (P.stride : Int) * x.toNat + P.lb := by rw [← hn, ← hx']; grind
          have : n = P.stride * x.toNat + P.lb := by exact_mod_cast this
          omega
        · have hy' : y = ((y.toNat : Nat) : Int) := (Int.toNat_of_nonneg hy0).symm
          refine ⟨y.toNat, ?_⟩
          have : (n : Int) = (Q.stride : Int) * y.toNat + Q.lb := by rw [← hn, hfirst, ← hy']; grind
          have : n = Q.stride * y.toNat + Q.lb := by exact_mod_cast this
          omega
      · rw [if_neg hin] at h
        cases pure_ok h
        refine .none fun x' h1 h2 => ?_
        have hle := hminx x' h1 h2
        apply hin
        rw [hn]
        have hy1 : (Q.lb : Int) ≤ (n : Int) := by
          rw [← hn, hfirst]
          have := Int.mul_nonneg hy0 (Int.natCast_nonneg Q.stride)
          omega
        have hx1 : (P.lb : Int) ≤ (n : Int) := by
          rw [← hn]
          have := Int.mul_nonneg hx0 (Int.natCast_nonneg P.stride)
          omega
        unfold LM at h1 h2
        refine ⟨hx1, ?_, hy1, ?_⟩
        · have : n ≤ P.ub := by omega
          exact_mod_cast this
        · have : n ≤ Q.ub := by omega
          exact_mod_cast this

theorem mci_spec (fuel : Nat) (P Q : SI) (o : Option Int)
    (hPst : P.stride = 0 ↔ P.lb = P.ub) (hQst : Q.stride = 0 ↔ Q.lb = Q.ub)
    (h : mciSplitted (fuel + 2) P Q = .ok o) : LeastCommon P Q o := by
  by_cases hP : P.lb = P.ub
  · exact mci_int (fuel + 1) P Q o hP hQst h
  · by_cases hQ : Q.lb = Q.ub
    · have hPi : ¬ P.isInteger = true := fun hh => hP ((isInteger_iff P).1 hh)
      have hQi : Q.isInteger = true := (isInteger_iff Q).2 hQ
      unfold mciSplitted at h
      simp only [] at h
      rw [if_neg hPi, if_pos hQi] at h
      exact leastCommon_symm P Q o (mci_int fuel Q P o hQ hPst h)
    · exact mci_general (fuel + 1) P Q o hP hQ hPst hQst h

end Claripy.VSA

import ClaripyProofs.Lemmas.VSA.Members
import ClaripyProofs.Lemmas.VSA.Signed
/-! `eval(n, signed)` lists exactly the first `n` members, as unsigned or signed values, in member-list order: the
pieces of `_ssplit` / `_nsplit` are visited in order, each from its lower bound upwards, and along a piece the value
grows with the distance (`Along`). -/
namespace Claripy.VSA

def prog (stride L c : Nat) : List Int := (List.range c).map fun j => ((L + j * stride : Nat) : Int)

theorem prog_succ (stride L c : Nat) : prog stride L (c + 1) = (L : Int) :: prog stride (L + stride) c := by
  unfold prog
  rw [List.range_succ_eq_map, List.map_cons, List.map_map]
  congr 1
  · simp
  · apply List.map_congr_left
    intro j _
    simp only [Function.comp]
    congr 1
    rw [Nat.succ_mul]; omega

theorem prog_add (stride : Nat) : ∀ (c1 L c2 : Nat),
    prog stride L (c1 + c2) = prog stride L c1 ++ prog stride (L + c1 * stride) c2 := by
  intro c1
  induction c1 with
  | zero => intro L c2; simp [prog]
  | succ c ih =>
    intro L c2
    have e : c + 1 + c2 = (c + c2) + 1 := by omega
    rw [e, prog_succ, prog_succ, ih (L + stride) c2, List.cons_append]
    have : L + stride + c * stride = L + (c + 1) * stride := by rw [Nat.succ_mul]; omega
    rw [this]

/-- number of terms `L, L + stride, …` that are `≤ U` (integer bounds) -/
def cntI (stride : Nat) (U L : Int) : Nat := if L ≤ U then (U - L).toNat / stride + 1 else 0

def progI (stride : Nat) (L : Int) (c : Nat) : List Int := (List.range c).map fun j => L + ((j * stride : Nat) : Int)

theorem cntI_succ (stride : Nat) (U L : Int) (hs : 0 < stride) (h : L ≤ U) :
    cntI stride U L = cntI stride U (L + (stride : Int)) + 1 := by
  unfold cntI
  rw [if_pos h]
  by_cases h2 : L + (stride : Int) ≤ U
  · rw [if_pos h2]
    have : (U - L).toNat = (U - (L + (stride : Int))).toNat + stride := by omega
    rw [this, Nat.add_div_right _ hs]
  · rw [if_neg h2]
    have : (U - L).toNat / stride = 0 := Nat.div_eq_of_lt (by omega)
    omega

theorem progI_succ (stride : Nat) (L : Int) (c : Nat) :
    progI stride L (c + 1) = L :: progI stride (L + (stride : Int)) c := by
  unfold progI
  rw [List.range_succ_eq_map, List.map_cons, List.map_map]
  congr 1
  · simp
  · apply List.map_congr_left
    intro j _
    simp only [Function.comp]
    rw [Nat.succ_mul]; push_cast; omega

theorem evalLoop_specI (stride n : Nat) (U : Int) (hs : 0 < stride) :
    ∀ (fuel : Nat) (L : Int) (acc : List Int), n ≤ acc.length + fuel →
      evalLoop stride n U fuel L acc = acc ++ (progI stride L (cntI stride U L)).take (n - acc.length) := by
  intro fuel
  induction fuel with
  | zero =>
    intro L acc h
    unfold evalLoop
    have : n - acc.length = 0 := by omega
    rw [this, List.take_zero, List.append_nil]
  | succ f ih =>
    intro L acc h
    unfold evalLoop
    by_cases hc : acc.length < n ∧ L ≤ U
    · rw [if_pos hc]
      rw [ih (L + (stride : Int)) (acc ++ [L]) (by rw [List.length_append]; simp; omega)]
      rw [cntI_succ stride U L hs hc.2, progI_succ]
      have hk : n - acc.length = (n - (acc ++ [L]).length) + 1 := by rw [List.length_append]; simp; omega
      rw [hk, List.take_succ_cons, List.append_assoc]
      rfl
    · rw [if_neg hc]
      by_cases h1 : acc.length < n
      · have hLU : ¬ L ≤ U := fun h2 => hc ⟨h1, h2⟩
        unfold cntI; rw [if_neg hLU]
        unfold progI; simp
      · have : n - acc.length = 0 := by omega
        rw [this, List.take_zero, List.append_nil]

theorem foldl_eval_zero (stride : Nat) (bs : List (Int × Int)) :
    bs.foldl (fun results p => evalLoop stride 0 p.2 0 p.1 results) [] = [] := by
  induction bs with
  | nil => rfl
  | cons q qs ih => simp only [List.foldl_cons]; unfold evalLoop; exact ih

theorem foldl_eval_zero' (stride : Nat) (bs : List (Int × Int)) :
    bs.foldl (fun results p => evalLoop stride 0 p.2 0 p.1 results) [] = [] := foldl_eval_zero stride bs

theorem div_eq_of_dvd {st K span : Nat} (hst : 0 < st) (hK : st ∣ K) (h1 : K ≤ span) (h2 : span < K + st) :
    K / st = span / st := by
  obtain ⟨c, rfl⟩ := hK
  rw [Nat.mul_div_cancel_left _ hst]
  have h3 : c ≤ span / st := (Nat.le_div_iff_mul_le hst).2 (by rw [Nat.mul_comm]; exact h1)
  have h4 : span / st < c + 1 := (Nat.div_lt_iff_lt_mul hst).2 (by rw [Nat.mul_comm, Nat.mul_succ]; exact h2)
  omega

theorem members_map (v : Nat → Int) (s : SI) (hnb : s.bottom = false) (hz : s.stride ≠ 0) :
    s.members.map v = (List.range (s.span / s.stride + 1)).map fun k => v ((s.lb + k * s.stride) % 2 ^ s.bits) := by
  unfold SI.members
  rw [hnb]
  simp only [Bool.false_eq_true, if_false, if_neg hz, List.map_map]
  rfl

theorem evalLoop_arc (v : Nat → Int) (m st n a u : Nat) (hst : 0 < st) (ha : a < m) (hu : u < m) (hv : Along v m a u)
    (acc : List Int) :
    evalLoop st n (v u) n (v a) acc =
      acc ++ ((List.range (cd m a u / st + 1)).map fun k => v ((a + k * st) % m)).take (n - acc.length) := by
  rw [evalLoop_specI st n (v u) hst n (v a) acc (by omega)]
  have hcnt : cntI st (v u) (v a) = cd m a u / st + 1 := by
    unfold cntI
    rw [hv.eq ha hu (Nat.le_refl _), if_pos (by omega)]
    have : (v a + (cd m a u : Int) - v a).toNat = cd m a u := by omega
    rw [this]
  rw [hcnt]
  congr 2
  unfold progI
  apply List.map_congr_left
  intro k hk
  have hk' := List.mem_range.1 hk
  have h1 : k * st ≤ cd m a u / st * st := Nat.mul_le_mul_right _ (by omega)
  have h2 := Nat.div_mul_le_self (cd m a u) st
  exact (hv _ (by omega)).symm

theorem eval_one (v : Nat → Int) (m st n lb u ub : Nat) (hst : 0 < st) (hl : lb < m) (hu : u < m) (hv : Along v m lb u)
    (hcount : cd m lb u / st = cd m lb ub / st) :
    evalLoop st n (v u) n (v lb) [] = ((List.range (cd m lb ub / st + 1)).map fun k => v ((lb + k * st) % m)).take n := by
  rw [evalLoop_arc v m st n lb u hst hl hu hv [], hcount]
  rfl

/-- `eval` over two consecutive arcs: `[lb, ak]` ending at a multiple `K` of the stride, `[bl, ub]` starting one
stride further -/
theorem eval_two (v : Nat → Int) (m st n lb ak bl ub K : Nat) (hst : 0 < st) (hl : lb < m) (hak : ak < m) (hbl : bl < m)
    (hu : ub < m) (hvA : Along v m lb ak) (hvB : Along v m bl ub) (hK : cd m lb ak = K) (hdvd : st ∣ K)
    (hB : cd m lb bl = K + st) (hle : K + st ≤ cd m lb ub) :
    evalLoop st n (v ub) n (v bl) (evalLoop st n (v ak) n (v lb) []) =
      ((List.range (cd m lb ub / st + 1)).map fun k => v ((lb + k * st) % m)).take n := by
  rw [evalLoop_arc v m st n lb ak hst hl hak hvA [], evalLoop_arc v m st n bl ub hst hbl hu hvB]
  simp only [List.nil_append, List.length_nil, Nat.sub_zero]
  obtain ⟨c, hc⟩ := hdvd
  have hc1 : cd m lb ak / st = c := by rw [hK, hc, Nat.mul_div_cancel_left _ hst]
  have hE : cd m lb ub = cd m bl ub + st * (c + 1) := by
    rw [cd_between m lb bl ub hl hbl hu (by omega), hB, Nat.mul_succ, ← hc]; omega
  have hcount : cd m lb ub / st + 1 = (c + 1) + (cd m bl ub / st + 1) := by
    rw [hE, Nat.add_mul_div_left _ _ hst]; omega
  have hshift : ((fun k => v ((lb + k * st) % m)) ∘ fun x => c + 1 + x) = fun j => v ((bl + j * st) % m) := by
    funext j
    have e : (c + 1 + j) * st = K + st + j * st := by rw [hc, Nat.add_mul, Nat.add_mul, Nat.one_mul, Nat.mul_comm c st]
    have e' : lb + (K + st + j * st) = lb + (K + st) + j * st := by omega
    simp only [Function.comp]
    rw [eq_add_cd m lb bl hl hbl, hB, Nat.mod_add_mod, e, e']
  conv => rhs; rw [hcount, List.range_add, List.map_append, List.map_map, List.take_append, hshift]
  rw [hc1]
  congr 2
  rw [List.length_take, List.length_map, List.length_range]
  exact (Nat.sub_eq_sub_min _ _).symm

theorem eval_of_bounds (v : Nat → Int) (s : SI) (n : Nat) (l : List Int) (signed : Bool) (hs : s.WF)
    (hnb : s.bottom = false) (hv0 : (if signed then toSigned s.lb s.bits else (s.lb : Int)) = v s.lb)
    (hcut : s.stride ≠ 0 → ∃ bs, (if signed then s.signedBounds else s.unsignedBounds) = .ok bs ∧
      bs.foldl (fun results p => evalLoop s.stride n p.2 n p.1 results) [] =
        ((List.range (cd (2 ^ s.bits) s.lb s.ub / s.stride + 1)).map fun k =>
          v ((s.lb + k * s.stride) % 2 ^ s.bits)).take n)
    (h : s.eval n signed = .ok l) : l = (s.members.take n).map v := by
  unfold SI.eval at h
  rw [hnb] at h
  simp only [Bool.false_eq_true, if_false] at h
  by_cases hc : s.stride = 0 ∧ n > 0
  · rw [if_pos hc, hv0] at h
    have : l = [v s.lb] := by cases h; rfl
    subst this
    unfold SI.members
    rw [hnb]
    simp only [Bool.false_eq_true, if_false, if_pos hc.1]
    obtain ⟨k, hk⟩ : ∃ k, n = k + 1 := ⟨n - 1, by omega⟩
    rw [hk]; simp
  rw [if_neg hc] at h
  cases hb : (if signed then s.signedBounds else s.unsignedBounds) with
  | error e => rw [hb] at h; cases h
  | ok bs =>
    rw [hb] at h
    have hl : l = bs.foldl (fun results p => evalLoop s.stride n p.2 n p.1 results) [] := by cases h; rfl
    by_cases hn0 : n = 0
    · subst hn0
      rw [hl, foldl_eval_zero]; rfl
    · have hz : s.stride ≠ 0 := fun hh => hc ⟨hh, by omega⟩
      obtain ⟨bs', hb', hfold⟩ := hcut hz
      rw [hb] at hb'
      cases hb'
      rw [hl, hfold, List.map_take, members_map v s hnb hz, span_eq s hs]

/-- `hn` as in `splitAt_spec` -/
theorem splitAt_fold (v : Nat → Int) (s : SI) (P n : Nat) (hs : s.WF) (hz : s.stride ≠ 0)
    (hP : P < 2 ^ s.bits)
    (hn : ¬ Crosses (2 ^ s.bits) P s.lb s.ub → s.renorm.lb = s.lb ∧ s.renorm.ub = s.ub)
    (hv : ∀ a u, a < 2 ^ s.bits → u < 2 ^ s.bits → ¬ Crosses (2 ^ s.bits) P a u → Along v (2 ^ s.bits) a u) :
    ((splitAt s P).map fun p => (v p.lb, v p.ub)).foldl (fun results p => evalLoop s.stride n p.2 n p.1 results) [] =
      ((List.range (cd (2 ^ s.bits) s.lb s.ub / s.stride + 1)).map fun k =>
        v ((s.lb + k * s.stride) % 2 ^ s.bits)).take n := by
  have hl := hs.2.1
  have hu := hs.2.2.1
  have hsp : 0 < s.stride := Nat.pos_of_ne_zero hz
  unfold splitAt
  by_cases hc : cd (2 ^ s.bits) s.lb P < cd (2 ^ s.bits) s.lb s.ub
  · obtain ⟨K, ak, hK1, hKs, hak, hcdA, hnA, hA1, hA2, hcut⟩ := cut_shape s hs hz P hP hc
    rw [if_pos hc]
    rcases hcut with ⟨hbr, hcut⟩ | ⟨bl, hbl, hcdB, hle, hnB, hB1, hB2, hcut⟩
    · rw [hcut]
      simp only [List.map_cons, List.map_nil, List.foldl_cons, List.foldl_nil, hA1, hA2]
      exact eval_one v _ _ n s.lb ak s.ub hsp hl hak (hv _ _ hl hak hnA)
        (by rw [hcdA]; exact div_eq_of_dvd hsp hK1 hKs hbr)
    · rw [hcut]
      simp only [List.map_cons, List.map_nil, List.foldl_cons, List.foldl_nil, hA1, hA2, hB1, hB2]
      exact eval_two v _ _ n s.lb ak bl s.ub K hsp hl hak hbl hu (hv _ _ hl hak hnA) (hv _ _ hbl hu hnB) hcdA hK1 hcdB hle
  · rw [if_neg hc]
    obtain ⟨e1, e2⟩ := hn hc
    simp only [List.map_cons, List.map_nil, List.foldl_cons, List.foldl_nil, e1, e2]
    exact eval_one v _ _ n s.lb s.ub s.ub hsp hl hu (hv _ _ hl hu hc) rfl

theorem eval_exact (s : SI) (n : Nat) (l : List Int) (hs : s.WF) (hnb : s.bottom = false) (h : s.eval n false = .ok l) :
    l = (s.members.take n).map fun (v : Nat) => (v : Int) := by
  have hm := Nat.two_pow_pos s.bits
  refine eval_of_bounds (fun x => (x : Int)) s n l false hs hnb rfl (fun hz => ⟨_, ?_, splitAt_fold _ s (2 ^ s.bits - 1) n
    hs hz (by omega) (fun hc => renorm_bounds_nowrap s hs hnb ?_) (along_unsigned _ hm)⟩) h
  · exact unsignedBounds_eq s _ (ssplit_eq s hs)
  · have : ¬ s.ub < s.lb := fun h' => hc ((crosses_south _ _ _ hs.2.1 hs.2.2.1).2 h')
    omega

theorem eval_signed_exact (s : SI) (n : Nat) (l : List Int) (hs : s.WF) (hnb : s.bottom = false) (hn : s.renorm = s)
    (h : s.eval n true = .ok l) : l = (s.members.take n).map fun (v : Nat) => Conc.toInt s.bits v := by
  have hH := Nat.two_pow_pos (s.bits - 1)
  have hm2 := two_pow_half s.bits hs.1
  refine eval_of_bounds (Conc.toInt s.bits) s n l true hs hnb (toSigned_nat _ _ hs.1 hs.2.1) (fun hz => ⟨_, ?_,
    splitAt_fold _ s (2 ^ (s.bits - 1) - 1) n hs hz (by omega) (fun _ => by rw [hn]; exact ⟨rfl, rfl⟩)
      (along_signed s.bits hs.1)⟩) h
  obtain ⟨ps, hps, hp, _⟩ := nsplit_pieces s hs hnb hn
  have hb := signedBounds_eq s hs ps hps (fun p hp' => ⟨(hp p hp').1.good.lb_lt, (hp p hp').1.good.ub_lt⟩)
  rw [nsplit_eq s hs] at hps
  cases hps
  exact hb

end Claripy.VSA

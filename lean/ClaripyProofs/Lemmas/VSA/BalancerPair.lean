import ClaripyProofs.Lemmas.VSA.BalancerFinal
/-!
The pair of bounds a truism and its implicit assumption record when both are only moved across `+` / `-` (or not at
all) down to the same expression: one is an upper, the other a lower bound, and together — read as the wrapped interval
`_replacements_iter` builds — they contain the value (`InB_pair` is the arithmetic).  Each bound alone does not: `x + 1 ≤ 5`
alone records the upper bound 4, `x <s 5` alone the upper bound 4 that would be read as `[0, 4]`.  One proof for the
unsigned orderings of a sum / difference and for the signed orderings: it only uses that no simplifier rewrites the
assumption, so that it is the non-strict ordering of the other direction on the same left side.
-/
namespace Claripy.VSA.Bal
open Claripy.VSA

theorem rot_const_unique (w v c c' : Nat) (hv : v < 2 ^ w) (hc : c < 2 ^ w) (hc' : c' < 2 ^ w)
    (h : Conc.add w v c = Conc.add w v c') : c = c' := by
  unfold Conc.add at h
  rw [add_mod_cases v c _ hv hc, add_mod_cases v c' _ hv hc'] at h
  split_ifs at h <;> omega

section
variable (anno : Nat → SI) (env : Nat → Nat) (hctx : ∀ i, (anno i).WF ∧ (anno i).mem (env i)) (hnrm : ∀ i, Nrm (anno i))
include hctx hnrm

theorem pair_sound_ord (T0 A0 : Tru) (p1 p2 : Bounds × BalOut) (hokT : TruWT anno env T0)
    (hop : uOrd T0.op ∨ sOrd T0.op) (hraw : isModLhs T0.lhs = true ∨ sOrd T0.op)
    (hhT : T0.holds env)
    (hA : assumption T0 = some (.tru A0)) (hp1 : processTru anno T0 [] = .ok p1) (hp2 : processTru anno A0 p1.1 = .ok p2)
    (hptT : p1.2.usedPt = false) (hptA : p2.2.usedPt = false) (hsame : p1.2.t.lhs = p2.2.t.lhs) : Sound env p2.1 := by
  obtain ⟨hbT, h1⟩ := processTru_ok anno T0 [] p1 hp1
  obtain ⟨hbA, h2⟩ := processTru_ok anno A0 p1.1 p2 hp2
  obtain ⟨bs1, oT⟩ := p1
  obtain ⟨bs2, oA⟩ := p2
  simp only at hbT hbA h1 h2 hptT hptA hsame ⊢
  obtain ⟨A, hA', hhA, hta⟩ := assumption_ord anno env hctx T0 hokT hop
  cases hA.symm.trans hA'
  obtain ⟨hokA, hAu, hAs, hfacts⟩ := hta A0 rfl
  have hopA0 : uOrd A0.op ∨ sOrd A0.op := hop.imp hAu hAs
  obtain ⟨hAl, hAw, hAinfo⟩ := hfacts hraw
  obtain ⟨v0, hv0⟩ := exprOK_val anno env _ hokT.ok
  -- both are rotated, by the same constant since they start and end at the same expressions
  obtain ⟨hokT', hopT, hwT, CT, hCT, hrT, heT⟩ := balance1_rot anno env hctx T0 oT hokT hbT hptT
  obtain ⟨hokA', hopA, hwA, CA, hCA, hrA, heA⟩ := balance1_rot anno env hctx A0 oA hokA hbA hptA
  obtain ⟨vf, hvf⟩ := exprOK_val anno env _ hokT'.ok
  have hvflt : vf < 2 ^ T0.w := hwT ▸ (hokT'.range anno env hctx vf hvf).1
  have hvfA : evalBV env oA.t.lhs = some vf := by rw [← hsame]; exact hvf
  have h0T := heT vf hvf hvflt
  have h0A := heA vf hvfA (by rw [hAw]; exact hvflt)
  rw [hAl, hAw, hv0] at h0A
  rw [hv0] at h0T
  have hCeq : CT = CA := by
    rw [hAw] at hCA
    have : Conc.add T0.w vf CT = Conc.add T0.w vf CA := by
      have a := Option.some.inj h0T; have b := Option.some.inj h0A; rw [← a, b]
    exact rot_const_unique T0.w vf CT CA hvflt hCT hCA this
  subst hCeq
  have hv0' : v0 = Conc.add T0.w vf CT := Option.some.inj h0T
  rw [hAw] at hrA hwA
  have hwd : wd oT.t.lhs = T0.w := by rw [hokT'.wd_eq, hwT]
  have hwpos : 0 < T0.w := by rw [← hokT.wd_eq]; exact wd_pos anno env (fun i => (hctx i).1) _ hokT.ok.1
  -- the handlers: the two cardinalities are those of the same expression
  obtain ⟨c1, hc1, h1'⟩ := handle_ord anno oT.t [] bs1 (hopT ▸ hop) h1
  obtain ⟨c2, hc2, h2'⟩ := handle_ord anno oA.t bs1 bs2 (hopA ▸ hopA0) h2
  rw [← hsame, hc1] at hc2
  cases hc2
  by_cases hc : c1 = 1
  · rw [if_pos hc] at h1' h2'
    subst h1'; subst h2'
    exact sound_nil env
  · rw [if_neg hc] at h1' h2'
    -- each handler clips by the hull of the same value, in the same reading
    obtain ⟨lminT, lmaxT, haxT, hxbT, hb1⟩ := handleCmp_hull anno env hctx hnrm oT.t [] bs1 hokT' h1' vf hvf
    obtain ⟨lminA, lmaxA, haxA, hxbA, hb2⟩ := handleCmp_hull anno env hctx hnrm oA.t bs1 bs2 hokA' h2' vf hvfA
    rw [hopT, hwT, hrT] at hb1
    rw [hopT, hwT] at haxT hxbT
    rw [hopA, hwA, hrA, hAinfo] at hb2
    rw [hopA, hwA, hAinfo] at haxA hxbA
    -- both comparisons hold of `vf + CT`, in the integers the handler compares
    obtain ⟨_, hvT, hcT⟩ := hhT
    rw [hv0] at hvT; cases hvT
    obtain ⟨_, hvA, hcA⟩ := hhA
    rw [hAl, hv0] at hvA; cases hvA
    rw [hv0', concCmp_rd _ _ _ _ (ord_ne _ hop)] at hcT
    rw [hv0', hAw, concCmp_rd _ _ _ _ (ord_ne _ hopA0), hAinfo] at hcA
    have hkA : cmpShift A0.op = 0 := by unfold cmpShift; rw [hAinfo]; rfl
    obtain ⟨hkT1, hkT2⟩ := cmpShift_sign T0.op
    have hrA_lt : A0.r < 2 ^ T0.w := by rw [← hAw]; exact hokA.r_lt
    obtain ⟨_, hiMin⟩ := rd_span (!(cmpInfo T0.op).2.2) T0.w hwpos
    have final : ∀ (lo hi : Int), bs2 = [(oT.t.lhs, some lo, some hi)] → InB T0.w (some lo) (some hi) vf → Sound env bs2 :=
      fun lo hi hb hin => hb ▸ sound_single env _ _ _ vf hvf (hwd ▸ hvflt) (hwd ▸ hin)
    by_cases hlt : (cmpInfo T0.op).1 = true
    · -- the truism bounds from above, its assumption from below
      simp only [hlt, Bool.not_true, if_true, Bool.false_eq_true, if_false] at hb1 hb2 hcT hcA
      rw [hb1, ← hsame] at hb2
      simp only [addUpper, addLower, if_true] at hb2
      exact final _ _ hb2 (InB_pair _ T0.w vf CT A0.r T0.r _ _ lminA lmaxT _ _ hwpos hvflt hCT hrA_lt hokT.r_lt hcA hcT
        (by omega) (hkT1 hlt) haxA hxbT hiMin (Int.le_refl _))
    · -- the truism bounds from below, its assumption from above
      have hlt' : (cmpInfo T0.op).1 = false := by simpa using hlt
      simp only [hlt', Bool.not_false, if_true, Bool.false_eq_true, if_false] at hb1 hb2 hcT hcA
      rw [hb1, ← hsame] at hb2
      simp only [addUpper, addLower, if_true] at hb2
      exact final _ _ hb2 (InB_pair _ T0.w vf CT T0.r A0.r _ _ lminT lmaxA _ _ hwpos hvflt hCT hokT.r_lt hrA_lt hcT hcA
        (hkT2 hlt') (by omega) haxT hxbA hiMin (Int.le_refl _))

theorem doit_pair_ord (op : CmpOp) (a b : BV) (bs : Bounds) (info : PathInfo) (oT oA : BalOut) (hoa : ExprOK anno env a)
    (hob : ExprOK anno env b) (hwab : wd a = wd b) (hord : uOrd op ∨ sOrd op)
    (hraw : sOrd op ∨ ((∀ r w, b = .const r w → isModLhs a = true) ∧ (∀ r w, a = .const r w → isModLhs b = true)))
    (h : doit anno (.cmp op a b) = .ok (.sat bs info)) (hmain : info.main = some oT) (hassum : info.assum = some oA)
    (hptT : oT.usedPt = false) (hptA : oA.usedPt = false) (hsame : oT.t.lhs = oA.t.lhs)
    (hsat : evalB env (.cmp op a b) = some true) : Sound env bs := by
  cases doit_run anno op a b _ h with
  | nothing => cases hmain
  | main ca cb t p1 hT hp1 => cases hassum
  | both ca cb t ta p1 p2 hT hp1 hA hp2 =>
    cases hmain; cases hassum
    obtain ⟨hokt, hht, hl⟩ := adjust_spec anno env hctx op a b ca cb t hoa hob hwab hT
    obtain ⟨hu, hsg, _⟩ := adjust_ord op a b ca cb t hT
    have hordt : uOrd t.op ∨ sOrd t.op := hord.imp hu hsg
    have hrawt : isModLhs t.lhs = true ∨ sOrd t.op := by
      rcases hraw with hs | ⟨hma, hmb⟩
      · exact Or.inr (hsg hs)
      · left
        rcases hl with ⟨⟨r, w, hb⟩, hl⟩ | ⟨⟨r, w, ha⟩, hl⟩
        · rw [hl]; exact hma r w hb
        · rw [hl (hmb r w ha)]; exact hmb r w ha
    exact pair_sound_ord anno env hctx hnrm t ta p1 p2 hokt hordt hrawt (hht hsat) hA hp1 hp2 hptT hptA hsame

end

end Claripy.VSA.Bal

import ClaripyProofs.Lemmas.VSA.ShiftSound
/-! `cast_low` and `extract`. -/
namespace Claripy.VSA

theorem ntzLoop_spec : ∀ (fuel x acc : Nat), ∃ j, ntzLoop fuel x acc = acc + j ∧ 2 ^ j ∣ x := by
  intro fuel
  induction fuel with
  | zero => intro x acc; exact ⟨0, rfl, Nat.one_dvd _⟩
  | succ f ih =>
    intro x acc
    unfold ntzLoop
    by_cases h : x % 2 = 1
    · rw [if_pos h]; exact ⟨0, rfl, Nat.one_dvd _⟩
    · rw [if_neg h]
      obtain ⟨j, hj1, hj2⟩ := ih (x / 2) (acc + 1)
      refine ⟨j + 1, by rw [hj1]; omega, ?_⟩
      have hx : x = 2 * (x / 2) := by omega
      rw [hx, Nat.pow_succ, Nat.mul_comm]
      exact Nat.mul_dvd_mul_left 2 hj2

theorem ntz_dvd (x : Nat) : 2 ^ ntz x ∣ x := by
  unfold ntz
  by_cases h : x = 0
  · rw [if_pos h]; exact Nat.one_dvd _
  · rw [if_neg h]
    obtain ⟨j, hj1, hj2⟩ := ntzLoop_spec x x 0
    rw [hj1, Nat.zero_add]; exact hj2

theorem mem_mod_low (M T lb x : Nat) (hT : T ∣ M) (hl : lb < M) (hx : x < M) :
    x % T = (lb + cd M lb x) % T := by
  have := eq_add_cd M lb x hl hx
  conv => lhs; rw [this]
  exact Nat.mod_mod_of_dvd _ hT

theorem add_mod_of_dvd (T lb d g : Nat) (hg : T ∣ g) (hd : g ∣ d) : (lb + d) % T = lb % T := by
  have : d % T = 0 := Nat.mod_eq_zero_of_dvd (Nat.dvd_trans hg hd)
  rw [Nat.add_mod, this, Nat.add_zero, Nat.mod_mod]

/-- aligned if the operand is: where the result keeps a stride it ends at the image of the upper bound -/
theorem castLow_good (s r : SI) (tok : Nat) (hs : s.WF) (ht0 : 0 < tok) (h : s.castLow tok = .ok r) :
    WFw tok r ∧ (s.bottom = false → s.Aligned → r.Aligned) ∧ ∀ x, s.mem x → r.mem (x % 2 ^ tok) := by
  have hwf := hs
  obtain ⟨h0, hl, hu, hst⟩ := hs
  have hM := Nat.two_pow_pos s.bits
  have hT := Nat.two_pow_pos tok
  unfold SI.castLow at h
  by_cases hgt : tok > s.bits
  · rw [if_pos hgt] at h; cases h
  rw [if_neg hgt] at h
  simp only [Nat.and_two_pow_sub_one_eq_mod] at h
  have hTM : 2 ^ tok ∣ 2 ^ s.bits := Nat.pow_dvd_pow 2 (by omega)
  have hfacts : ∀ x, s.mem x → ∃ d, d ≤ cd (2 ^ s.bits) s.lb s.ub ∧ s.stride ∣ d ∧ x % 2 ^ tok = (s.lb + d) % 2 ^ tok ∧
      x < 2 ^ s.bits ∧ d = cd (2 ^ s.bits) s.lb x := by
    intro x hx
    obtain ⟨_, hxl, h1, h2⟩ := mem_facts s x hwf hx
    exact ⟨_, h1, h2, mem_mod_low _ _ _ _ hTM hl hxl, hxl, rfl⟩
  -- a stride that is a multiple of `2^tok`: below `2^tok` all members agree with the lower bound
  have hsingle : 2 ^ tok ∣ s.stride → r = SI.new tok 0 ((s.lb % 2 ^ tok : Nat) : Int) ((s.lb % 2 ^ tok : Nat) : Int) →
      WFw tok r ∧ (s.bottom = false → s.Aligned → r.Aligned) ∧ ∀ x, s.mem x → r.mem (x % 2 ^ tok) := by
    intro hdvd hr
    rw [hr]
    refine ⟨⟨new_WF _ _ _ _ ht0 (fun _ => rfl), new_bits _ _ _ _⟩, fun _ _ => new_singleton_aligned _ _ _, ?_⟩
    intro x hx
    obtain ⟨d, _, hd2, hd3, _, _⟩ := hfacts x hx
    rw [hd3, add_mod_of_dvd _ _ _ _ hdvd hd2, mem_new, imod_nat, Nat.mod_mod]
    simp [cd_self, Nat.mod_lt _ hT]
  -- a non-wrapping span that fits below `2^tok` keeps its shape
  have hkeep : s.lb ≤ s.ub → s.ub - s.lb ≤ 2 ^ tok - 1 →
      r = SI.new tok s.stride ((s.lb % 2 ^ tok : Nat) : Int) ((s.ub % 2 ^ tok : Nat) : Int) →
      WFw tok r ∧ (s.bottom = false → s.Aligned → r.Aligned) ∧ ∀ x, s.mem x → r.mem (x % 2 ^ tok) := by
    intro hle hsp hr
    rw [hr]
    have hspan : cd (2 ^ s.bits) s.lb s.ub = s.ub - s.lb := cd_pos _ _ _ hle
    have hub : s.ub = s.lb + (s.ub - s.lb) := by omega
    have ecu : cd (2 ^ tok) (s.lb % 2 ^ tok) (s.ub % 2 ^ tok) = s.ub - s.lb := by
      conv => lhs; arg 3; rw [hub]
      exact cd_mod_add _ _ _ hT (by omega)
    suffices hm : ∀ x, s.mem x →
        (SI.new tok s.stride ((s.lb % 2 ^ tok : Nat) : Int) ((s.ub % 2 ^ tok : Nat) : Int)).mem (x % 2 ^ tok) by
      refine ⟨⟨new_WF _ _ _ _ ht0 (fun hz => by rw [hst.1 hz]), new_bits _ _ _ _⟩, fun hnb al => ?_, hm⟩
      apply new_aligned_of_mem
      rw [imod_nat, Nat.mod_mod]
      exact hm s.ub (mem_ub s hwf hnb al)
    intro x hx
    obtain ⟨d, hd1, hd2, hd3, _, _⟩ := hfacts x hx
    rw [hspan] at hd1
    rw [hd3, mem_new, imod_nat, imod_nat, Nat.mod_mod, Nat.mod_mod, ecu, cd_mod_add _ _ _ hT (by omega)]
    refine ⟨Nat.mod_lt _ hT, hd1, ?_⟩
    exact stride_cond _ _ hd2
  by_cases h1 : tok = s.bits
  · rw [if_pos h1] at h
    have : r = s.renorm := by cases h; rfl
    subst this
    refine ⟨by rw [h1]; exact renorm_WFw _ s ⟨hwf, rfl⟩, fun _ al => renorm_aligned s hwf al, ?_⟩
    intro x hx
    rw [h1, Nat.mod_eq_of_lt hx.2.1]
    exact (renorm_mem s hwf x).2 hx
  rw [if_neg h1] at h
  by_cases h2 : s.lb ≤ s.ub ∧ s.lb % 2 ^ tok = s.lb ∧ s.ub % 2 ^ tok = s.ub
  · rw [if_pos h2] at h
    obtain ⟨hle, hlt, hut⟩ := h2
    have hlT : s.lb < 2 ^ tok := by
      rw [← hlt]
      exact Nat.mod_lt _ hT
    have huT : s.ub < 2 ^ tok := by
      rw [← hut]
      exact Nat.mod_lt _ hT
    exact hkeep hle (by omega) (by rw [hlt, hut]; cases h; rfl)
  rw [if_neg h2] at h
  by_cases h3 : s.lb ≤ s.ub ∧ s.ub - s.lb ≤ 2 ^ tok - 1
  · rw [if_pos h3] at h
    exact hkeep h3.1 h3.2 (by cases h; rfl)
  rw [if_neg h3] at h
  by_cases h4 : s.ub % 2 ^ tok = s.lb % 2 ^ tok ∧ imod ((s.ub : Int) - s.lb) tok = 0 ∧ s.stride % 2 ^ tok = 0
  · rw [if_pos h4] at h
    exact hsingle (Nat.dvd_of_mod_eq_zero h4.2.2) (by cases h; rfl)
  rw [if_neg h4] at h
  have hnd := ntz_dvd s.stride
  generalize ntz s.stride = n at h hnd
  by_cases h5 : tok > n
  · rw [if_pos h5] at h
    have hr : r = { bits := tok, stride := 2 ^ n, lb := s.lb % 2 ^ n,
                    ub := 2 ^ n * ((maxInt tok - s.lb % 2 ^ n) / 2 ^ n) + s.lb % 2 ^ n } := by cases h; rfl
    subst hr
    have hN := Nat.two_pow_pos n
    have hNT : 2 ^ n ∣ 2 ^ tok := Nat.pow_dvd_pow 2 (by omega)
    have hlow : s.lb % 2 ^ n < 2 ^ n := Nat.mod_lt _ hN
    have hT2 : 2 * 2 ^ n ≤ 2 ^ tok := by
      rw [← Nat.pow_succ']
      exact Nat.pow_le_pow_right (by omega) h5
    generalize hlg : s.lb % 2 ^ n = lower at hlow
    unfold maxInt
    generalize hkg : (2 ^ tok - 1 - lower) / 2 ^ n = k
    have hlT : lower < 2 ^ tok := Nat.lt_of_lt_of_le hlow (Nat.le_of_dvd hT hNT)
    -- `k` is the largest multiple count that fits: `2^n * k + lower < 2^tok`, and at least one fits
    have huT : 2 ^ n * k + lower < 2 ^ tok := by
      have := Nat.mul_div_le (2 ^ tok - 1 - lower) (2 ^ n)
      rw [hkg] at this
      omega
    have hk2 : 1 ≤ k := by
      rw [← hkg]
      exact (Nat.le_div_iff_mul_le hN).2 (by omega)
    have hk3 : 2 ^ n ≤ 2 ^ n * k := Nat.le_mul_of_pos_right _ hk2
    refine ⟨⟨⟨ht0, hlT, huT, ?_⟩, rfl⟩, fun _ _ => ?_, ?_⟩
    · show (2 ^ n = 0 ↔ lower = 2 ^ n * k + lower)
      exact ⟨fun hh => absurd hh (Nat.ne_of_gt hN), fun hh => by omega⟩
    · apply aligned_of_dvd _ hlT huT
      show 2 ^ n ∣ cd (2 ^ tok) lower (2 ^ n * k + lower)
      rw [cd_pos _ _ _ (Nat.le_add_left _ _), Nat.add_sub_cancel]
      exact Nat.dvd_mul_right _ _
    · intro x hx
      obtain ⟨d, _, hd2, hd3, _, _⟩ := hfacts x hx
      have hzl : x % 2 ^ tok < 2 ^ tok := Nat.mod_lt _ hT
      have hzm : (x % 2 ^ tok) % 2 ^ n = lower := by
        rw [hd3, Nat.mod_mod_of_dvd _ hNT, add_mod_of_dvd _ _ _ _ hnd hd2, hlg]
      generalize x % 2 ^ tok = z at hzl hzm
      have hz : z = 2 ^ n * (z / 2 ^ n) + lower := by
        rw [← hzm]
        exact (Nat.div_add_mod z (2 ^ n)).symm
      generalize z / 2 ^ n = q at hz
      have hqk : q ≤ k := by
        rw [← hkg, Nat.le_div_iff_mul_le hN, Nat.mul_comm]
        exact Nat.le_sub_of_add_le (Nat.le_sub_one_of_lt (hz ▸ hzl))
      have hqk' : 2 ^ n * q ≤ 2 ^ n * k := Nat.mul_le_mul_left _ hqk
      rw [mem_iff _ _ hlT huT]
      show false = false ∧ z < 2 ^ tok ∧ cd (2 ^ tok) lower z ≤ cd (2 ^ tok) lower (2 ^ n * k + lower) ∧
        (if 2 ^ n = 0 then cd (2 ^ tok) lower z = 0 else cd (2 ^ tok) lower z % 2 ^ n = 0)
      rw [cd_pos _ _ _ (Nat.le_add_left _ _), Nat.add_sub_cancel, hz, cd_pos _ _ _ (Nat.le_add_left _ _),
        Nat.add_sub_cancel, if_neg (Nat.ne_of_gt hN)]
      exact ⟨rfl, hz ▸ hzl, hqk', Nat.mul_mod_right _ _⟩
  · rw [if_neg h5] at h
    exact hsingle (Nat.dvd_trans (Nat.pow_dvd_pow 2 (by omega)) hnd) (by cases h; rfl)

theorem castLow_sound (s r : SI) (tok : Nat) (hs : s.WF) (ht0 : 0 < tok) (h : s.castLow tok = .ok r) :
    WFw tok r ∧ ∀ x, s.mem x → r.mem (x % 2 ^ tok) :=
  have g := castLow_good s r tok hs ht0 h
  ⟨g.1, g.2.2⟩

theorem castLow_aligned (s r : SI) (tok : Nat) (hs : s.WF) (hnb : s.bottom = false) (ht0 : 0 < tok) (al : s.Aligned)
    (h : s.castLow tok = .ok r) : r.Aligned :=
  (castLow_good s r tok hs ht0 h).2.1 hnb al

theorem extract_good (s r : SI) (hi lo : Nat) (hs : s.WF) (hnb : s.bottom = false) (hlo : lo ≤ hi)
    (h : s.extract hi lo = .ok r) :
    Good (hi + 1 - lo) s.Aligned r ∧ ∀ x, s.mem x → r.mem (Conc.extract hi lo x) := by
  -- the second stage, from what the first guarantees of the shifted operand `r1`
  have stage2 : ∀ r1 : SI, (Good s.bits s.Aligned r1 ∧ ∀ x, s.mem x → r1.mem (x >>> lo)) →
      ((if hi + 1 - lo ≠ s.bits then r1.castLow (hi + 1 - lo) >>= fun ret => pure ret.renorm
        else pure r1 >>= fun ret => pure ret.renorm) : R SI) = .ok r →
      Good (hi + 1 - lo) s.Aligned r ∧ ∀ x, s.mem x → r.mem (Conc.extract hi lo x) := by
    intro r1 st1 h
    unfold Conc.extract
    by_cases hb : hi + 1 - lo ≠ s.bits
    · rw [if_pos hb] at h
      obtain ⟨r2, h2, h⟩ := bind_ok h
      cases pure_ok h
      obtain ⟨c1, c2, c3⟩ := castLow_good r1 r2 (hi + 1 - lo) st1.1.wf.1 (by omega) h2
      exact ⟨good_renorm _ _ r2 c1 (fun al => c2 (st1.2 _ (mem_lb s hs hnb)).1 (st1.1.aligned al)),
        fun x hx => (renorm_mem r2 c1.1 _).2 (c3 _ (st1.2 x hx))⟩
    · rw [if_neg hb] at h
      cases h
      have e : hi + 1 - lo = s.bits := by omega
      rw [e]
      refine ⟨st1.1.renorm, fun x hx => ?_⟩
      have hx1 := st1.2 x hx
      have hlt : x >>> lo < 2 ^ s.bits := by
        have := hx1.2.1
        rwa [st1.1.wf.2] at this
      rw [st1.1.nrm, Nat.mod_eq_of_lt hlt]
      exact hx1
  unfold SI.extract at h
  simp only [] at h
  by_cases hl0 : lo = 0
  · subst hl0
    rw [if_neg (by simp)] at h
    exact stage2 s.renorm ⟨good_renorm _ _ s ⟨hs, rfl⟩ id,
      fun x hx => by rw [Nat.shiftRight_zero]; exact (renorm_mem s hs x).2 hx⟩ h
  · rw [if_pos hl0] at h
    obtain ⟨r1, h1, h⟩ := bind_ok h
    unfold SI.rshiftLogicalRange at h1
    obtain ⟨g1, g2⟩ := overRange_good s.bits s.Aligned s rfl hs.1 lo lo _
      (fun k _ _ si hk => (rshiftLogicalK_good 62 k s si hs hnb hk).1) r1 h1
    obtain ⟨si, hsi, hsub⟩ := g2 lo (Nat.le_refl _) (Nat.le_refl _)
    exact stage2 r1 ⟨g1, fun x hx => hsub _ ((rshiftLogicalK_good 62 lo s si hs hnb hsi).2 x hx)⟩ h

theorem extract_sound (s r : SI) (hi lo : Nat) (hs : s.WF) (hnb : s.bottom = false) (hlo : lo ≤ hi) (_hhi : hi < s.bits)
    (h : s.extract hi lo = .ok r) :
    WFw (hi + 1 - lo) r ∧ ∀ x, s.mem x → r.mem (Conc.extract hi lo x) :=
  have g := extract_good s r hi lo hs hnb hlo h
  ⟨g.1.wf, g.2⟩

theorem extract_aligned (s r : SI) (hi lo : Nat) (hs : s.WF) (hnb : s.bottom = false) (hlo : lo ≤ hi) (_hhi : hi < s.bits)
    (al : s.Aligned) (h : s.extract hi lo = .ok r) : r.Aligned :=
  (extract_good s r hi lo hs hnb hlo h).1.aligned al

end Claripy.VSA

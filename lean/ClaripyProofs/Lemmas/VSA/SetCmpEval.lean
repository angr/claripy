import ClaripyProofs.Lemmas.VSA.SetLiftOps
import ClaripyProofs.Lemmas.VSA.Convert
import ClaripyProofs.Lemmas.VSA.Signed
import ClaripyProofs.Lemmas.VSA.Members
/-! Comparisons, the reflected operations and `eval` of `DiscreteStridedIntervalSet`: compositions of `collapse()`, the
liftings and the interval operations.  `dsis_eval` is about the values the loop of `eval(n)` draws from
(`DSIS.evalCandidates`), `dsis_eval_list` about the list it returns, for every recorded iteration order. -/
namespace Claripy.VSA

/- `Q` holds of the interval, or of every member interval of the set (of width `w`), that an abstract value is -/
def Vok (w : Nat) (Q : SI → Prop) : Val → Prop
  | .si s => Q s
  | .ds d => d.bits = w ∧ ∀ t, t ∈ d.sis → Q t

theorem Vok_mono (w : Nat) (P Q : SI → Prop) (hPQ : ∀ s, P s → Q s) (v : Val) (h : Vok w P v) : Vok w Q v := by
  cases v with
  | si s => exact hPQ s h
  | ds d => exact ⟨h.1, fun t ht => hPQ t (h.2 t ht)⟩

/-- a class of well-formed intervals of width `w` that `collapse()` of a set stays in -/
structure Closed (w : Nat) (Q : SI → Prop) : Prop where
  wf : ∀ s, Q s → WFw w s
  col : ∀ (d : DSIS) (r : SI), d.bits = w → (∀ s, s ∈ d.sis → Q s) → d.collapse = .ok r → Q r

theorem closed_WFw (w : Nat) (hw : 0 < w) : Closed w (WFw w) :=
  ⟨fun _ h => h, fun d r hb hP h => collapse_WFw w hw d r hb hP h⟩

theorem closed_nrm (w : Nat) (hw : 0 < w) : Closed w (fun s => WFw w s ∧ Nrm s) :=
  ⟨fun _ h => h.1, fun d r hb hP h => ⟨collapse_WFw w hw d r hb (fun s hs => (hP s hs).1) h, collapse_nrm w d r hP h⟩⟩

theorem closed_al (w : Nat) (hw : 0 < w) : Closed w (fun s => WFw w s ∧ Nrm s ∧ s.Aligned) :=
  ⟨fun _ h => h.1, fun d r hb hP h => ⟨collapse_WFw w hw d r hb (fun s hs => (hP s hs).1) h,
    collapse_nrm w d r (fun s hs => ⟨(hP s hs).1, (hP s hs).2.1⟩) h,
    collapse_aligned w d r (fun s hs => ⟨(hP s hs).1, (hP s hs).2.2⟩) h⟩⟩

theorem Closed.vcollapse {w : Nat} {Q : SI → Prop} (hQ : Closed w Q) (b : Val) (cb : SI) (hb : Vok w Q b)
    (h : b.collapse = .ok cb) : Q cb ∧ ∀ y, b.mem y → cb.mem y := by
  cases b with
  | si s => cases pure_ok h; exact ⟨hb, fun _ hy => hy⟩
  | ds d => exact ⟨hQ.col d cb hb.1 hb.2 h, collapse_sound (WFw w) (joinOK w) d cb (fun t ht => hQ.wf t (hb.2 t ht)) h⟩

theorem Closed.cmp {w : Nat} {Q : SI → Prop} (hQ : Closed w Q) (f : SI → SI → R BoolRes) (a : DSIS) (b : Val) (br : BoolRes)
    (ha : Vok w Q (.ds a)) (hb : Vok w Q b) (h : a.cmp f b = .ok br) :
    ∃ ca cb, f ca cb = .ok br ∧ Q ca ∧ Q cb ∧ (∀ x, a.mem x → ca.mem x) ∧ ∀ y, b.mem y → cb.mem y := by
  obtain ⟨cb, hcb, h⟩ := bind_ok h
  obtain ⟨ca, hca, h⟩ := bind_ok h
  obtain ⟨qa, ma⟩ := hQ.vcollapse (.ds a) ca ha hca
  obtain ⟨qb, mb⟩ := hQ.vcollapse b cb hb hcb
  exact ⟨ca, cb, h, qa, qb, ma, mb⟩

theorem dsis_ucmp (w : Nat) (hw : 0 < w) (op : CmpOp) (hop : op = .ult ∨ op = .ule ∨ op = .ugt ∨ op = .uge)
    (a : DSIS) (b : Val) (br : BoolRes) (ha : Vok w (WFw w) (.ds a)) (hb : Vok w (WFw w) b)
    (h : a.cmp (fun ca cb => applyCmp op { si := ca } { si := cb }) b = .ok br)
    (x y : Nat) (hx : a.mem x) (hy : b.mem y) : br.has (concCmp op w x y) = true := by
  obtain ⟨ca, cb, h, wa, wb, ma, mb⟩ := (closed_WFw w hw).cmp _ a b br ha hb h
  have := ucmp_sound op hop { si := ca } { si := cb } br wa.1 wb.1 h x y (ma x hx) (mb y hy)
  rwa [show ({ si := ca } : AV).si.bits = w from wa.2] at this

theorem dsis_scmp (w : Nat) (hw : 0 < w) (op : CmpOp) (hop : op = .slt ∨ op = .sle ∨ op = .sgt ∨ op = .sge)
    (a : DSIS) (b : Val) (br : BoolRes) (ha : Vok w (fun s => WFw w s ∧ Nrm s) (.ds a))
    (hb : Vok w (fun s => WFw w s ∧ Nrm s) b)
    (h : a.cmp (fun ca cb => applyCmp op { si := ca } { si := cb }) b = .ok br)
    (x y : Nat) (hx : a.mem x) (hy : b.mem y) : br.has (concCmp op w x y) = true := by
  obtain ⟨ca, cb, h, qa, qb, ma, mb⟩ := (closed_nrm w hw).cmp _ a b br ha hb h
  have := scmp_sound op hop { si := ca } { si := cb } br qa.1.1 qb.1.1 (qa.1.2.trans qb.1.2.symm) qa.2 qb.2 h x y
    (ma x hx) (mb y hy)
  rwa [show ({ si := ca } : AV).si.bits = w from qa.1.2] at this

/-- `SI.eq` is `eqNamed` on operands without names; alignment and normal form are what the interval meet asks. -/
theorem eq_sound (w : Nat) (a b : SI) (br : BoolRes) (x y : Nat) (ha : WFw w a) (hb : WFw w b)
    (ala : a.Aligned) (alb : b.Aligned) (na : Nrm a) (nb : Nrm b) (hx : a.mem x) (hy : b.mem y)
    (h : a.eq b = .ok br) : br.has (decide (x = y)) = true :=
  eqNamed_has (fun _ => 0) { si := a } { si := b } br x y ha.1 hb.1 ⟨hx, trivial⟩ ⟨hy, trivial⟩
    (fun _ m z hm hz1 hz2 => ((meet_sound w a b m ha hb hx.1 hy.1 ala alb na nb hm).2 z hz1 hz2).1) h

theorem dsis_eq (w : Nat) (hw : 0 < w) (a : DSIS) (b : Val) (br : BoolRes)
    (ha : Vok w (fun s => WFw w s ∧ Nrm s ∧ s.Aligned) (.ds a)) (hb : Vok w (fun s => WFw w s ∧ Nrm s ∧ s.Aligned) b)
    (h : a.cmp SI.eq b = .ok br) (x y : Nat) (hx : a.mem x) (hy : b.mem y) :
    br.has (decide (x = y)) = true ∧ br.not.has (decide (x ≠ y)) = true := by
  obtain ⟨ca, cb, h, qa, qb, ma, mb⟩ := (closed_al w hw).cmp _ a b br ha hb h
  have key := eq_sound w ca cb br x y qa.1 qb.1 qa.2.2 qb.2.2 qa.2.1 qb.2.1 (ma x hx) (mb y hy) h
  exact ⟨key, by simpa using brNot_has br _ key⟩

theorem Wrap.vok {bits : Nat} {l : List SI} {v : Val} (hW : Wrap bits l v) (P : SI → Prop) (hP : ∀ s, s ∈ l → P s)
    (hcol : ∀ r, DSIS.collapse { bits := bits, sis := l } = .ok r → P r) : Vok bits P v := by
  cases hW with
  | set => exact ⟨rfl, hP⟩
  | one s hs => exact hP s (by rw [hs]; exact List.mem_cons_self)
  | col r hr => exact hcol r hr

theorem finishSet_P (wr : Nat) (P : SI → Prop) (results : List SI) (order : List Nat) (v : Val)
    (hcol : ∀ (d : DSIS) (r : SI), d.bits = wr → (∀ s, s ∈ results → s ∈ d.sis) → (∀ s, s ∈ d.sis → P s) →
      d.collapse = .ok r → P r)
    (hbits : ∀ s, s ∈ results → s.bits = wr)
    (hP : ∀ s, s ∈ results → P s) (h : finishSet wr results order = .ok v) : Vok wr P v := by
  obtain ⟨l, hl, hW⟩ := finishSet_wrap wr results order v h
  have hPl : ∀ s, s ∈ l → P s := fun s hs => hP s ((hl s).1 hs)
  have hb : setBits wr l = wr := by
    cases l with
    | nil => rfl
    | cons q qs => exact hbits q ((hl q).1 List.mem_cons_self)
  rw [hb] at hW
  exact hW.vok P hPl (fun r hr => hcol _ r rfl (fun s hs => (hl s).2 hs) hPl hr)

theorem finishSet_WF (wr : Nat) (hw : 0 < wr) (results : List SI) (order : List Nat) (v : Val)
    (hP : ∀ s, s ∈ results → WFw wr s) (h : finishSet wr results order = .ok v) : Vok wr (WFw wr) v :=
  finishSet_P wr (WFw wr) results order v (fun d r hdb _ hd hc => collapse_WFw wr hw d r hdb hd hc)
    (fun s hs => (hP s hs).2) hP h

theorem dsis_rsub (w : Nat) (hw : 0 < w) (a : DSIS) (o : SI) (order1 order2 : List Nat) (v : Val) (hab : a.bits = w)
    (ha : ∀ s, s ∈ a.sis → NE w s) (ho : NE w o) (h : a.rsub o order1 order2 = .ok v)
    (x y : Nat) (hx : a.mem x) (hy : o.mem y) : v.mem ((y + 2 ^ w - x) % 2 ^ w) := by
  have hM := Nat.two_pow_pos w
  obtain ⟨n, hn, h⟩ := bind_ok h
  have hnm := dsis_neg w a order1 n ha hn x hx
  have hxl : x < 2 ^ w := by
    obtain ⟨s, hs, hsx⟩ := hx
    have := hsx.2.1; rwa [(ha s hs).bits] at this
  have hyl : y < 2 ^ w := by have := hy.2.1; rwa [ho.bits] at this
  have hnW : Vok w (WFw w) n := by
    obtain ⟨L, hL, hn⟩ := bind_ok hn
    rw [hab] at hn
    refine finishSet_WF w hw L order1 n ?_ hn
    intro r hr
    obtain ⟨s', hs', hsr⟩ := mapM_ok_mem_rev _ _ _ hL r hr
    have : r = s'.neg := by cases hsr; rfl
    subst this
    obtain ⟨c1, c2⟩ := neg_WF s' (ha s' hs').wf
    exact ⟨c1, by rw [c2, (ha s' hs').bits]⟩
  have hval : ((2 ^ w - x) % 2 ^ w + y) % 2 ^ w = (y + 2 ^ w - x) % 2 ^ w := by
    by_cases hx0 : x = 0
    · subst hx0
      rw [Nat.sub_zero, Nat.mod_self, Nat.zero_add, Nat.sub_zero, Nat.add_mod_right]
    · have e : 2 ^ w - x + y = y + 2 ^ w - x := by omega
      rw [Nat.mod_eq_of_lt (by omega : 2 ^ w - x < 2 ^ w), e]
  cases n with
  | si s =>
    have hv := pure_ok h
    subst hv
    have hs : WFw w s := hnW
    have := add_sound s o _ y (by rw [hs.2, ho.bits]) hs.1 ho.wf hnm hy
    rw [hs.2, hval] at this
    exact this
  | ds d =>
    have hdW : ∀ t, t ∈ d.sis → WFw w t := hnW.2
    have hoW : ∀ t, t ∈ [o] → WFw w t := fun t ht => by rw [List.mem_singleton.1 ht]; exact ⟨ho.wf, ho.bits⟩
    have key := dsis_add (WFw w) (joinOK w) w d [o] order2 v hdW hoW
      (fun s t hs ht => (hdW s hs).2 ▸ add_WF s t (hdW s hs).1 (hoW t ht).1 ((hdW s hs).2.trans (hoW t ht).2.symm))
      h _ y hnm ⟨o, List.mem_cons_self, hy⟩
    rwa [hval] at key

theorem dsis_rudiv (w : Nat) (hw : 0 < w) (a : DSIS) (o : SI) (order : List Nat) (r : SI) (hab : a.bits = w)
    (ha : ∀ s, s ∈ a.sis → WFw w s) (ho : NE w o) (h : a.rudiv o order = .ok r)
    (x y : Nat) (hx : a.mem x) (hy : o.mem y) (hx0 : x ≠ 0) : r.mem (y / x) := by
  obtain ⟨c, hc, h⟩ := bind_ok h
  obtain ⟨wc, mc⟩ := (closed_WFw w hw).vcollapse (.ds a) c ⟨hab, ha⟩ hc
  exact (udiv_sound o c r order ho.wf wc.1 (by rw [ho.bits, wc.2]) ho.nb (mc x hx).1 h).2 y x hy (mc x hx) hx0

theorem dsis_rmod (w : Nat) (hw : 0 < w) (a : DSIS) (o : SI) (r : SI) (hab : a.bits = w)
    (ha : ∀ s, s ∈ a.sis → WFw w s) (ho : NE w o) (h : a.rmod o = .ok r)
    (x y : Nat) (hx : a.mem x) (hy : o.mem y) (hx0 : x ≠ 0) : r.mem (y % x) := by
  obtain ⟨c, hc, h⟩ := bind_ok h
  obtain ⟨wc, mc⟩ := (closed_WFw w hw).vcollapse (.ds a) c ⟨hab, ha⟩ hc
  exact (mod_sound_full w o c r ⟨ho.wf, ho.bits⟩ wc ho.nb (mc x hx).1 h).2 y x hy (mc x hx) hx0

theorem eval_sub (s : SI) (n : Nat) (li : List Int) (hs : s.WF) (hnb : s.bottom = false) (h : s.eval n false = .ok li)
    (v : Int) (hv : v ∈ li) : ∃ x : Nat, v = (x : Int) ∧ s.mem x := by
  rw [eval_exact s n li hs hnb h] at hv
  obtain ⟨x, hx, hxv⟩ := List.mem_map.1 hv
  exact ⟨x, hxv.symm, (mem_members s hs x).1 (List.mem_of_mem_take hx)⟩

theorem dsis_eval (d : DSIS) (n : Nat) (l : List Int) (hd : ∀ s, s ∈ d.sis → s.WF ∧ s.bottom = false)
    (h : d.evalCandidates n = .ok l) :
    (∀ v, v ∈ l → ∃ x : Nat, v = (x : Int) ∧ d.mem x) ∧
    ((∀ s, s ∈ d.sis → s.members.length ≤ n) → ∀ x, d.mem x → (x : Int) ∈ l) := by
  obtain ⟨ls, hls, h⟩ := bind_ok h
  have hl := pure_ok h
  subst hl
  constructor
  · intro v hv
    obtain ⟨li, hli, hvi⟩ := List.mem_flatten.1 hv
    obtain ⟨s, hs, hsl⟩ := mapM_ok_mem_rev _ _ _ hls li hli
    obtain ⟨x, hxv, hm⟩ := eval_sub s n li (hd s hs).1 (hd s hs).2 hsl v hvi
    exact ⟨x, hxv, s, hs, hm⟩
  · intro hn x ⟨s, hs, hsx⟩
    obtain ⟨li, hli, hsl⟩ := mapM_ok_mem _ _ _ hls s hs
    exact List.mem_flatten.2 ⟨li, hli, mem_map_take s (hd s hs).1 _ n li (eval_exact s n li (hd s hs).1 (hd s hs).2 hsl)
      (hn s hs) x hsx⟩

theorem dedupeInts_mem (l : List Int) (v : Int) : v ∈ dedupeInts l ↔ v ∈ l :=
  (mem_foldl_addNew (fun _ _ h => List.contains_iff_mem.1 h) l [] v).trans (by simp)

theorem permuteInts_mem (l l' : List Int) (order : List Nat) (h : permuteInts l order = some l') (v : Int)
    (hv : v ∈ l') : v ∈ l := by
  unfold permuteInts at h
  split at h
  · cases h
  · cases h; exact (mem_reorder l order ‹_› v).1 hv

theorem evalGather_mem (n : Nat) (ss : List SI) (acc r : List Int) (h : evalGather n ss acc = .ok r) (v : Int)
    (hv : v ∈ r) : v ∈ acc ∨ ∃ s, s ∈ ss ∧ ∃ li, s.eval n false = .ok li ∧ v ∈ li := by
  induction ss generalizing acc with
  | nil =>
    have := pure_ok h
    subst this
    exact Or.inl hv
  | cons s ss ih =>
    obtain ⟨li, hli, h⟩ := bind_ok h
    have split : v ∈ dedupeInts (acc ++ li) → v ∈ acc ∨ ∃ s', s' ∈ s :: ss ∧ ∃ li, s'.eval n false = .ok li ∧ v ∈ li := by
      intro hm
      rcases List.mem_append.1 ((dedupeInts_mem _ v).1 hm) with hm | hm
      · exact Or.inl hm
      · exact Or.inr ⟨s, List.mem_cons_self, li, hli, hm⟩
    split at h
    · have := pure_ok h
      subst this
      exact split hv
    · rcases ih _ h with hm | ⟨s', hs', li', hli', hm⟩
      · exact split hm
      · exact Or.inr ⟨s', List.mem_cons_of_mem _ hs', li', hli', hm⟩

theorem dsis_eval_list (d : DSIS) (n : Nat) (order : List Nat) (l : List Int)
    (hd : ∀ s, s ∈ d.sis → s.WF ∧ s.bottom = false) (h : d.eval n order = .ok l) :
    (∀ v, v ∈ l → ∃ x : Nat, v = (x : Int) ∧ d.mem x) ∧ l.length ≤ n := by
  obtain ⟨vals, hvals, h⟩ := bind_ok h
  split at h
  · exact absurd h (by intro h'; cases h')
  · rename_i p hp
    have hl := pure_ok h
    subst hl
    refine ⟨?_, List.length_take_le n p⟩
    intro v hv
    have hv' : v ∈ vals := permuteInts_mem vals p order hp v (List.mem_of_mem_take hv)
    rcases evalGather_mem n d.sis [] vals hvals v hv' with hm | ⟨s, hs, li, hsl, hm⟩
    · exact absurd hm (by simp)
    · obtain ⟨x, hxv, hmx⟩ := eval_sub s n li (hd s hs).1 (hd s hs).2 hsl v hm
      exact ⟨x, hxv, s, hs, hmx⟩

end Claripy.VSA

/-! Elementary facts about `|||` on naturals, split into the part above bit `k` (`z / 2^k`) and the part below
(`z % 2^k`).  Used by the Warren bounds (`Warren.lean`) and the bitwise transfer functions.
First the two case principles for `if … then … else` (`ite_ind'`, `ite_ind`). -/
namespace Claripy.VSA

theorem ite_ind' {α : Type} {c : Prop} [Decidable c] (P : α → Prop) (x y : α) (hx : c → P x) (hy : ¬ c → P y) :
    P (if c then x else y) := by
  split
  · exact hx ‹_›
  · exact hy ‹_›

theorem ite_ind {α : Type} {c : Prop} [Decidable c] (P : α → Prop) (x y : α) (hx : P x) (hy : P y) :
    P (if c then x else y) :=
  ite_ind' P x y (fun _ => hx) (fun _ => hy)

theorem or_div_pow (x y k : Nat) : (x ||| y) / 2 ^ k = x / 2 ^ k ||| y / 2 ^ k := by
  rw [← Nat.shiftRight_eq_div_pow, ← Nat.shiftRight_eq_div_pow, ← Nat.shiftRight_eq_div_pow]
  exact Nat.shiftRight_or_distrib

theorem div_succ_pow (z k : Nat) : z / 2 ^ (k + 1) = z / 2 ^ k / 2 := by
  rw [Nat.div_div_eq_div_mul, Nat.pow_succ]

theorem testBit_iff (z k : Nat) : z.testBit k = true ↔ z / 2 ^ k % 2 = 1 := by
  rw [Nat.testBit_eq_decide_div_mod_eq]; simp

theorem testBit_false_iff (z k : Nat) : z.testBit k = false ↔ z / 2 ^ k % 2 = 0 := by
  rw [Nat.testBit_eq_decide_div_mod_eq]
  have := Nat.mod_two_eq_zero_or_one (z / 2 ^ k)
  constructor
  · intro h; simp at h; omega
  · intro h; simp [h]

theorem le_of_div_eq (P R Z : Nat) (h1 : R / P = Z / P) (h2 : R % P ≤ Z % P) : R ≤ Z := by
  have e1 := Nat.div_add_mod R P
  have e2 := Nat.div_add_mod Z P
  rw [h1] at e1
  omega

theorem le_of_div_le_mod_max (P R Z : Nat) (hP : 0 < P) (h1 : R / P ≤ Z / P) (h2 : Z % P = P - 1) : R ≤ Z := by
  rcases Nat.lt_or_ge (R / P) (Z / P) with h | h
  · exact Nat.le_of_lt (Nat.lt_of_div_lt_div h)
  · apply le_of_div_eq P R Z (by omega)
    have := Nat.mod_lt R hP
    omega

theorem mod_le_of_div_eq (P c y : Nat) (h1 : c ≤ y) (h2 : c / P = y / P) : c % P ≤ y % P := by
  have e1 := Nat.div_add_mod c P
  have e2 := Nat.div_add_mod y P
  rw [h2] at e1
  omega

theorem or_mod_two (u v : Nat) : (u ||| v) % 2 = if u % 2 = 1 ∨ v % 2 = 1 then 1 else 0 := by
  have h := @Nat.or_mod_two_pow u v 1
  simp only [Nat.pow_one] at h
  rw [h]
  rcases Nat.mod_two_eq_zero_or_one u with hu | hu <;> rcases Nat.mod_two_eq_zero_or_one v with hv | hv <;>
    simp [hu, hv]

theorem or_eq_half (u v : Nat) : u ||| v = 2 * (u / 2 ||| v / 2) + (if u % 2 = 1 ∨ v % 2 = 1 then 1 else 0) := by
  have := Nat.div_add_mod (u ||| v) 2
  rw [Nat.or_div_two, or_mod_two] at this
  exact this.symm

theorem or_one_even (u : Nat) (h : u % 2 = 0) : u ||| 1 = u + 1 := by
  rw [or_eq_half]
  simp [h]
  omega

theorem or_zero_right (u : Nat) : u ||| 0 = u := Nat.or_zero u

theorem or_ones (v k : Nat) (hv : v < 2 ^ k) : v ||| (2 ^ k - 1) = 2 ^ k - 1 := by
  apply Nat.eq_of_testBit_eq
  intro i
  rw [Nat.testBit_or, Nat.testBit_two_pow_sub_one]
  by_cases hi : i < k
  · simp [hi]
  · have : v < 2 ^ i := Nat.lt_of_lt_of_le hv (Nat.pow_le_pow_right (by omega) (by omega))
    simp [hi, Nat.testBit_lt_two_pow this]

theorem mul_or_low (h l k : Nat) (hl : l < 2 ^ k) : h * 2 ^ k ||| l = h * 2 ^ k + l := by
  rw [← Nat.shiftLeft_eq]
  exact (Nat.shiftLeft_add_eq_or_of_lt hl h).symm

/-- the mask of the bits `w ≤ i < nl` -/
theorem mask_eq (w nl : Nat) (h : w ≤ nl) : 2 ^ nl - 2 ^ w = 2 ^ w * (2 ^ (nl - w) - 1) := by
  have e : 2 ^ nl = 2 ^ w * 2 ^ (nl - w) := by rw [← Nat.pow_add]; congr 1; omega
  rw [e, Nat.mul_sub, Nat.mul_one]

theorem or_mask (v w nl : Nat) (hv : v < 2 ^ w) (h : w ≤ nl) : v ||| (2 ^ nl - 2 ^ w) = v + (2 ^ nl - 2 ^ w) := by
  rw [mask_eq w nl h, Nat.or_comm, ← Nat.two_pow_add_eq_or_of_lt hv, Nat.add_comm]

end Claripy.VSA

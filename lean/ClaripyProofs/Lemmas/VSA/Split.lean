import ClaripyProofs.Lemmas.VSA.Good
/-! Parts of an interval between two offsets from its lower bound (`subarc_mem`, `cut_shape`); the split at a pole
(`splitAt`, `Piece`, `splitAt_spec`); the code `_ssplit` and `_nsplit` share, computed for a pole `P` (`cutAt_eq`); `_ssplit` is
the split at the south pole (`ssplit_eq`): its pieces do not wrap and cover the members (`ssplit_pieces`).  A value that grows
with the distance along arcs not crossing a pole (`Along`). -/
namespace Claripy.VSA

theorem dvd_gap (s a b : Nat) (ha : s ∣ a) (hb : s ∣ b) (h : a < b) : a + s ≤ b := by
  obtain ⟨i, hi⟩ := ha
  obtain ⟨j, hj⟩ := hb
  subst hi; subst hj
  by_cases hs : s = 0
  · subst hs; simp at h
  · have hsp : 0 < s := Nat.pos_of_ne_zero hs
    have hij : i < j := Nat.lt_of_mul_lt_mul_left h
    calc s * i + s = s * (i + 1) := by rw [Nat.mul_add, Nat.mul_one]
      _ ≤ s * j := Nat.mul_le_mul_left _ hij

theorem new_congr (b s : Nat) (l u l' u' : Int) (h1 : imod l b = imod l' b) (h2 : imod u b = imod u' b) :
    SI.new b s l u = SI.new b s l' u' := by
  rw [new_eq, new_eq, h1, h2]

theorem mem_nowrap (w : Nat) (p : SI) (hp : WFw w p) (hle : p.lb ≤ p.ub) (x : Nat) (hx : p.mem x) :
    p.lb ≤ x ∧ x ≤ p.ub ∧ p.stride ∣ x - p.lb := by
  obtain ⟨hw, hb⟩ := hp
  obtain ⟨_, hxl, h1, h2⟩ := mem_facts p x hw hx
  rw [cd_pos _ _ _ hle] at h1
  have hu := hw.2.2.1
  have hlx : p.lb ≤ x := by
    rcases cd_split _ p.lb x hw.2.1 with ⟨_, h⟩ | ⟨_, h⟩ <;> omega
  rw [cd_pos _ _ _ hlx] at h1 h2
  exact ⟨hlx, by omega, h2⟩

theorem mem_between (p : SI) (w : Nat) (hp : WFw w p) (hle : p.lb ≤ p.ub) (x : Nat) (hx : p.mem x) :
    p.lb ≤ x ∧ x ≤ p.ub :=
  have h := mem_nowrap w p hp hle x hx
  ⟨h.1, h.2.1⟩

theorem renorm_bounds_nowrap (s : SI) (hs : s.WF) (hnb : s.bottom = false) (hle : s.lb ≤ s.ub) :
    s.renorm.lb = s.lb ∧ s.renorm.ub = s.ub := by
  rw [renorm_new s hnb]
  exact new_bounds_nowrap _ _ _ _ hs.2.2.1 hle

theorem renorm_le (s : SI) (hs : s.WF) (hnb : s.bottom = false) (hle : s.lb ≤ s.ub) : s.renorm.lb ≤ s.renorm.ub := by
  obtain ⟨h1, h2⟩ := renorm_bounds_nowrap s hs hnb hle
  rw [h1, h2]
  exact hle

theorem new_stride_dvd (b s : Nat) (l u : Int) : (SI.new b s l u).stride = 0 ∨ (SI.new b s l u).stride = s := by
  rw [new_eq]
  split
  · left; rfl
  · split <;> (right; rfl)

/-- The part of `s` between the offsets `a ≤ b` from its lower bound (`a` a multiple of the stride), cut out as an
interval `[p, q]` of the same stride: its members are the members of `s` at offsets from `a` to `b`.  Both splits
(`_ssplit`, `_nsplit`) return such parts. -/
theorem subarc_mem (s : SI) (hw : s.WF) (hnb : s.bottom = false) (hsne : s.stride ≠ 0) (p q a b x : Nat)
    (hp : p < 2 ^ s.bits) (hq : q < 2 ^ s.bits) (ha : cd (2 ^ s.bits) s.lb p = a) (hb : cd (2 ^ s.bits) s.lb q = b)
    (hab : a ≤ b) (hbs : b ≤ cd (2 ^ s.bits) s.lb s.ub) (hda : s.stride ∣ a) :
    (SI.new s.bits s.stride p q).mem x ↔
      s.mem x ∧ a ≤ cd (2 ^ s.bits) s.lb x ∧ cd (2 ^ s.bits) s.lb x ≤ b := by
  obtain ⟨_, hl, hu, _⟩ := hw
  have hblt : b < 2 ^ s.bits := hb ▸ cd_lt _ _ _ hl hq
  have hpq : cd (2 ^ s.bits) p q = b - a := by rw [cd_between _ s.lb p q hl hp hq (by omega), ha, hb]
  rw [mem_new, imod_of_lt _ _ hp, imod_of_lt _ _ hq, mem_iff s x hl hu, if_neg hsne, if_neg hsne, hpq]
  constructor
  · rintro ⟨hx, h1, h2⟩
    rw [cd_rel _ s.lb p x hl hp hx, ha] at h1 h2
    by_cases hle : a ≤ cd (2 ^ s.bits) s.lb x
    · rw [cd_pos _ _ _ hle] at h1 h2
      have hd := Nat.dvd_add (Nat.dvd_of_mod_eq_zero h2) hda
      rw [Nat.sub_add_cancel hle] at hd
      have hxb := (Nat.sub_le_sub_iff_right hab).1 h1
      exact ⟨⟨hnb, hx, Nat.le_trans hxb hbs, Nat.mod_eq_zero_of_dvd hd⟩, hle, hxb⟩
    · rw [cd_neg _ _ _ hle] at h1
      omega
  · rintro ⟨⟨_, hx, _, h2⟩, hle, hle2⟩
    rw [cd_rel _ s.lb p x hl hp hx, ha, cd_pos _ _ _ hle]
    exact ⟨hx, Nat.sub_le_sub_right hle2 a, Nat.mod_eq_zero_of_dvd (Nat.dvd_sub (Nat.dvd_of_mod_eq_zero h2) hda)⟩

theorem ssplit_nowrap (X : SI) (h : ¬ X.ub < X.lb) : X.ssplit = .ok [X.renorm] := by
  unfold SI.ssplit; rw [if_neg h]; rfl

/-! `_ssplit` and `_nsplit` are one construction, `splitAt s P`: if the arc passes from `P` to its successor it is cut behind
the offset of `P`.  What the pieces guarantee is proved once, for every `P` (`splitAt_spec`). -/

/-- cut `s` behind the offset `D` from its lower bound: `[lb, lb + K]` with `K` the last multiple of the stride up to
`D`, and, if the arc goes on for another stride, `[lb + K + stride, ub]` -/
def cutAt (s : SI) (D : Nat) : List SI :=
  if D - D % s.stride + s.stride > cd (2 ^ s.bits) s.lb s.ub then
    [SI.new s.bits s.stride (s.lb : Int) (((s.lb + (D - D % s.stride)) % 2 ^ s.bits : Nat) : Int)]
  else
    [SI.new s.bits s.stride (s.lb : Int) (((s.lb + (D - D % s.stride)) % 2 ^ s.bits : Nat) : Int),
     SI.new s.bits s.stride (((s.lb + (D - D % s.stride) + s.stride) % 2 ^ s.bits : Nat) : Int) (s.ub : Int)]

def splitAt (s : SI) (P : Nat) : List SI :=
  if cd (2 ^ s.bits) s.lb P < cd (2 ^ s.bits) s.lb s.ub then cutAt s (cd (2 ^ s.bits) s.lb P) else [s.renorm]

theorem pure_ite {α : Type} (c : Prop) [Decidable c] (a b : α) :
    (if c then (pure a : R α) else pure b) = .ok (if c then a else b) := by
  split <;> rfl

/-- `_ssplit` and `_nsplit` cut with the same code, at the south and at the north pole: `au` is Python's integer
`a_upper_bound` (the last member up to the pole `P`, which may lie one turn below), `nx` the lower bound it gives the second
piece -/
theorem cutAt_eq (s : SI) (hw : s.WF) (P : Nat) (hP : P < 2 ^ s.bits) (au nx : Int)
    (hau : au = (P : Int) - ((cd (2 ^ s.bits) s.lb P % s.stride : Nat) : Int))
    (hnx : imod nx s.bits = imod (au + (s.stride : Int)) s.bits) :
    (if modSub au s.lb s.bits + s.stride > modSub s.ub s.lb s.bits then [SI.new s.bits s.stride s.lb au]
      else [SI.new s.bits s.stride s.lb au, SI.new s.bits s.stride nx s.ub]) = cutAt s (cd (2 ^ s.bits) s.lb P) := by
  obtain ⟨_, hl, hu, _⟩ := hw
  have hrle : cd (2 ^ s.bits) s.lb P % s.stride ≤ cd (2 ^ s.bits) s.lb P := Nat.mod_le _ _
  have hDlt := cd_lt _ _ _ hl hP
  unfold cutAt
  generalize hD : cd (2 ^ s.bits) s.lb P = D at *
  -- `au` and `lb + K` differ by a multiple `j` of `2^w`: `lb + D` is the pole or the pole plus `2^w`
  obtain ⟨j, hj⟩ : ∃ j : Int, au = ((s.lb + (D - D % s.stride) : Nat) : Int) + j * ((2 ^ s.bits : Nat) : Int) := by
    rcases cd_split (2 ^ s.bits) s.lb P hl with ⟨_, h⟩ | ⟨_, h⟩
    · exact ⟨0, by omega⟩
    · exact ⟨-1, by omega⟩
  have e2 : modSub au (s.lb : Int) s.bits = D - D % s.stride := by
    rw [← Nat.mod_eq_of_lt (show D - D % s.stride < 2 ^ s.bits by omega)]
    exact imod_shift _ j _ _ (by rw [hj]; push_cast; omega)
  rw [e2, modSub_nat _ _ _ hu hl,
    new_congr _ _ _ au _ (((s.lb + (D - D % s.stride)) % 2 ^ s.bits : Nat) : Int) rfl
      (by rw [imod_shift _ j _ _ hj, imod_nat]; exact (Nat.mod_mod _ _).symm),
    new_congr _ _ nx _ (((s.lb + (D - D % s.stride) + s.stride) % 2 ^ s.bits : Nat) : Int) _
      (by rw [hnx, imod_shift _ j (s.lb + (D - D % s.stride) + s.stride) _ (by rw [hj]; push_cast; omega), imod_nat]
          exact (Nat.mod_mod _ _).symm) rfl]

/-- `p` is one of the pieces `s` is cut into at the pole `P`: a non-empty sub-arc of `s`, `Good`, that does not cross `P` -/
structure Piece (s : SI) (P : Nat) (p : SI) : Prop where
  good : Good s.bits s.Aligned p
  nb : p.bottom = false
  stride : p.stride = 0 ∨ p.stride = s.stride
  sub : ∀ x, p.mem x → s.mem x
  nocross : ¬ Crosses (2 ^ s.bits) P p.lb p.ub
  arc : cd (2 ^ s.bits) s.lb p.lb ≤ cd (2 ^ s.bits) s.lb p.ub ∧ cd (2 ^ s.bits) s.lb p.ub ≤ cd (2 ^ s.bits) s.lb s.ub

/-- The cut of an arc that crosses the pole `P`: the last multiple `K` of the stride up to the offset of `P` is reached at
`ak`; if the arc goes on for another stride, the rest starts at `bl`.  Neither part crosses the pole, and the constructor
keeps the bounds of both. -/
theorem cut_shape (s : SI) (hw : s.WF) (hsne : s.stride ≠ 0) (P : Nat) (hP : P < 2 ^ s.bits)
    (hc : cd (2 ^ s.bits) s.lb P < cd (2 ^ s.bits) s.lb s.ub) :
    ∃ K ak, s.stride ∣ K ∧ K ≤ cd (2 ^ s.bits) s.lb s.ub ∧ ak < 2 ^ s.bits ∧ cd (2 ^ s.bits) s.lb ak = K ∧
      ¬ Crosses (2 ^ s.bits) P s.lb ak ∧
      (SI.new s.bits s.stride s.lb ak).lb = s.lb ∧ (SI.new s.bits s.stride s.lb ak).ub = ak ∧
      ((cd (2 ^ s.bits) s.lb s.ub < K + s.stride ∧
          cutAt s (cd (2 ^ s.bits) s.lb P) = [SI.new s.bits s.stride s.lb ak]) ∨
        ∃ bl, bl < 2 ^ s.bits ∧ cd (2 ^ s.bits) s.lb bl = K + s.stride ∧ K + s.stride ≤ cd (2 ^ s.bits) s.lb s.ub ∧
          ¬ Crosses (2 ^ s.bits) P bl s.ub ∧
          (SI.new s.bits s.stride bl s.ub).lb = bl ∧ (SI.new s.bits s.stride bl s.ub).ub = s.ub ∧
          cutAt s (cd (2 ^ s.bits) s.lb P) = [SI.new s.bits s.stride s.lb ak, SI.new s.bits s.stride bl s.ub]) := by
  obtain ⟨_, hl, hu, _⟩ := hw
  have hm := Nat.two_pow_pos s.bits
  have hspanlt := cd_lt _ _ _ hl hu
  unfold cutAt
  generalize hD : cd (2 ^ s.bits) s.lb P = D at hc ⊢
  have hK1 : s.stride ∣ D - D % s.stride := Nat.dvd_sub_mod _
  have hK2 : D < D - D % s.stride + s.stride := by
    rw [← Nat.sub_add_comm (Nat.mod_le D s.stride)]
    exact Nat.lt_sub_of_add_lt (Nat.add_lt_add_left (Nat.mod_lt D (Nat.pos_of_ne_zero hsne)) D)
  have hK3 : D - D % s.stride ≤ D := Nat.sub_le _ _
  generalize D - D % s.stride = K at hK1 hK2 hK3 ⊢
  have hcdA : cd (2 ^ s.bits) s.lb ((s.lb + K) % 2 ^ s.bits) = K := cd_add_right _ _ _ hl (by omega)
  have hak := Nat.mod_lt (s.lb + K) hm
  obtain ⟨hA1, hA2⟩ := new_bounds_of_cd s.bits s.stride s.lb _ hl hak (by omega)
  refine ⟨K, _, hK1, by omega, hak, hcdA, ?_, hA1, hA2, ?_⟩
  · unfold Crosses
    omega
  by_cases hbr : K + s.stride > cd (2 ^ s.bits) s.lb s.ub
  · exact Or.inl ⟨hbr, if_pos hbr⟩
  have hle : K + s.stride ≤ cd (2 ^ s.bits) s.lb s.ub := Nat.le_of_not_gt hbr
  have hcdB : cd (2 ^ s.bits) s.lb ((s.lb + K + s.stride) % 2 ^ s.bits) = K + s.stride := by
    rw [Nat.add_assoc]
    exact cd_add_right _ _ _ hl (by omega)
  have hbl := Nat.mod_lt (s.lb + K + s.stride) hm
  have hcdBu := cd_between _ _ _ _ hl hbl hu (by omega)
  have h1 : 1 ≤ K + s.stride := Nat.le_trans (Nat.pos_of_ne_zero hsne) (Nat.le_add_left _ _)
  obtain ⟨hB1, hB2⟩ := new_bounds_of_cd s.bits s.stride _ s.ub hbl hu (by
    rw [hcdBu, hcdB]
    exact Nat.lt_of_le_of_lt (Nat.sub_le_sub_left h1 _) (Nat.sub_lt_sub_right (Nat.le_trans h1 hle) hspanlt))
  refine Or.inr ⟨_, hbl, hcdB, hle, ?_, hB1, hB2, if_neg hbr⟩
  -- seen from `bl`, the pole lies almost a full circle ahead
  unfold Crosses
  rw [hcdBu, cd_rel _ s.lb _ P hl hbl hP, hcdB, hD, cd_neg _ _ _ (by omega)]
  exact Nat.not_lt.2 (Nat.sub_le_sub_right (Nat.le_trans (Nat.le_of_lt hspanlt) (Nat.le_add_left _ _)) _)

theorem cutAt_spec (s : SI) (hw : s.WF) (hnb : s.bottom = false) (P : Nat) (hP : P < 2 ^ s.bits)
    (hc : cd (2 ^ s.bits) s.lb P < cd (2 ^ s.bits) s.lb s.ub) :
    (∀ p, p ∈ cutAt s (cd (2 ^ s.bits) s.lb P) → Piece s P p) ∧
      ∀ x, s.mem x → ∃ p, p ∈ cutAt s (cd (2 ^ s.bits) s.lb P) ∧ p.mem x := by
  have hl := hw.2.1
  have hu := hw.2.2.1
  have hsne : s.stride ≠ 0 := by
    intro h
    rw [← hw.2.2.2.1 h, cd_self] at hc
    omega
  obtain ⟨K, ak, hK1, hKs, hak, hcdA, hnA, hA1, hA2, hcut⟩ := cut_shape s hw hsne P hP hc
  have hwf : ∀ l u : Int, WFw s.bits (SI.new s.bits s.stride l u) := fun l u =>
    ⟨new_WF _ _ _ _ hw.1 (fun h => absurd h hsne), new_bits _ _ _ _⟩
  have hAmem := fun x => subarc_mem s hw hnb hsne s.lb ak 0 K x hl hak (cd_self _ _) hcdA (Nat.zero_le _) hKs
    (Nat.dvd_zero _)
  have hA : Piece s P (SI.new s.bits s.stride s.lb ak) :=
    ⟨⟨hwf _ _, nrm_new _ _ _ _ hw.1, fun _ => aligned_new _ _ _ _ hl hak (hcdA ▸ hK1)⟩, new_bottom _ _ _ _,
      new_stride_dvd _ _ _ _, fun x hx => ((hAmem x).1 hx).1, by rw [hA1, hA2]; exact hnA,
      by rw [hA1, hA2, cd_self, hcdA]; exact ⟨Nat.zero_le _, hKs⟩⟩
  rcases hcut with ⟨hbr, hcut⟩ | ⟨bl, hbl, hcdB, hle, hnB, hB1, hB2, hcut⟩
  · rw [hcut]
    refine ⟨fun p hp => by rw [List.mem_singleton.1 hp]; exact hA, fun x hx => ?_⟩
    obtain ⟨_, _, hx1, hx2⟩ := mem_facts s x hw hx
    refine ⟨_, List.mem_cons_self, (hAmem x).2 ⟨hx, Nat.zero_le _, ?_⟩⟩
    by_cases hle : cd (2 ^ s.bits) s.lb x ≤ K
    · exact hle
    · have := dvd_gap _ _ _ hK1 hx2 (by omega)
      omega
  · rw [hcut]
    have hBmem := fun x => subarc_mem s hw hnb hsne bl s.ub (K + s.stride) _ x hbl hu hcdB rfl hle (Nat.le_refl _)
      (Nat.dvd_add hK1 (Nat.dvd_refl _))
    have hBp : Piece s P (SI.new s.bits s.stride bl s.ub) := by
      refine ⟨⟨hwf _ _, nrm_new _ _ _ _ hw.1, fun al => aligned_new _ _ _ _ hbl hu ?_⟩, new_bottom _ _ _ _,
        new_stride_dvd _ _ _ _, fun x hx => ((hBmem x).1 hx).1, by rw [hB1, hB2]; exact hnB,
        by rw [hB1, hB2, hcdB]; exact ⟨hle, Nat.le_refl _⟩⟩
      rw [cd_between _ _ _ _ hl hbl hu (by omega), hcdB]
      exact Nat.dvd_sub (aligned_dvd s hw al) (Nat.dvd_add hK1 (Nat.dvd_refl _))
    refine ⟨fun p hp => ?_, fun x hx => ?_⟩
    · rcases List.mem_cons.1 hp with h | h
      · rw [h]; exact hA
      · rw [List.mem_singleton.1 h]; exact hBp
    · obtain ⟨_, _, hx1, hx2⟩ := mem_facts s x hw hx
      by_cases hle' : cd (2 ^ s.bits) s.lb x ≤ K
      · exact ⟨_, List.mem_cons_self, (hAmem x).2 ⟨hx, Nat.zero_le _, hle'⟩⟩
      · have hgap := dvd_gap _ _ _ hK1 hx2 (by omega)
        exact ⟨_, List.mem_cons_of_mem _ List.mem_cons_self, (hBmem x).2 ⟨hx, hgap, hx1⟩⟩

/-- `hn`: when the arc does not cross, `renorm` keeps its bounds (void for the south pole: `renorm_bounds_nowrap`;
constructor-normal form of `s` for the north pole, since `renorm` rewrites a full circle `[l, l - 1]` of stride 1 to
`[0, 2^w - 1]`, which crosses it). -/
theorem splitAt_spec (s : SI) (hw : s.WF) (hnb : s.bottom = false) (P : Nat) (hP : P < 2 ^ s.bits)
    (hn : ¬ Crosses (2 ^ s.bits) P s.lb s.ub → s.renorm.lb = s.lb ∧ s.renorm.ub = s.ub) :
    (∀ p, p ∈ splitAt s P → Piece s P p) ∧ ∀ x, s.mem x → ∃ p, p ∈ splitAt s P ∧ p.mem x := by
  unfold splitAt
  by_cases hc : cd (2 ^ s.bits) s.lb P < cd (2 ^ s.bits) s.lb s.ub
  · rw [if_pos hc]
    exact cutAt_spec s hw hnb P hP hc
  · rw [if_neg hc]
    refine ⟨fun p hp => ?_, fun x hx => ⟨_, List.mem_cons_self, (renorm_mem s hw x).2 hx⟩⟩
    rw [List.mem_singleton.1 hp]
    exact ⟨good_renorm _ _ s ⟨hw, rfl⟩ id, by rw [renorm_new s hnb]; exact new_bottom _ _ _ _,
      by rw [renorm_new s hnb]; exact new_stride_dvd _ _ _ _, fun x hx => (renorm_mem s hw x).1 hx,
      by rw [(hn hc).1, (hn hc).2]; exact hc, by rw [(hn hc).1, (hn hc).2, cd_self]; exact ⟨Nat.zero_le _, Nat.le_refl _⟩⟩

theorem ssplit_eq (s : SI) (hw : s.WF) : s.ssplit = .ok (splitAt s (2 ^ s.bits - 1)) := by
  have hm := Nat.two_pow_pos s.bits
  have hl := hw.2.1
  have hc := crosses_south (2 ^ s.bits) s.lb s.ub hl hw.2.2.1
  unfold Crosses at hc
  unfold splitAt
  by_cases hwrap : s.ub < s.lb
  · have hsne : s.stride ≠ 0 := fun h => by have := hw.2.2.2.1 h; omega
    have hD : cd (2 ^ s.bits) s.lb (2 ^ s.bits - 1) = 2 ^ s.bits - 1 - s.lb := cd_pos _ _ _ (by omega)
    unfold SI.ssplit
    rw [if_pos hwrap, if_neg hsne, if_pos (hc.2 hwrap)]
    simp only []
    rw [pure_ite, cutAt_eq s hw (2 ^ s.bits - 1) (by omega)
      ((maxInt s.bits : Nat) - (((maxInt s.bits : Nat) : Int) - s.lb) % (s.stride : Int)) _ (by
        have e1 : ((maxInt s.bits : Nat) : Int) - (s.lb : Int) = ((2 ^ s.bits - 1 - s.lb : Nat) : Int) := by
          unfold maxInt; omega
        rw [e1, ← Int.natCast_emod, hD]; rfl)
      (by unfold modAdd; rw [imod_nat, Nat.mod_eq_of_lt (imod_lt _ _)])]
  · rw [if_neg (fun h => hwrap (hc.1 h)), ssplit_nowrap s hwrap]

theorem Piece.le {s p : SI} (h : Piece s (2 ^ s.bits - 1) p) : p.lb ≤ p.ub :=
  Nat.le_of_not_gt fun h' => h.nocross ((crosses_south (2 ^ s.bits) p.lb p.ub h.good.lb_lt h.good.ub_lt).2 h')

theorem splitAt_south (s : SI) (hw : s.WF) (hnb : s.bottom = false) :
    (∀ p, p ∈ splitAt s (2 ^ s.bits - 1) → Piece s (2 ^ s.bits - 1) p) ∧
      ∀ x, s.mem x → ∃ p, p ∈ splitAt s (2 ^ s.bits - 1) ∧ p.mem x := by
  have hm := Nat.two_pow_pos s.bits
  refine splitAt_spec s hw hnb (2 ^ s.bits - 1) (by omega) (fun hc => ?_)
  have : ¬ s.ub < s.lb := fun h' => hc ((crosses_south _ _ _ hw.2.1 hw.2.2.1).2 h')
  exact renorm_bounds_nowrap s hw hnb (by omega)

theorem ssplit_pieces (s : SI) (hw : s.WF) (hnb : s.bottom = false) :
    ∃ ps, s.ssplit = .ok ps ∧ (∀ p, p ∈ ps → Piece s (2 ^ s.bits - 1) p) ∧ ∀ x, s.mem x → ∃ p, p ∈ ps ∧ p.mem x :=
  ⟨_, ssplit_eq s hw, splitAt_south s hw hnb⟩

theorem ssplit_spec (s : SI) (hw : s.WF) (hnb : s.bottom = false) :
    ∃ ps, s.ssplit = .ok ps ∧
      (∀ p, p ∈ ps → WFw s.bits p ∧ p.bottom = false ∧ p.lb ≤ p.ub ∧ (p.stride = 0 ∨ p.stride = s.stride)) ∧
      (∀ x, s.mem x → ∃ p, p ∈ ps ∧ p.mem x) ∧
      (∀ p, p ∈ ps → ∀ x, p.mem x → s.mem x) := by
  obtain ⟨ps, hps, hprop, hcov⟩ := ssplit_pieces s hw hnb
  exact ⟨ps, hps, fun p hp => ⟨(hprop p hp).good.wf, (hprop p hp).nb, (hprop p hp).le, (hprop p hp).stride⟩, hcov,
    fun p hp => (hprop p hp).sub⟩

theorem unsignedBounds_eq (s : SI) (ps : List SI) (hps : s.ssplit = .ok ps) :
    s.unsignedBounds = .ok (ps.map fun p => ((p.lb : Int), (p.ub : Int))) := by
  unfold SI.unsignedBounds
  rw [hps]
  rfl

/-! The unsigned value of `x` is its distance from `0`, the signed value its distance from `2^(w-1)` less `2^(w-1)`: both
grow with the distance walked along an arc that does not pass from the point before that origin to the origin. -/

def Along (v : Nat → Int) (m a u : Nat) : Prop := ∀ d, d ≤ cd m a u → v ((a + d) % m) = v a + (d : Int)

theorem Along.eq {v : Nat → Int} {m a u x : Nat} (hv : Along v m a u) (ha : a < m) (hx : x < m)
    (hd : cd m a x ≤ cd m a u) : v x = v a + (cd m a x : Int) := by
  have := hv _ hd
  rwa [← eq_add_cd m a x ha hx] at this

theorem Along.between {v : Nat → Int} {m a u x : Nat} (hv : Along v m a u) (ha : a < m) (hu : u < m) (hx : x < m)
    (hd : cd m a x ≤ cd m a u) : v a ≤ v x ∧ v x ≤ v u := by
  have h1 := hv.eq ha hx hd
  have h2 := hv.eq ha hu (Nat.le_refl _)
  omega

theorem along_of_cd (v : Nat → Int) (m P o : Nat) (c : Int) (ho : o < m) (hPo : P + 1 = o ∨ (P + 1 = m ∧ o = 0))
    (hv : ∀ x, x < m → v x = (cd m o x : Int) + c) (a u : Nat) (ha : a < m) (hu : u < m) (hn : ¬ Crosses m P a u) :
    Along v m a u := by
  intro d hd
  have hx := Nat.mod_lt (a + d) (show 0 < m by omega)
  have hc := cd_add_right m a d ha (Nat.lt_of_le_of_lt hd (cd_lt m a u ha hu))
  rw [hv _ hx, hv a ha, cd_along m P o a u _ ho hPo ha hu hx hn (by rw [hc]; exact hd), hc]
  omega

theorem along_unsigned (m : Nat) (hm : 0 < m) (a u : Nat) (ha : a < m) (hu : u < m) (hn : ¬ Crosses m (m - 1) a u) :
    Along (fun x => (x : Int)) m a u :=
  along_of_cd _ m (m - 1) 0 0 hm (Or.inr ⟨by omega, rfl⟩) (fun x _ => by rw [cd_zero, Int.add_zero]) a u ha hu hn

theorem pieces_enclose (v : Nat → Int) (s : SI) (P : Nat) (ps : List SI) (hprop : ∀ p, p ∈ ps → Piece s P p)
    (hcov : ∀ x, s.mem x → ∃ p, p ∈ ps ∧ p.mem x)
    (hv : ∀ a u, a < 2 ^ s.bits → u < 2 ^ s.bits → ¬ Crosses (2 ^ s.bits) P a u → Along v (2 ^ s.bits) a u)
    (x : Nat) (hx : s.mem x) : ∃ b, b ∈ ps.map (fun p => (v p.lb, v p.ub)) ∧ b.1 ≤ v x ∧ v x ≤ b.2 := by
  obtain ⟨p, hp, hpx⟩ := hcov x hx
  have hg := (hprop p hp).good
  obtain ⟨hxl, hx1, _⟩ := arc_facts _ p x hg.wf hpx
  exact ⟨_, List.mem_map.2 ⟨p, hp, rfl⟩,
    (hv _ _ hg.lb_lt hg.ub_lt (hprop p hp).nocross).between hg.lb_lt hg.ub_lt hxl hx1⟩

/-- the shape of `_ssplit` on a wrapping interval: a first piece starting at the lower bound, possibly a second one ending
at the upper bound; both are constructor results -/
theorem ssplit_wrap_shape (s : SI) (hw : s.WF) (hwrap : s.ub < s.lb) :
    ∃ A, (s.ssplit = .ok [A] ∨ ∃ B, s.ssplit = .ok [A, B] ∧ B.renorm = B ∧ B.ub = s.ub ∧ B.lb ≤ B.ub) ∧
      A.renorm = A ∧ A.lb = s.lb ∧ A.lb ≤ A.ub := by
  have hl := hw.2.1
  have hu := hw.2.2.1
  have hc := (crosses_south _ _ _ hl hu).2 hwrap
  unfold Crosses at hc
  have hsne : s.stride ≠ 0 := by
    intro h
    have := hw.2.2.2.1 h
    omega
  have hm := Nat.two_pow_pos s.bits
  obtain ⟨K, ak, _, _, hak, _, hnA, hA1, hA2, hcut⟩ := cut_shape s hw hsne _ (by omega) hc
  have hsp := ssplit_eq s hw
  unfold splitAt at hsp
  rw [if_pos hc] at hsp
  -- a part that does not cross the south pole does not wrap
  have hle : s.lb ≤ ak := Nat.le_of_not_gt fun h => hnA ((crosses_south _ _ _ hl hak).2 h)
  refine ⟨SI.new s.bits s.stride s.lb ak, ?_, new_renorm _ _ _ _ hw.1, hA1, by rw [hA1, hA2]; exact hle⟩
  rcases hcut with ⟨_, hcut⟩ | ⟨bl, hbl, _, _, hnB, hB1, hB2, hcut⟩
  · exact Or.inl (hcut ▸ hsp)
  · have hblu : bl ≤ s.ub := Nat.le_of_not_gt fun h => hnB ((crosses_south _ _ _ hbl hu).2 h)
    exact Or.inr ⟨_, hcut ▸ hsp, new_renorm _ _ _ _ hw.1, hB2, by rw [hB1, hB2]; exact hblu⟩

end Claripy.VSA

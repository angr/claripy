import ClaripyProofs.Lemmas.VSA.MeetMain
/-! Soundness of `_multi_valued_intersection` per shape of its result (`MeetShape`: one result on the single common arc, two
results for mutual overlap, none), singleton operands, `intersection`. -/
namespace Claripy.VSA

theorem meet_single_geo (w : Nat) (s b X Y : SI) (U : Nat) (hs : WFw w s) (hb : WFw w b) (hsb : s.bottom = false)
    (hbb : b.bottom = false) (hsA : s.Aligned) (hbA : b.Aligned) (hss : s.stride ≠ 0) (hbs : b.stride ≠ 0)
    (hXY : (X = s ∧ Y = b) ∨ (X = b ∧ Y = s)) (hU : U < 2 ^ w) (hnc : NoCross s b)
    (hgeo : ∀ x n, cd (2 ^ w) s.lb x ≤ cd (2 ^ w) s.lb s.ub → cd (2 ^ w) s.lb n ≤ cd (2 ^ w) s.lb s.ub →
      cd (2 ^ w) (cd (2 ^ w) s.lb b.lb) (cd (2 ^ w) s.lb x) ≤ cd (2 ^ w) (cd (2 ^ w) s.lb b.lb) (cd (2 ^ w) s.lb b.ub) →
      cd (2 ^ w) (cd (2 ^ w) s.lb b.lb) (cd (2 ^ w) s.lb n) ≤ cd (2 ^ w) (cd (2 ^ w) s.lb b.lb) (cd (2 ^ w) s.lb b.ub) →
      (cd (2 ^ w) s.lb n ≤ cd (2 ^ w) s.lb x ∨
        cd (2 ^ w) (cd (2 ^ w) s.lb b.lb) (cd (2 ^ w) s.lb n) ≤ cd (2 ^ w) (cd (2 ^ w) s.lb b.lb) (cd (2 ^ w) s.lb x)) →
      cd (2 ^ w) s.lb n ≤ cd (2 ^ w) s.lb x ∧
        cd (2 ^ w) (cd (2 ^ w) s.lb b.lb) (cd (2 ^ w) s.lb n) ≤ cd (2 ^ w) (cd (2 ^ w) s.lb b.lb) (cd (2 ^ w) s.lb x) ∧
        cd (2 ^ w) (cd (2 ^ w) s.lb n) (cd (2 ^ w) s.lb x) ≤ cd (2 ^ w) (cd (2 ^ w) s.lb n) (cd (2 ^ w) s.lb U))
    (o : Option Int) (r : SI) (hm : minimalCommonInteger X Y = .ok o)
    (hf : meetFin w (Nat.lcm s.stride b.stride) o U = .ok r) (x : Nat) (hx : s.mem x) (hy : b.mem x) : r.mem x := by
  refine meet_single_tp w s b X Y U hs hb hsb hbb (aligned_two s hs.1 hsA) (aligned_two b hb.1 hbA) hss hbs hXY hU hnc
    (lockOK_of_rot w s b hs hb U hU fun x' n' h1 h2 => ?_) o r hm hf x hx hy
  -- every position on the arc of `s` is the distance of a point from `s.lb`
  have hS := cd_lt _ _ _ hs.lb_lt hs.ub_lt
  have := hgeo ((s.lb + x') % 2 ^ w) ((s.lb + n') % 2 ^ w)
  rw [cd_add_right _ _ _ hs.lb_lt (Nat.lt_of_le_of_lt h1 hS), cd_add_right _ _ _ hs.lb_lt (Nat.lt_of_le_of_lt h2 hS)] at this
  exact this h1 h2

/-- the interval `[s.lb, u]` with the stride of `s` built in the mutual-overlap configuration keeps its bounds (a
normal `s` whose arc reaches `s.lb - 1` is the full circle `[0, 2^w - 1]`) -/
theorem c3_bounds (w : Nat) (s : SI) (u : Nat) (hs : WFw w s) (hsb : s.bottom = false) (ns : Nrm s) (hu : u < 2 ^ w)
    (hsur : cd (2 ^ w) s.lb u ≤ cd (2 ^ w) s.lb s.ub) :
    (SI.new w s.stride (s.lb : Int) (u : Int)).lb = s.lb ∧ (SI.new w s.stride (s.lb : Int) (u : Int)).ub = u := by
  have hsl := hs.lb_lt; have hsu := hs.ub_lt
  rcases new_bounds_or w s.stride s.lb u hsl hu with h | ⟨h1, h2, h3, h4⟩
  · exact h
  · -- the arc of `s` reaches `s.lb - 1`: it is the whole circle, so `s = [0, 2^w - 1]`, and `u` is its end
    have c1 := (cd_eq_pred_iff _ _ _ hsl hu).2 h1
    have c2 := cd_lt _ _ _ hsl hsu
    have h5 := (cd_eq_pred_iff _ _ _ hsl hsu).1 (by omega)
    obtain ⟨e1, _⟩ := (nrm_iff s hs.1 hsb).1 ns h2 (by rw [hs.2]; exact h5)
    rw [succ_mod_cases _ _ hu, e1] at h1
    rw [h3, h4, e1]
    split_ifs at h1 <;> omega

/-- mutual overlap (each arc contains both bounds of the other, neither surrounds the other): a common member on the arc
`[s.lb, b.ub]` is in the result built from the first common member of `X = [s.lb, b.ub]` (with the stride of `s`) and `b`.
`X` and `b` have one common arc, since `b.lb` does not lie on `X`. -/
theorem meet_mutual_arc (w : Nat) (s b : SI) (hs : WFw w s) (hb : WFw w b) (hsb : s.bottom = false) (hbb : b.bottom = false)
    (Hb : b.ub < b.lb → TwoPieces b) (ns : Nrm s) (hss : s.stride ≠ 0) (hbs : b.stride ≠ 0)
    (h4 : sur s b.lb ∧ sur s b.ub ∧ sur b s.lb ∧ sur b s.ub) (nG : ¬ G s b)
    (o : Option Int) (r : SI) (hm : minimalCommonInteger (SI.new w s.stride (s.lb : Int) (b.ub : Int)) b = .ok o)
    (hf : meetFin w (Nat.lcm s.stride b.stride) o b.ub = .ok r) (x : Nat) (hx : s.mem x) (hy : b.mem x)
    (hA : cd (2 ^ w) s.lb x ≤ cd (2 ^ w) s.lb b.ub) : r.mem x := by
  have hw0 := hs.pos
  have hsl := hs.lb_lt; have hsu := hs.ub_lt; have hbl := hb.lb_lt; have hbu := hb.ub_lt
  have hqp := cfg_C3 _ _ _ _ (cd_lt (2 ^ w) s.lb s.ub hsl hsu) (cd_lt (2 ^ w) s.lb b.lb hsl hbl) (cd_lt (2 ^ w) s.lb b.ub hsl hbu)
    ((four_rot w s b hs hb).1 h4) (mt (G_rot_sb w s b hs hb).2 nG)
  have a2 := (sur_s_iff w s hs b.ub).1 h4.2.1
  have b3 : cd (2 ^ w) b.lb s.lb ≤ cd (2 ^ w) b.lb b.ub := by
    have := h4.2.2.1; unfold sur at this; rwa [hb.2] at this
  obtain ⟨hxl, _, hxsd⟩ := arc_facts w s x hs hx
  obtain ⟨bl0, bu0⟩ := c3_bounds w s b.ub hs hsb ns hbu a2
  have hXw : WFw w (SI.new w s.stride (s.lb : Int) (b.ub : Int)) := new_WF_nz w _ _ _ hw0 hss
  have lk : LockOK w (SI.new w s.stride (s.lb : Int) (b.ub : Int)) b b.ub := by
    refine lockOK_single w _ b hXw hb b.ub (Or.inl (fun h => ?_)) (Or.inr rfl)
    have := h.1
    unfold sur at this
    rw [hXw.2, bl0, bu0] at this
    omega
  have hxX := mem_new_of w _ _ _ x hsl hbu hxl hA hxsd
  apply meet_call w s b _ b b.ub x o r hss hbs hXw hb (new_bottom _ _ _ _) hbb ?_ (fun hh => Or.inl (Hb hh)) ?_
    hm hf hbu hxX hy
  · intro n mx my hnl f1 f2
    obtain ⟨d1, d2, d3⟩ := lk x n hxX hy mx my f1 f2
    refine ⟨?_, d2, d3⟩
    -- `X` has the stride of `s`, or is the single value `s.lb` with stride `0`
    rcases new_stride_dvd w s.stride (s.lb : Int) (b.ub : Int) with e | e
    · rw [e] at d1
      rw [Nat.eq_zero_of_zero_dvd d1]; exact Nat.dvd_zero _
    · rw [e] at d1
      exact d1
  · intro hh
    rw [bl0, bu0] at hh
    exact Or.inr ⟨Hb (wraps_of_sur _ _ _ _ hbl hbu hsl b3 hh), by rw [bl0]; exact hh⟩
  · unfold NoCross; rw [bl0, bu0]; omega

theorem multiMeet_shape_sound (w : Nat) (s b : SI) (hs : WFw w s) (hb : WFw w b) (hsb : s.bottom = false)
    (hbb : b.bottom = false) (Hs : s.ub < s.lb → TwoPieces s) (Hb : b.ub < b.lb → TwoPieces b) (ns : Nrm s) (nb : Nrm b)
    (l : List SI) (sh : MeetShape w s b l) : ∀ x, s.mem x → b.mem x → ∃ r, r ∈ l ∧ r.mem x := by
  have hsl := hs.lb_lt; have hsu := hs.ub_lt; have hbl := hb.lb_lt; have hbu := hb.ub_lt
  have hSl := cd_lt (2 ^ w) s.lb s.ub hsl hsu
  have hpl := cd_lt (2 ^ w) s.lb b.lb hsl hbl
  have hql := cd_lt (2 ^ w) s.lb b.ub hsl hbu
  intro x hx hy
  obtain ⟨hxl, hxs, _⟩ := arc_facts w s x hs hx
  obtain ⟨_, hxb, _⟩ := arc_facts w b x hb hy
  have rx := (le_rot _ s.lb b.lb b.ub x hsl hbl hbu hxl).1 hxb
  rcases sh with ⟨c, v, hv, _, hl, hc⟩ | ⟨hp, X, Y, U, o, r, hl, hXY, hU, hm, hf, cfg⟩ |
    ⟨hp, o0, o1, r0, r1, hl, four, nG1, nG2, hm0, hm1, hf0, hf1⟩ | ⟨hl, h1, h3⟩
  · obtain ⟨h1, h2⟩ := hc x hx hy
    refine ⟨_, by rw [hl]; exact List.mem_cons_self, ?_⟩
    rw [if_pos h1, h2]
    exact const_mem v w hv
  · subst hl
    have hss : s.stride ≠ 0 := fun h0 => hp.1 (hs.1.2.2.2.1 h0)
    have hbs : b.stride ≠ 0 := fun h0 => hp.2 (hb.1.2.2.2.1 h0)
    have hUl : U < 2 ^ w := by
      rcases hU with e | e
      · rw [e]; exact hsu
      · rw [e]; exact hbu
    have key : NoCross s b ∧ LockOK w s b U := by
      rcases cfg with ⟨ht, e⟩ | ⟨ht, e⟩ | one
      · obtain ⟨hnw, lk⟩ := lockOK_top w s b hs hb hbb nb ht
        exact ⟨fun hc => hnw hc.2.1, e ▸ lk⟩
      · obtain ⟨hnw, lk⟩ := lockOK_top w b s hb hs hsb ns ht
        exact ⟨fun hc => hnw hc.1, e ▸ lockOK_symm w s b _ lk⟩
      · refine ⟨?_, lockOK_single w s b hs hb U one hU⟩
        rcases one with n4 | hG | hG
        · exact nocross_of_not4 w s b hs hb n4
        · exact nocross_of_G w s b hs hb (Or.inl hG)
        · exact nocross_of_G w s b hs hb (Or.inr hG)
    exact ⟨r, List.mem_cons_self, meet_single_tp w s b X Y U hs hb hsb hbb Hs Hb hss hbs hXY hUl key.1 key.2 o r hm hf x hx hy⟩
  · subst hl
    have hss : s.stride ≠ 0 := fun h0 => hp.1 (hs.1.2.2.2.1 h0)
    have hbs : b.stride ≠ 0 := fun h0 => hp.2 (hb.1.2.2.2.1 h0)
    have r4w := (four_rot w s b hs hb).1 four
    have rG1 := mt (G_rot_sb w s b hs hb).2 nG1
    rcases geo_C3c _ _ _ _ _ hSl hpl hql (Nat.lt_of_le_of_lt hxs hSl) r4w rG1 hxs rx with hA | hB
    · exact ⟨r0, List.mem_cons_self, meet_mutual_arc w s b hs hb hsb hbb Hb ns hss hbs four nG1 o0 r0 hm0 hf0 x hx hy hA⟩
    · rw [Nat.lcm_comm] at hf1
      exact ⟨r1, List.mem_cons_of_mem _ List.mem_cons_self,
        meet_mutual_arc w b s hb hs hbb hsb Hs nb hbs hss ⟨four.2.2.1, four.2.2.2, four.1, four.2.1⟩ nG2 o1 r1 hm1 hf1 x hy hx
          ((le_rot _ s.lb b.lb s.ub x hsl hbl hsu hxl).2 hB)⟩
  · exact (geo_none _ _ _ _ _ (fun hh => h1 ((sur_s_iff w s hs b.lb).2 hh)) (fun hh => h3 ((sur_b_sl w s b hs hb).2 hh)) hxs rx).elim

theorem multiMeet_sound_tp (w : Nat) (s b : SI) (hs : WFw w s) (hb : WFw w b) (hsb : s.bottom = false)
    (hbb : b.bottom = false) (Hs : s.ub < s.lb → TwoPieces s) (Hb : b.ub < b.lb → TwoPieces b) (ns : Nrm s) (nb : Nrm b)
    (l : List SI) (h : s.multiMeet b = .ok l) :
    (∀ r, r ∈ l → WFw w r) ∧ ∀ x, s.mem x → b.mem x → ∃ r, r ∈ l ∧ r.mem x :=
  ⟨multiMeet_WF w s b hs hb hsb hbb l h,
    multiMeet_shape_sound w s b hs hb hsb hbb Hs Hb ns nb l (multiMeet_shape w s b hs hb hsb hbb l h)⟩

theorem multiMeet_proper_sound (w : Nat) (s b : SI) (hs : WFw w s) (hb : WFw w b) (hsb : s.bottom = false)
    (hbb : b.bottom = false) (hsA : s.Aligned) (hbA : b.Aligned) (ns : Nrm s) (nb : Nrm b)
    (hsi : s.lb ≠ s.ub) (hbi : b.lb ≠ b.ub) (l : List SI) (h : s.multiMeet b = .ok l) :
    (∀ r, r ∈ l → WFw w r) ∧ ∀ x, s.mem x → b.mem x → ∃ r, r ∈ l ∧ r.mem x :=
  (fun _ _ => multiMeet_sound_tp w s b hs hb hsb hbb (aligned_two s hs.1 hsA) (aligned_two b hb.1 hbA) ns nb l h) hsi hbi

theorem meet_good (w : Nat) (s b r : SI) (hs : WFw w s) (hb : WFw w b) (hsb : s.bottom = false)
    (hbb : b.bottom = false) (Hs : s.ub < s.lb → TwoPieces s) (Hb : b.ub < b.lb → TwoPieces b) (ns : Nrm s) (nb : Nrm b)
    (h : s.intersection b = .ok r) : Good w True r ∧ ∀ x, s.mem x → b.mem x → r.mem x := by
  unfold SI.intersection at h
  obtain ⟨l, hl, h⟩ := bind_ok h
  have g1 := multiMeet_good w s b hs hb hsb hbb l hl
  have g2 := (multiMeet_sound_tp w s b hs hb hsb hbb Hs Hb ns nb l hl).2
  match l, g1, g2, h with
  | [], _, _, h => cases h
  | [v], g1, g2, h =>
    have hr := pure_ok h
    subst hr
    refine ⟨g1 _ List.mem_cons_self, ?_⟩
    intro x hx hy
    obtain ⟨r', hr', hm⟩ := g2 x hx hy
    have : r' = r := by simpa using hr'
    subst this; exact hm
  | [v, u], g1, g2, h =>
    have hr := pure_ok h
    subst hr
    have hv := g1 v List.mem_cons_self
    have hu := g1 u (List.mem_cons_of_mem _ List.mem_cons_self)
    refine ⟨hv.join true hu, ?_⟩
    intro x hx hy
    have j2 := (pseudoJoin_ok w v u hv.wf hu.wf true).2
    obtain ⟨r', hr', hm⟩ := g2 x hx hy
    rcases List.mem_cons.1 hr' with he | he
    · subst he; exact j2 x (Or.inl hm)
    · have : r' = u := by simpa using he
      subst this; exact j2 x (Or.inr hm)
  | _ :: _ :: _ :: _, _, _, h => cases h

theorem meet_sound_tp (w : Nat) (s b r : SI) (hs : WFw w s) (hb : WFw w b) (hsb : s.bottom = false)
    (hbb : b.bottom = false) (Hs : s.ub < s.lb → TwoPieces s) (Hb : b.ub < b.lb → TwoPieces b) (ns : Nrm s) (nb : Nrm b)
    (h : s.intersection b = .ok r) : WFw w r ∧ ∀ x, s.mem x → b.mem x → r.mem x :=
  have g := meet_good w s b r hs hb hsb hbb Hs Hb ns nb h
  ⟨g.1.wf, g.2⟩

theorem meet_sound (w : Nat) (s b r : SI) (hs : WFw w s) (hb : WFw w b) (hsb : s.bottom = false)
    (hbb : b.bottom = false) (hsA : s.Aligned) (hbA : b.Aligned) (ns : Nrm s) (nb : Nrm b)
    (h : s.intersection b = .ok r) : WFw w r ∧ ∀ x, s.mem x → b.mem x → r.mem x :=
  meet_sound_tp w s b r hs hb hsb hbb (aligned_two s hs.1 hsA) (aligned_two b hb.1 hbA) ns nb h

theorem meet_aligned (w : Nat) (s b r : SI) (hs : WFw w s) (hb : WFw w b) (hsb : s.bottom = false)
    (hbb : b.bottom = false) (hsA : s.Aligned) (hbA : b.Aligned) (ns : Nrm s) (nb : Nrm b)
    (h : s.intersection b = .ok r) : r.Aligned :=
  (meet_good w s b r hs hb hsb hbb (aligned_two s hs.1 hsA) (aligned_two b hb.1 hbA) ns nb h).1.aligned trivial

/-- no alignment hypothesis: the meet only needs every wrapping operand to split into two pieces, which is void for
non-wrapping operands -/
theorem meet_sound_nowrap (w : Nat) (s b r : SI) (hs : WFw w s) (hb : WFw w b) (hsb : s.bottom = false)
    (hbb : b.bottom = false) (hsle : s.lb ≤ s.ub) (hble : b.lb ≤ b.ub) (ns : Nrm s) (nb : Nrm b)
    (h : s.intersection b = .ok r) : WFw w r ∧ ∀ x, s.mem x → b.mem x → r.mem x :=
  meet_sound_tp w s b r hs hb hsb hbb (fun hh => absurd hh (by omega)) (fun hh => absurd hh (by omega)) ns nb h

end Claripy.VSA

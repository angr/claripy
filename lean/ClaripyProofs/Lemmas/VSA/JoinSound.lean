import ClaripyProofs.Lemmas.VSA.Mem
/-! `pseudo_join` (all widths, both `smart_join` settings): its configurations as a case principle
(`pseudoJoin_cases`); the tests `_surrounds_member` / `_is_surrounded` as `sur`, `G`, and in coordinates relative to a lower bound
(`sur_s_iff`, `sur_rot_b`, `four_rot`, `G_rot_sb`, `G_rot_bs`), where `arc_inside`, `arc_overlap`, `arc_disjoint` apply; the result is well formed
and contains both arguments (`pseudoJoin_good`). -/
namespace Claripy.VSA

/-- `v` lies on the arc of `a` -/
def sur (a : SI) (v : Nat) : Prop := cd (2 ^ a.bits) a.lb v ≤ cd (2 ^ a.bits) a.lb a.ub

/-- the general clause of `_is_surrounded` -/
def G (a b : SI) : Prop :=
  sur b a.lb ∧ sur b a.ub ∧ ((b.lb = a.lb ∧ b.ub = a.ub) ∨ ¬ sur a b.lb ∨ ¬ sur a b.ub)

theorem surrounds_sur (a : SI) (v : Nat) (hw : a.WF) (hv : v < 2 ^ a.bits) :
    a.surroundsMember (v : Int) = true ↔ sur a v := surrounds_iff a v hw.2.1 hw.2.2.1 hv

theorem sur_s_iff (w : Nat) (s : SI) (hs : WFw w s) (z : Nat) : sur s z ↔ cd (2 ^ w) s.lb z ≤ cd (2 ^ w) s.lb s.ub := by
  unfold sur
  rw [hs.2]

theorem sur_rot_b (w : Nat) (s b : SI) (hs : WFw w s) (hb : WFw w b) (z : Nat) (hz : z < 2 ^ w) :
    sur b z ↔ cd (2 ^ w) (cd (2 ^ w) s.lb b.lb) (cd (2 ^ w) s.lb z) ≤ cd (2 ^ w) (cd (2 ^ w) s.lb b.lb) (cd (2 ^ w) s.lb b.ub) := by
  unfold sur
  rw [hb.2]
  exact le_rot _ s.lb b.lb b.ub z hs.lb_lt hb.lb_lt hb.ub_lt hz

theorem sur_b_sl (w : Nat) (s b : SI) (hs : WFw w s) (hb : WFw w b) :
    sur b s.lb ↔ cd (2 ^ w) (cd (2 ^ w) s.lb b.lb) 0 ≤ cd (2 ^ w) (cd (2 ^ w) s.lb b.lb) (cd (2 ^ w) s.lb b.ub) := by
  rw [sur_rot_b w s b hs hb s.lb hs.lb_lt, cd_self]

theorem four_rot (w : Nat) (s b : SI) (hs : WFw w s) (hb : WFw w b) :
    (sur s b.lb ∧ sur s b.ub ∧ sur b s.lb ∧ sur b s.ub) ↔
      (cd (2 ^ w) s.lb b.lb ≤ cd (2 ^ w) s.lb s.ub ∧ cd (2 ^ w) s.lb b.ub ≤ cd (2 ^ w) s.lb s.ub ∧
        cd (2 ^ w) (cd (2 ^ w) s.lb b.lb) 0 ≤ cd (2 ^ w) (cd (2 ^ w) s.lb b.lb) (cd (2 ^ w) s.lb b.ub) ∧
        cd (2 ^ w) (cd (2 ^ w) s.lb b.lb) (cd (2 ^ w) s.lb s.ub) ≤ cd (2 ^ w) (cd (2 ^ w) s.lb b.lb) (cd (2 ^ w) s.lb b.ub)) := by
  rw [sur_s_iff w s hs, sur_s_iff w s hs, sur_b_sl w s b hs hb, sur_rot_b w s b hs hb s.ub hs.ub_lt]

theorem G_rot_sb (w : Nat) (s b : SI) (hs : WFw w s) (hb : WFw w b) :
    G s b ↔ (cd (2 ^ w) (cd (2 ^ w) s.lb b.lb) 0 ≤ cd (2 ^ w) (cd (2 ^ w) s.lb b.lb) (cd (2 ^ w) s.lb b.ub) ∧
      cd (2 ^ w) (cd (2 ^ w) s.lb b.lb) (cd (2 ^ w) s.lb s.ub) ≤ cd (2 ^ w) (cd (2 ^ w) s.lb b.lb) (cd (2 ^ w) s.lb b.ub) ∧
      ((cd (2 ^ w) s.lb b.lb = 0 ∧ cd (2 ^ w) s.lb b.ub = cd (2 ^ w) s.lb s.ub) ∨ ¬ cd (2 ^ w) s.lb b.lb ≤ cd (2 ^ w) s.lb s.ub ∨
        ¬ cd (2 ^ w) s.lb b.ub ≤ cd (2 ^ w) s.lb s.ub)) := by
  have hsl := hs.lb_lt
  have hsu := hs.ub_lt
  have hbl := hb.lb_lt
  have hbu := hb.ub_lt
  unfold G sur
  rw [hs.2, hb.2, le_rot _ s.lb b.lb b.ub s.lb hsl hbl hbu hsl, le_rot _ s.lb b.lb b.ub s.ub hsl hbl hbu hsu, cd_self,
    cd_eq_zero _ _ _ hsl hbl, cd_left_inj _ _ _ _ hsl hbu hsu, eq_comm (a := s.lb)]

theorem G_rot_bs (w : Nat) (s b : SI) (hs : WFw w s) (hb : WFw w b) :
    G b s ↔ (cd (2 ^ w) s.lb b.lb ≤ cd (2 ^ w) s.lb s.ub ∧ cd (2 ^ w) s.lb b.ub ≤ cd (2 ^ w) s.lb s.ub ∧
      ((0 = cd (2 ^ w) s.lb b.lb ∧ cd (2 ^ w) s.lb s.ub = cd (2 ^ w) s.lb b.ub) ∨
        ¬ cd (2 ^ w) (cd (2 ^ w) s.lb b.lb) 0 ≤ cd (2 ^ w) (cd (2 ^ w) s.lb b.lb) (cd (2 ^ w) s.lb b.ub) ∨
        ¬ cd (2 ^ w) (cd (2 ^ w) s.lb b.lb) (cd (2 ^ w) s.lb s.ub) ≤ cd (2 ^ w) (cd (2 ^ w) s.lb b.lb) (cd (2 ^ w) s.lb b.ub))) := by
  have hsl := hs.lb_lt
  have hsu := hs.ub_lt
  have hbl := hb.lb_lt
  have hbu := hb.ub_lt
  unfold G sur
  rw [hs.2, hb.2, le_rot _ s.lb b.lb b.ub s.lb hsl hbl hbu hsl, le_rot _ s.lb b.lb b.ub s.ub hsl hbl hbu hsu, cd_self,
    eq_comm (a := 0), cd_eq_zero _ _ _ hsl hbl, cd_left_inj _ _ _ _ hsl hsu hbu]

theorem isSurrounded_iff (a b : SI) (ha : a.WF) (hb : b.WF) (hbits : a.bits = b.bits) (hab : a.bottom = false) :
    a.isSurrounded b = true ↔ (a.isTop = true ∧ b.isTop = true) ∨ (a.isTop = false ∧ (b.isTop = true ∨ G a b)) := by
  have e1 := surrounds_sur b a.lb hb (hbits ▸ ha.2.1)
  have e2 := surrounds_sur b a.ub hb (hbits ▸ ha.2.2.1)
  have e3 := surrounds_sur a b.lb ha (hbits.symm ▸ hb.2.1)
  have e4 := surrounds_sur a b.ub ha (hbits.symm ▸ hb.2.2.1)
  unfold SI.isSurrounded G
  rw [hab, ← e1, ← e2, ← e3, ← e4]
  cases a.isTop <;> cases b.isTop <;> simp [and_assoc, or_assoc]

theorem isSurrounded_true (a b : SI) (ha : a.WF) (hb : b.WF) (hbits : a.bits = b.bits) (hab : a.bottom = false)
    (h : a.isSurrounded b = true) : b.isTop = true ∨ G a b := by
  rcases (isSurrounded_iff a b ha hb hbits hab).1 h with ⟨_, h2⟩ | ⟨_, h2⟩
  · exact Or.inl h2
  · exact h2

theorem isSurrounded_false (a b : SI) (ha : a.WF) (hb : b.WF) (hbits : a.bits = b.bits) (hab : a.bottom = false)
    (h : ¬ a.isSurrounded b = true) : b.isTop = false ∧ (a.isTop = true ∨ ¬ G a b) := by
  rw [isSurrounded_iff a b ha hb hbits hab] at h
  cases hat : a.isTop <;> cases hbt : b.isTop <;> simp_all

theorem isTop_facts (b : SI) (hb : b.WF) (h : b.isTop = true) :
    b.stride = 1 ∧ cd (2 ^ b.bits) b.lb b.ub = 2 ^ b.bits - 1 := by
  unfold SI.isTop at h
  simp only [Bool.and_eq_true, beq_iff_eq] at h
  exact ⟨h.1, (cd_eq_pred_iff _ _ _ hb.2.1 hb.2.2.1).2 (h.2.trans (modAdd_nat b.ub 1 b.bits))⟩

theorem gcd3_dvd_a (a b c : Nat) : Nat.gcd (Nat.gcd a b) c ∣ a :=
  Nat.dvd_trans (Nat.gcd_dvd_left _ _) (Nat.gcd_dvd_left _ _)
theorem gcd3_dvd_b (a b c : Nat) : Nat.gcd (Nat.gcd a b) c ∣ b :=
  Nat.dvd_trans (Nat.gcd_dvd_left _ _) (Nat.gcd_dvd_right _ _)
theorem gcd3_dvd_c (a b c : Nat) : Nat.gcd (Nat.gcd a b) c ∣ c := Nat.gcd_dvd_right _ _

theorem mem_new_sum (w g lo hi x off d : Nat) (hlo : lo < 2 ^ w) (hhi : hi < 2 ^ w) (hx : x < 2 ^ w)
    (hle : cd (2 ^ w) lo x ≤ cd (2 ^ w) lo hi) (heq : cd (2 ^ w) lo x = off + d) (h1 : g ∣ off) (h2 : g ∣ d)
    (h0 : g = 0 → off = 0 ∧ d = 0) : (SI.new w g (lo : Int) (hi : Int)).mem x := by
  apply mem_new_of w g lo hi x hlo hhi hx hle
  rw [heq]
  exact Nat.dvd_add h1 h2

theorem new_WF_nz (w g : Nat) (l u : Int) (hw : 0 < w) (hg : g ≠ 0) :
    (SI.new w g l u).WF ∧ (SI.new w g l u).bits = w :=
  ⟨new_WF w g l u hw (fun h => absurd h hg), new_bits w g l u⟩

theorem ite_cases {c : Prop} [Decidable c] (P : SI → Prop) (x y : SI) (hx : c → P x) (hy : ¬ c → P y) :
    P (if c then x else y) := by
  split
  · exact hx ‹_›
  · exact hy ‹_›

theorem pseudoJoin_botS (s b : SI) (smart : Bool) (h : s.bottom = true) : pseudoJoin s b smart = b := by
  unfold pseudoJoin
  rw [if_pos h]

theorem pseudoJoin_botB (s b : SI) (smart : Bool) (hs : s.bottom = false) (h : b.bottom = true) :
    pseudoJoin s b smart = s := by
  unfold pseudoJoin
  rw [if_neg (by rw [hs]; decide), if_pos h]

theorem pseudoJoin_cases (P : SI → Prop) (s b : SI) (smart : Bool) (hs : s.bottom = false) (hb : b.bottom = false)
    (ints : s.lb = s.ub → b.lb = b.ub →
      P (SI.new s.bits
        (imod (((if smart then Nat.max s.ub b.ub else b.ub : Nat) : Int) - (if smart then Nat.min s.lb b.lb else s.lb : Nat))
          s.bits)
        (if smart then Nat.min s.lb b.lb else s.lb : Nat) (if smart then Nat.max s.ub b.ub else b.ub : Nat)))
    (in_sb : ¬ (s.lb = s.ub ∧ b.lb = b.ub) → s.isSurrounded b = true →
      P (SI.new s.bits (Nat.gcd (if !s.isInteger then Nat.gcd s.stride b.stride else b.stride)
        (modSub s.lb b.lb s.bits)) b.lb b.ub))
    (in_bs : ¬ (s.lb = s.ub ∧ b.lb = b.ub) → ¬ s.isSurrounded b = true → b.isSurrounded s = true →
      P (SI.new s.bits (Nat.gcd (if !b.isInteger then Nat.gcd s.stride b.stride else s.stride)
        (modSub b.lb s.lb s.bits)) s.lb s.ub))
    (top : (s.surroundsMember b.lb && s.surroundsMember b.ub && b.surroundsMember s.lb && b.surroundsMember s.ub) = true →
      P (SI.top s.bits))
    (ov_sb : ¬ (s.lb = s.ub ∧ b.lb = b.ub) → ¬ s.isSurrounded b = true → ¬ b.isSurrounded s = true →
      ¬ (s.surroundsMember b.lb && s.surroundsMember b.ub && b.surroundsMember s.lb && b.surroundsMember s.ub) = true →
      s.surroundsMember b.lb = true →
      P (SI.new s.bits (Nat.gcd (Nat.gcd s.stride b.stride) (modSub b.lb s.lb s.bits)) s.lb b.ub))
    (ov_bs : ¬ (s.lb = s.ub ∧ b.lb = b.ub) → ¬ s.isSurrounded b = true → ¬ b.isSurrounded s = true →
      ¬ (s.surroundsMember b.lb && s.surroundsMember b.ub && b.surroundsMember s.lb && b.surroundsMember s.ub) = true →
      ¬ s.surroundsMember b.lb = true → b.surroundsMember s.lb = true →
      P (SI.new s.bits (Nat.gcd (Nat.gcd s.stride b.stride) (modSub s.lb b.lb s.bits)) b.lb s.ub))
    (disjF : smart = false → ¬ (s.lb = s.ub ∧ b.lb = b.ub) → ¬ s.isSurrounded b = true → ¬ b.isSurrounded s = true →
      ¬ s.surroundsMember b.lb = true → ¬ b.surroundsMember s.lb = true →
      P (SI.new s.bits
        (if s.isInteger then Nat.gcd b.stride (modSub b.lb s.lb s.bits)
         else if b.isInteger then Nat.gcd s.stride (modSub b.lb s.lb s.bits)
         else Nat.gcd (Nat.gcd s.stride b.stride) (wrappedCard s.lb b.lb s.bits - 1)) s.lb b.ub))
    (disjT : smart = true → ¬ (s.lb = s.ub ∧ b.lb = b.ub) → ¬ s.isSurrounded b = true → ¬ b.isSurrounded s = true →
      ¬ s.surroundsMember b.lb = true → ¬ b.surroundsMember s.lb = true →
      ∀ ns si1 si2, ns = (if s.isInteger then b.stride else if b.isInteger then s.stride else Nat.gcd s.stride b.stride) →
        si1 = SI.new s.bits (Nat.gcd ns (wrappedCard b.lb s.lb s.bits - 1)) b.lb s.ub →
        si2 = SI.new s.bits (Nat.gcd ns (wrappedCard s.lb b.lb s.bits - 1)) s.lb b.ub →
        (si1.nValues ≤ si2.nValues → P si1) ∧ (¬ si1.nValues ≤ si2.nValues → P si2)) :
    P (pseudoJoin s b smart) := by
  unfold pseudoJoin
  rw [if_neg (by rw [hs]; decide), if_neg (by rw [hb]; decide)]
  by_cases hint : (s.isInteger && b.isInteger) = true
  · rw [if_pos hint]
    have hi : s.lb = s.ub ∧ b.lb = b.ub := by simpa [SI.isInteger] using hint
    exact ints hi.1 hi.2
  rw [if_neg hint]
  have hnb : ¬ (s.lb = s.ub ∧ b.lb = b.ub) := by
    intro h; apply hint; simp [SI.isInteger, h.1, h.2]
  by_cases h2 : s.isSurrounded b = true
  · rw [if_pos h2]; exact in_sb hnb h2
  rw [if_neg h2]
  by_cases h3 : b.isSurrounded s = true
  · rw [if_pos h3]; exact in_bs hnb h2 h3
  rw [if_neg h3]
  by_cases h4 : (s.surroundsMember b.lb && s.surroundsMember b.ub && b.surroundsMember s.lb &&
      b.surroundsMember s.ub) = true
  · rw [if_pos h4]; exact top h4
  rw [if_neg h4]
  by_cases h5 : s.surroundsMember b.lb = true
  · rw [if_pos h5]; exact ov_sb hnb h2 h3 h4 h5
  rw [if_neg h5]
  by_cases h6 : b.surroundsMember s.lb = true
  · rw [if_pos h6]; exact ov_bs hnb h2 h3 h4 h5 h6
  rw [if_neg h6]
  cases smart with
  | false => exact disjF rfl hnb h2 h3 h5 h6
  | true =>
    simp only [Bool.not_true, Bool.false_eq_true, if_false]
    obtain ⟨k1, k2⟩ := disjT rfl hnb h2 h3 h5 h6 _ _ _ rfl rfl rfl
    exact ite_cases P _ _ k1 k2

theorem intsJoin_bounds (s b : SI) (smart : Bool) (h1 : s.lb = s.ub) (h2 : b.lb = b.ub) :
    ((if smart then Nat.min s.lb b.lb else s.lb) = s.lb ∧ (if smart then Nat.max s.ub b.ub else b.ub) = b.ub) ∨
    ((if smart then Nat.min s.lb b.lb else s.lb) = b.lb ∧ (if smart then Nat.max s.ub b.ub else b.ub) = s.ub) := by
  cases smart with
  | false => exact Or.inl ⟨rfl, rfl⟩
  | true =>
    by_cases hle : s.lb ≤ b.lb
    · exact Or.inl ⟨Nat.min_eq_left hle, Nat.max_eq_right (by omega)⟩
    · exact Or.inr ⟨Nat.min_eq_right (by omega), Nat.max_eq_left (by omega)⟩

theorem pseudoJoin_new (s b : SI) (smart : Bool) (hs : s.bottom = false) (hb : b.bottom = false) :
    pseudoJoin s b smart = SI.top s.bits ∨
      ∃ (g : Nat) (l : Int) (u : Nat), (u = s.ub ∨ u = b.ub) ∧ pseudoJoin s b smart = SI.new s.bits g l u := by
  refine pseudoJoin_cases
    (fun r => r = SI.top s.bits ∨ ∃ (g : Nat) (l : Int) (u : Nat), (u = s.ub ∨ u = b.ub) ∧ r = SI.new s.bits g l u)
    s b smart hs hb ?_ ?_ ?_ (fun _ => Or.inl rfl) ?_ ?_ ?_ ?_
  · intro h1 h2
    rcases intsJoin_bounds s b smart h1 h2 with ⟨_, e⟩ | ⟨_, e⟩
    · exact Or.inr ⟨_, _, _, Or.inr e, rfl⟩
    · exact Or.inr ⟨_, _, _, Or.inl e, rfl⟩
  · exact fun _ _ => Or.inr ⟨_, _, _, Or.inr rfl, rfl⟩
  · exact fun _ _ _ => Or.inr ⟨_, _, _, Or.inl rfl, rfl⟩
  · exact fun _ _ _ _ _ => Or.inr ⟨_, _, _, Or.inr rfl, rfl⟩
  · exact fun _ _ _ _ _ _ => Or.inr ⟨_, _, _, Or.inl rfl, rfl⟩
  · exact fun _ _ _ _ _ _ => Or.inr ⟨_, _, _, Or.inr rfl, rfl⟩
  · rintro _ _ _ _ _ _ ns si1 si2 _ rfl rfl
    exact ⟨fun _ => Or.inr ⟨_, _, _, Or.inl rfl, rfl⟩, fun _ => Or.inr ⟨_, _, _, Or.inr rfl, rfl⟩⟩

theorem contain_mem (w : Nat) (a c : SI) (g x : Nat) (ha : WFw w a) (hc : WFw w c)
    (hab : a.bottom = false) (h : a.isSurrounded c = true) (hg0 : g ≠ 0) (hga : g ∣ a.stride) (hgc : g ∣ c.stride)
    (hgo : g ∣ cd (2 ^ w) c.lb a.lb) (hx : a.mem x ∨ c.mem x) : (SI.new w g c.lb c.ub).mem x := by
  have hcl := hc.lb_lt
  have hcu := hc.ub_lt
  have hal := ha.lb_lt
  have hau := ha.ub_lt
  rcases hx with hx | hx
  · obtain ⟨hxl, h1, h3⟩ := arc_facts w a x ha hx
    rcases isSurrounded_true a c ha.1 hc.1 (ha.2.trans hc.2.symm) hab h with htop | hG
    · obtain ⟨hst, hspan⟩ := isTop_facts c hc.1 htop
      have hg1 : g = 1 := Nat.dvd_one.1 (hst ▸ hgc)
      have := cd_lt _ _ _ hcl hxl
      rw [hc.2] at hspan
      exact mem_new_of _ g _ _ x hcl hcu hxl (by omega) (hg1 ▸ Nat.one_dvd _)
    · -- in coordinates relative to `c.lb`
      obtain ⟨r1, r2, r3⟩ := (G_rot_bs _ c a hc ha).1 hG
      obtain ⟨k1, k2⟩ := arc_inside _ _ _ _ _ (cd_lt _ _ _ hcl hal) (cd_lt _ _ _ hcl hau) (cd_lt _ _ _ hcl hcu)
        (cd_lt _ _ _ hcl hxl) r1 r2 (r3.imp_left fun e => ⟨e.1.symm, e.2.symm⟩) ((le_rot _ c.lb a.lb a.ub x hcl hal hau hxl).1 h1)
      rw [← cd_rel _ c.lb a.lb x hcl hal hxl] at k2
      exact mem_new_sum _ g _ _ x _ _ hcl hcu hxl k1 k2 hgo (Nat.dvd_trans hga h3) (fun h => absurd h hg0)
  · obtain ⟨hxl, h1, h3⟩ := arc_facts w c x hc hx
    exact mem_new_of _ g _ _ x hcl hcu hxl h1 (Nat.dvd_trans hgc h3)

/-- two arcs whose union is the arc `[a.lb, c.ub]` (`hgeo`): with a stride dividing both strides and the offset of
`c`, it contains both -/
theorem union_mem (w : Nat) (a c : SI) (g x : Nat) (ha : WFw w a) (hc : WFw w c)
    (hgeo : x < 2 ^ w → (cd (2 ^ w) a.lb x ≤ cd (2 ^ w) a.lb a.ub → cd (2 ^ w) a.lb x ≤ cd (2 ^ w) a.lb c.ub) ∧
      (cd (2 ^ w) (cd (2 ^ w) a.lb c.lb) (cd (2 ^ w) a.lb x) ≤ cd (2 ^ w) (cd (2 ^ w) a.lb c.lb) (cd (2 ^ w) a.lb c.ub) →
        cd (2 ^ w) a.lb x ≤ cd (2 ^ w) a.lb c.ub ∧
          cd (2 ^ w) a.lb x = cd (2 ^ w) a.lb c.lb + cd (2 ^ w) (cd (2 ^ w) a.lb c.lb) (cd (2 ^ w) a.lb x)))
    (hg0 : g ≠ 0) (hga : g ∣ a.stride) (hgc : g ∣ c.stride) (hgo : g ∣ cd (2 ^ w) a.lb c.lb)
    (hx : a.mem x ∨ c.mem x) : (SI.new w g a.lb c.ub).mem x := by
  have hal := ha.lb_lt
  have hcl := hc.lb_lt
  have hcu := hc.ub_lt
  rcases hx with hx | hx
  · obtain ⟨hxl, h1, h3⟩ := arc_facts w a x ha hx
    exact mem_new_of _ g _ _ x hal hcu hxl ((hgeo hxl).1 h1) (Nat.dvd_trans hga h3)
  · obtain ⟨hxl, h1, h3⟩ := arc_facts w c x hc hx
    obtain ⟨k1, k2⟩ := (hgeo hxl).2 ((le_rot _ a.lb c.lb c.ub x hal hcl hcu hxl).1 h1)
    rw [← cd_rel _ a.lb c.lb x hal hcl hxl] at k2
    exact mem_new_sum _ g _ _ x _ _ hal hcu hxl k1 k2 hgo (Nat.dvd_trans hgc h3) (fun h => absurd h hg0)

/-- overlap: the arc of `a` contains the start of `c`, does not contain `c`, and the two do not cover the circle -/
theorem overlap_mem (w : Nat) (a c : SI) (g x : Nat) (ha : WFw w a) (hc : WFw w c)
    (o1 : sur a c.lb) (n3 : ¬ G c a) (n4 : ¬ (sur a c.lb ∧ sur a c.ub ∧ sur c a.lb ∧ sur c a.ub))
    (hg0 : g ≠ 0) (hga : g ∣ a.stride) (hgc : g ∣ c.stride) (hgo : g ∣ cd (2 ^ w) a.lb c.lb)
    (hx : a.mem x ∨ c.mem x) : (SI.new w g a.lb c.ub).mem x := by
  refine union_mem w a c g x ha hc (fun hxl => ?_) hg0 hga hgc hgo hx
  have hal := ha.lb_lt
  have h1 := (sur_s_iff w a ha c.lb).1 o1
  exact arc_overlap _ _ _ _ _ (cd_lt _ _ _ hal ha.ub_lt) (cd_lt _ _ _ hal hc.lb_lt) (cd_lt _ _ _ hal hc.ub_lt)
    (cd_lt _ _ _ hal hxl) h1 (fun h => n4 ((four_rot w a c ha hc).2 ⟨h1, h⟩))
    (fun h => n3 ((G_rot_bs w a c ha hc).2 ⟨h.2.1, h.1, h.2.2.imp_left fun e => ⟨e.1.symm, e.2.symm⟩⟩))

theorem disjoint_mem (w : Nat) (a c : SI) (g x : Nat) (ha : WFw w a) (hc : WFw w c)
    (d1 : ¬ sur a c.lb) (d2 : ¬ sur c a.lb)
    (hg0 : g ≠ 0) (hga : g ∣ a.stride) (hgc : g ∣ c.stride) (hgo : g ∣ cd (2 ^ w) a.lb c.lb)
    (hx : a.mem x ∨ c.mem x) : (SI.new w g a.lb c.ub).mem x := by
  refine union_mem w a c g x ha hc (fun hxl => ?_) hg0 hga hgc hgo hx
  have hal := ha.lb_lt
  exact arc_disjoint _ _ _ _ _ (cd_lt _ _ _ hal hc.lb_lt) (cd_lt _ _ _ hal hc.ub_lt) (cd_lt _ _ _ hal hxl)
    (mt (sur_s_iff w a ha c.lb).2 d1) (mt (sur_b_sl w a c ha hc).2 d2)

theorem intsJoin_good (w p q : Nat) (hw : 0 < w) (hp : p < 2 ^ w) (hq : q < 2 ^ w) :
    (SI.new w (imod ((q : Int) - p) w) p q).WF ∧ (SI.new w (imod ((q : Int) - p) w) p q).mem p ∧
      (SI.new w (imod ((q : Int) - p) w) p q).mem q := by
  rw [imod_sub q p w hq hp]
  refine ⟨new_WF _ _ _ _ hw ?_, ?_, ?_⟩
  · rw [imod_of_lt p _ hp, imod_of_lt q _ hq]
    exact (cd_eq_zero _ _ _ hp hq).1
  · exact mem_new_of _ _ _ _ p hp hq hp (by rw [cd_self]; exact Nat.zero_le _) (by rw [cd_self]; exact Nat.dvd_zero _)
  · exact mem_new_of _ _ _ _ q hp hq hq (Nat.le_refl _) (Nat.dvd_refl _)

/-- an integer operand has stride 0, so each base stride `pseudo_join` picks is the gcd of the two strides -/
theorem joinBase_eq (s b : SI) (hs : s.WF) (hb : b.WF) :
    (if !s.isInteger then Nat.gcd s.stride b.stride else b.stride) = Nat.gcd s.stride b.stride ∧
    (if !b.isInteger then Nat.gcd s.stride b.stride else s.stride) = Nat.gcd s.stride b.stride ∧
    (if s.isInteger then b.stride else if b.isInteger then s.stride else Nat.gcd s.stride b.stride) =
      Nat.gcd s.stride b.stride := by
  have h1 : s.isInteger = true → Nat.gcd s.stride b.stride = b.stride := fun h => by
    rw [hs.2.2.2.2 ((isInteger_iff s).1 h), Nat.gcd_zero_left]
  have h2 : b.isInteger = true → Nat.gcd s.stride b.stride = s.stride := fun h => by
    rw [hb.2.2.2.2 ((isInteger_iff b).1 h), Nat.gcd_zero_right]
  refine ⟨?_, ?_, ?_⟩
  · split_ifs with h
    · rfl
    · exact (h1 (by simpa using h)).symm
  · split_ifs with h
    · rfl
    · exact (h2 (by simpa using h)).symm
  · split_ifs with h h'
    · exact (h1 h).symm
    · exact (h2 h').symm
    · rfl

theorem gcd3_ne_zero (a b c : Nat) (h : ¬ (a = 0 ∧ b = 0)) : Nat.gcd (Nat.gcd a b) c ≠ 0 := fun h0 =>
  have h1 := Nat.eq_zero_of_gcd_eq_zero_left h0
  h ⟨Nat.eq_zero_of_gcd_eq_zero_left h1, Nat.eq_zero_of_gcd_eq_zero_right h1⟩

theorem not_G_of_not_isSurrounded (a c : SI) (ha : a.WF) (hc : c.WF) (hbits : a.bits = c.bits)
    (hab : a.bottom = false) (hcb : c.bottom = false) (h1 : ¬ a.isSurrounded c = true)
    (h2 : ¬ c.isSurrounded a = true) : ¬ G a c := by
  obtain ⟨_, hA⟩ := isSurrounded_false a c ha hc hbits hab h1
  obtain ⟨hat, _⟩ := isSurrounded_false c a hc ha hbits.symm hcb h2
  rcases hA with h | h
  · rw [hat] at h; cases h
  · exact h

/-- Case by case over the configurations of `pseudo_join`: away from the empty operands each returns the full circle or an arc
`[lo, hi]` from the bounds of the operands whose stride is the gcd of the two strides and of the offset between the lower
bounds; such an arc is well formed and contains both operands as soon as it does with every non-zero common divisor (`fin`). -/
theorem pseudoJoin_good (s b : SI) (smart : Bool) (hs : s.WF) (hb : b.WF) (hbits : s.bits = b.bits) :
    (pseudoJoin s b smart).WF ∧ ∀ x, s.mem x ∨ b.mem x → (pseudoJoin s b smart).mem x := by
  cases hsb : s.bottom with
  | true =>
    rw [pseudoJoin_botS s b smart hsb]
    exact ⟨hb, fun x hx => hx.elim (fun h => absurd h.1 (by rw [hsb]; decide)) id⟩
  | false =>
  cases hbb : b.bottom with
  | true =>
    rw [pseudoJoin_botB s b smart hsb hbb]
    exact ⟨hs, fun x hx => hx.elim id (fun h => absurd h.1 (by rw [hbb]; decide))⟩
  | false =>
  have ws : WFw s.bits s := ⟨hs, rfl⟩
  have wb : WFw s.bits b := ⟨hb, hbits.symm⟩
  have hsl := hs.2.1
  have hsu := hs.2.2.1
  have hbl := hb.2.1
  have hbu := hb.2.2.1
  rw [← hbits] at hbl hbu
  have e1 := surrounds_sur s b.lb hs hbl
  have e3 := surrounds_sur b s.lb hb (hbits ▸ hsl)
  have wc1 : wrappedCard (s.lb : Int) (b.lb : Int) s.bits - 1 = cd (2 ^ s.bits) s.lb b.lb := by
    rw [wrappedCard_nat _ _ _ hsl hbl]; omega
  have wc2 : wrappedCard (b.lb : Int) (s.lb : Int) s.bits - 1 = cd (2 ^ s.bits) b.lb s.lb := by
    rw [wrappedCard_nat _ _ _ hbl hsl]; omega
  obtain ⟨nsb, nbs, nd⟩ := joinBase_eq s b hs hb
  -- a result with the common stride is well formed, and contains both operands as soon as it does so with every
  -- non-zero stride that divides the two strides and the offset
  have fin : ∀ (lo hi : Int) (o : Nat), ¬ (s.lb = s.ub ∧ b.lb = b.ub) →
      (∀ g x, g ≠ 0 → g ∣ s.stride → g ∣ b.stride → g ∣ o → s.mem x ∨ b.mem x → (SI.new s.bits g lo hi).mem x) →
      (SI.new s.bits (Nat.gcd (Nat.gcd s.stride b.stride) o) lo hi).WF ∧
        ∀ x, s.mem x ∨ b.mem x → (SI.new s.bits (Nat.gcd (Nat.gcd s.stride b.stride) o) lo hi).mem x :=
    fun lo hi o hnb H =>
      have hg0 := gcd3_ne_zero _ _ o (fun h => hnb ⟨hs.2.2.2.1 h.1, hb.2.2.2.1 h.2⟩)
      ⟨(new_WF_nz _ _ _ _ hs.1 hg0).1, fun x => H _ x hg0 (gcd3_dvd_a _ _ _) (gcd3_dvd_b _ _ _) (gcd3_dvd_c _ _ _)⟩
  -- the two arcs that start at one operand and end at the other, for disjoint operands
  have disjR := fun (hnb : ¬ (s.lb = s.ub ∧ b.lb = b.ub)) (h5 : ¬ s.surroundsMember b.lb = true)
      (h6 : ¬ b.surroundsMember s.lb = true) => fin s.lb b.ub (cd (2 ^ s.bits) s.lb b.lb) hnb
    fun g x hg0 hgs hgb hgo hx => disjoint_mem s.bits s b g x ws wb (fun h => h5 (e1.2 h))
      (fun h => h6 (e3.2 h)) hg0 hgs hgb hgo hx
  have disjL := fun (hnb : ¬ (s.lb = s.ub ∧ b.lb = b.ub)) (h5 : ¬ s.surroundsMember b.lb = true)
      (h6 : ¬ b.surroundsMember s.lb = true) => fin b.lb s.ub (cd (2 ^ s.bits) b.lb s.lb) hnb
    fun g x hg0 hgs hgb hgo hx => disjoint_mem s.bits b s g x wb ws (fun h => h6 (e3.2 h))
      (fun h => h5 (e1.2 h)) hg0 hgb hgs hgo hx.symm
  refine pseudoJoin_cases (fun r => r.WF ∧ ∀ x, s.mem x ∨ b.mem x → r.mem x) s b smart hsb hbb ?_ ?_ ?_ ?_ ?_ ?_ ?_ ?_
  · -- two integers: each has its lower bound as only member
    intro h1 h2
    have hxe : ∀ x, s.mem x ∨ b.mem x → x = s.lb ∨ x = b.lb := by
      rintro x (hx | hx)
      · exact Or.inl (mem_integer s x hs h1 hx)
      · exact Or.inr (mem_integer b x hb h2 hx)
    rcases intsJoin_bounds s b smart h1 h2 with ⟨e1, e2⟩ | ⟨e1, e2⟩
    · rw [e1, e2]
      obtain ⟨k1, k2, k3⟩ := intsJoin_good s.bits s.lb b.ub hs.1 hsl hbu
      refine ⟨k1, fun x hx => ?_⟩
      rcases hxe x hx with rfl | rfl
      · exact k2
      · rw [h2]; exact k3
    · rw [e1, e2]
      obtain ⟨k1, k2, k3⟩ := intsJoin_good s.bits b.lb s.ub hs.1 hbl hsu
      refine ⟨k1, fun x hx => ?_⟩
      rcases hxe x hx with rfl | rfl
      · rw [h1]; exact k3
      · exact k2
  · intro hnb h
    rw [nsb, modSub_nat s.lb b.lb s.bits hsl hbl]
    exact fin _ _ _ hnb fun g x hg0 hgs hgb hgo hx =>
      contain_mem s.bits s b g x ws wb hsb h hg0 hgs hgb hgo hx
  · intro hnb _ h
    rw [nbs, modSub_nat b.lb s.lb s.bits hbl hsl]
    exact fin _ _ _ hnb fun g x hg0 hgs hgb hgo hx =>
      contain_mem s.bits b s g x wb ws hbb h hg0 hgb hgs hgo hx.symm
  · exact fun _ => ⟨top_WF _ hs.1, fun x hx => (mem_top _ _).2 (hx.elim (fun h => h.2.1) (fun h => hbits ▸ h.2.1))⟩
  · intro hnb h2 h3 h4 h5
    rw [modSub_nat b.lb s.lb s.bits hbl hsl]
    refine fin _ _ _ hnb fun g x hg0 hgs hgb hgo hx => overlap_mem s.bits s b g x ws wb (e1.1 h5)
      (not_G_of_not_isSurrounded b s hb hs hbits.symm hbb hsb h3 h2) (fun h => h4 ?_) hg0 hgs hgb hgo hx
    simp only [Bool.and_eq_true]
    exact ⟨⟨⟨e1.2 h.1, (surrounds_sur s b.ub hs hbu).2 h.2.1⟩, e3.2 h.2.2.1⟩,
      (surrounds_sur b s.ub hb (hbits ▸ hsu)).2 h.2.2.2⟩
  · intro hnb h2 h3 h4 _ h6
    rw [modSub_nat s.lb b.lb s.bits hsl hbl]
    refine fin _ _ _ hnb fun g x hg0 hgs hgb hgo hx => overlap_mem s.bits b s g x wb ws (e3.1 h6)
      (not_G_of_not_isSurrounded s b hs hb hbits hsb hbb h2 h3) (fun h => h4 ?_) hg0 hgb hgs hgo hx.symm
    simp only [Bool.and_eq_true]
    exact ⟨⟨⟨e1.2 h.2.2.1, (surrounds_sur s b.ub hs hbu).2 h.2.2.2⟩, e3.2 h.1⟩,
      (surrounds_sur b s.ub hb (hbits ▸ hsu)).2 h.2.1⟩
  · intro _ hnb _ _ h5 h6
    have e : (if s.isInteger then Nat.gcd b.stride (modSub b.lb s.lb s.bits)
        else if b.isInteger then Nat.gcd s.stride (modSub b.lb s.lb s.bits)
        else Nat.gcd (Nat.gcd s.stride b.stride) (wrappedCard s.lb b.lb s.bits - 1)) =
        Nat.gcd (Nat.gcd s.stride b.stride) (cd (2 ^ s.bits) s.lb b.lb) := by
      rw [wc1, modSub_nat b.lb s.lb s.bits hbl hsl, ← nd]
      split_ifs <;> rfl
    rw [e]
    exact disjR hnb h5 h6
  · rintro _ hnb _ _ h5 h6 ns si1 si2 rfl rfl rfl
    rw [nd, wc1, wc2]
    exact ⟨fun _ => disjL hnb h5 h6, fun _ => disjR hnb h5 h6⟩

theorem pseudoJoin_bits (s b : SI) (smart : Bool) (hbits : s.bits = b.bits) : (pseudoJoin s b smart).bits = s.bits := by
  cases hsb : s.bottom with
  | true => rw [pseudoJoin_botS s b smart hsb, hbits]
  | false =>
  cases hbb : b.bottom with
  | true => rw [pseudoJoin_botB s b smart hsb hbb]
  | false =>
  rcases pseudoJoin_new s b smart hsb hbb with h | ⟨g, l, u, _, h⟩
  · rw [h, top_bits]
  · rw [h, new_bits]

theorem pseudoJoin_nb (a b : SI) (smart : Bool) (h : a.bottom = false ∨ b.bottom = false) :
    (pseudoJoin a b smart).bottom = false := by
  cases hab : a.bottom with
  | true =>
    rw [pseudoJoin_botS a b smart hab]
    exact h.resolve_left (by rw [hab]; decide)
  | false =>
  cases hbb : b.bottom with
  | true => rw [pseudoJoin_botB a b smart hab hbb]; exact hab
  | false =>
  rcases pseudoJoin_new a b smart hab hbb with h | ⟨g, l, u, _, h⟩
  · rw [h]; exact new_bottom _ _ _ _
  · rw [h]; exact new_bottom _ _ _ _

theorem pseudoJoin_sup (s b : SI) (smart : Bool) (hs : s.WF) (hb : b.WF) (hbits : s.bits = b.bits) (x : Nat)
    (hx : s.mem x ∨ b.mem x) : (pseudoJoin s b smart).mem x :=
  (pseudoJoin_good s b smart hs hb hbits).2 x hx

theorem pseudoJoin_WF (s b : SI) (smart : Bool) (hs : s.WF) (hb : b.WF) (hbits : s.bits = b.bits) :
    (pseudoJoin s b smart).WF ∧ (pseudoJoin s b smart).bits = s.bits :=
  ⟨(pseudoJoin_good s b smart hs hb hbits).1, pseudoJoin_bits s b smart hbits⟩

/-- `pseudo_join` satisfies the obligation `collapse`/`union`/`If` rely on -/
theorem pseudoJoin_ok (w : Nat) (a b : SI) (ha : a.WF ∧ a.bits = w) (hb : b.WF ∧ b.bits = w) (smart : Bool) :
    ((pseudoJoin a b smart).WF ∧ (pseudoJoin a b smart).bits = w) ∧
      ∀ x, (a.mem x ∨ b.mem x) → (pseudoJoin a b smart).mem x := by
  have hbits : a.bits = b.bits := by rw [ha.2, hb.2]
  obtain ⟨h1, h2⟩ := pseudoJoin_good a b smart ha.1 hb.1 hbits
  exact ⟨⟨h1, by rw [pseudoJoin_bits a b smart hbits, ha.2]⟩, h2⟩

end Claripy.VSA

import ClaripyProofs.Lemmas.VSA.SetUnionMeet
import ClaripyProofs.Lemmas.VSA.ModSound
/-! The `ValueSet` operations are sound region by region: `+ - %` with an interval operand, `union` / `intersection` with an
interval and with a value set (the latter: aligned, normal intervals; the keys of the operand's dict are distinct). -/
namespace Claripy.VSA

theorem vs_unionSI (w : Nat) (v v' : VS) (b : SI) (hv : ∀ p, p ∈ v.regions → WFw w p.2) (hb : WFw w b)
    (h : v.unionSI b = .ok v') (region : String) (x : Nat)
    (hx : v.memAt region x ∨ ((∃ p, p ∈ v.regions ∧ p.1 = region) ∧ b.mem x)) : v'.memAt region x := by
  unfold VS.unionSI at h
  rcases hx with ⟨p, hp, hreg, hm⟩ | ⟨⟨p, hp, hreg⟩, hm⟩
  · obtain ⟨r, hr, hin⟩ := mapRegions_entry v v' _ h p hp
    exact ⟨(p.1, r), hin, hreg, (union_sup w p.2 b r (hv p hp) hb hr).2 x (Or.inl hm)⟩
  · obtain ⟨r, hr, hin⟩ := mapRegions_entry v v' _ h p hp
    exact ⟨(p.1, r), hin, hreg, (union_sup w p.2 b r (hv p hp) hb hr).2 x (Or.inr hm)⟩

theorem vs_meetSI (w : Nat) (v v' : VS) (b : SI) (hv : ∀ p, p ∈ v.regions → NEa w p.2) (hb : NEa w b)
    (h : v.meetSI b = .ok v') (region : String) (x : Nat) (hx : v.memAt region x) (hbx : b.mem x) : v'.memAt region x := by
  obtain ⟨regs, hregs, h⟩ := bind_ok h
  obtain ⟨si, _, h⟩ := bind_ok h
  have hv' := pure_ok h
  subst hv'
  obtain ⟨p, hp, hreg, hm⟩ := hx
  obtain ⟨q, hq, hqo⟩ := mapM_ok_mem _ _ _ hregs p hp
  obtain ⟨r, hop2, hqe⟩ := onRegion_ok _ p q hqo
  subst hqe
  have hr := (meet_NEa w p.2 b r (hv p hp) hb hop2).2 x hm hbx
  refine ⟨(p.1, r), ?_, hreg, hr⟩
  show (p.1, r) ∈ regs.filter (fun p => !p.2.bottom)
  rw [List.mem_filter]
  exact ⟨hq, by simp [hr.1]⟩

theorem dictGet_none (l : List (String × SI)) (k : String) (h : dictGet l k = none) : ∀ p, p ∈ l → p.1 ≠ k :=
  fun e he => ne_of_beq_false (find?_snd_none (p := (· == k)) h e he)

theorem dictSet_new : ∀ (l : List (String × SI)) (k : String) (s : SI), (k, s) ∈ dictSet l k s
  | [], k, s => by simp [dictSet]
  | p :: ps, k, s => by
    unfold dictSet
    split
    · exact List.mem_cons_self
    · exact List.mem_cons_of_mem _ (dictSet_new ps k s)

theorem dict_keep : ∀ (l : List (String × SI)) (k : String) (q : String × SI), q ∈ l →
    ((∀ s, q ∈ dictSet l k s) ∧ q ∈ dictDel l k) ∨ (q.1 = k ∧ dictGet l k = some q.2)
  | [], _, q, hq => by cases hq
  | p :: ps, k, q, hq => by
    unfold dictSet dictDel
    by_cases hpk : (p.1 == k) = true
    · simp only [if_pos hpk]
      rcases List.mem_cons.1 hq with he | he
      · right
        subst he
        refine ⟨by simpa using hpk, ?_⟩
        unfold dictGet
        simp only [List.find?_cons, hpk]; rfl
      · exact Or.inl ⟨fun _ => List.mem_cons_of_mem _ he, he⟩
    · simp only [if_neg hpk]
      rcases List.mem_cons.1 hq with he | he
      · subst he; exact Or.inl ⟨fun _ => List.mem_cons_self, List.mem_cons_self⟩
      · rcases dict_keep ps k q he with ⟨h1, h2⟩ | ⟨h1, h2⟩
        · exact Or.inl ⟨fun s => List.mem_cons_of_mem _ (h1 s), List.mem_cons_of_mem _ h2⟩
        · right
          refine ⟨h1, ?_⟩
          unfold dictGet at h2 ⊢
          have hf : (p.1 == k) = false := by simpa using hpk
          simp only [List.find?_cons, hf]; exact h2

theorem dictSet_keep (l : List (String × SI)) (k : String) (s : SI) (q : String × SI) (hq : q ∈ l) :
    q ∈ dictSet l k s ∨ (q.1 = k ∧ dictGet l k = some q.2) := (dict_keep l k q hq).imp (fun h => h.1 s) id

theorem dictDel_keep (l : List (String × SI)) (k : String) (q : String × SI) (hq : q ∈ l) :
    q ∈ dictDel l k ∨ (q.1 = k ∧ dictGet l k = some q.2) := (dict_keep l k q hq).imp And.right id

theorem dictSet_sub : ∀ (l : List (String × SI)) (k : String) (s : SI) (q : String × SI), q ∈ dictSet l k s →
    q ∈ l ∨ q = (k, s)
  | [], k, s, q, hq => by simp [dictSet] at hq; exact Or.inr hq
  | p :: ps, k, s, q, hq => by
    unfold dictSet at hq
    split at hq
    · rcases List.mem_cons.1 hq with he | he
      · exact Or.inr he
      · exact Or.inl (List.mem_cons_of_mem _ he)
    · rcases List.mem_cons.1 hq with he | he
      · left; rw [he]; exact List.mem_cons_self
      · rcases dictSet_sub ps k s q he with h1 | h1
        · exact Or.inl (List.mem_cons_of_mem _ h1)
        · exact Or.inr h1

theorem dictGet_mem (l : List (String × SI)) (k : String) (s : SI) (h : dictGet l k = some s) : (k, s) ∈ l := by
  obtain ⟨k', hm, hk⟩ := find?_snd_some (p := (· == k)) h
  exact eq_of_beq hk ▸ hm

theorem vsUnionStep_sound (w : Nat) (bsi : SI) (acc acc' : VS) (p : String × SI)
    (hacc : ∀ q, q ∈ acc.regions → WFw w q.2) (hp : WFw w p.2)
    (h : vsCombineStep SI.union bsi acc p = .ok acc') :
    (∀ q, q ∈ acc'.regions → WFw w q.2) ∧
    (∀ region x, acc.memAt region x → acc'.memAt region x) ∧ ∀ x, p.2.mem x → acc'.memAt p.1 x := by
  obtain ⟨regs, hregs, h⟩ := bind_ok h
  obtain ⟨si, _, h⟩ := bind_ok h
  have hv := pure_ok h
  subst hv
  -- the entry written for `p.1` is well formed and holds `p.2` and the entry read, if there was one
  obtain ⟨u, huW, hpu, hsu, hr⟩ : ∃ u, WFw w u ∧ (∀ x, p.2.mem x → u.mem x) ∧
      (∀ s, dictGet acc.regions p.1 = some s → ∀ x, s.mem x → u.mem x) ∧ regs = dictSet acc.regions p.1 u := by
    cases hg : dictGet acc.regions p.1 with
    | none =>
      rw [hg] at hregs
      exact ⟨p.2, hp, fun _ hx => hx, (fun _ hs => nomatch hs), pure_ok hregs⟩
    | some s =>
      rw [hg] at hregs
      obtain ⟨u, hu, hregs⟩ := bind_ok hregs
      obtain ⟨g1, g2⟩ := union_sup w s p.2 u (hacc (p.1, s) (dictGet_mem _ _ _ hg)) hp hu
      exact ⟨u, g1, fun x hx => g2 x (Or.inr hx), fun _ hs x hx => g2 x (Or.inl (Option.some.inj hs ▸ hx)), pure_ok hregs⟩
  subst hr
  refine ⟨?_, ?_, fun x hx => ⟨(p.1, u), dictSet_new _ _ _, rfl, hpu x hx⟩⟩
  · intro q hq
    rcases dictSet_sub _ _ _ q hq with h1 | h1
    · exact hacc q h1
    · rw [h1]; exact huW
  · intro region x ⟨q, hq, hreg, hm⟩
    rcases dictSet_keep acc.regions p.1 u q hq with h1 | ⟨h1, h2⟩
    · exact ⟨q, h1, hreg, hm⟩
    · exact ⟨(p.1, u), dictSet_new _ _ _, by rw [← hreg, h1], hsu q.2 h2 x hm⟩

theorem vs_unionVS (w : Nat) (v b r : VS) (hv : ∀ q, q ∈ v.regions → WFw w q.2) (hb : ∀ q, q ∈ b.regions → WFw w q.2)
    (h : v.unionVS b = .ok r) (region : String) (x : Nat) (hx : v.memAt region x ∨ b.memAt region x) : r.memAt region x := by
  unfold VS.unionVS at h
  have key : ∀ (ps : List (String × SI)) (acc r : VS), (∀ q, q ∈ acc.regions → WFw w q.2) → (∀ q, q ∈ ps → WFw w q.2) →
      vsFold (vsCombineStep SI.union b.si) acc ps = .ok r →
      ∀ region x, (acc.memAt region x ∨ ∃ p, p ∈ ps ∧ p.1 = region ∧ p.2.mem x) → r.memAt region x := by
    intro ps
    induction ps with
    | nil =>
      intro acc r _ _ h region x hx
      have := pure_ok h
      subst this
      rcases hx with hx | ⟨p, hp, _⟩
      · exact hx
      · cases hp
    | cons p ps ih =>
      intro acc r hacc hps h region x hx
      obtain ⟨acc', hacc', h⟩ := bind_ok h
      obtain ⟨g1, g2, g3⟩ := vsUnionStep_sound w b.si acc acc' p hacc (hps p List.mem_cons_self) hacc'
      apply ih acc' r g1 (fun q hq => hps q (List.mem_cons_of_mem _ hq)) h region x
      rcases hx with hx | ⟨q, hq, hreg, hm⟩
      · exact Or.inl (g2 region x hx)
      · rcases List.mem_cons.1 hq with he | he
        · subst he; left; rw [← hreg]; exact g3 x hm
        · exact Or.inr ⟨q, he, hreg, hm⟩
  exact key b.regions v r hv hb h region x (by
    rcases hx with hx | ⟨p, hp, hreg, hm⟩
    · exact Or.inl hx
    · exact Or.inr ⟨p, hp, hreg, hm⟩)

theorem vs_arith (w : Nat) (v v' : VS) (b : SI) (hv : ∀ p, p ∈ v.regions → NE w p.2) (hb : NE w b) (region : String)
    (x y : Nat) (hx : v.memAt region x) (hy : b.mem y) :
    (v.mapRegions (fun s => pure (s.add b)) = .ok v' → v'.memAt region ((x + y) % 2 ^ w)) ∧
    (v.mapRegions (fun s => pure (s.sub b)) = .ok v' → v'.memAt region ((x + 2 ^ w - y) % 2 ^ w)) ∧
    (v.mapRegions (fun s => s.mod b) = .ok v' → y ≠ 0 → v'.memAt region (x % y)) := by
  refine ⟨fun h => ?_, fun h => ?_, fun h hy0 => ?_⟩
  · refine vs_opSI v v' _ (fun x => (x + y) % 2 ^ w) (NE w) True (fun s r hs hr x hsx _ => ?_) hv h region x hx trivial
    cases pure_ok hr
    exact hs.bits ▸ add_sound s b x y (hs.bits.trans hb.bits.symm) hs.wf hb.wf hsx hy
  · refine vs_opSI v v' _ (fun x => (x + 2 ^ w - y) % 2 ^ w) (NE w) True (fun s r hs hr x hsx _ => ?_) hv h region x hx trivial
    cases pure_ok hr
    exact hs.bits ▸ sub_sound s b x y (hs.bits.trans hb.bits.symm) hs.wf hb.wf hsx hy
  · exact vs_opSI v v' _ (fun x => x % y) (NE w) True (fun s r hs hr x hsx _ =>
      (mod_sound_full w s b r ⟨hs.wf, hs.bits⟩ ⟨hb.wf, hb.bits⟩ hs.nb hb.nb hr).2 x y hsx hy hy0) hv h region x hx trivial

theorem dictDel_sub : ∀ (l : List (String × SI)) (k : String) (q : String × SI), q ∈ dictDel l k → q ∈ l
  | [], _, q, hq => by simp [dictDel] at hq
  | p :: ps, k, q, hq => by
    unfold dictDel at hq
    split at hq
    · exact List.mem_cons_of_mem _ hq
    · rcases List.mem_cons.1 hq with he | he
      · rw [he]; exact List.mem_cons_self
      · exact List.mem_cons_of_mem _ (dictDel_sub ps k q he)

theorem vsMeetStep_sound (w : Nat) (acc acc' : VS) (p : String × SI)
    (hacc : ∀ q, q ∈ acc.regions → q.1 = p.1 → NEa w q.2) (hp : NEa w p.2) (h : vsMeetStep acc p = .ok acc') :
    (∀ q, q ∈ acc'.regions → q.1 ≠ p.1 → q ∈ acc.regions) ∧
    (∀ region x, region ≠ p.1 → acc.memAt region x → acc'.memAt region x) ∧
    (∀ x, acc.memAt p.1 x → p.2.mem x → acc'.memAt p.1 x) := by
  unfold vsMeetStep at h
  cases hg : dictGet acc.regions p.1 with
  | none =>
    rw [hg] at h
    have := pure_ok h
    subst this
    refine ⟨fun q hq _ => hq, fun _ _ _ hm => hm, ?_⟩
    intro x ⟨q, hq, hreg, _⟩ _
    exact absurd hreg (dictGet_none _ _ hg q hq)
  | some s =>
    rw [hg] at h
    obtain ⟨u, hu, h⟩ := bind_ok h
    have := pure_ok h
    subst this
    have hsin := dictGet_mem _ _ _ hg
    have hs : NEa w s := hacc (p.1, s) hsin rfl
    have hmeet := meet_NEa w s p.2 u hs hp hu
    -- an entry other than the one read survives, whether the region is deleted or reassigned
    have hkeep : ∀ q, q ∈ acc.regions →
        q ∈ (if u.bottom = true then dictDel acc.regions p.1 else dictSet acc.regions p.1 u) ∨
          (q.1 = p.1 ∧ dictGet acc.regions p.1 = some q.2) := fun q hq =>
      (dict_keep acc.regions p.1 q hq).imp (fun hk => by split; exact hk.2; exact hk.1 u) id
    refine ⟨?_, ?_, ?_⟩
    · intro q hq hne
      show q ∈ acc.regions
      have hq' : q ∈ (if u.bottom = true then dictDel acc.regions p.1 else dictSet acc.regions p.1 u) := hq
      split at hq'
      · exact dictDel_sub _ _ q hq'
      · rcases dictSet_sub _ _ _ q hq' with h1 | h1
        · exact h1
        · exact absurd (by rw [h1]) hne
    · intro region x hne ⟨q, hq, hreg, hm⟩
      rcases hkeep q hq with h1 | ⟨h1, _⟩
      · exact ⟨q, h1, hreg, hm⟩
      · exact absurd (by rw [← hreg, h1]) hne
    · intro x ⟨q, hq, hreg, hm⟩ hpx
      rcases hkeep q hq with h1 | ⟨_, h2⟩
      · exact ⟨q, h1, hreg, hm⟩
      · -- `q` is the entry that is read: the common offset is in the meet, which is therefore not empty
        rw [hg] at h2
        have hux : u.mem x := hmeet.2 x (by rw [Option.some.inj h2]; exact hm) hpx
        show ∃ q', q' ∈ (if u.bottom = true then dictDel acc.regions p.1 else dictSet acc.regions p.1 u) ∧ _
        rw [if_neg (by rw [hux.1]; decide)]
        exact ⟨(p.1, u), dictSet_new _ _ _, rfl, hux⟩

theorem vs_meetVS (w : Nat) (v b r : VS) (hv : ∀ p, p ∈ v.regions → NEa w p.2) (hb : ∀ p, p ∈ b.regions → NEa w p.2)
    (hnd : (b.regions.map (·.1)).Nodup) (h : v.meetVS b = .ok r) (region : String) (x : Nat)
    (hx : v.memAt region x) (hbx : b.memAt region x) : r.memAt region x := by
  obtain ⟨r0, hr0, h⟩ := bind_ok h
  obtain ⟨si, _, h⟩ := bind_ok h
  have hr := pure_ok h
  subst hr
  -- the loop, `ps` being the operand's entries still to come: `x` stays at `region` if none of them has that key or one that has
  -- holds `x`; only the accumulator's entries under keys still to come need be `NEa`, those already met are not read again
  have key : ∀ (ps : List (String × SI)) (acc r0 : VS), (ps.map (·.1)).Nodup → (∀ p, p ∈ ps → NEa w p.2) →
      (∀ q, q ∈ acc.regions → q.1 ∈ ps.map (·.1) → NEa w q.2) → vsFold vsMeetStep acc ps = .ok r0 →
      ∀ region x, acc.memAt region x → (region ∉ ps.map (·.1) ∨ ∃ p, p ∈ ps ∧ p.1 = region ∧ p.2.mem x) →
        r0.memAt region x := by
    intro ps
    induction ps with
    | nil =>
      intro acc r0 _ _ _ h region x hm _
      have := pure_ok h
      subst this
      exact hm
    | cons p ps ih =>
      intro acc r0 hnd hps hacc h region x hm hcond
      obtain ⟨acc', hacc', h⟩ := bind_ok h
      rw [List.map_cons, List.nodup_cons] at hnd
      obtain ⟨g1, g2, g3⟩ := vsMeetStep_sound w acc acc' p
        (fun q hq hk => hacc q hq (by rw [List.map_cons, hk]; exact List.mem_cons_self)) (hps p List.mem_cons_self) hacc'
      apply ih acc' r0 hnd.2 (fun q hq => hps q (List.mem_cons_of_mem _ hq)) ?_ h region x
      -- `x` survives the step: under `p`'s key the entry holding `x` is `p`, the keys being distinct; elsewhere nothing changes
      · by_cases hreg : region = p.1
        · subst hreg
          rcases hcond with hc | ⟨p', hp', hk, hm'⟩
          · exact absurd (by rw [List.map_cons]; exact List.mem_cons_self) hc
          · rcases List.mem_cons.1 hp' with he | he
            · subst he; exact g3 x hm hm'
            · exfalso
              apply hnd.1
              rw [← hk]
              exact List.mem_map.2 ⟨p', he, rfl⟩
        · exact g2 region x hreg hm
      -- the condition on `region` for the remaining entries: `p`'s key does not come again
      · by_cases hreg : region = p.1
        · left
          rw [hreg]; exact hnd.1
        · rcases hcond with hc | ⟨p', hp', hk, hm'⟩
          · left
            intro hin
            apply hc
            rw [List.map_cons]; exact List.mem_cons_of_mem _ hin
          · right
            rcases List.mem_cons.1 hp' with he | he
            · subst he; exact absurd hk.symm hreg
            · exact ⟨p', he, hk, hm'⟩
      -- an entry under a key still to come is not the one this step wrote (`g1`)
      · intro q hq hk
        by_cases hqp : q.1 = p.1
        · exfalso
          apply hnd.1
          rw [← hqp]; exact hk
        · exact hacc q (g1 q hq hqp) (by rw [List.map_cons]; exact List.mem_cons_of_mem _ hk)
  have := key b.regions v r0 hnd hb (fun q hq _ => hv q hq) hr0 region x hx (Or.inr (by
    obtain ⟨p, hp, hreg, hm⟩ := hbx
    exact ⟨p, hp, hreg, hm⟩))
  exact this

end Claripy.VSA

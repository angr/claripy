import ClaripyProofs.Lemmas.VSA.MeetFinal
/-! Intervals given by integer bounds `LB ≤ UB` with `UB - LB < 2^w` (the partial products of `mul` before reduction):
well-formedness, membership of the reduced value, alignment, and when the reduced interval does not wrap (`finSI_le`). -/
namespace Claripy.VSA

theorem cd_imod (L V : Int) (w : Nat) (h0 : 0 ≤ V - L) (h1 : V - L < ((2 ^ w : Nat) : Int)) :
    cd (2 ^ w) (imod L w) (imod V w) = (V - L).toNat := by
  have hV := imod_add L (V - L).toNat w
  rw [Int.toNat_of_nonneg h0, show L + (V - L) = V by omega] at hV
  rw [hV]
  exact cd_add_right _ _ _ (imod_lt L w) (by omega)

/-- the interval with integer bounds `lb ≤ ub` and stride `g` if the bounds are less than a full turn apart, else the full
circle (the local `fin` of the model's `wrappedSignedMul`; `wrappedUnsignedMul` writes the same test out) -/
def finSI (w g : Nat) (lb ub : Int) : SI := if ub - lb < 2 ^ w then SI.new w g lb ub else SI.top w

theorem fin_WF (w g : Nat) (lb ub : Int) (hw : 0 < w) (h0 : g = 0 → lb = ub) :
    WFw w (finSI w g lb ub) ∧ (finSI w g lb ub).bottom = false ∧ Nrm (finSI w g lb ub) := by
  unfold finSI
  split
  · exact ⟨⟨new_WF w g lb ub hw (fun h => by rw [h0 h]), new_bits _ _ _ _⟩, new_bottom _ _ _ _, nrm_new _ _ _ _ hw⟩
  · exact ⟨⟨top_WF w hw, top_bits w⟩, by unfold SI.top; exact new_bottom _ _ _ _, nrm_top w hw⟩

theorem finInterval (w g : Nat) (LB UB V : Int) (h1 : LB ≤ V) (h2 : V ≤ UB) (hgV : (g : Int) ∣ V - LB) :
    (finSI w g LB UB).mem (imod V w) ∧ ((g : Int) ∣ UB - LB → (finSI w g LB UB).Aligned) := by
  have hN : ((2 : Int) ^ w) = ((2 ^ w : Nat) : Int) := by push_cast; rfl
  unfold finSI
  by_cases hlt : UB - LB < 2 ^ w
  · rw [if_pos hlt]
    rw [hN] at hlt
    have cU := cd_imod LB UB w (by omega) hlt
    have cV := cd_imod LB V w (by omega) (by omega)
    have hVn : ((V - LB).toNat : Int) = V - LB := Int.toNat_of_nonneg (by omega)
    have dV : g ∣ (V - LB).toNat := by
      have := hgV; rw [← hVn] at this; exact Int.natCast_dvd_natCast.1 this
    refine ⟨?_, fun hgU => ?_⟩
    · rw [mem_new, cU, cV]
      refine ⟨imod_lt _ _, by omega, ?_⟩
      exact stride_cond _ _ dV
    · have hUn : ((UB - LB).toNat : Int) = UB - LB := Int.toNat_of_nonneg (by omega)
      apply aligned_new_int
      rw [cU]
      rw [← hUn] at hgU; exact Int.natCast_dvd_natCast.1 hgU
  · rw [if_neg hlt]
    refine ⟨(mem_top w _).2 (imod_lt _ _), fun _ => ?_⟩
    rcases new_stride_dvd w 1 0 ((maxInt w : Nat) : Int) with h | h
    · exact Or.inl h
    · exact Or.inr (by rw [show (SI.top w).stride = 1 from h]; exact Nat.mod_one _)

/-- integer bounds inside one block `[c·2^w, (c+1)·2^w)`: the interval does not wrap -/
theorem finSI_le (w g : Nat) (LB UB c : Int) (h : LB ≤ UB) (hc : c * ((2 ^ w : Nat) : Int) ≤ LB)
    (hc' : UB < (c + 1) * ((2 ^ w : Nat) : Int)) : (finSI w g LB UB).lb ≤ (finSI w g LB UB).ub := by
  have hN : ((2 : Int) ^ w) = ((2 ^ w : Nat) : Int) := by push_cast; rfl
  have hM := Nat.two_pow_pos w
  have hS : (c + 1) * ((2 ^ w : Nat) : Int) = c * ((2 ^ w : Nat) : Int) + ((2 ^ w : Nat) : Int) := by
    rw [Int.add_mul, Int.one_mul]
  obtain ⟨n1, e1⟩ := Int.eq_ofNat_of_zero_le (show 0 ≤ LB - c * ((2 ^ w : Nat) : Int) by omega)
  obtain ⟨n2, e2⟩ := Int.eq_ofNat_of_zero_le (show 0 ≤ UB - c * ((2 ^ w : Nat) : Int) by omega)
  have i1 : imod LB w = imod (n1 : Int) w := by rw [imod_shift LB c n1 w (by omega), imod_nat]
  have i2 : imod UB w = imod (n2 : Int) w := by rw [imod_shift UB c n2 w (by omega), imod_nat]
  unfold finSI
  rw [if_pos (by rw [hN]; omega), new_congr w g LB UB _ _ i1 i2]
  obtain ⟨e1, e2⟩ := new_bounds_nowrap w g n1 n2 (by omega) (by omega)
  rw [e1, e2]
  omega

theorem le_one_of_mul_lt (w k v : Nat) (hw : 0 < w) (hv : 2 ^ (w - 1) ≤ v) (h : k * v < 2 ^ w) : k ≤ 1 := by
  apply Nat.le_of_not_lt
  intro hk
  have h1 : k * 2 ^ (w - 1) ≤ k * v := Nat.mul_le_mul_left _ hv
  have h2 : 2 * 2 ^ (w - 1) ≤ k * 2 ^ (w - 1) := Nat.mul_le_mul_right _ hk
  have := two_pow_half w hw
  omega

end Claripy.VSA

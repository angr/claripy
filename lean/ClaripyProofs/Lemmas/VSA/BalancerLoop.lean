import ClaripyProofs.Lemmas.VSA.BalancerArms
/-!
`_balance_add` / `_balance_sub` rotate the truism by the constant they move (`Rot`); `_balance_signext` drops equal high
bits; the dispatch over the arms, once for every operator (`balStep_step`), and what one arm keeps (`balStep_keeps`: the
unsigned reading; the truism itself up to its reading; across `+` / `-` only `==` and `!=`).  The loop `_balance` (model
`balLoop`) keeps every invariant that the arms keep (`balLoop_inv`); its two instances: what the arms keep
(`balance1_keeps`), and "a rotation of the original truism" when only `+` / `-` fire (`balance1_rot`).
-/
namespace Claripy.VSA.Bal
open Claripy.VSA

/-- `t'` is `t` with the left side rotated back by a constant `c` and the other side moved by the same constant:
`value(t.lhs) = value(t'.lhs) + c` and `t'.r = t.r - c` (mod `2^w`) -/
def Rot (env : Nat → Nat) (t t' : Tru) : Prop :=
  t'.op = t.op ∧ t'.w = t.w ∧ ∃ c, c < 2 ^ t.w ∧ t'.r = Conc.sub t.w t.r c ∧
    ∀ v', evalBV env t'.lhs = some v' → v' < 2 ^ t.w → evalBV env t.lhs = some (Conc.add t.w v' c)

theorem Rot_refl (env : Nat → Nat) (t : Tru) (hr : t.r < 2 ^ t.w) : Rot env t t :=
  ⟨rfl, rfl, 0, Nat.two_pow_pos _, (sub_zero' _ _ hr).symm, fun v' hv hlt => by rw [add_zero' _ _ hlt]; exact hv⟩

theorem Rot_trans (env : Nat → Nat) (t t' t'' : Tru) (hr : t.r < 2 ^ t.w) (h1 : Rot env t t') (h2 : Rot env t' t'')
    (hval : ∀ v'', evalBV env t''.lhs = some v'' → v'' < 2 ^ t.w → ∃ v', evalBV env t'.lhs = some v' ∧ v' < 2 ^ t.w) :
    Rot env t t'' := by
  obtain ⟨ho1, hw1, c, hc, hr1, he1⟩ := h1
  obtain ⟨ho2, hw2, c', hc', hr2, he2⟩ := h2
  rw [hw1] at hc' hr2 he2
  refine ⟨by rw [ho2, ho1], by rw [hw2, hw1], Conc.add t.w c c', conc_add_lt _ _ _, ?_, ?_⟩
  · rw [hr2, hr1, sub_sub' t.w t.r c c' hr hc hc']
  · intro v'' hv'' hlt
    obtain ⟨v', hv', hlt'⟩ := hval v'' hv'' hlt
    have := he2 v'' hv'' hlt
    rw [hv'] at this
    cases this
    rw [he1 _ hv' (conc_add_lt _ _ _), add_assoc']

theorem Rot_eq_holds (env : Nat → Nat) (t t' : Tru) (hop : t.op = .eq ∨ t.op = .ne) (hr : t.r < 2 ^ t.w) (h : Rot env t t')
    (hh : t.holds env) (v' : Nat) (hv' : evalBV env t'.lhs = some v') (hlt : v' < 2 ^ t.w) : t'.holds env := by
  obtain ⟨ho, hw, c, hc, hr', he⟩ := h
  obtain ⟨v, hv, hcmp⟩ := hh
  rw [he v' hv' hlt] at hv
  cases hv
  refine ⟨v', hv', ?_⟩
  rw [ho, hw, hr']
  have key := add_eq_move t.w v' c t.r hlt hc hr
  rcases hop with h | h <;> rw [h] at hcmp ⊢ <;> simp only [concCmp, decide_eq_true_eq] at hcmp ⊢
  · exact key.1 hcmp
  · intro hcon; exact hcmp (key.2 hcon)


section
variable (anno : Nat → SI) (env : Nat → Nat) (hctx : ∀ i, (anno i).WF ∧ (anno i).mem (env i)) (hnrm : ∀ i, Nrm (anno i))
include hctx

omit hctx in
theorem rot_mk (t : Tru) (e' : BV) (c x' : Nat) (hoe : ExprOK anno env e') (hw : wd e' = t.w)
    (hc : c < 2 ^ t.w) (hx' : evalBV env e' = some x') (hval : evalBV env t.lhs = some (Conc.add t.w x' c)) :
    TruWT anno env { t with lhs := e', r := Conc.sub t.w t.r c } ∧ Rot env t { t with lhs := e', r := Conc.sub t.w t.r c } := by
  refine ⟨⟨hoe, hw, conc_sub_lt _ _ _⟩, rfl, rfl, c, hc, rfl, fun v' hv' _ => ?_⟩
  rw [hx'] at hv'; cases hv'
  exact hval

theorem balAdd_rot (t t' : Tru) (a b : BV) (hl : t.lhs = .bin .add a b) (hok : TruWT anno env t)
    (h : balAdd t a b = .ok t') : t' = t ∨ (TruWT anno env t' ∧ Rot env t t') := by
  obtain ⟨hoa, hob, hwa, hwb, x, y, hx, hy, hxlt, hylt⟩ := bin_operands anno env hctx t .add a b hl hok
  have hlv : evalBV env t.lhs = some (Conc.add t.w x y) := by
    rw [hl, evalBV_bin env .add a b x y hx hy, hwa]; rfl
  have moveB : (valOf b >>= fun vb => pure { t with lhs := a, r := Conc.sub t.w t.r vb }) = .ok t' →
      t' = t ∨ (TruWT anno env t' ∧ Rot env t t') := fun h => by
    obtain ⟨vb, hvb, h⟩ := bind_ok h
    cases pure_ok h
    obtain ⟨_, hvb'⟩ := valOf_spec env b vb hvb
    rw [hy] at hvb'; cases hvb'
    exact Or.inr (rot_mk anno env t a y x hoa hwa hylt hx hlv)
  unfold balAdd at h
  split_ifs at h
  · exact moveB h
  · exact Or.inl (pure_ok h)
  · exact moveB h
  · obtain ⟨va, hva, h⟩ := bind_ok h
    cases pure_ok h
    obtain ⟨_, hva'⟩ := valOf_spec env a va hva
    rw [hx] at hva'; cases hva'
    exact Or.inr (rot_mk anno env t b x y hob hwb hxlt hy (by rw [hlv, add_comm']))

/-- `_balance_sub`: unchanged, or a rotation (subtracting `y` is adding `2^w - y`) -/
theorem balSub_rot (t t' : Tru) (a b : BV) (hl : t.lhs = .bin .sub a b) (hok : TruWT anno env t)
    (h : balSub t a b = .ok t') : t' = t ∨ (TruWT anno env t' ∧ Rot env t t') := by
  obtain ⟨hoa, hob, hwa, hwb, x, y, hx, hy, hxlt, hylt⟩ := bin_operands anno env hctx t .sub a b hl hok
  have hlv : evalBV env t.lhs = some (Conc.sub t.w x y) := by
    rw [hl, evalBV_bin env .sub a b x y hx hy, hwa]; rfl
  unfold balSub at h
  by_cases hsb : symBV b = true
  · rw [if_pos hsb] at h
    cases pure_ok h
    exact Or.inl rfl
  · rw [if_neg hsb] at h
    obtain ⟨vb, hvb, h⟩ := bind_ok h
    cases pure_ok h
    obtain ⟨_, hvb'⟩ := valOf_spec env b vb hvb
    rw [hy] at hvb'; cases hvb'
    have := rot_mk anno env t a ((2 ^ t.w - y) % 2 ^ t.w) x hoa hwa (Nat.mod_lt _ (Nat.two_pow_pos _)) hx
      (by rw [hlv, sub_as_add t.w x y hylt])
    rw [sub_neg_eq_add t.w t.r y hylt] at this
    exact Or.inr this

include hnrm

/-- when `_balance_signext` changes the truism, it is the narrowed one, and the value of the left side and the other side
have the same `k` high bits: the abstract value of the extension bits is the singleton of the high bits of the literal -/
theorem balSext_high (t t' : Tru) (k : Nat) (e : BV) (hl : t.lhs = .sext k e) (hok : TruWT anno env t)
    (h : balSext anno t k e = .ok t') (hne : t' ≠ t) (v : Nat) (hv : evalBV env t.lhs = some v) :
    t' = ⟨t.op, e, Conc.extract (t.w - k - 1) 0 t.r, t.w - k⟩ ∧ v / 2 ^ (t.w - k) = t.r / 2 ^ (t.w - k) := by
  have hw : t.w = k + wd e := by rw [← hok.wd_eq, hl]; rfl
  unfold balSext at h
  obtain ⟨p, hp, h⟩ := bind_ok h
  have hp := liftR_ok hp
  have hres := pure_ok h
  by_cases hid : siIdentical p.1.si (SI.new (t.w - 1 + 1 - (t.w - k)) 0 (Conc.extract (t.w - 1) (t.w - k) t.r)
      (Conc.extract (t.w - 1) (t.w - k) t.r)) = true
  · rw [if_pos hid] at hres
    have hvlt := (hok.range anno env hctx v hv).1
    refine ⟨hres, ?_⟩
    rcases Nat.eq_zero_or_pos k with hk0 | hk
    · subst hk0
      rw [Nat.sub_zero, Nat.div_eq_of_lt hvlt, Nat.div_eq_of_lt hok.r_lt]
    have hkw : t.w - 1 + 1 - (t.w - k) = k := by omega
    rw [hkw] at hid
    obtain ⟨hokx, hfv, _⟩ := foldBV_ok anno env hctx (.extract (t.w - 1) (t.w - k) t.lhs)
      (ok_mk_extract hok.ok (by omega) (by rw [hok.wd_eq]; omega))
    have hxv : evalBV env (foldBV (.extract (t.w - 1) (t.w - k) t.lhs)) = some (Conc.extract (t.w - 1) (t.w - k) v) := by
      rw [hfv]; simp [evalBV, hv]
    obtain ⟨hwf, hmem⟩ := conv_val anno env hctx hnrm _ hokx [] p hp _ hxv
    generalize hbdef : Conc.extract (t.w - 1) (t.w - k) t.r = hb at *
    have hblt : hb < 2 ^ k := by
      rw [← hbdef]; unfold Conc.extract; rw [hkw]; exact Nat.mod_lt _ (Nat.two_pow_pos k)
    simp only [siIdentical, Bool.and_eq_true, decide_eq_true_eq] at hid
    obtain ⟨⟨⟨_, _⟩, hlb⟩, hub⟩ := hid
    have hnew : (SI.new k 0 (hb : Int) (hb : Int)).lb = hb ∧ (SI.new k 0 (hb : Int) (hb : Int)).ub = hb := by
      rw [new_eq]; simp [imod_of_lt hb k hblt]
    have hext : Conc.extract (t.w - 1) (t.w - k) v = hb := by
      have := mem_integer p.1.si _ hwf (by rw [hlb, hub, hnew.1, hnew.2]) hmem
      rw [this, hlb, hnew.1]
    -- the `k` high bits of a `w`-bit value are its quotient by `2^(w-k)`
    have high : ∀ z, z < 2 ^ t.w → Conc.extract (t.w - 1) (t.w - k) z = z / 2 ^ (t.w - k) := fun z hz =>
      ext_val (t.w - 1) (t.w - k) z (by omega) (by rw [show t.w - 1 + 1 = t.w by omega]; exact hz)
    rw [← high v hvlt, hext, ← hbdef, high t.r hok.r_lt]
  · rw [if_neg hid] at hres
    exact (hne hres).elim

theorem balSext_step (t t' : Tru) (k : Nat) (e : BV) (hl : t.lhs = .sext k e) (hok : TruWT anno env t)
    (h : balSext anno t k e = .ok t') :
    t' = t ∨ (Step anno env t t' ∧ t'.w = t.w - k) := by
  by_cases hne : t' = t
  · exact Or.inl hne
  have hoe : ExprOK anno env e := ok_sext (hl ▸ hok.ok)
  have hw : t.w = k + wd e := by rw [← hok.wd_eq, hl]; rfl
  have hpos : 0 < wd e := wd_pos anno env (fun i => (hctx i).1) e hoe.1
  have hwk : t.w - k = wd e := by omega
  obtain ⟨v, hv⟩ := exprOK_val anno env t.lhs hok.ok
  obtain ⟨ht', hdiv⟩ := balSext_high anno env hctx hnrm t t' k e hl hok h hne v hv
  subst ht'
  obtain ⟨x, hx⟩ := exprOK_val anno env e hoe
  have hr' : Conc.extract (t.w - k - 1) 0 t.r = t.r % 2 ^ (t.w - k) := by
    unfold Conc.extract
    rw [show t.w - k - 1 + 1 - 0 = t.w - k by omega, Nat.shiftRight_zero]
  -- the low bits of the extension are the operand
  have hvx : v % 2 ^ (t.w - k) = x := by
    rw [hl] at hv
    have hxlt : x < 2 ^ wd e := evalBV_lt anno env hctx e x hoe.1 hx
    simp only [evalBV, hx, Option.bind_eq_bind, Option.bind_some, Option.some.injEq] at hv
    rw [← hv, hwk, sext_val (wd e) (k + wd e) x hpos hxlt (by omega)]
    split_ifs
    · exact Nat.mod_eq_of_lt hxlt
    · have hp2 : 2 ^ (k + wd e) - 2 ^ wd e = 2 ^ wd e * (2 ^ k - 1) := by
        rw [Nat.pow_add, Nat.mul_sub, Nat.mul_one, Nat.mul_comm]
      rw [hp2, Nat.add_mul_mod_self_left, Nat.mod_eq_of_lt hxlt]
  refine Or.inr ⟨⟨⟨hoe, hwk.symm, by simp only; rw [hr']; exact Nat.mod_lt _ (Nat.two_pow_pos _)⟩, rfl, fun v1 hv1 => ?_⟩, rfl⟩
  rw [hv] at hv1; cases hv1
  exact ⟨x, hx, .drop (Nat.sub_le _ _) hvx.symm hr' hdiv⟩

end

theorem balLoop_flags (anno : Nat → SI) : ∀ (fuel : Nat) (t : Tru) (um up : Bool) (out : BalOut),
    balLoop anno fuel t um up = .ok out → (um = true → out.usedMod = true) ∧ (up = true → out.usedPt = true)
  | 0, _, _, _, _, h => by cases h
  | n + 1, t, um, up, out, h => by
    unfold balLoop at h
    obtain ⟨ta, _, h⟩ := bind_ok h
    by_cases harm : (!hasArm ta.lhs) = true
    · rw [if_pos harm] at h
      cases pure_ok h; exact ⟨id, id⟩
    · rw [if_neg harm] at h
      obtain ⟨t', _, h⟩ := bind_ok h
      by_cases heq : t' = ta
      · rw [if_pos heq] at h
        cases pure_ok h; exact ⟨id, id⟩
      · rw [if_neg heq] at h
        obtain ⟨h1, h2⟩ := balLoop_flags anno n t' _ _ out h
        exact ⟨fun hh => h1 (by simp [hh]), fun hh => h2 (by simp [hh])⟩

section
variable (anno : Nat → SI) (env : Nat → Nat) (hctx : ∀ i, (anno i).WF ∧ (anno i).mem (env i))
include hctx

/-- **the loop keeps every invariant that the permitted arms keep** and that only looks at the operator, the literal, the
width and the value of the left side (what `_align_truism` keeps) -/
theorem balLoop_inv (Inv : Tru → Prop) (allowMod allowPt : Prop)
    (h_align : ∀ u u' : Tru, u'.op = u.op → u'.r = u.r → u'.w = u.w → evalBV env u'.lhs = evalBV env u.lhs → Inv u → Inv u')
    (h_step : ∀ ta t', TruWT anno env ta → Inv ta → balStep anno ta = .ok t' →
        (if isModLhs ta.lhs = true then allowMod else allowPt) → TruWT anno env t' ∧ Inv t') :
    ∀ (fuel : Nat) (t : Tru) (um up : Bool) (out : BalOut), TruWT anno env t → Inv t →
      balLoop anno fuel t um up = .ok out →
      (out.usedMod = true → allowMod) → (out.usedPt = true → allowPt) → TruWT anno env out.t ∧ Inv out.t
  | 0, _, _, _, _, _, _, h, _, _ => by cases h
  | n + 1, t, um, up, out, hok, hinv, h, hM, hP => by
    unfold balLoop at h
    obtain ⟨ta, hta, h⟩ := bind_ok h
    obtain ⟨a1, a2, a3, a4, hoka, _⟩ := alignTru_spec anno env hctx t ta hok hta
    have hinva := h_align t ta a1 a2 a3 a4 hinv
    by_cases harm : (!hasArm ta.lhs) = true
    · rw [if_pos harm] at h
      cases pure_ok h; exact ⟨hok, hinv⟩
    · rw [if_neg harm] at h
      obtain ⟨t', ht', h⟩ := bind_ok h
      by_cases heq : t' = ta
      · rw [if_pos heq] at h
        cases pure_ok h; exact ⟨hoka, hinva⟩
      · rw [if_neg heq] at h
        obtain ⟨f1, f2⟩ := balLoop_flags anno n t' _ _ out h
        have hallow : if isModLhs ta.lhs = true then allowMod else allowPt := by
          by_cases hm : isModLhs ta.lhs = true
          · rw [if_pos hm]; exact hM (f1 (by simp [hm]))
          · rw [if_neg hm]
            have hm' : isModLhs ta.lhs = false := by simpa using hm
            exact hP (f2 (by simp [hm']))
        obtain ⟨hok', hinv'⟩ := h_step ta t' hoka hinva ht' hallow
        exact balLoop_inv Inv allowMod allowPt h_align h_step n t' _ _ out hok' hinv' h hM hP

end


theorem isModLhs_cases (e : BV) (h : isModLhs e = true) :
    (∃ a b, e = .bin .add a b) ∨ (∃ a b, e = .bin .sub a b) := by
  cases e with
  | bin op a b => cases op <;> simp [isModLhs] at h <;> first | exact Or.inl ⟨a, b, rfl⟩ | exact Or.inr ⟨a, b, rfl⟩
  | _ => simp [isModLhs] at h

theorem balStep_add (anno : Nat → SI) (t : Tru) (a b : BV) (h : t.lhs = .bin .add a b) : balStep anno t = balAdd t a b := by
  unfold balStep; rw [h]
theorem balStep_sub (anno : Nat → SI) (t : Tru) (a b : BV) (h : t.lhs = .bin .sub a b) : balStep anno t = balSub t a b := by
  unfold balStep; rw [h]

theorem eqne_uns (op : CmpOp) (h : op = .eq ∨ op = .ne) : unsOp op = true := by rcases h with h | h <;> rw [h] <;> rfl

section
variable (anno : Nat → SI) (env : Nat → Nat) (hctx : ∀ i, (anno i).WF ∧ (anno i).mem (env i)) (hnrm : ∀ i, Nrm (anno i))
include hctx hnrm

/-- the arms that drop extension bits (`ZeroExt`, `SignExt`, `Concat` with a zero high part): after them only the unsigned
reading of a signed truism is known -/
def isWidthLhs : BV → Bool
  | .zext _ _ | .sext _ _ | .concat _ _ => true
  | _ => false

theorem balStep_step (ta t' : Tru) (hok : TruWT anno env ta)
    (hnm : isModLhs ta.lhs = false) (h : balStep anno ta = .ok t') :
    t' = ta ∨ (Step anno env ta t' ∧ (isWidthLhs ta.lhs = false → ta.w ≤ t'.w)) := by
  unfold balStep at h
  split at h
  · rename_i a b hl; rw [hl] at hnm; simp [isModLhs] at hnm
  · rename_i a b hl; rw [hl] at hnm; simp [isModLhs] at hnm
  · rename_i k e hl
    cases pure_ok h
    exact (balZext_step anno env hctx ta k e hl hok).imp_right fun ⟨st, _⟩ =>
      ⟨st, fun hw => by rw [hl] at hw; simp [isWidthLhs] at hw⟩
  · rename_i k e hl
    exact (balSext_step anno env hctx hnrm ta t' k e hl hok h).imp_right fun ⟨st, _⟩ =>
      ⟨st, fun hw => by rw [hl] at hw; simp [isWidthLhs] at hw⟩
  · rename_i hi lo e hl
    exact (balExtract_step anno env hctx hnrm ta t' hi lo e hl hok h).imp_right fun ⟨st, hle⟩ => ⟨st, fun _ => hle⟩
  · rename_i a b hl
    cases pure_ok h
    exact (balAnd_step anno env hctx ta a b hl hok).imp_right fun ⟨st, hle⟩ => ⟨st, fun _ => hle⟩
  · rename_i a b hl
    exact (balConcat_step anno env hctx hnrm ta t' a b hl hok h).imp_right fun ⟨st, _⟩ =>
      ⟨st, fun hw => by rw [hl] at hw; simp [isWidthLhs] at hw⟩
  · rename_i e amt hl
    exact (balShl_step anno env hctx hnrm ta t' e amt hl hok h).imp_right fun ⟨st, hle⟩ => ⟨st, fun _ => hle⟩
  · cases pure_ok h
    exact Or.inl rfl

omit hnrm in
theorem balStep_rot (ta t' : Tru) (hok : TruWT anno env ta)
    (hm : isModLhs ta.lhs = true) (h : balStep anno ta = .ok t') :
    t' = ta ∨ (TruWT anno env t' ∧ Rot env ta t') := by
  rcases isModLhs_cases ta.lhs hm with ⟨a, b, hl⟩ | ⟨a, b, hl⟩
  · exact balAdd_rot anno env hctx ta t' a b hl hok (balStep_add anno ta a b hl ▸ h)
  · exact balSub_rot anno env hctx ta t' a b hl hok (balStep_sub anno ta a b hl ▸ h)

theorem balStep_keeps (ta t' : Tru) (hok : TruWT anno env ta)
    (h : balStep anno ta = .ok t')
    (hallow : isModLhs ta.lhs = true → (ta.op = .eq ∨ ta.op = .ne)) :
    TruWT anno env t' ∧ t'.op = ta.op ∧ (ta.holdsU env → t'.holdsU env) ∧ (ta.holds env → t'.holds env ∨ t'.holdsU env) := by
  by_cases hm : isModLhs ta.lhs = true
  · rcases balStep_rot anno env hctx ta t' hok hm h with rfl | ⟨h1, h2⟩
    · exact ⟨hok, rfl, id, Or.inl⟩
    · obtain ⟨v', hv'⟩ := exprOK_val anno env _ h1.ok
      have hu := eqne_uns _ (hallow hm)
      have key := fun hh => Rot_eq_holds env ta t' (hallow hm) hok.r_lt h2 hh v' hv'
        (h2.2.1 ▸ (h1.range anno env hctx v' hv').1)
      exact ⟨h1, h2.1, fun hU => (holdsU_iff_holds env t' (h2.1 ▸ hu)).2 (key ((holdsU_iff_holds env ta hu).1 hU)),
        fun hh => Or.inl (key hh)⟩
  · rcases balStep_step anno env hctx hnrm ta t' hok (by simpa using hm) h with rfl | ⟨st, _⟩
    · exact ⟨hok, rfl, id, Or.inl⟩
    · have kS := st.keepsS anno env hctx hok
      exact ⟨st.1, st.2.1, st.keepsU anno env hctx hok, fun hh =>
        (Nat.lt_or_ge t'.w ta.w).elim (fun hlt => Or.inr ((kS hh).2 hlt)) (fun hle => Or.inl ((kS hh).1 hle))⟩

theorem balance1_keeps (t : Tru) (out : BalOut) (hok : TruWT anno env t)
    (h : balance1 anno t = .ok out)
    (hcov : out.usedMod = true → (t.op = .eq ∨ t.op = .ne)) :
    TruWT anno env out.t ∧ out.t.op = t.op ∧ (t.holdsU env → out.t.holdsU env) ∧
      (t.holds env ∨ t.holdsU env → out.t.holds env ∨ out.t.holdsU env) := by
  unfold balance1 at h
  exact balLoop_inv anno env hctx
    (fun u => u.op = t.op ∧ (t.holdsU env → u.holdsU env) ∧ (t.holds env ∨ t.holdsU env → u.holds env ∨ u.holdsU env))
    (t.op = .eq ∨ t.op = .ne) True
    (fun u u' ho hr hw he ⟨h1, h2, h3⟩ => ⟨ho.trans h1, fun x => (holds_congr ho hr hw he).2 (h2 x),
      fun x => (h3 x).imp (holds_congr ho hr hw he).1 (holds_congr ho hr hw he).2⟩)
    (by
      intro ua u' hoku ⟨ho, hU, hSU⟩ hst hallow
      obtain ⟨h1, h2, h3, h4⟩ := balStep_keeps anno env hctx hnrm ua u' hoku hst
        (fun hm => by rw [if_pos hm] at hallow; rw [ho]; exact hallow)
      exact ⟨h1, by rw [h2, ho], fun x => h3 (hU x), fun x => (hSU x).elim h4 (fun y => Or.inr (h3 y))⟩)
    _ t false false out hok ⟨rfl, id, id⟩ h hcov (fun _ => trivial)

omit hnrm in
theorem balance1_rot (t : Tru) (out : BalOut) (hok : TruWT anno env t)
    (h : balance1 anno t = .ok out) (hcov : out.usedPt = false) :
    TruWT anno env out.t ∧ Rot env t out.t := by
  unfold balance1 at h
  exact balLoop_inv anno env hctx (fun u => Rot env t u) True False
    (fun u u' h1 h2 h3 h4 ⟨r1, r2, c, hc, r3, r4⟩ =>
      ⟨by rw [h1, r1], by rw [h3, r2], c, hc, by rw [h2, r3], fun v' hv' hlt => r4 v' (by rw [← h4]; exact hv') hlt⟩)
    (by
      intro ua u' hoku hrot hst hallow
      by_cases hm : isModLhs ua.lhs = true
      · rcases balStep_rot anno env hctx ua u' hoku hm hst with h1 | ⟨h1, h2⟩
        · subst h1; exact ⟨hoku, hrot⟩
        · refine ⟨h1, Rot_trans env t ua u' hok.r_lt hrot h2 fun v'' _ _ => ?_⟩
          obtain ⟨v', hv'⟩ := exprOK_val anno env _ hoku.ok
          exact ⟨v', hv', hrot.2.1 ▸ (hoku.range anno env hctx v' hv').1⟩
      · rw [if_neg hm] at hallow; exact hallow.elim)
    _ t false false out hok (Rot_refl env t hok.r_lt) h (fun _ => trivial) (fun hh => by rw [hcov] at hh; cases hh)

end

end Claripy.VSA.Bal

import ClaripyProofs.Lemmas.VSA.NotExt
import ClaripyProofs.Lemmas.VSA.Signed
/-! The bounds of `zero_extend(nl)` stay below `2^bits` of the operand (needed by the integer shortcut of `concat`, which adds
them to the shifted high part without reducing).  The wrapping case joins the two extended halves: the join of two
non-wrapping intervals one below the other, both below `M`, has its bounds below `M`. -/
namespace Claripy.VSA

theorem new_bounds_lt (w M st l u : Nat) (hl : l < M) (hu : u < M) (hM : M < 2 ^ w) (hnt : ¬ (l = u + 1 ∧ st = 1)) :
    (SI.new w st (l : Int) (u : Int)).lb < M ∧ (SI.new w st (l : Int) (u : Int)).ub < M := by
  have := new_bounds w st l u (by omega) (by omega) (by
    rintro ⟨h1, h2⟩
    rw [Nat.mod_eq_of_lt (by omega)] at h1
    exact hnt ⟨h1, h2⟩)
  rw [this.1, this.2]
  exact ⟨hl, hu⟩

/-- `pseudo_join` of `s = [sl, su]` and `b = [bl, bu]` with `bl ≤ bu < sl ≤ su < M < 2^w`: bounds below `M` -/
theorem pj_low (w M : Nat) (s b : SI) (hs : WFw w s) (hb : WFw w b) (hsb : s.bottom = false) (hbb : b.bottom = false)
    (hM : M < 2 ^ w) (h1 : b.lb ≤ b.ub) (h2 : b.ub < s.lb) (h3 : s.lb ≤ s.ub) (h4 : s.ub < M) :
    (pseudoJoin s b true).lb < M ∧ (pseudoJoin s b true).ub < M := by
  obtain ⟨hsw, rfl⟩ := hs
  obtain ⟨hbw, hbbits⟩ := hb
  have hsl : s.lb < 2 ^ s.bits := hsw.2.1
  have hbl : b.lb < 2 ^ s.bits := by omega
  have hbu : b.ub < 2 ^ s.bits := by omega
  -- neither arc holds the lower bound of the other (both read in the numeric order), so none of the four tests fires
  have f3 : ¬ sur s b.lb := fun h => by
    have := (arc_nowrap_iff _ _ _ _ hsw.2.2.1 h3).1 h
    omega
  have f4 : ¬ sur b s.lb := fun h => by
    have := (arc_nowrap_iff _ _ _ _ hbw.2.2.1 h1).1 h
    omega
  have n3 : ¬ s.surroundsMember (b.lb : Int) = true := fun h => f3 ((surrounds_sur s b.lb hsw hbl).1 h)
  have n4 : ¬ b.surroundsMember (s.lb : Int) = true := fun h => f4 ((surrounds_sur b s.lb hbw (hbbits ▸ hsl)).1 h)
  have n1 : ¬ s.isSurrounded b = true := by
    intro h
    rcases isSurrounded_true s b hsw hbw hbbits.symm hsb h with ht | hG
    · have := (isTop_facts b hbw ht).2
      rw [hbbits, cd_pos _ _ _ h1] at this
      omega
    · exact f4 hG.1
  have n2 : ¬ b.isSurrounded s = true := by
    intro h
    rcases isSurrounded_true b s hbw hsw hbbits hbb h with ht | hG
    · have := (isTop_facts s hsw ht).2
      rw [cd_pos _ _ _ h3] at this
      omega
    · exact f3 hG.1
  -- `[b.lb, s.ub]`, whatever its stride, has its bounds below `M`
  have c1 : ∀ st, (SI.new s.bits st (b.lb : Int) (s.ub : Int)).lb < M ∧ (SI.new s.bits st (b.lb : Int) (s.ub : Int)).ub < M :=
    fun st => new_bounds_lt s.bits M st _ _ (by omega) h4 hM (by omega)
  refine pseudoJoin_cases (fun r => r.lb < M ∧ r.ub < M) s b true hsb hbb ?_ (fun _ h => absurd h n1)
    (fun _ _ h => absurd h n2) ?_ (fun _ _ _ _ h => absurd h n3) (fun _ _ _ _ _ h => absurd h n4)
    (fun h => Bool.noConfusion h) ?_
  · intro _ _
    have e1 : Nat.min s.lb b.lb = b.lb := Nat.min_eq_right (by omega)
    have e2 : Nat.max s.ub b.ub = s.ub := Nat.max_eq_left (by omega)
    simp only [if_true]
    rw [e1, e2]
    exact c1 _
  · intro h
    simp only [Bool.and_eq_true] at h
    exact absurd h.1.1.1 n3
  · rintro _ _ _ _ _ _ ns si1 si2 _ rfl rfl
    refine ⟨fun _ => c1 _, fun hnv => ?_⟩
    -- the second candidate was chosen: it is not the full circle, so it keeps its bounds
    generalize Nat.gcd ns (wrappedCard (b.lb : Int) (s.lb : Int) s.bits - 1) = st1 at hnv
    generalize Nat.gcd ns (wrappedCard (s.lb : Int) (b.lb : Int) s.bits - 1) = st2 at hnv ⊢
    apply new_bounds_lt s.bits M st2 _ _ (by omega) (by omega) hM
    rintro ⟨e1, e2⟩
    apply hnv
    subst e2
    -- the full circle has more values than anything
    have hfull : (SI.new s.bits 1 (s.lb : Int) (b.ub : Int)).nValues = 2 ^ s.bits + 1 := by
      have hne : imod (s.lb : Int) s.bits ≠ imod (b.ub : Int) s.bits := by
        rw [imod_of_lt _ _ hsl, imod_of_lt _ _ hbu]
        omega
      have hc : imod (s.lb : Int) s.bits = (imod (b.ub : Int) s.bits + 1) % 2 ^ s.bits ∧ 1 = 1 := by
        rw [imod_of_lt _ _ hsl, imod_of_lt _ _ hbu, Nat.mod_eq_of_lt (by omega)]
        exact ⟨e1, rfl⟩
      rw [new_eq, if_neg hne, if_pos hc]
      unfold SI.nValues
      simp only [Nat.one_ne_zero, if_false, Nat.div_one]
      have hp := Nat.two_pow_pos s.bits
      rw [wrappedCard_nat 0 (2 ^ s.bits - 1) s.bits hp (by omega), cd_zero]
      omega
    rw [hfull]
    have hsu := hsw.2.2.1
    have hb1 := new_bounds_of_cd s.bits st1 b.lb s.ub hbl hsu (by
      rw [cd_pos _ _ _ (by omega)]
      omega)
    unfold SI.nValues
    split
    · omega
    · rw [hb1.1, hb1.2, new_bits, wrappedCard_nat _ _ _ hbl hsu,
        cd_pos _ _ _ (by omega)]
      have := Nat.div_le_self (s.ub - b.lb + 1) (SI.new s.bits st1 (b.lb : Int) (s.ub : Int)).stride
      omega

theorem zeroExtend_bounds (b r : SI) (nl : Nat) (hb : b.WF) (hnb : b.bottom = false) (hnl : b.bits < nl)
    (h : b.zeroExtend nl = .ok r) : r.lb < 2 ^ b.bits ∧ r.ub < 2 ^ b.bits := by
  have hM : 2 ^ b.bits < 2 ^ nl := Nat.pow_lt_pow_right (by omega) hnl
  unfold SI.zeroExtend at h
  by_cases hwrap : (!b.bottom && decide (b.lb > b.ub)) = true
  · rw [if_pos hwrap] at h
    have hw' : b.ub < b.lb := by simpa [hnb] using hwrap
    obtain ⟨ps, hps, hprop, _, _⟩ := ssplit_spec b hb hnb
    obtain ⟨A, hsh, hAr, hAl, hAle⟩ := ssplit_wrap_shape b hb hw'
    rw [hps] at h hsh
    simp only [bind, Except.bind] at h
    have hwiden : ∀ p, p ∈ ps → WFw nl ({ p with bits := nl } : SI) :=
      fun p hp => widen_bits_WF _ _ _ (hprop p hp).1 (by omega)
    rcases hsh with h1 | ⟨B, h2, hBr, hBu, hBle⟩
    · have : ps = [A] := by cases h1; rfl
      subst this
      simp only [List.map_cons, List.map_nil, leastUpperBound, pure, Except.pure, hAr] at h
      have hr : r = ({ A with bits := nl } : SI).renorm := by cases h; rfl
      obtain ⟨hAw, hAb, _, _⟩ := hprop A List.mem_cons_self
      have hAu := hAw.ub_lt
      rw [hr]
      unfold SI.renorm
      simp only [hAb, Bool.false_eq_true, if_false]
      exact new_bounds_lt nl (2 ^ b.bits) _ _ _ (by omega) hAu hM (by omega)
    · have : ps = [A, B] := by cases h2; rfl
      subst this
      simp only [List.map_cons, List.map_nil, leastUpperBound, pure, Except.pure, hAr, hBr] at h
      have hr : r = pseudoJoin ({ A with bits := nl } : SI) ({ B with bits := nl } : SI) true := by cases h; rfl
      obtain ⟨hAw, hAb, _, _⟩ := hprop A List.mem_cons_self
      obtain ⟨hBw, hBb, _, _⟩ := hprop B (List.mem_cons_of_mem _ List.mem_cons_self)
      have hAu := hAw.ub_lt
      rw [hr]
      exact pj_low nl (2 ^ b.bits) _ _ (hwiden A List.mem_cons_self)
        (hwiden B (List.mem_cons_of_mem _ List.mem_cons_self)) hAb hBb hM hBle (by show B.ub < A.lb; omega) hAle hAu
  · rw [if_neg hwrap] at h
    have hr : r = { b.renorm with bits := nl } := by cases h; rfl
    subst hr
    have := renorm_WFw _ b ⟨hb, rfl⟩
    exact ⟨this.lb_lt, this.ub_lt⟩

end Claripy.VSA

import ClaripyProofs.Lemmas.VSA.Convert
import ClaripyProofs.Lemmas.VSA.NotExt
import ClaripyProofs.Lemmas.VSA.Extract
import ClaripyProofs.Lemmas.VSA.SextSound
import ClaripyProofs.Lemmas.VSA.AndXor
import ClaripyProofs.Lemmas.VSA.ConcatSound
import ClaripyProofs.Lemmas.VSA.AshrSound
import ClaripyProofs.Lemmas.VSA.MeetFinal
import ClaripyProofs.Lemmas.VSA.MulTop
import ClaripyProofs.Lemmas.VSA.ModSound
/-!
The proved interval operations as an instance of `convBV_sound` / `convB_sound`:
`add, sub, mul, udiv, urem, neg, not, and, or, xor, concat, zero_extend, sign_extend, extract, shl, lshr, ashr, union (If),
ULT/ULE/UGT/UGE, SLT/SLE/SGT/SGE, ==, !=`.
The proved operations are closed on *non-empty* intervals, so the ASTs considered here have a defined value at every node
(`DefBV`: no division by zero anywhere, also not in a branch that is not taken), and non-emptiness of the operands is obtained
from the concrete values of the sub-expressions.  `*`, `==`, `!=` go through the meet, which is sound on aligned operands: the
guard `alBV`.  The invariant carried is constructor-normal form (`Nrm`), which the signed orderings and the meet need, together
with "aligned where the AST's shape promises it" (`alSrc`), from which `ConvertAligned.lean` discharges the guard.
`OpsRest` is the slot for operations whose transfer function is not proved; no operation is in it (`usesRestBV_false`).
-/
namespace Claripy.VSA

def restBin : BinOp → Bool
  | _ => false

/-- the obligations for operations whose transfer function is not proved (`restBin`: there is none) -/
structure OpsRest : Prop where
  bin : ∀ (op : BinOp) (a b r : SI) (o o' : Orders), restBin op = true → a.WF → b.WF → a.bits = b.bits →
    applyBin op a b o = .ok (r, o') →
    ((r.WF ∧ r.bits = a.bits) ∧ Nrm r) ∧ ∀ x y v, a.mem x → b.mem y → concBin op a.bits x y = some v → r.mem v

mutual
def usesRestBV : BV → Bool
  | .var _ _ => false
  | .free _ _ => false
  | .const _ _ => false
  | .bin op a b => restBin op || usesRestBV a || usesRestBV b
  | .neg a => usesRestBV a
  | .not a => usesRestBV a
  | .zext _ a => usesRestBV a
  | .sext _ a => usesRestBV a
  | .extract _ _ a => usesRestBV a
  | .concat a b => usesRestBV a || usesRestBV b
  | .ite c a b => usesRestB c || usesRestBV a || usesRestBV b
def usesRestB : BExp → Bool
  | .lit _ => false
  | .cmp _ a b => usesRestBV a || usesRestBV b
  | .not c => usesRestB c
  | .and c d => usesRestB c || usesRestB d
  | .or c d => usesRestB c || usesRestB d
  | .ite c a b => usesRestB c || usesRestB a || usesRestB b
end

mutual
theorem usesRestBV_false : ∀ e : BV, usesRestBV e = false
  | .var _ _ => rfl
  | .free _ _ => rfl
  | .const _ _ => rfl
  | .bin op a b => by simp [usesRestBV, restBin, usesRestBV_false a, usesRestBV_false b]
  | .neg a => by simp [usesRestBV, usesRestBV_false a]
  | .not a => by simp [usesRestBV, usesRestBV_false a]
  | .zext _ a => by simp [usesRestBV, usesRestBV_false a]
  | .sext _ a => by simp [usesRestBV, usesRestBV_false a]
  | .extract _ _ a => by simp [usesRestBV, usesRestBV_false a]
  | .concat a b => by simp [usesRestBV, usesRestBV_false a, usesRestBV_false b]
  | .ite c a b => by simp [usesRestBV, usesRestB_false c, usesRestBV_false a, usesRestBV_false b]
theorem usesRestB_false : ∀ c : BExp, usesRestB c = false
  | .lit _ => rfl
  | .cmp _ a b => by simp [usesRestB, usesRestBV_false a, usesRestBV_false b]
  | .not c => by simp [usesRestB, usesRestB_false c]
  | .and c d => by simp [usesRestB, usesRestB_false c, usesRestB_false d]
  | .or c d => by simp [usesRestB, usesRestB_false c, usesRestB_false d]
  | .ite c a b => by simp [usesRestB, usesRestB_false c, usesRestB_false a, usesRestB_false b]
end

mutual
/-- does the AST contain `==`, `!=` or `*` (the operations that are sound on aligned operands only)? -/
def usesEqBV : BV → Bool
  | .var _ _ => false
  | .free _ _ => false
  | .const _ _ => false
  | .bin op a b => decide (op = .mul) || usesEqBV a || usesEqBV b
  | .neg a => usesEqBV a
  | .not a => usesEqBV a
  | .zext _ a => usesEqBV a
  | .sext _ a => usesEqBV a
  | .extract _ _ a => usesEqBV a
  | .concat a b => usesEqBV a || usesEqBV b
  | .ite c a b => usesEqB c || usesEqBV a || usesEqBV b
def usesEqB : BExp → Bool
  | .lit _ => false
  | .cmp op a b => restCmp op || usesEqBV a || usesEqBV b
  | .not c => usesEqB c
  | .and c d => usesEqB c || usesEqB d
  | .or c d => usesEqB c || usesEqB d
  | .ite c a b => usesEqB c || usesEqB a || usesEqB b
end

mutual
theorem alBV_of_noEq (anno : Nat → SI) : ∀ (e : BV) (o : Orders), usesEqBV e = false → alBV anno e o
  | .var _ _, _, _ => trivial
  | .free _ _, _, _ => trivial
  | .const _ _, _, _ => trivial
  | .bin op a b, o, h => by
    simp only [usesEqBV, Bool.or_eq_false_iff, decide_eq_false_iff_not] at h
    exact ⟨alBV_of_noEq anno a o h.1.2, fun p1 _ => ⟨alBV_of_noEq anno b p1.2 h.2, fun _ _ =>
      ⟨fun he => absurd he h.1.1, fun he => absurd he h.1.1⟩⟩⟩
  | .neg a, o, h => alBV_of_noEq anno a o h
  | .not a, o, h => alBV_of_noEq anno a o h
  | .zext _ a, o, h => alBV_of_noEq anno a o h
  | .sext _ a, o, h => alBV_of_noEq anno a o h
  | .extract _ _ a, o, h => alBV_of_noEq anno a o h
  | .concat a b, o, h => by
    simp only [usesEqBV, Bool.or_eq_false_iff] at h
    exact ⟨alBV_of_noEq anno a o h.1, fun p1 _ => alBV_of_noEq anno b p1.2 h.2⟩
  | .ite c a b, o, h => by
    simp only [usesEqBV, Bool.or_eq_false_iff] at h
    exact ⟨alB_of_noEq anno c o h.1.1, fun pc _ => ⟨alBV_of_noEq anno a pc.2 h.1.2, fun p1 _ => alBV_of_noEq anno b p1.2 h.2⟩⟩
theorem alB_of_noEq (anno : Nat → SI) : ∀ (c : BExp) (o : Orders), usesEqB c = false → alB anno c o
  | .lit _, _, _ => trivial
  | .cmp op a b, o, h => by
    simp only [usesEqB, Bool.or_eq_false_iff] at h
    exact ⟨alBV_of_noEq anno a o h.1.2, fun p1 _ => ⟨alBV_of_noEq anno b p1.2 h.2, fun hr => by rw [h.1.1] at hr; cases hr⟩⟩
  | .not c, o, h => alB_of_noEq anno c o h
  | .and c d, o, h => by
    simp only [usesEqB, Bool.or_eq_false_iff] at h
    exact ⟨alB_of_noEq anno c o h.1, fun p _ => alB_of_noEq anno d p.2 h.2⟩
  | .or c d, o, h => by
    simp only [usesEqB, Bool.or_eq_false_iff] at h
    exact ⟨alB_of_noEq anno c o h.1, fun p _ => alB_of_noEq anno d p.2 h.2⟩
  | .ite c a b, o, h => by
    simp only [usesEqB, Bool.or_eq_false_iff] at h
    exact ⟨alB_of_noEq anno c o h.1.1, fun pc _ => ⟨alB_of_noEq anno a pc.2 h.1.2, fun p _ => alB_of_noEq anno b p.2 h.2⟩⟩
end

theorem applyBin_ok {op : BinOp} {a b r : SI} {o o' : Orders} (h : applyBin op a b o = .ok (r, o')) :
    match op with
    | .add => r = a.add b
    | .sub => r = a.sub b
    | .mul => a.mul b = .ok r
    | .udiv => ∃ od, a.udiv b od = .ok r
    | .urem => a.mod b = .ok r
    | .and => a.bitwiseAnd b = .ok r
    | .or => a.bitwiseOr b = .ok r
    | .xor => a.bitwiseXor b = .ok r
    | .shl => a.lshift b = .ok r
    | .lshr => a.rshiftLogical b = .ok r
    | .ashr => a.rshiftArith b = .ok r := by
  cases op
  case add | sub =>
    cases pure_ok h
    rfl
  case udiv =>
    cases o with
    | nil => cases h
    | cons od rest =>
      obtain ⟨r1, h1, h⟩ := bind_ok h
      cases pure_ok h
      exact ⟨od, h1⟩
  case mul | urem | and | or | xor | shl | lshr | ashr =>
    obtain ⟨r1, h1, h⟩ := bind_ok h
    cases pure_ok h
    exact h1

theorem bin_total {op : BinOp} {w : Nat} {f : Nat → Nat → Nat} {a b r : SI} {A : Prop}
    (h : A ∧ ∀ x y, a.mem x → b.mem y → r.mem (f x y)) (hf : ∀ x y, concBin op w x y = some (f x y)) :
    A ∧ ∀ x y v, a.mem x → b.mem y → concBin op w x y = some v → r.mem v :=
  ⟨h.1, fun x y v hx hy hv => by rw [hf] at hv; cases hv; exact h.2 x y hx hy⟩

theorem bin_div {op : BinOp} {w : Nat} {f : Nat → Nat → Nat} {a b r : SI} {A : Prop}
    (h : A ∧ ∀ x y, a.mem x → b.mem y → y ≠ 0 → r.mem (f x y))
    (hf : ∀ x y, concBin op w x y = if y = 0 then none else some (f x y)) :
    A ∧ ∀ x y v, a.mem x → b.mem y → concBin op w x y = some v → r.mem v :=
  ⟨h.1, fun x y v hx hy hv => by
    rw [hf] at hv
    split at hv
    · cases hv
    · cases hv; exact h.2 x y hx hy ‹_›⟩

/-- is alignment of the left / right operand needed for the result of the operation to be aligned? -/
def needA : BinOp → Bool
  | .add | .or | .sub | .urem | .shl | .lshr | .ashr => true
  | _ => false
def needB : BinOp → Bool
  | .add | .or | .urem => true
  | _ => false

theorem bin_good (op : BinOp) (a b r : SI) (o o' : Orders) (wa : a.WF) (wb : b.WF)
    (hbits : a.bits = b.bits) (hab : a.bottom = false) (hbb : b.bottom = false) (na : Nrm a) (nb : Nrm b)
    (hmul : (op = .mul → a.Aligned) ∧ (op = .mul → b.Aligned)) (h : applyBin op a b o = .ok (r, o')) :
    Good a.bits ((needA op = true → a.Aligned) ∧ (needB op = true → b.Aligned)) r ∧
      ∀ x y v, a.mem x → b.mem y → concBin op a.bits x y = some v → r.mem v := by
  have k := applyBin_ok h
  have wa' : WFw a.bits a := ⟨wa, rfl⟩
  have wb' : WFw a.bits b := ⟨wb, hbits.symm⟩
  cases op
  case add =>
    cases k
    exact bin_total ((add_good a b wa wb hbits hab hbb).imp_left (·.mono fun h => ⟨h.1 rfl, h.2 rfl⟩)) (fun _ _ => rfl)
  case sub =>
    cases k
    exact bin_total ((sub_good a b wa wb hbits hab hbb).imp_left (·.mono fun h => h.1 rfl)) (fun _ _ => rfl)
  case mul =>
    exact bin_total ((mul_good a.bits a b r wa' wb' hab hbb (hmul.1 rfl) (hmul.2 rfl) na nb k).imp_left
      (·.mono fun _ => trivial)) (fun _ _ => rfl)
  case udiv =>
    obtain ⟨od, k⟩ := k
    exact bin_div ((udiv_good a b r od wa wb hbits hab hbb k).imp_left (·.mono fun _ => trivial)) (fun _ _ => rfl)
  case urem =>
    exact bin_div ((mod_good a.bits a b r wa' wb' hab hbb k).imp_left (·.mono fun h => ⟨h.1 rfl, h.2 rfl⟩)) (fun _ _ => rfl)
  case and =>
    have g := and_good a b r wa wb hbits hab hbb k
    exact bin_total ⟨g.1.mono fun _ => trivial, g.2 na nb⟩ (fun _ _ => rfl)
  case or =>
    exact bin_total ((or_good a b r wa wb hbits hab hbb k).imp_left (·.mono fun h => ⟨h.1 rfl, h.2 rfl⟩)) (fun _ _ => rfl)
  case xor =>
    exact bin_total ((xor_good a b r wa wb hbits hab hbb k).imp_left (·.mono fun _ => trivial)) (fun _ _ => rfl)
  case shl =>
    have g := shl_good a b r wa hab k
    exact bin_total ⟨g.1.mono fun h => h.1 rfl, g.2 wb⟩ (fun _ _ => rfl)
  case lshr =>
    have g := lshr_good a b r wa hab k
    exact bin_total ⟨g.1.mono fun h => h.1 rfl, g.2 wb⟩ (fun _ _ => rfl)
  case ashr =>
    have g := ashr_good a b r wa hab na k
    exact bin_total ⟨g.1.mono fun h => h.1 rfl, g.2 wb⟩ (fun _ _ => rfl)

theorem bin_proved (op : BinOp) (a b r : SI) (o o' : Orders) (wa : a.WF) (wb : b.WF)
    (hbits : a.bits = b.bits) (hab : a.bottom = false) (hbb : b.bottom = false) (na : Nrm a) (nb : Nrm b)
    (hmul : (op = .mul → a.Aligned) ∧ (op = .mul → b.Aligned)) (h : applyBin op a b o = .ok (r, o')) :
    ((r.WF ∧ r.bits = a.bits) ∧ Nrm r) ∧ ∀ x y v, a.mem x → b.mem y → concBin op a.bits x y = some v → r.mem v :=
  have g := bin_good op a b r o o' wa wb hbits hab hbb na nb hmul h
  ⟨⟨g.1.wf, g.1.nrm⟩, g.2⟩

theorem or_true_of_left {a b : Bool} (h : a = true) : (a || b) = true := by simp [h]
theorem or_true_of_right {a b : Bool} (h : b = true) : (a || b) = true := by simp [h]

/-- syntactic sufficient condition for the abstract value to be aligned -/
def alSrc (anno : Nat → SI) : BV → Prop
  | .var i _ => (anno i).Aligned
  | .free _ _ => True
  | .const _ _ => True
  | .bin op a b => (needA op = true → alSrc anno a) ∧ (needB op = true → alSrc anno b)
  | .neg _ => True
  | .not _ => True
  | .zext _ a => alSrc anno a
  | .sext _ a => alSrc anno a
  | .extract _ _ a => alSrc anno a
  | .concat a b => alSrc anno a ∧ alSrc anno b
  | .ite _ a b => alSrc anno a ∧ alSrc anno b

theorem bin_aligned (op : BinOp) (a b r : SI) (o o' : Orders) (wa : a.WF) (wb : b.WF) (hbits : a.bits = b.bits)
    (hab : a.bottom = false) (hbb : b.bottom = false) (na : Nrm a) (nb : Nrm b)
    (hA : needA op = true → a.Aligned) (hB : needB op = true → b.Aligned)
    (hmul : (op = .mul → a.Aligned) ∧ (op = .mul → b.Aligned))
    (h : applyBin op a b o = .ok (r, o')) : r.Aligned :=
  (bin_good op a b r o o' wa wb hbits hab hbb na nb hmul h).1.aligned ⟨hA, hB⟩

/-! ### whatever the operands, what an operation returns is in constructor-normal form (it ends in `renorm` or `SI.new`) -/

theorem not_nrm (a r : SI) (hw : r.WF) (h : a.bitwiseNot = .ok r) : Nrm r := by
  obtain ⟨ps, _, h⟩ := bind_ok h
  obtain ⟨u, _, h⟩ := bind_ok h
  exact nrm_of_renorm u r (pure_ok h) hw

theorem extract_nrm (a r : SI) (hi lo : Nat) (hw : r.WF) (h : a.extract hi lo = .ok r) : Nrm r := by
  unfold SI.extract at h
  simp only [bind, Except.bind, pure, Except.pure] at h
  repeat' (split at h)
  all_goals first | (exact nrm_of_renorm _ r (by cases h; rfl) hw) | cases h

theorem udiv_nrm (a b r : SI) (order : List Nat) (hw : r.WF) (h : a.udiv b order = .ok r) : Nrm r := by
  obtain ⟨ds, _, h⟩ := bind_ok h
  obtain ⟨vs, _, h⟩ := bind_ok h
  simp only [] at h
  split at h
  · cases h
  · obtain ⟨u, _, h⟩ := bind_ok h
    exact nrm_of_renorm u r (pure_ok h) hw

theorem overRange_nrm (self : SI) (lower upper : Nat) (f : Nat → R SI) (r : SI) (hb : 0 < self.bits) (hw : r.WF)
    (h : overRange self lower upper f = .ok r) : Nrm r := by
  unfold overRange at h
  split at h
  · cases h
  · have : r = SI.top self.bits := by cases h; rfl
    subst this; exact nrm_top _ hb
  · rename_i u _
    have : r = u.renorm := by cases h; rfl
    exact nrm_of_renorm u r this hw

theorem mul_nrm (a b r : SI) (hw : r.WF) (hb : 0 < a.bits) (h : a.mul b = .ok r) : Nrm r := by
  rw [mul_eq] at h
  split at h
  · have := pure_ok h
    rw [this]; exact nrm_new _ _ _ _ hb
  · obtain ⟨p1, _, h⟩ := bind_ok h
    obtain ⟨p2, _, h⟩ := bind_ok h
    obtain ⟨all, _, h⟩ := bind_ok h
    obtain ⟨u, _, h⟩ := bind_ok h
    exact nrm_of_renorm u r (pure_ok h) hw

theorem or_nrm (a b r : SI) (hw : r.WF) (h : a.bitwiseOr b = .ok r) : Nrm r := by
  obtain ⟨us, _, h⟩ := bind_ok h
  obtain ⟨vs, _, h⟩ := bind_ok h
  obtain ⟨u, _, h⟩ := bind_ok h
  exact nrm_of_renorm u r (pure_ok h) hw

theorem mod_nrm (a b r : SI) (hw : r.WF) (hb : 0 < a.bits) (h : a.mod b = .ok r) : Nrm r := by
  rw [mod_eq] at h
  split at h
  · have := pure_ok h
    rw [this]; unfold Nrm SI.renorm SI.empty; simp
  · split at h
    · have := pure_ok h
      rw [this]; exact nrm_new _ _ _ _ hb
    · obtain ⟨p1, _, h⟩ := bind_ok h
      obtain ⟨p2, _, h⟩ := bind_ok h
      obtain ⟨all, _, h⟩ := bind_ok h
      obtain ⟨u, _, h⟩ := bind_ok h
      exact nrm_of_renorm u r (pure_ok h) hw

theorem xor_nrm (a b r : SI) (hw : r.WF) (h : a.bitwiseXor b = .ok r) : Nrm r := by
  unfold SI.bitwiseXor at h
  obtain ⟨cs, _, h⟩ := bind_ok h
  obtain ⟨ct, _, h⟩ := bind_ok h
  obtain ⟨o1, _, h⟩ := bind_ok h
  obtain ⟨l, _, h⟩ := bind_ok h
  obtain ⟨o2, _, h⟩ := bind_ok h
  obtain ⟨q, _, h⟩ := bind_ok h
  obtain ⟨o3, _, h⟩ := bind_ok h
  exact nrm_of_renorm o3 r (pure_ok h) hw

theorem and_nrm (a b r : SI) (hw : r.WF) (h : a.bitwiseAnd b = .ok r) (hb : 0 < a.bits) (hbits : a.bits = b.bits) : Nrm r := by
  rw [bitwiseAnd_eq] at h
  have try_nrm : ∀ (tb : Nat) (p q u : SI), 0 < q.bits → andTry tb p q = .ok (some u) → Nrm u := by
    intro tb p q u hq hu
    unfold andTry at hu
    split at hu
    · obtain ⟨ps, _, hu⟩ := bind_ok hu
      simp only [] at hu
      split_ifs at hu <;> (have := pure_ok hu; cases this; exact nrm_new _ _ _ _ hq)
    · cases hu
  obtain ⟨o1, h1, h⟩ := bind_ok h
  cases o1 with
  | some r1 =>
    have := pure_ok h
    subst this
    exact try_nrm _ _ _ _ (by omega) h1
  | none =>
    simp only [] at h
    obtain ⟨o2, h2, h⟩ := bind_ok h
    cases o2 with
    | some r2 =>
      have := pure_ok h
      subst this
      exact try_nrm _ _ _ _ hb h2
    | none =>
      simp only [] at h
      obtain ⟨cs, _, h⟩ := bind_ok h
      obtain ⟨ct, _, h⟩ := bind_ok h
      obtain ⟨o, _, h⟩ := bind_ok h
      obtain ⟨q, _, h⟩ := bind_ok h
      exact nrm_of_renorm q r (pure_ok h) hw

theorem bin_proved_nrm (op : BinOp) (_hop : restBin op = false) (a b r : SI) (o o' : Orders) (wa : a.WF)
    (hbits : a.bits = b.bits) (hw : r.WF) (h : applyBin op a b o = .ok (r, o')) : Nrm r := by
  have k := applyBin_ok h
  cases op
  case add => cases k; exact add_nrm a b wa
  case sub => cases k; exact sub_nrm a b wa
  case mul => exact mul_nrm a b r hw wa.1 k
  case udiv => obtain ⟨od, k⟩ := k; exact udiv_nrm a b r od hw k
  case urem => exact mod_nrm a b r hw wa.1 k
  case and => exact and_nrm a b r hw k wa.1 hbits
  case or => exact or_nrm a b r hw k
  case xor => exact xor_nrm a b r hw k
  case shl | lshr | ashr => exact overRange_nrm a _ _ _ r wa.1 hw k

theorem Good.field {w : Nat} {al P M : Prop} {r : SI} (g : Good w al r ∧ M) (hs : P → al) :
    (r.WF ∧ r.bits = w) ∧ (Nrm r ∧ (P → r.Aligned)) ∧ M :=
  ⟨g.1.wf, ⟨g.1.nrm, fun p => g.1.aligned (hs p)⟩, g.2⟩

theorem opsProved (anno : Nat → SI) (hnrm : ∀ i, Nrm (anno i)) :
    Ops True (fun e s => Nrm s ∧ (alSrc anno e → s.Aligned)) anno where
  var := fun i _ => ⟨hnrm i, id⟩
  free := fun _ w hw => ⟨nrm_top w hw, fun _ => top_aligned w⟩
  const := fun _ _ hw => ⟨nrm_new _ _ _ _ hw, fun _ => new_singleton_aligned _ _ _⟩
  bin := fun op _ _ a b r o o' ha hb hbits hg h =>
    Good.field (bin_good op a b r o o' ha.wf hb.wf hbits (ha.nb trivial) (hb.nb trivial) ha.inv.1 hb.inv.1 (hg trivial) h)
      fun hs => ⟨fun hn => ha.inv.2 (hs.1 hn), fun hn => hb.inv.2 (hs.2 hn)⟩
  neg := fun _ a ha => Good.field (neg_good a ha.wf (ha.nb trivial)) fun _ => trivial
  not := fun _ a r ha h => Good.field (not_good a r ha.wf (ha.nb trivial) h) fun _ => trivial
  zext := fun _ a r k ha h => Good.field (zext_good a r (k + a.bits) ha.wf (ha.nb trivial) (by omega) h) ha.inv.2
  sext := fun _ a r k ha h => Good.field (sext_good a r (k + a.bits) ha.wf (ha.nb trivial) ha.inv.1 (by omega) h) ha.inv.2
  sextKeeps := fun _ a k x ha => sextKeeps_sound a k x ha.wf
  extract := fun _ a r hi lo ha hlo _ h => Good.field (extract_good a r hi lo ha.wf (ha.nb trivial) hlo h) ha.inv.2
  concat := fun _ _ a b r ha hb h =>
    Good.field (concat_good a b r ha.wf hb.wf (ha.nb trivial) (hb.nb trivial) h) fun hs => ⟨ha.inv.2 hs.1, hb.inv.2 hs.2⟩
  iteL := fun _ _ _ _ h => ⟨h.1, fun hs => h.2 hs.1⟩
  iteR := fun _ _ _ _ h => ⟨h.1, fun hs => h.2 hs.2⟩
  union := fun _ _ _ a b r ha hb hbits h =>
    Good.field (union_good (al := a.Aligned ∧ b.Aligned) ⟨⟨ha.wf, rfl⟩, ha.inv.1, And.left⟩
      ⟨⟨hb.wf, hbits.symm⟩, hb.inv.1, And.right⟩ h) fun hs => ⟨ha.inv.2 hs.1, hb.inv.2 hs.2⟩
  cmp := fun op _ _ a b br he hne ha hb hbits h => by
    have hop : (op = .ult ∨ op = .ule ∨ op = .ugt ∨ op = .uge) ∨ (op = .slt ∨ op = .sle ∨ op = .sgt ∨ op = .sge) := by
      cases op <;> simp_all
    rcases hop with hu | hs
    · exact ucmp_sound op hu a b br ha.wf hb.wf h
    · exact scmp_sound op hs a b br ha.wf hb.wf hbits ha.inv.1 hb.inv.1 h
  meet := fun _ _ a b r x ha hb hbits hal h hx hy =>
    ((meet_sound a.bits a b r ⟨ha.wf, rfl⟩ ⟨hb.wf, hbits.symm⟩ (ha.nb trivial) (hb.nb trivial) (hal trivial).1 (hal trivial).2
      ha.inv.1 hb.inv.1 h).2 x hx hy).1

theorem convBV_rest_good (anno : Nat → SI) (env : Nat → Nat)
    (hctx : ∀ i, (anno i).WF ∧ (anno i).mem (env i)) (hnrm : ∀ i, Nrm (anno i)) :
    ∀ (e : BV) (o : Orders) (av : AV) (o' : Orders), (usesRestBV e = true → OpsRest) → alBV anno e o → DefBV env e →
      WTBV anno env e → convBV anno e o = .ok (av, o') → GoodBV env e av ∧ Nrm av.si :=
  fun e _ _ _ _ hal hdef hwt h =>
    (convBV_sound (opsProved anno hnrm) hctx e (fun _ => ⟨hal, hdef⟩) hwt h).imp_right And.left

theorem convB_rest_good (anno : Nat → SI) (env : Nat → Nat)
    (hctx : ∀ i, (anno i).WF ∧ (anno i).mem (env i)) (hnrm : ∀ i, Nrm (anno i)) :
    ∀ (c : BExp) (o : Orders) (br : BoolRes) (o' : Orders), (usesRestB c = true → OpsRest) → alB anno c o → DefB env c →
      WTB anno env c → convB anno c o = .ok (br, o') → GoodB env c br :=
  fun c _ _ _ _ hal hdef hwt h => convB_sound (opsProved anno hnrm) hctx c (fun _ => ⟨hal, hdef⟩) hwt h

end Claripy.VSA

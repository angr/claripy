import ClaripyProofs.Lemmas.VSA.BalancerExpr
/-!
Soundness of the single steps of the balancer model (`Claripy/VSA/BalancerModel.lean`) on truisms whose left side is an
expression of `BalancerExpr` (`TruWT`; `TruOK`, in which Props/C25 is written, adds a symbolic leaf, which no proof needs).
`_align_truism` (model `alignTru`) keeps the value of the left side.  Each arm of `_balance` (model `balStep`) other than
`+` / `-` / `SignExt` leaves the truism or makes a `Step`: the new truism is related to the old one, on the values of the left sides, by one of the five
`Kind`s of `BalancerWindow`, and what a kind keeps of a comparison (`Kind.keeps`) is what the arm keeps — of the truism
itself and of the unsigned reading of a signed truism.
-/
namespace Claripy.VSA.Bal
open Claripy.VSA

def Tru.holds (env : Nat → Nat) (t : Tru) : Prop := ∃ v, evalBV env t.lhs = some v ∧ concCmp t.op t.w v t.r = true

/-- the UNSIGNED reading of the truism holds under the assignment -/
def Tru.holdsU (env : Nat → Nat) (t : Tru) : Prop := ∃ v, evalBV env t.lhs = some v ∧ concCmp (uOf t.op) t.w v t.r = true

theorem holds_congr {env : Nat → Nat} {u u' : Tru} (ho : u'.op = u.op) (hr : u'.r = u.r) (hw : u'.w = u.w)
    (he : evalBV env u'.lhs = evalBV env u.lhs) : (u.holds env → u'.holds env) ∧ (u.holdsU env → u'.holdsU env) := by
  unfold Tru.holds Tru.holdsU; rw [ho, hr, hw, he]; exact ⟨id, id⟩

structure TruOK (anno : Nat → SI) (env : Nat → Nat) (t : Tru) : Prop where
  ok : ExprOK anno env t.lhs
  sym : symBV t.lhs = true
  wd_eq : wd t.lhs = t.w
  r_lt : t.r < 2 ^ t.w

/-- what the arms and the handlers need of a truism: the left side is well typed, of the width of the literal, which fits.
`TruOK` adds that the left side has a symbolic leaf, which only decides where `_handle` records nothing. -/
structure TruWT (anno : Nat → SI) (env : Nat → Nat) (t : Tru) : Prop where
  ok : ExprOK anno env t.lhs
  wd_eq : wd t.lhs = t.w
  r_lt : t.r < 2 ^ t.w

theorem TruOK.wt {anno : Nat → SI} {env : Nat → Nat} {t : Tru} (h : TruOK anno env t) : TruWT anno env t :=
  ⟨h.ok, h.wd_eq, h.r_lt⟩

theorem TruWT.truOK {anno : Nat → SI} {env : Nat → Nat} {t : Tru} (h : TruWT anno env t) (hs : symBV t.lhs = true) :
    TruOK anno env t := ⟨h.ok, hs, h.wd_eq, h.r_lt⟩

theorem holds_iff_evalB (env : Nat → Nat) (t : Tru) (hw : wd t.lhs = t.w) :
    t.holds env ↔ evalB env t.toB = some true := by
  unfold Tru.holds Tru.toB
  simp only [evalB, evalBV, hw]
  cases evalBV env t.lhs with
  | none => simp
  | some v => simp

section
variable (anno : Nat → SI) (env : Nat → Nat) (hctx : ∀ i, (anno i).WF ∧ (anno i).mem (env i))
include hctx

theorem alignBV_spec (e l' : BV) (hok : ExprOK anno env e) (h : alignBV anno e = .ok l') :
    evalBV env l' = evalBV env e ∧ ExprOK anno env l' ∧ wd l' = wd e ∧ symBV l' = symBV e := by
  -- a rebuilt node `n` with the typing, value and width of `e`, after the evaluation at construction
  have fold : ∀ n, ExprOK anno env n → evalBV env n = evalBV env e → wd n = wd e → symBV n = symBV e →
      evalBV env (foldBV n) = evalBV env e ∧ ExprOK anno env (foldBV n) ∧ wd (foldBV n) = wd e ∧
        symBV (foldBV n) = symBV e := fun n hn hv hw hs =>
    have f := foldBV_ok anno env hctx n hn
    ⟨f.2.1.trans hv, f.1, f.2.2.trans hw, (symBV_foldBV n).trans hs⟩
  unfold alignBV at h
  split at h
  · rename_i a b
    obtain ⟨ca, _, h⟩ := bind_ok h
    obtain ⟨cb, _, h⟩ := bind_ok h
    by_cases hle : cb ≤ ca
    · rw [if_pos hle] at h
      cases pure_ok h
      exact ⟨rfl, hok, rfl, rfl⟩
    · rw [if_neg hle] at h
      obtain ⟨cnb, _, h⟩ := bind_ok h
      obtain ⟨ca', _, h⟩ := bind_ok h
      have hres := pure_ok h
      obtain ⟨hoa, hob, hwab⟩ := ok_bin hok
      obtain ⟨x, hx⟩ := exprOK_val anno env a hoa
      obtain ⟨y, hy⟩ := exprOK_val anno env b hob
      -- `-b`, evaluated at construction when `b` has no symbolic leaf
      obtain ⟨hon, hnv, hnw⟩ := foldBV_ok anno env hctx (.neg b)
        ⟨by simpa [WTBV] using hob.1, by simpa [DefBV] using hob.2.1, by simpa [usesEqBV] using hob.2.2⟩
      have hneg : evalBV env (foldBV (.neg b)) = some (Conc.neg (wd b) y) := by rw [hnv]; simp [evalBV, hy]
      have hnwb : wd (foldBV (.neg b)) = wd b := hnw
      have hval : evalBV env (.bin .sub a b) = some (Conc.sub (wd a) x y) := by
        rw [evalBV_bin env .sub a b x y hx hy]; rfl
      -- a sum of `a` and `-b`, in either order, is well typed and has the value of `a - b`
      have sum : ∀ p q x' y', ExprOK anno env p → ExprOK anno env q → wd p = wd q → evalBV env p = some x' →
          evalBV env q = some y' → Conc.add (wd p) x' y' = Conc.sub (wd a) x y →
          ExprOK anno env (.bin .add p q) ∧ evalBV env (.bin .add p q) = evalBV env (.bin .sub a b) := by
        intro p q x' y' hp hq hw hx' hy' he
        have hv : evalBV env (.bin .add p q) = some (Conc.sub (wd a) x y) := by
          rw [evalBV_bin env .add p q x' y' hx' hy']; simp only [concBin]; rw [he]
        refine ⟨⟨?_, ?_, ?_⟩, by rw [hv, hval]⟩
        · simp only [WTBV]; exact ⟨hp.1, hq.1, hw⟩
        · simp only [DefBV]; exact ⟨hp.2.1, hq.2.1, _, hv⟩
        · simp [usesEqBV, hp.2.2, hq.2.2]
      have h1 := sum a (foldBV (.neg b)) x _ hoa hon (hwab.trans hnwb.symm) hx hneg (by rw [sub_as_neg_add, add_comm', hwab])
      have h2 := sum (foldBV (.neg b)) a _ x hon hoa (hnwb.trans hwab.symm) hneg hx (by rw [hnwb, sub_as_neg_add, hwab])
      by_cases hgt : ca' > cnb
      · rw [if_pos hgt] at hres
        subst hres
        exact fold _ h1.1 h1.2 rfl (by simp [symBV, symBV_foldBV])
      · rw [if_neg hgt] at hres
        subst hres
        exact fold _ h2.1 h2.2 (hnwb.trans hwab.symm) (by simp [symBV, symBV_foldBV, Bool.or_comm])
  · rename_i op a b hne
    by_cases hc : isCommutative op = true
    · rw [if_pos hc] at h
      obtain ⟨ca, _, h⟩ := bind_ok h
      obtain ⟨cb, _, h⟩ := bind_ok h
      have hres := pure_ok h
      by_cases hgt : cb > ca
      · rw [if_pos hgt] at hres
        subst hres
        obtain ⟨hoa, hob, hwab⟩ := ok_bin hok
        obtain ⟨x, hx⟩ := exprOK_val anno env a hoa
        obtain ⟨y, hy⟩ := exprOK_val anno env b hob
        have hcomm : concBin op (wd b) y x = concBin op (wd a) x y := by
          have hm : op ≠ .mul := by
            intro he; subst he
            have := hok.2.2; simp [usesEqBV] at this
          cases op <;> simp_all [concBin, isCommutative, Conc.add, Conc.and, Conc.or, Conc.xor, Nat.add_comm, Nat.and_comm,
            Nat.or_comm, Nat.xor_comm]
        have hv : evalBV env (.bin op b a) = evalBV env (.bin op a b) := by
          rw [evalBV_bin env op b a y x hy hx, evalBV_bin env op a b x y hx hy, hcomm]
        refine fold _ ⟨?_, ?_, ?_⟩ hv hwab.symm (by simp only [symBV]; exact Bool.or_comm _ _)
        · simp only [WTBV]; exact ⟨hob.1, hoa.1, hwab.symm⟩
        · simp only [DefBV]
          obtain ⟨v, hvv⟩ := exprOK_val anno env _ hok
          exact ⟨hob.2.1, hoa.2.1, v, by rw [hv]; exact hvv⟩
        · have := hok.2.2
          simp only [usesEqBV, Bool.or_eq_false_iff] at this ⊢
          exact ⟨⟨this.1.1, this.2⟩, this.1.2⟩
      · rw [if_neg hgt] at hres
        subst hres
        exact ⟨rfl, hok, rfl, rfl⟩
    · rw [if_neg hc] at h
      cases pure_ok h
      exact ⟨rfl, hok, rfl, rfl⟩
  · cases pure_ok h
    exact ⟨rfl, hok, rfl, rfl⟩

theorem alignTru_spec (t ta : Tru) (hok : TruWT anno env t) (h : alignTru anno t = .ok ta) :
    ta.op = t.op ∧ ta.r = t.r ∧ ta.w = t.w ∧ evalBV env ta.lhs = evalBV env t.lhs ∧ TruWT anno env ta ∧
      symBV ta.lhs = symBV t.lhs := by
  unfold alignTru at h
  obtain ⟨c0, hc0, h⟩ := bind_ok h
  obtain ⟨l', hl', h⟩ := bind_ok h
  obtain ⟨b', hb', h⟩ := bind_ok h
  obtain ⟨b, hb, h⟩ := bind_ok h
  have hres := pure_ok h
  obtain ⟨hev, hok', hwd, hsym⟩ := alignBV_spec anno env hctx t.lhs l' hok.ok hl'
  by_cases hbb : b' = b
  · rw [if_pos hbb] at hres
    subst hres
    exact ⟨rfl, rfl, rfl, hev, ⟨hok', hwd.trans hok.wd_eq, hok.r_lt⟩, hsym⟩
  · rw [if_neg hbb] at hres
    subst hres
    exact ⟨rfl, rfl, rfl, rfl, hok, rfl⟩

end


theorem uns_or_sOrd (op : CmpOp) : unsOp op = true ∨ sOrd op := by cases op <;> simp [unsOp, sOrd]

/-- one arm of the balancing loop turned the truism `t` into `t'`: same operator, still well typed, and the values of the two
left sides and the literals are related in one of the five ways of `Kind` -/
def Step (anno : Nat → SI) (env : Nat → Nat) (t t' : Tru) : Prop :=
  TruWT anno env t' ∧ t'.op = t.op ∧
    ∀ v, evalBV env t.lhs = some v → ∃ v', evalBV env t'.lhs = some v' ∧ Kind t.op t.w v t.r t'.w v' t'.r

theorem holdsU_iff_holds (env : Nat → Nat) (t : Tru) (h : unsOp t.op = true) : t.holdsU env ↔ t.holds env := by
  unfold Tru.holdsU Tru.holds; rw [uOf_of_uns _ h]

theorem holds_of_keepsU {env : Nat → Nat} {t t' : Tru} (hop : unsOp t.op = true) (ho : t'.op = t.op)
    (h : t.holdsU env → t'.holdsU env) (hh : t.holds env) : t'.holds env :=
  (holdsU_iff_holds env t' (ho ▸ hop)).1 (h ((holdsU_iff_holds env t hop).2 hh))

section
variable (anno : Nat → SI) (env : Nat → Nat) (hctx : ∀ i, (anno i).WF ∧ (anno i).mem (env i)) (hnrm : ∀ i, Nrm (anno i))
include hctx

theorem TruWT.range {t : Tru} (hok : TruWT anno env t) (v : Nat) (hv : evalBV env t.lhs = some v) : v < 2 ^ t.w ∧ 0 < t.w :=
  hok.wd_eq ▸ ⟨evalBV_lt anno env hctx t.lhs v hok.ok.1 hv, wd_pos anno env (fun i => (hctx i).1) t.lhs hok.ok.1⟩

theorem Step.keepsU {t t' : Tru} (h : Step anno env t t') (hok : TruWT anno env t)
    (hh : t.holdsU env) : t'.holdsU env := by
  obtain ⟨v, hv, hc⟩ := hh
  obtain ⟨v', hv', k⟩ := h.2.2 v hv
  obtain ⟨hvlt, hw⟩ := hok.range anno env hctx v hv
  exact ⟨v', hv', by rw [h.2.1]; exact (k.keeps hw hvlt hok.r_lt).1 hc⟩

theorem Step.keepsS {t t' : Tru} (h : Step anno env t t') (hok : TruWT anno env t)
    (hh : t.holds env) :
    (t.w ≤ t'.w → t'.holds env) ∧ (t'.w < t.w → t'.holdsU env) := by
  rcases uns_or_sOrd t.op with hu | hop
  · exact ⟨fun _ => holds_of_keepsU hu h.2.1 (h.keepsU anno env hctx hok) hh,
      fun _ => h.keepsU anno env hctx hok ((holdsU_iff_holds env t hu).2 hh)⟩
  obtain ⟨v, hv, hc⟩ := hh
  obtain ⟨v', hv', k⟩ := h.2.2 v hv
  obtain ⟨hvlt, hw⟩ := hok.range anno env hctx v hv
  obtain ⟨k1, k2⟩ := (k.keeps hw hvlt hok.r_lt).2 hop hc
  exact ⟨fun hle => ⟨v', hv', by rw [h.2.1]; exact k1 hle⟩, fun hlt => ⟨v', hv', by rw [h.2.1]; exact k2 hlt⟩⟩

theorem Step.dropU {t t' : Tru} (h : Step anno env t t') (hok : TruWT anno env t)
    (hlt : t'.w < t.w) (hh : t.holds env ∨ t.holdsU env) :
    TruWT anno env t' ∧ t'.op = t.op ∧ t'.holdsU env :=
  ⟨h.1, h.2.1, hh.elim (fun hS => (h.keepsS anno env hctx hok hS).2 hlt) (h.keepsU anno env hctx hok)⟩

theorem Step.keepsBoth {t t' : Tru} (h : Step anno env t t') (hok : TruWT anno env t)
    (hle : t.w ≤ t'.w) :
    TruWT anno env t' ∧ t'.op = t.op ∧ (t.holds env → t'.holds env) ∧ (t.holdsU env → t'.holdsU env) :=
  ⟨h.1, h.2.1, fun hS => (h.keepsS anno env hctx hok hS).1 hle, h.keepsU anno env hctx hok⟩

theorem step_low (t : Tru) (e' : BV) (k : Nat) (hok : TruWT anno env t) (hoe : ExprOK anno env e')
    (hw : t.w = k + wd e')
    (hg : Conc.extract (t.w - 1) (t.w - k) t.r = 0) (hval : ∀ v, evalBV env t.lhs = some v → evalBV env e' = some v) :
    Step anno env t ⟨t.op, e', Conc.extract (t.w - k - 1) 0 t.r, t.w - k⟩ := by
  have hpos : 0 < wd e' := wd_pos anno env (fun i => (hctx i).1) e' hoe.1
  have hwk : t.w - k = wd e' := by omega
  have hr := high_zero t.w k t.r (by omega) hok.r_lt hg
  have hr' : Conc.extract (t.w - k - 1) 0 t.r = t.r := low_id (t.w - k) t.r (by omega) hr
  refine ⟨⟨hoe, hwk.symm, by simp only; rw [hr']; exact hr⟩, rfl, fun v hv => ⟨v, hval v hv, ?_⟩⟩
  have hvlt : v < 2 ^ (t.w - k) := hwk ▸ evalBV_lt anno env hctx e' v hoe.1 (hval v hv)
  exact .drop (Nat.sub_le _ _) (Nat.mod_eq_of_lt hvlt).symm (by simp only; rw [hr', Nat.mod_eq_of_lt hr])
    (by simp only; rw [Nat.div_eq_of_lt hvlt, Nat.div_eq_of_lt hr])

theorem balZext_step (t : Tru) (k : Nat) (e : BV) (hl : t.lhs = .zext k e) (hok : TruWT anno env t) :
    balZext t k e = t ∨ (Step anno env t (balZext t k e) ∧ (balZext t k e).w = t.w - k) := by
  unfold balZext
  by_cases hg : Conc.extract (t.w - 1) (t.w - k) t.r = 0
  · rw [if_pos hg]
    exact Or.inr ⟨step_low anno env hctx t e k hok (ok_zext (hl ▸ hok.ok)) (by rw [← hok.wd_eq, hl]; rfl) hg
      (fun v hv => by rw [hl] at hv; simpa [evalBV] using hv), rfl⟩
  · rw [if_neg hg]; exact Or.inl rfl

include hnrm

theorem balConcat_step (t t' : Tru) (a b : BV) (hl : t.lhs = .concat a b) (hok : TruWT anno env t)
    (h : balConcat anno t a b = .ok t') :
    t' = t ∨ (Step anno env t t' ∧ t'.w = t.w - wd a) := by
  unfold balConcat at h
  obtain ⟨z, hz, h⟩ := bind_ok h
  have hres := pure_ok h
  rw [hok.wd_eq] at hres
  by_cases hg : (z && decide (Conc.extract (t.w - 1) (t.w - wd a) t.r = 0)) = true
  · rw [if_pos hg] at hres
    subst hres
    simp only [Bool.and_eq_true, decide_eq_true_eq] at hg
    obtain ⟨rfl, hg⟩ := hg
    obtain ⟨hoa, hob⟩ := ok_concat (hl ▸ hok.ok)
    refine Or.inr ⟨step_low anno env hctx t b (wd a) hok hob (by rw [← hok.wd_eq, hl]; rfl) hg (fun v hv => ?_), rfl⟩
    obtain ⟨x, hx⟩ := exprOK_val anno env a hoa
    obtain ⟨y, hy⟩ := exprOK_val anno env b hob
    rw [hl] at hv
    simp only [evalBV, hx, hy, Option.bind_eq_bind, Option.bind_some, Option.some.injEq] at hv
    cases isZero_sound anno env hctx hnrm a hoa hz x hx
    rw [hy, ← hv]; simp [Conc.concat]
  · rw [if_neg hg] at hres
    exact Or.inl hres

omit hctx hnrm in
theorem optZero_true (c : Bool) (e : BV) (o : Option Bool) (h : optZero anno c e = .ok o) (ho : o = some true) :
    c = true ∧ isZero anno e = .ok true := by
  unfold optZero at h
  cases c with
  | false => simp only [Bool.false_eq_true, if_false] at h; cases pure_ok h; cases ho
  | true =>
    simp only [if_true] at h
    obtain ⟨z, hz, h⟩ := bind_ok h
    cases pure_ok h
    cases ho
    exact ⟨rfl, hz⟩

/-- `_balance_extract`: the branches with known-zero dropped bits scale both sides by `2^lo` (a signed operator only passes
the one with the sign bit on top); `Extract(hi, 0, ·)` with unknown high bits is an `under` step -/
theorem balExtract_step (t t' : Tru) (hi lo : Nat) (e : BV) (hl : t.lhs = .extract hi lo e) (hok : TruWT anno env t)
    (h : balExtract anno t hi lo e = .ok t') :
    t' = t ∨ (Step anno env t t' ∧ t.w ≤ t'.w) := by
  obtain ⟨hoe, hlohi, hhi⟩ := ok_extract (hl ▸ hok.ok)
  obtain ⟨ve, hve⟩ := exprOK_val anno env e hoe
  have hvelt := evalBV_lt anno env hctx e ve hoe.1 hve
  have hw : t.w = hi + 1 - lo := by rw [← hok.wd_eq, hl]; rfl
  have hvv : evalBV env t.lhs = some (Conc.extract hi lo ve) := by
    rw [hl]; simp only [evalBV, hve, Option.bind_eq_bind, Option.bind_some]
  have hrlt : t.r < 2 ^ (hi + 1 - lo) := by rw [← hw]; exact hok.r_lt
  unfold balExtract at h
  obtain ⟨msbZ, hm, h⟩ := bind_ok h
  obtain ⟨lsbZ, hls, h⟩ := bind_ok h
  -- what the two guards say about the value
  have msb_fact : msbZ = some true → ve < 2 ^ (hi + 1) := by
    intro hmz
    obtain ⟨hcnd, hz⟩ := optZero_true anno _ _ _ hm hmz
    have hcnd : hi < wd e - 1 := by simpa using hcnd
    have := isZero_fold anno env hctx hnrm _ (ok_mk_extract hoe (by omega) (by omega)) hz
      (Conc.extract (wd e - 1) (hi + 1) ve) (by simp [evalBV, hve])
    exact ext_high_zero (wd e) hi ve hcnd hvelt this
  have lsb_fact : lsbZ = some true → ve = ve / 2 ^ lo * 2 ^ lo := by
    intro hlz
    obtain ⟨hcnd, hz⟩ := optZero_true anno _ _ _ hls hlz
    have hcnd : 0 < lo := by simpa using hcnd
    have := isZero_fold anno env hctx hnrm _ (ok_mk_extract hoe (by omega) (by omega)) hz
      (Conc.extract (lo - 1) 0 ve) (by simp [evalBV, hve])
    exact ext_low_zero lo ve hcnd this
  -- the new truism compares the operand with `r'`: what is left is the kind of the step
  have mk : ∀ r', r' < 2 ^ wd e → Kind t.op t.w (Conc.extract hi lo ve) t.r (wd e) ve r' →
      (⟨t.op, e, r', wd e⟩ : Tru) = t ∨ (Step anno env t ⟨t.op, e, r', wd e⟩ ∧ t.w ≤ wd e) :=
    fun r' h1 k => Or.inr ⟨⟨⟨hoe, rfl, h1⟩, rfl, fun v hv => ⟨ve, hve, by rw [hvv] at hv; cases hv; exact k⟩⟩, by omega⟩
  have scaled : ve < 2 ^ (hi + 1) → ve = ve / 2 ^ lo * 2 ^ lo → (isSigned t.op = true → wd e = t.w + lo) →
      Kind t.op t.w (Conc.extract hi lo ve) t.r (wd e) ve (t.r * 2 ^ lo) :=
    fun h1 h2 h3 => .scale lo (by omega) h3 (by rw [ext_val hi lo ve hlohi h1]; exact h2) rfl
  dsimp only at h
  split_ifs at h with c1 c2 c3 c4 <;> cases pure_ok h
  · exact mk _ (scale_lt hi lo t.r (wd e) hlohi hhi hrlt)
      (scaled (msb_fact c1.1) (lsb_fact c1.2.1) (fun hsg => by rw [c1.2.2] at hsg; cases hsg))
  · obtain ⟨c2a, rfl, c2c⟩ := c2
    have := scaled (msb_fact c2a) (by simp) (fun hsg => by rw [c2c] at hsg; cases hsg)
    rw [Nat.pow_zero, Nat.mul_one] at this
    exact mk _ (Nat.lt_of_lt_of_le hrlt (Nat.pow_le_pow_right (by omega) (by omega))) this
  · exact mk _ (scale_lt hi lo t.r (wd e) hlohi hhi hrlt)
      (scaled (by rw [show hi + 1 = wd e by omega]; exact hvelt) (lsb_fact c3.1) (fun _ => by omega))
  · obtain ⟨rfl, c4b⟩ := c4
    exact mk _ (Nat.lt_of_lt_of_le hrlt (Nat.pow_le_pow_right (by omega) (by omega)))
      (.under 0 c4b (by unfold Conc.extract; rw [hw]; simp) (by simp))
  · exact Or.inl rfl

omit hnrm in
theorem bin_operands (t : Tru) (op : BinOp) (a b : BV) (hl : t.lhs = .bin op a b) (hok : TruWT anno env t) :
    ExprOK anno env a ∧ ExprOK anno env b ∧ wd a = t.w ∧ wd b = t.w ∧
      ∃ x y, evalBV env a = some x ∧ evalBV env b = some y ∧ x < 2 ^ t.w ∧ y < 2 ^ t.w := by
  obtain ⟨hoa, hob, hwab⟩ := ok_bin (hl ▸ hok.ok)
  have hwa : wd a = t.w := by rw [← hok.wd_eq, hl]; rfl
  obtain ⟨x, hx⟩ := exprOK_val anno env a hoa
  obtain ⟨y, hy⟩ := exprOK_val anno env b hob
  exact ⟨hoa, hob, hwa, hwab ▸ hwa, x, y, hx, hy, hwa ▸ evalBV_lt anno env hctx a x hoa.1 hx,
    hwa ▸ hwab ▸ evalBV_lt anno env hctx b y hob.1 hy⟩

omit hctx hnrm in
theorem balAnd_cases (t : Tru) (a b : BV) :
    balAnd t a b = t ∨
      (∃ v wv, b = .const v wv ∧ lowOnes (v + 1) v 0 = some 0 ∧ balAnd t a b = ⟨t.op, .const 0 (wd t.lhs), t.r, t.w⟩) ∨
      ∃ v wv n k e', b = .const v wv ∧ lowOnes (v + 1) v 0 = some n ∧ a = .zext k e' ∧ k + n = wd a ∧
        balAnd t a b = { t with lhs := a } := by
  unfold balAnd
  split
  · rename_i v wv
    split
    · exact Or.inl rfl
    · rename_i n hlo
      by_cases hn : n = 0
      · rw [if_pos hn]; exact Or.inr (Or.inl ⟨v, wv, rfl, hn ▸ hlo, rfl⟩)
      · rw [if_neg hn]
        split
        · rename_i k e'
          by_cases hkn : k + n = wd (BV.zext k e')
          · rw [if_pos hkn]
            exact Or.inr (Or.inr ⟨v, wv, n, k, e', rfl, hlo, rfl, hkn, rfl⟩)
          · rw [if_neg hkn]; exact Or.inl rfl
        · exact Or.inl rfl
  · exact Or.inl rfl

omit hnrm in
/-- `_balance_and` keeps the value of the left side: a mask 0 makes it the literal 0, a mask of the low ones of a `ZeroExt`
leaves that `ZeroExt` -/
theorem balAnd_step (t : Tru) (a b : BV) (hl : t.lhs = .bin .and a b) (hok : TruWT anno env t) :
    balAnd t a b = t ∨ (Step anno env t (balAnd t a b) ∧ t.w ≤ (balAnd t a b).w) := by
  obtain ⟨hoa, hob, hwab⟩ := ok_bin (hl ▸ hok.ok)
  rcases balAnd_cases t a b with h | ⟨v, wv, hb, hlo, h⟩ | ⟨v, wv, n, k, e', hb, hlo, ha, hkn, h⟩
  · exact Or.inl h
  · rw [h]
    subst hb
    obtain ⟨_, hv0⟩ := lowOnes_spec (v + 1) v 0 0 (by omega) hlo
    obtain ⟨x, hx⟩ := exprOK_val anno env a hoa
    have hpos := wd_pos anno env (fun i => (hctx i).1) _ hok.ok.1
    refine Or.inr ⟨⟨⟨⟨⟨hpos, Nat.two_pow_pos _⟩, trivial, rfl⟩, hok.wd_eq, hok.r_lt⟩, rfl, fun u hu => ⟨u, ?_, .same rfl rfl rfl⟩⟩,
      Nat.le_refl _⟩
    rw [hl, evalBV_bin env .and _ _ x v hx (by simp [evalBV])] at hu
    rw [← hu, hv0]
    simp [evalBV, concBin, Conc.and]
  · rw [h]
    subst hb; subst ha
    have hoe' : ExprOK anno env e' := ok_zext hoa
    obtain ⟨x, hx⟩ := exprOK_val anno env e' hoe'
    have hxlt := evalBV_lt anno env hctx e' x hoe'.1 hx
    have hwe : wd e' = n := by simp only [wd] at hkn; omega
    obtain ⟨_, hvn⟩ := lowOnes_spec (v + 1) v 0 n (by omega) hlo
    simp only [Nat.sub_zero] at hvn
    have hza : evalBV env (BV.zext k e') = some x := by simp [evalBV, hx]
    refine Or.inr ⟨⟨⟨hoa, by simp only; rw [← hok.wd_eq, hl]; rfl, hok.r_lt⟩, rfl, fun u hu => ⟨u, ?_, .same rfl rfl rfl⟩⟩,
      Nat.le_refl _⟩
    rw [hl, evalBV_bin env .and _ _ x v hza (by simp [evalBV])] at hu
    simp only [concBin, Option.some.injEq] at hu
    rw [hza, ← hu, hvn]
    exact congrArg some (and_low_mask x n (by rw [← hwe]; exact hxlt)).symm

/-- `_balance_lshift`: a shift by 0 is removed; with known-zero shifted-out bits on both sides the two sides are divided by
`2^n`; with unknown shifted-out bits of the left side it is an `under` step (`>=`, `>`, `!=` only) -/
theorem balShl_step (t t' : Tru) (e amt : BV) (hl : t.lhs = .bin .shl e amt) (hok : TruWT anno env t)
    (h : balShl anno t e amt = .ok t') :
    t' = t ∨ (Step anno env t t' ∧ t.w ≤ t'.w) := by
  obtain ⟨hoe, hoa, hw, _, ve, va, hve, hva, hvelt, _⟩ := bin_operands anno env hctx t .shl e amt hl hok
  have hwpos : 0 < wd e := wd_pos anno env (fun i => (hctx i).1) e hoe.1
  have hvv : evalBV env t.lhs = some (Conc.shl t.w ve va) := by
    rw [hl, evalBV_bin env .shl e amt ve va hve hva, hw]; rfl
  -- the new truism compares `e` with `r'`: what is left is the kind of the step
  have mk : ∀ r', r' < 2 ^ t.w → Kind t.op t.w (Conc.shl t.w ve va) t.r t.w ve r' →
      ({ t with lhs := e, r := r' } : Tru) = t ∨ (Step anno env t { t with lhs := e, r := r' } ∧ t.w ≤ t.w) :=
    fun r' h1 k => Or.inr ⟨⟨⟨hoe, hw, h1⟩, rfl, fun v hv => ⟨ve, hve, by rw [hvv] at hv; cases hv; exact k⟩⟩, Nat.le_refl _⟩
  unfold balShl at h
  obtain ⟨vals, hvals, h⟩ := bind_ok h
  obtain ⟨pa, hpa, hev⟩ := bind_ok (liftR_ok hvals)
  obtain ⟨hawf, hamem⟩ := conv_val anno env hctx hnrm amt hoa [] pa hpa va hva
  rcases vals with _ | ⟨n0, _ | ⟨n1, rest⟩⟩
  · exact Or.inl (pure_ok h)
  · dsimp only at h
    have hn : n0.toNat = va := by have := eval_single pa.1.si n0 hawf hev va hamem; omega
    rw [hn] at h
    by_cases h0 : va = 0
    · rw [if_pos h0] at h
      cases pure_ok h
      subst h0
      exact mk t.r hok.r_lt (.same rfl (by rw [shl_val _ _ _ (hw ▸ hwpos)]; simp [Nat.mod_eq_of_lt hvelt]) rfl)
    rw [if_neg h0] at h
    by_cases h1 : va ≥ wd e ∨ isSigned t.op = true
    · rw [if_pos h1] at h; exact Or.inl (pure_ok h)
    rw [if_neg h1] at h
    obtain ⟨ok, hokk, h⟩ := bind_ok h
    cases ok
    · exact Or.inl (pure_ok h)
    simp only [Bool.not_true, Bool.false_eq_true, if_false] at h
    by_cases hlow : Conc.extract (va - 1) 0 t.r = 0
    · rw [if_pos hlow] at h
      cases pure_ok h
      have hnw : va < t.w := by omega
      have hrm := ext_low_zero va t.r (by omega) hlow
      rw [lshr_val _ _ _ hnw]
      refine mk _ (Nat.lt_of_le_of_lt (Nat.div_le_self _ _) hok.r_lt) ?_
      by_cases hops : t.op = .uge ∨ t.op = .ugt ∨ t.op = .ne
      · exact .under va hops (shl_val _ _ _ hnw) hrm
      · rw [if_neg hops] at hokk
        have hz := isZero_fold anno env hctx hnrm _ (ok_mk_extract hoe (by omega) (by omega)) hokk
          (Conc.extract (wd e - 1) (wd e - va) ve) (by simp [evalBV, hve])
        have hvs := high_zero (wd e) va ve (by omega) (hw ▸ hvelt) hz
        rw [hw] at hvs
        have hlt : ve * 2 ^ va < 2 ^ (t.w - va) * 2 ^ va := Nat.mul_lt_mul_of_pos_right hvs (Nat.two_pow_pos va)
        rw [← Nat.pow_add, show t.w - va + va = t.w by omega] at hlt
        exact .unscale va (by simpa using (not_or.1 h1).2) (by rw [shl_val _ _ _ hnw, Nat.mod_eq_of_lt hlt]) hrm
    · rw [if_neg hlow] at h; exact Or.inl (pure_ok h)
  · exact Or.inl (pure_ok h)

end

end Claripy.VSA.Bal

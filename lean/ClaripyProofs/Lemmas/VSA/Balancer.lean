import ClaripyProofs.Lemmas.VSA.AddSub
import Claripy.VSA.Balancer
/-!
Arithmetic core of the balancer (`balancer.py`): a recorded (lower, upper) pair denotes the *wrapped* interval
`W[lo, hi]`; moving a constant across a modular addition rotates wrapped intervals (a bijection of the circle), which is
why a truism and its implicit assumption must be read as a pair.
-/
namespace Claripy.VSA

/-- `x ∈ W[lo, hi]` on the circle of size `m` -/
def Win (m lo hi x : Nat) : Prop := cd m lo x ≤ cd m lo hi

instance (m lo hi x : Nat) : Decidable (Win m lo hi x) := by unfold Win; infer_instance

theorem cd_rot (m a b c : Nat) (ha : a < m) (hb : b < m) (hc : c < m) :
    cd m ((a + c) % m) ((b + c) % m) = cd m a b := by
  rw [cd_add m a c b c ha hc hb hc (by rw [cd_self]; exact cd_lt m a b ha hb), cd_self, Nat.add_zero]

theorem Win_rot (m lo hi x c : Nat) (hlo : lo < m) (hhi : hi < m) (hx : x < m) (hc : c < m) :
    Win m ((lo + c) % m) ((hi + c) % m) ((x + c) % m) ↔ Win m lo hi x := by
  unfold Win
  rw [cd_rot m lo x c hlo hx hc, cd_rot m lo hi c hlo hhi hc]

theorem Win_shrink_lo (m l0 u0 x l : Nat) (hl0 : l0 < m) (hu0 : u0 < m) (hx : x < m) (hl : l < m)
    (hW : Win m l0 u0 x) (h : cd m l0 l ≤ cd m l0 x) : Win m l u0 x := by
  unfold Win at *
  rw [cd_between m l0 l x hl0 hl hx h, cd_between m l0 l u0 hl0 hl hu0 (Nat.le_trans h hW)]
  omega

theorem Win_shrink_hi (m l0 u0 x u : Nat) (hl0 : l0 < m) (hu0 : u0 < m) (hx : x < m) (hu : u < m)
    (hW : Win m l0 u0 x) (h : cd m x u ≤ cd m x u0) : Win m l0 u x := by
  unfold Win at *
  have h1 := cd_between m l0 x u0 hl0 hx hu0 hW
  have h2 := cd_lt m l0 u0 hl0 hu0
  rw [cd_trans m l0 x u hl0 hx hu (by omega)]
  omega

theorem sub_add_mod (m a c : Nat) (ha : a < m) (hc : c < m) : ((a + m - c) % m + c) % m = a := by
  rw [sub_mod_cases a c m ha hc]
  split_ifs with h
  · rw [show a - c + c = a by omega, Nat.mod_eq_of_lt ha]
  · rw [show a + m - c + c = a + m by omega, Nat.add_mod_right, Nat.mod_eq_of_lt ha]

theorem Win_preimage_add (m lo hi x c : Nat) (hlo : lo < m) (hhi : hi < m) (hx : x < m) (hc : c < m) :
    Win m lo hi ((x + c) % m) ↔ Win m ((lo + m - c) % m) ((hi + m - c) % m) x := by
  have hm : 0 < m := by omega
  have h := Win_rot m ((lo + m - c) % m) ((hi + m - c) % m) x c (Nat.mod_lt _ hm) (Nat.mod_lt _ hm) hx hc
  rw [sub_add_mod m lo c hlo hc, sub_add_mod m hi c hhi hc] at h
  exact h

theorem ule_iff_Win (m x d : Nat) : x ≤ d ↔ Win m 0 d x := by
  unfold Win; rw [cd_zero, cd_zero]

theorem uge_iff_Win (m x d : Nat) (hx : x < m) (hd : d < m) : d ≤ x ↔ Win m d (m - 1) x := by
  unfold Win cd
  split_ifs <;> omega

/-- `x + c ≤ d` (unsigned, modulo `m`): the upper bound `d − c` from the truism and the lower bound `0 − c` from the
implicit assumption `x + c ≥ 0` form exactly the pre-image, read as a wrapped interval. -/
theorem add_ule_pair (m x c d : Nat) (hx : x < m) (hc : c < m) (hd : d < m) :
    (x + c) % m ≤ d ↔ Win m ((m - c) % m) ((d + m - c) % m) x := by
  have hm : 0 < m := by omega
  rw [ule_iff_Win m _ d, Win_preimage_add m 0 d x c hm hd hx hc]
  simp

/-- `x + c ≥ d`: lower bound `d − c` from the truism, upper bound `(m − 1) − c` from the assumption `x + c ≤ m − 1`. -/
theorem add_uge_pair (m x c d : Nat) (hx : x < m) (hc : c < m) (hd : d < m) :
    d ≤ (x + c) % m ↔ Win m ((d + m - c) % m) ((m - 1 + m - c) % m) x := by
  have hm : 0 < m := by omega
  rw [uge_iff_Win m _ d (Nat.mod_lt _ hm) hd, Win_preimage_add m d (m - 1) x c hd (by omega) hx hc]

def ucmpHolds (op : UCmp) (a d : Nat) : Prop :=
  match op with | .ule => a ≤ d | .ult => a < d | .uge => d ≤ a | .ugt => d < a

/-- **the pair computed by the balancer is exactly the pre-image** (model `balAddPair`, tied to the real
`constraint_to_si` by the correspondence of the C25 check): `(x + c) mod 2^w OP d` holds iff `x ∈ W[lo, hi]`;
`none` iff no `x` satisfies it. -/
theorem balAddPair_exact (w : Nat) (op : UCmp) (x c d : Nat) (hx : x < 2 ^ w) (hc : c < 2 ^ w) (hd : d < 2 ^ w) :
    match balAddPair w op c d with
    | some (lo, hi) => (ucmpHolds op ((x + c) % 2 ^ w) d ↔ Win (2 ^ w) lo hi x)
    | none => ¬ ucmpHolds op ((x + c) % 2 ^ w) d := by
  have hm := Nat.two_pow_pos w
  have hlt := Nat.mod_lt (x + c) hm
  cases op with
  | ule => simp only [balAddPair, ucmpHolds]; exact add_ule_pair _ x c d hx hc hd
  | uge => simp only [balAddPair, ucmpHolds]; exact add_uge_pair _ x c d hx hc hd
  | ult =>
    simp only [balAddPair, ucmpHolds]
    by_cases h0 : d = 0
    · simp only [h0, if_true]; omega
    · simp only [h0, if_false]
      have := add_ule_pair (2 ^ w) x c (d - 1) hx hc (by omega)
      rw [← this]; omega
  | ugt =>
    simp only [balAddPair, ucmpHolds]
    by_cases h0 : d = 2 ^ w - 1
    · simp only [h0, if_true]; omega
    · simp only [h0, if_false]
      have := add_uge_pair (2 ^ w) x c (d + 1) hx hc (by omega)
      rw [← this]; omega

end Claripy.VSA

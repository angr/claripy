import Claripy.VSA.BackendSpec
import ClaripyProofs.Lemmas.VSA.Mem
/-!
Structural soundness of the VSA backend's evaluation (`convBV`/`convB`), as ONE induction over the AST (`convBV_sound` /
`convB_sound`), parametrised by what is known of the interval operations the backend dispatches to (`Ops`): for every
well-typed AST, every assignment within the annotations and every recorded set order, the abstract value contains the
concrete value; names carry equality of values; Boolean results contain the truth value that occurs; and an invariant `J` of
the abstract values, chosen by the instance, holds at every node.

Instances: the bundle `OpsOK` of unconditional per-operation obligations (`convBV_good`, here); the proved interval
operations, which are sound on non-empty operands (aligned ones for `*`, `==`, `!=`), with the invariant "in
constructor-normal form, and aligned wherever the AST's shape promises it" (`opsProved`, `ConvertProved.lean`), from which
`ConvertAligned.lean` discharges the alignment guard.
-/
namespace Claripy.VSA

structure OpsOK : Prop where
  bin : ∀ (op : BinOp) (a b r : SI) (o o' : Orders), a.WF → b.WF → a.bits = b.bits → applyBin op a b o = .ok (r, o') →
    (r.WF ∧ r.bits = a.bits) ∧ ∀ x y v, a.mem x → b.mem y → concBin op a.bits x y = some v → r.mem v
  neg : ∀ (a : SI), a.WF → (a.neg.WF ∧ a.neg.bits = a.bits) ∧ ∀ x, a.mem x → a.neg.mem (Conc.neg a.bits x)
  not : ∀ (a r : SI), a.WF → a.bitwiseNot = .ok r → (r.WF ∧ r.bits = a.bits) ∧ ∀ x, a.mem x → r.mem (Conc.not a.bits x)
  zext : ∀ (a r : SI) (k : Nat), a.WF → a.zeroExtend (k + a.bits) = .ok r →
    (r.WF ∧ r.bits = k + a.bits) ∧ ∀ x, a.mem x → r.mem x
  sext : ∀ (a r : SI) (k : Nat), a.WF → a.signExtend (k + a.bits) = .ok r →
    (r.WF ∧ r.bits = k + a.bits) ∧ ∀ x, a.mem x → r.mem (Conc.sext a.bits (k + a.bits) x)
  sextKeeps : ∀ (a : SI) (k x : Nat), a.WF → sextKeeps a = .ok true → a.mem x → Conc.sext a.bits (k + a.bits) x = x
  extract : ∀ (a r : SI) (hi lo : Nat), a.WF → lo ≤ hi → hi < a.bits → a.extract hi lo = .ok r →
    (r.WF ∧ r.bits = hi + 1 - lo) ∧ ∀ x, a.mem x → r.mem (Conc.extract hi lo x)
  concat : ∀ (a b r : SI), a.WF → b.WF → a.concat b = .ok r →
    (r.WF ∧ r.bits = a.bits + b.bits) ∧ ∀ x y, a.mem x → b.mem y → r.mem (Conc.concat b.bits x y)
  union : ∀ (a b r : SI), a.WF → b.WF → a.bits = b.bits → a.union b = .ok r →
    (r.WF ∧ r.bits = a.bits) ∧ ∀ x, (a.mem x ∨ b.mem x) → r.mem x
  cmp : ∀ (op : CmpOp) (a b : AV) (br : BoolRes), op ≠ .eq → op ≠ .ne → a.si.WF → b.si.WF → a.si.bits = b.si.bits →
    applyCmp op a b = .ok br → ∀ x y, a.si.mem x → b.si.mem y → br.has (concCmp op a.si.bits x y) = true
  meet : ∀ (a b r : SI) (x : Nat), a.WF → b.WF → a.bits = b.bits → a.intersection b = .ok r → a.mem x → b.mem x →
    r.bottom = false

theorem has_of_m (b : Bool) : BoolRes.m.has b = true := by cases b <;> rfl

/-- what a name says about the value `v` of the node that carries it: the name of variable `i` - `v` is the value of that
variable; the fresh name created at node `t` - `v` is the value of `t` (values are numbers, so `zero_extend`, a
non-negative `sign_extend` and a full-width `extract` keep them) -/
def NameOK (env : Nat → Nat) (n : Option NameKey) (v : Nat) : Prop :=
  match n with
  | none => True
  | some (.var i) => v = env i
  | some (.node t) => evalBV env t = some v

theorem nameOK_eq (env : Nat → Nat) (n : Option NameKey) (x y : Nat) (hs : n.isSome = true)
    (hx : NameOK env n x) (hy : NameOK env n y) : x = y := by
  cases n with
  | none => cases hs
  | some k =>
    cases k with
    | var i => simp only [NameOK] at hx hy; omega
    | node t =>
      simp only [NameOK] at hx hy
      rw [hx] at hy
      exact Option.some.inj hy

theorem nameOK_bin (env : Nat → Nat) (op : BinOp) (s : SI) (n : Option NameKey) (t : BV) (v : Nat)
    (hb : s.bottom = false) (h : evalBV env t = some v) :
    NameOK env (if shiftKeeps op s then n else some (.node t)) v := by
  have : shiftKeeps op s = false := by unfold shiftKeeps; rw [hb]; simp
  simp only [this, Bool.false_eq_true, if_false]
  exact h

/-- the name of a join: the branch whose value `v` is has a member, so it is not the empty one -/
theorem nameOK_join (env : Nat → Nat) (x y : AV) (fresh : Option NameKey) (v : Nat)
    (h : (x.si.mem v ∧ NameOK env x.name v) ∨ (y.si.mem v ∧ NameOK env y.name v)) (hf : NameOK env fresh v) :
    NameOK env (if x.si.bottom then y.name else if y.si.bottom then x.name else fresh) v := by
  rcases h with h | h
  · rw [if_neg (by rw [h.1.1]; decide)]
    split
    · exact h.2
    · exact hf
  · split
    · exact h.2
    · rw [if_neg (by rw [h.1.1]; decide)]; exact hf

def GoodBV (env : Nat → Nat) (e : BV) (av : AV) : Prop :=
  (av.si.WF ∧ av.si.bits = wd e) ∧
    ∀ v, evalBV env e = some v → av.si.mem v ∧ NameOK env av.name v

def GoodB (env : Nat → Nat) (c : BExp) (br : BoolRes) : Prop :=
  ∀ b, evalB env c = some b → br.has b = true

theorem brAnd_has (p q : BoolRes) (b b' : Bool) (h1 : p.has b = true) (h2 : q.has b' = true) :
    (brAnd p q).has (b && b') = true := by
  revert h1 h2
  cases p <;> cases q <;> cases b <;> cases b' <;> decide

theorem brOr_has (p q : BoolRes) (b b' : Bool) (h1 : p.has b = true) (h2 : q.has b' = true) :
    (brOrUnion p q).has (b || b') = true := by
  revert h1 h2
  cases p <;> cases q <;> cases b <;> cases b' <;> decide

theorem brNot_has (p : BoolRes) (b : Bool) (h : p.has b = true) : p.not.has (!b) = true := by
  revert h
  cases p <;> cases b <;> decide

theorem iteB_has (cv x y : BoolRes) (c b : Bool) (hc : cv.has c = true)
    (hb : if c then x.has b = true else y.has b = true) : (iteB cv x y).has b = true := by
  revert hc hb
  cases cv <;> cases x <;> cases y <;> cases c <;> cases b <;> decide

def restCmp : CmpOp → Bool
  | .eq | .ne => true
  | _ => false

mutual
/-- the abstract operands of every `==` / `!=` / `*` node are aligned (their upper bounds are members): the guard under which the
meet, hence `eq` and `mul`, is sound (`meet_sound`, `mul_sound`); `%` needs no guard (`mod_sound_full`); evaluated along the
same order stream as `convBV` -/
def alBV (anno : Nat → SI) : BV → Orders → Prop
  | .var _ _, _ => True
  | .free _ _, _ => True
  | .const _ _, _ => True
  | .bin op a b, o => alBV anno a o ∧ ∀ p1, convBV anno a o = .ok p1 →
      (alBV anno b p1.2 ∧ ∀ p2, convBV anno b p1.2 = .ok p2 →
        (op = .mul → p1.1.si.Aligned) ∧ (op = .mul → p2.1.si.Aligned))
  | .neg a, o => alBV anno a o
  | .not a, o => alBV anno a o
  | .zext _ a, o => alBV anno a o
  | .sext _ a, o => alBV anno a o
  | .extract _ _ a, o => alBV anno a o
  | .concat a b, o => alBV anno a o ∧ ∀ p1, convBV anno a o = .ok p1 → alBV anno b p1.2
  | .ite c a b, o => alB anno c o ∧ ∀ pc, convB anno c o = .ok pc →
      (alBV anno a pc.2 ∧ ∀ p1, convBV anno a pc.2 = .ok p1 → alBV anno b p1.2)
def alB (anno : Nat → SI) : BExp → Orders → Prop
  | .lit _, _ => True
  | .cmp op a b, o => alBV anno a o ∧ ∀ p1, convBV anno a o = .ok p1 →
      (alBV anno b p1.2 ∧ (restCmp op = true → ∀ p2, convBV anno b p1.2 = .ok p2 → p1.1.si.Aligned ∧ p2.1.si.Aligned))
  | .not c, o => alB anno c o
  | .and c d, o => alB anno c o ∧ ∀ p, convB anno c o = .ok p → alB anno d p.2
  | .or c d, o => alB anno c o ∧ ∀ p, convB anno c o = .ok p → alB anno d p.2
  | .ite c a b, o => alB anno c o ∧ ∀ pc, convB anno c o = .ok pc →
      (alB anno a pc.2 ∧ ∀ p, convB anno a pc.2 = .ok p → alB anno b p.2)
end

mutual
/-- every node of the AST has a value (no division by zero anywhere) -/
def DefBV (env : Nat → Nat) : BV → Prop
  | .var _ _ => True
  | .free _ _ => True
  | .const _ _ => True
  | .bin op a b => DefBV env a ∧ DefBV env b ∧ ∃ v, evalBV env (.bin op a b) = some v
  | .neg a => DefBV env a
  | .not a => DefBV env a
  | .zext _ a => DefBV env a
  | .sext _ a => DefBV env a
  | .extract _ _ a => DefBV env a
  | .concat a b => DefBV env a ∧ DefBV env b
  | .ite c a b => DefB env c ∧ DefBV env a ∧ DefBV env b
def DefB (env : Nat → Nat) : BExp → Prop
  | .lit _ => True
  | .cmp _ a b => DefBV env a ∧ DefBV env b
  | .not c => DefB env c
  | .and c d => DefB env c ∧ DefB env d
  | .or c d => DefB env c ∧ DefB env d
  | .ite c a b => DefB env c ∧ DefB env a ∧ DefB env b
end

mutual
theorem defBV_some (env : Nat → Nat) : ∀ e, DefBV env e → ∃ v, evalBV env e = some v
  | .var i _, _ => ⟨env i, rfl⟩
  | .free i _, _ => ⟨env i, rfl⟩
  | .const v _, _ => ⟨v, rfl⟩
  | .bin _ _ _, h => h.2.2
  | .neg a, h => by
    obtain ⟨x, hx⟩ := defBV_some env a h
    exact ⟨_, by simp only [evalBV, hx]; rfl⟩
  | .not a, h => by
    obtain ⟨x, hx⟩ := defBV_some env a h
    exact ⟨_, by simp only [evalBV, hx]; rfl⟩
  | .zext _ a, h => by
    obtain ⟨x, hx⟩ := defBV_some env a h
    exact ⟨x, by simp only [evalBV, hx]⟩
  | .sext _ a, h => by
    obtain ⟨x, hx⟩ := defBV_some env a h
    exact ⟨_, by simp only [evalBV, hx]; rfl⟩
  | .extract _ _ a, h => by
    obtain ⟨x, hx⟩ := defBV_some env a h
    exact ⟨_, by simp only [evalBV, hx]; rfl⟩
  | .concat a b, h => by
    obtain ⟨x, hx⟩ := defBV_some env a h.1
    obtain ⟨y, hy⟩ := defBV_some env b h.2
    exact ⟨_, by simp only [evalBV, hx, hy]; rfl⟩
  | .ite c a b, h => by
    obtain ⟨cv, hc⟩ := defB_some env c h.1
    obtain ⟨x, hx⟩ := defBV_some env a h.2.1
    obtain ⟨y, hy⟩ := defBV_some env b h.2.2
    cases cv with
    | true => exact ⟨x, by simp only [evalBV, hc]; exact hx⟩
    | false => exact ⟨y, by simp only [evalBV, hc]; exact hy⟩
theorem defB_some (env : Nat → Nat) : ∀ c, DefB env c → ∃ b, evalB env c = some b
  | .lit b, _ => ⟨b, rfl⟩
  | .cmp _ a b, h => by
    obtain ⟨x, hx⟩ := defBV_some env a h.1
    obtain ⟨y, hy⟩ := defBV_some env b h.2
    exact ⟨_, by simp only [evalB, hx, hy]; rfl⟩
  | .not c, h => by
    obtain ⟨b, hb⟩ := defB_some env c h
    exact ⟨_, by simp only [evalB, hb]; rfl⟩
  | .and c d, h => by
    obtain ⟨b, hb⟩ := defB_some env c h.1
    obtain ⟨b', hb'⟩ := defB_some env d h.2
    exact ⟨_, by simp only [evalB, hb, hb']; rfl⟩
  | .or c d, h => by
    obtain ⟨b, hb⟩ := defB_some env c h.1
    obtain ⟨b', hb'⟩ := defB_some env d h.2
    exact ⟨_, by simp only [evalB, hb, hb']; rfl⟩
  | .ite c a b, h => by
    obtain ⟨cv, hc⟩ := defB_some env c h.1
    obtain ⟨x, hx⟩ := defB_some env a h.2.1
    obtain ⟨y, hy⟩ := defB_some env b h.2.2
    cases cv with
    | true => exact ⟨x, by simp only [evalB, hc]; exact hx⟩
    | false => exact ⟨y, by simp only [evalB, hc]; exact hy⟩
end

theorem GoodBV.sound {env : Nat → Nat} {e : BV} {av : AV} (g : GoodBV env e av) {v : Nat} (hv : evalBV env e = some v) :
    av.si.WF ∧ av.si.bits = wd e ∧ av.si.mem v := ⟨g.1.1, g.1.2, (g.2 v hv).1⟩

theorem GoodBV.same_name {env : Nat → Nat} {e1 e2 : BV} {av1 av2 : AV} (g1 : GoodBV env e1 av1) (g2 : GoodBV env e2 av2)
    (hn : av1.name.isSome = true) (heq : av1.name = av2.name) {v1 v2 : Nat} (hv1 : evalBV env e1 = some v1)
    (hv2 : evalBV env e2 = some v2) : v1 = v2 :=
  nameOK_eq env av1.name v1 v2 hn (g1.2 v1 hv1).2 (by rw [heq]; exact (g2.2 v2 hv2).2)

theorem GoodBV.nb {env : Nat → Nat} {e : BV} {av : AV} (g : GoodBV env e av) (hdef : DefBV env e) :
    av.si.bottom = false := by
  obtain ⟨v, hv⟩ := defBV_some env e hdef
  exact (g.2 v hv).1.1

structure Opd (d : Prop) (J : BV → SI → Prop) (e : BV) (a : SI) : Prop where
  wf : a.WF
  inv : J e a
  nb : d → a.bottom = false

/-- the per-operation obligations of the induction: closure under `WF` with the right width, the invariant `J` (which may
depend on the node), soundness on members.  `d` is the standing assumption "every node has a value and the operands of every
`*`, `==`, `!=` node are aligned" (`DefBV`, `alBV`): with `d := False` the obligations are unconditional, as in `OpsOK`; with
`d := True` operands are non-empty and the guarded operations get aligned ones. -/
structure Ops (d : Prop) (J : BV → SI → Prop) (anno : Nat → SI) : Prop where
  var : ∀ i w, J (.var i w) (anno i)
  free : ∀ i w, 0 < w → J (.free i w) (SI.top w)
  const : ∀ c w, 0 < w → J (.const c w) (SI.new w 0 c c)
  bin : ∀ (op : BinOp) (ea eb : BV) (a b r : SI) (o o' : Orders), Opd d J ea a → Opd d J eb b → a.bits = b.bits →
    (d → (op = .mul → a.Aligned) ∧ (op = .mul → b.Aligned)) → applyBin op a b o = .ok (r, o') →
    (r.WF ∧ r.bits = a.bits) ∧ J (.bin op ea eb) r ∧
      ∀ x y v, a.mem x → b.mem y → concBin op a.bits x y = some v → r.mem v
  neg : ∀ (ea : BV) (a : SI), Opd d J ea a →
    (a.neg.WF ∧ a.neg.bits = a.bits) ∧ J (.neg ea) a.neg ∧ ∀ x, a.mem x → a.neg.mem (Conc.neg a.bits x)
  not : ∀ (ea : BV) (a r : SI), Opd d J ea a → a.bitwiseNot = .ok r →
    (r.WF ∧ r.bits = a.bits) ∧ J (.not ea) r ∧ ∀ x, a.mem x → r.mem (Conc.not a.bits x)
  zext : ∀ (ea : BV) (a r : SI) (k : Nat), Opd d J ea a → a.zeroExtend (k + a.bits) = .ok r →
    (r.WF ∧ r.bits = k + a.bits) ∧ J (.zext k ea) r ∧ ∀ x, a.mem x → r.mem x
  sext : ∀ (ea : BV) (a r : SI) (k : Nat), Opd d J ea a → a.signExtend (k + a.bits) = .ok r →
    (r.WF ∧ r.bits = k + a.bits) ∧ J (.sext k ea) r ∧ ∀ x, a.mem x → r.mem (Conc.sext a.bits (k + a.bits) x)
  sextKeeps : ∀ (ea : BV) (a : SI) (k x : Nat), Opd d J ea a → sextKeeps a = .ok true → a.mem x →
    Conc.sext a.bits (k + a.bits) x = x
  extract : ∀ (ea : BV) (a r : SI) (hi lo : Nat), Opd d J ea a → lo ≤ hi → hi < a.bits → a.extract hi lo = .ok r →
    (r.WF ∧ r.bits = hi + 1 - lo) ∧ J (.extract hi lo ea) r ∧ ∀ x, a.mem x → r.mem (Conc.extract hi lo x)
  concat : ∀ (ea eb : BV) (a b r : SI), Opd d J ea a → Opd d J eb b → a.concat b = .ok r →
    (r.WF ∧ r.bits = a.bits + b.bits) ∧ J (.concat ea eb) r ∧ ∀ x y, a.mem x → b.mem y → r.mem (Conc.concat b.bits x y)
  iteL : ∀ (c : BExp) (ea eb : BV) (s : SI), J ea s → J (.ite c ea eb) s
  iteR : ∀ (c : BExp) (ea eb : BV) (s : SI), J eb s → J (.ite c ea eb) s
  union : ∀ (c : BExp) (ea eb : BV) (a b r : SI), Opd d J ea a → Opd d J eb b → a.bits = b.bits → a.union b = .ok r →
    (r.WF ∧ r.bits = a.bits) ∧ J (.ite c ea eb) r ∧ ∀ x, (a.mem x ∨ b.mem x) → r.mem x
  cmp : ∀ (op : CmpOp) (ea eb : BV) (a b : AV) (br : BoolRes), op ≠ .eq → op ≠ .ne → Opd d J ea a.si → Opd d J eb b.si →
    a.si.bits = b.si.bits → applyCmp op a b = .ok br →
    ∀ x y, a.si.mem x → b.si.mem y → br.has (concCmp op a.si.bits x y) = true
  meet : ∀ (ea eb : BV) (a b r : SI) (x : Nat), Opd d J ea a → Opd d J eb b → a.bits = b.bits → (d → a.Aligned ∧ b.Aligned) →
    a.intersection b = .ok r → a.mem x → b.mem x → r.bottom = false

/-- `hmeet` is needed only for the answer `false`: the meet of two intervals with a common member is not empty. -/
theorem eqNamed_has (env : Nat → Nat) (a b : AV) (rr : BoolRes) (x y : Nat) (wa : a.si.WF) (wb : b.si.WF)
    (hx : a.si.mem x ∧ NameOK env a.name x) (hy : b.si.mem y ∧ NameOK env b.name y)
    (hmeet : rr = .f → ∀ m z, a.si.intersection b.si = .ok m → a.si.mem z → b.si.mem z → m.bottom = false)
    (h : eqNamed a b = .ok rr) : rr.has (decide (x = y)) = true := by
  unfold eqNamed at h
  by_cases hint : (a.si.isInteger && b.si.isInteger) = true
  · rw [if_pos hint] at h
    have hi : a.si.lb = a.si.ub ∧ b.si.lb = b.si.ub := by simpa [SI.isInteger] using hint
    have ex := mem_integer _ x wa hi.1 hx.1
    have ey := mem_integer _ y wb hi.2 hy.1
    cases pure_ok h
    by_cases hl : a.si.lb = b.si.lb
    · have : x = y := by omega
      simp [hl, this, BoolRes.has, BoolRes.hasTrue]
    · have : x ≠ y := by omega
      simp [hl, this, BoolRes.has, BoolRes.hasFalse]
  · rw [if_neg hint] at h
    by_cases hn : (a.name.isSome && a.name == b.name) = true
    · rw [if_pos hn] at h
      cases pure_ok h
      have hn' : a.name.isSome = true ∧ a.name = b.name := by simpa using hn
      have : x = y := nameOK_eq env a.name x y hn'.1 hx.2 (by rw [hn'.2]; exact hy.2)
      simp [this, BoolRes.has, BoolRes.hasTrue]
    · rw [if_neg hn] at h
      obtain ⟨m, hm, h⟩ := bind_ok h
      cases pure_ok h
      by_cases hbot : m.bottom = true
      · rw [if_pos hbot] at hmeet ⊢
        have : x ≠ y := by
          intro hxy
          subst hxy
          rw [hmeet rfl m x hm hx.1 hy.1] at hbot
          cases hbot
        simp [this, BoolRes.has, BoolRes.hasFalse]
      · rw [if_neg hbot]; exact has_of_m _

theorem evalBV_ite (env : Nat → Nat) (c : BExp) (a b : BV) (v : Nat) (br : BoolRes) (gc : GoodB env c br)
    (h : evalBV env (.ite c a b) = some v) :
    (br.hasTrue = true ∧ evalBV env a = some v) ∨ (br.hasFalse = true ∧ evalBV env b = some v) := by
  obtain ⟨cv, hcv, h⟩ := Option.bind_eq_some_iff.1 h
  have hh := gc cv hcv
  cases cv
  · exact Or.inr ⟨hh, by simpa using h⟩
  · exact Or.inl ⟨hh, by simpa using h⟩

theorem iteBV_ok {cv : BoolRes} {x y r : AV} {fresh : Option NameKey} (h : iteBV cv x y fresh = .ok r) :
    (cv.hasTrue = false ∧ r = y) ∨ (cv.hasFalse = false ∧ r = x) ∨ ∃ u, x.si.union y.si = .ok u ∧
      r = { si := u, name := if x.si.bottom then y.name else if y.si.bottom then x.name else fresh } := by
  unfold iteBV at h
  split at h
  · rename_i hT
    exact Or.inl ⟨by simpa using hT, pure_ok h⟩
  · split at h
    · rename_i hF
      exact Or.inr (Or.inl ⟨by simpa using hF, pure_ok h⟩)
    · obtain ⟨u, hu, h⟩ := bind_ok h
      exact Or.inr (Or.inr ⟨u, hu, pure_ok h⟩)

mutual
/-- **C24 core.**  Under `d` the AST has a value at every node and satisfies the alignment guard; that is handed on to the
operations. -/
theorem convBV_sound {d : Prop} {J : BV → SI → Prop} {anno : Nat → SI} (H : Ops d J anno) {env : Nat → Nat}
    (hctx : ∀ i, (anno i).WF ∧ (anno i).mem (env i)) :
    ∀ (e : BV) {o : Orders} {av : AV} {o' : Orders}, (d → alBV anno e o ∧ DefBV env e) → WTBV anno env e →
      convBV anno e o = .ok (av, o') → GoodBV env e av ∧ J e av.si
  | .var i w, o, av, o', _, hwt, h => by
    cases pure_ok h
    refine ⟨⟨⟨(hctx i).1, hwt⟩, ?_⟩, H.var i w⟩
    intro v hv
    cases hv
    exact ⟨(hctx i).2, rfl⟩
  | .free i w, o, av, o', _, hwt, h => by
    cases pure_ok h
    refine ⟨⟨⟨top_WF w hwt.1, top_bits w⟩, ?_⟩, H.free i w hwt.1⟩
    intro v hv
    cases hv
    exact ⟨(mem_top w _).2 hwt.2, rfl⟩
  | .const c w, o, av, o', _, hwt, h => by
    cases pure_ok h
    refine ⟨⟨⟨const_WF c w hwt.1, new_bits _ _ _ _⟩, ?_⟩, H.const c w hwt.1⟩
    intro v hv0
    have hv := hv0
    cases hv
    exact ⟨const_mem c w hwt.2, hv0⟩
  | .bin op a b, o, av, o', hd, hwt, h => by
    obtain ⟨p1, h1, h⟩ := bind_ok h
    obtain ⟨p2, h2, h⟩ := bind_ok h
    obtain ⟨p3, h3, h⟩ := bind_ok h
    cases pure_ok h
    obtain ⟨ga, ja⟩ := convBV_sound H hctx a (fun hh => ⟨(hd hh).1.1, (hd hh).2.1⟩) hwt.1 h1
    obtain ⟨gb, jb⟩ := convBV_sound H hctx b (fun hh => ⟨((hd hh).1.2 p1 h1).1, (hd hh).2.2.1⟩) hwt.2.1 h2
    have hbits : p1.1.si.bits = p2.1.si.bits := by rw [ga.1.2, gb.1.2]; exact hwt.2.2
    obtain ⟨⟨wr, br⟩, jr, mr⟩ := H.bin op a b _ _ _ _ _ ⟨ga.1.1, ja, fun hh => ga.nb (hd hh).2.1⟩
      ⟨gb.1.1, jb, fun hh => gb.nb (hd hh).2.2.1⟩ hbits (fun hh => ((hd hh).1.2 p1 h1).2 p2 h2) h3
    refine ⟨⟨⟨wr, by rw [br, ga.1.2]; rfl⟩, ?_⟩, jr⟩
    intro v hv0
    obtain ⟨x, hx, hv⟩ := Option.bind_eq_some_iff.1 hv0
    obtain ⟨y, hy, hv⟩ := Option.bind_eq_some_iff.1 hv
    exact ⟨mr x y v (ga.2 x hx).1 (gb.2 y hy).1 (by rw [ga.1.2]; exact hv),
      nameOK_bin env op _ _ _ v (ga.2 x hx).1.1 hv0⟩
  | .neg a, o, av, o', hd, hwt, h => by
    obtain ⟨p1, h1, h⟩ := bind_ok h
    cases pure_ok h
    obtain ⟨ga, ja⟩ := convBV_sound H hctx a hd hwt h1
    obtain ⟨⟨wr, br⟩, jr, mr⟩ := H.neg a _ ⟨ga.1.1, ja, fun hh => ga.nb (hd hh).2⟩
    refine ⟨⟨⟨wr, by rw [br, ga.1.2]; rfl⟩, ?_⟩, jr⟩
    intro v hv0
    obtain ⟨x, hx, hv⟩ := Option.bind_eq_some_iff.1 hv0
    cases hv
    exact ⟨by rw [← ga.1.2]; exact mr x (ga.2 x hx).1, hv0⟩
  | .not a, o, av, o', hd, hwt, h => by
    obtain ⟨p1, h1, h⟩ := bind_ok h
    obtain ⟨r, h2, h⟩ := bind_ok h
    cases pure_ok h
    obtain ⟨ga, ja⟩ := convBV_sound H hctx a hd hwt h1
    obtain ⟨⟨wr, br⟩, jr, mr⟩ := H.not a _ r ⟨ga.1.1, ja, fun hh => ga.nb (hd hh).2⟩ h2
    refine ⟨⟨⟨wr, by rw [br, ga.1.2]; rfl⟩, ?_⟩, jr⟩
    intro v hv0
    obtain ⟨x, hx, hv⟩ := Option.bind_eq_some_iff.1 hv0
    cases hv
    exact ⟨by rw [← ga.1.2]; exact mr x (ga.2 x hx).1, hv0⟩
  | .zext k a, o, av, o', hd, hwt, h => by
    obtain ⟨p1, h1, h⟩ := bind_ok h
    obtain ⟨r, h2, h⟩ := bind_ok h
    cases pure_ok h
    obtain ⟨ga, ja⟩ := convBV_sound H hctx a hd hwt h1
    obtain ⟨⟨wr, br⟩, jr, mr⟩ := H.zext a _ r k ⟨ga.1.1, ja, fun hh => ga.nb (hd hh).2⟩ h2
    refine ⟨⟨⟨wr, by rw [br, ga.1.2]; rfl⟩, ?_⟩, jr⟩
    intro v hv0
    have hv : evalBV env a = some v := hv0
    refine ⟨mr v (ga.2 v hv).1, ?_⟩
    dsimp only
    split
    · exact (ga.2 v hv).2
    · exact hv0
  | .sext k a, o, av, o', hd, hwt, h => by
    obtain ⟨p1, h1, h⟩ := bind_ok h
    obtain ⟨r, h2, h⟩ := bind_ok h
    obtain ⟨keeps, h3, h⟩ := bind_ok h
    cases pure_ok h
    obtain ⟨ga, ja⟩ := convBV_sound H hctx a hd hwt h1
    have oa : Opd d J a p1.1.si := ⟨ga.1.1, ja, fun hh => ga.nb (hd hh).2⟩
    obtain ⟨⟨wr, br⟩, jr, mr⟩ := H.sext a _ r k oa h2
    refine ⟨⟨⟨wr, by rw [br, ga.1.2]; rfl⟩, ?_⟩, jr⟩
    intro v hv0
    obtain ⟨x, hx, hv⟩ := Option.bind_eq_some_iff.1 hv0
    cases hv
    refine ⟨by rw [← ga.1.2]; exact mr x (ga.2 x hx).1, ?_⟩
    dsimp only
    cases keeps with
    | false => simp only [Bool.false_eq_true, if_false]; exact hv0
    | true =>
      simp only [if_true]
      rw [← ga.1.2, H.sextKeeps a _ k x oa h3 (ga.2 x hx).1]
      exact (ga.2 x hx).2
  | .extract hi lo a, o, av, o', hd, hwt, h => by
    obtain ⟨p1, h1, h⟩ := bind_ok h
    obtain ⟨r, h2, h⟩ := bind_ok h
    cases pure_ok h
    obtain ⟨ga, ja⟩ := convBV_sound H hctx a hd hwt.1 h1
    obtain ⟨⟨wr, br⟩, jr, mr⟩ := H.extract a _ r hi lo ⟨ga.1.1, ja, fun hh => ga.nb (hd hh).2⟩ hwt.2.1
      (by rw [ga.1.2]; exact hwt.2.2) h2
    refine ⟨⟨⟨wr, by rw [br]; rfl⟩, ?_⟩, jr⟩
    intro v hv0
    obtain ⟨x, hx, hv⟩ := Option.bind_eq_some_iff.1 hv0
    cases hv
    refine ⟨mr x (ga.2 x hx).1, ?_⟩
    dsimp only
    split
    · -- a full-width extraction returns the operand: the value is unchanged
      rename_i hk
      have hk' : lo = 0 ∧ hi + 1 - lo = p1.1.si.bits := by simpa [extractKeeps] using hk
      have : Conc.extract hi lo x = x := by
        unfold Conc.extract
        rw [hk'.1, Nat.shiftRight_zero]
        have : hi + 1 - 0 = p1.1.si.bits := by rw [← hk'.1]; exact hk'.2
        rw [this, Nat.mod_eq_of_lt (ga.2 x hx).1.2.1]
      rw [this]
      exact (ga.2 x hx).2
    · exact hv0
  | .concat a b, o, av, o', hd, hwt, h => by
    obtain ⟨p1, h1, h⟩ := bind_ok h
    obtain ⟨p2, h2, h⟩ := bind_ok h
    obtain ⟨r, h3, h⟩ := bind_ok h
    cases pure_ok h
    obtain ⟨ga, ja⟩ := convBV_sound H hctx a (fun hh => ⟨(hd hh).1.1, (hd hh).2.1⟩) hwt.1 h1
    obtain ⟨gb, jb⟩ := convBV_sound H hctx b (fun hh => ⟨(hd hh).1.2 p1 h1, (hd hh).2.2⟩) hwt.2 h2
    obtain ⟨⟨wr, br⟩, jr, mr⟩ := H.concat a b _ _ r ⟨ga.1.1, ja, fun hh => ga.nb (hd hh).2.1⟩
      ⟨gb.1.1, jb, fun hh => gb.nb (hd hh).2.2⟩ h3
    refine ⟨⟨⟨wr, by rw [br, ga.1.2, gb.1.2]; rfl⟩, ?_⟩, jr⟩
    intro v hv0
    obtain ⟨x, hx, hv⟩ := Option.bind_eq_some_iff.1 hv0
    obtain ⟨y, hy, hv⟩ := Option.bind_eq_some_iff.1 hv
    cases hv
    exact ⟨by rw [← gb.1.2]; exact mr x y (ga.2 x hx).1 (gb.2 y hy).1, hv0⟩
  | .ite c a b, o, av, o', hd, hwt, h => by
    obtain ⟨pc, hc, h⟩ := bind_ok h
    obtain ⟨p1, h1, h⟩ := bind_ok h
    obtain ⟨p2, h2, h⟩ := bind_ok h
    obtain ⟨r, h3, h⟩ := bind_ok h
    cases pure_ok h
    have gc := convB_sound H hctx c (fun hh => ⟨(hd hh).1.1, (hd hh).2.1⟩) hwt.1 hc
    obtain ⟨ga, ja⟩ := convBV_sound H hctx a (fun hh => ⟨((hd hh).1.2 pc hc).1, (hd hh).2.2.1⟩) hwt.2.1 h1
    obtain ⟨gb, jb⟩ := convBV_sound H hctx b (fun hh => ⟨((hd hh).1.2 pc hc).2 p1 h1, (hd hh).2.2.2⟩) hwt.2.2.1 h2
    have hbits : p1.1.si.bits = p2.1.si.bits := by rw [ga.1.2, gb.1.2]; exact hwt.2.2.2
    rcases iteBV_ok h3 with ⟨hT, rfl⟩ | ⟨hF, rfl⟩ | ⟨u, hu, rfl⟩
    · refine ⟨⟨⟨gb.1.1, by rw [gb.1.2]; exact hwt.2.2.2.symm⟩, ?_⟩, H.iteR c a b _ jb⟩
      intro v hv
      rcases evalBV_ite env c a b v pc.1 gc hv with ⟨ht, _⟩ | ⟨_, hv⟩
      · rw [hT] at ht; cases ht
      · exact gb.2 v hv
    · refine ⟨⟨ga.1, ?_⟩, H.iteL c a b _ ja⟩
      intro v hv
      rcases evalBV_ite env c a b v pc.1 gc hv with ⟨_, hv⟩ | ⟨hf, _⟩
      · exact ga.2 v hv
      · rw [hF] at hf; cases hf
    · obtain ⟨⟨wr, br⟩, jr, mr⟩ := H.union c a b _ _ u ⟨ga.1.1, ja, fun hh => ga.nb (hd hh).2.2.1⟩
        ⟨gb.1.1, jb, fun hh => gb.nb (hd hh).2.2.2⟩ hbits hu
      refine ⟨⟨⟨wr, by rw [br, ga.1.2]; rfl⟩, ?_⟩, jr⟩
      intro v hv
      have hsel := (evalBV_ite env c a b v pc.1 gc hv).imp (fun h => ga.2 v h.2) (fun h => gb.2 v h.2)
      exact ⟨mr v (hsel.imp And.left And.left), nameOK_join env p1.1 p2.1 _ v hsel hv⟩
theorem convB_sound {d : Prop} {J : BV → SI → Prop} {anno : Nat → SI} (H : Ops d J anno) {env : Nat → Nat}
    (hctx : ∀ i, (anno i).WF ∧ (anno i).mem (env i)) :
    ∀ (c : BExp) {o : Orders} {br : BoolRes} {o' : Orders}, (d → alB anno c o ∧ DefB env c) → WTB anno env c →
      convB anno c o = .ok (br, o') → GoodB env c br
  | .lit b, o, br, o', _, _, h => by
    cases pure_ok h
    intro b' hb'
    cases hb'
    cases b <;> rfl
  | .cmp op a b, o, br, o', hd, hwt, h => by
    obtain ⟨p1, h1, h⟩ := bind_ok h
    obtain ⟨p2, h2, h⟩ := bind_ok h
    obtain ⟨r, h3, h⟩ := bind_ok h
    cases pure_ok h
    obtain ⟨ga, ja⟩ := convBV_sound H hctx a (fun hh => ⟨(hd hh).1.1, (hd hh).2.1⟩) hwt.1 h1
    obtain ⟨gb, jb⟩ := convBV_sound H hctx b (fun hh => ⟨((hd hh).1.2 p1 h1).1, (hd hh).2.2⟩) hwt.2.1 h2
    have hbits : p1.1.si.bits = p2.1.si.bits := by rw [ga.1.2, gb.1.2]; exact hwt.2.2
    have oa : Opd d J a p1.1.si := ⟨ga.1.1, ja, fun hh => ga.nb (hd hh).2.1⟩
    have ob : Opd d J b p2.1.si := ⟨gb.1.1, jb, fun hh => gb.nb (hd hh).2.2⟩
    intro bv hbv
    obtain ⟨x, hx, hbv⟩ := Option.bind_eq_some_iff.1 hbv
    obtain ⟨y, hy, hbv⟩ := Option.bind_eq_some_iff.1 hbv
    cases hbv
    rw [← ga.1.2]
    -- `==` / `!=`: by names, singletons, or the meet (on aligned operands, under `d`)
    have heq : restCmp op = true → ∀ rr, eqNamed p1.1 p2.1 = .ok rr → rr.has (decide (x = y)) = true :=
      fun hr rr => eqNamed_has env p1.1 p2.1 rr x y ga.1.1 gb.1.1 (ga.2 x hx) (gb.2 y hy)
        (fun _ m z => H.meet a b _ _ m z oa ob hbits (fun hh => ((hd hh).1.2 p1 h1).2 hr p2 h2))
    by_cases he : op = .eq
    · subst he
      simp only [applyCmp] at h3
      simpa [concCmp] using heq rfl br h3
    · by_cases hne : op = .ne
      · subst hne
        simp only [applyCmp] at h3
        obtain ⟨rr, hrr, h3⟩ := bind_ok h3
        cases pure_ok h3
        simpa [concCmp] using brNot_has rr _ (heq rfl rr hrr)
      · exact H.cmp op a b p1.1 p2.1 br he hne oa ob hbits h3 x y (ga.2 x hx).1 (gb.2 y hy).1
  | .not c, o, br, o', hd, hwt, h => by
    obtain ⟨p, h1, h⟩ := bind_ok h
    cases pure_ok h
    have gc := convB_sound H hctx c hd hwt h1
    intro b hb
    obtain ⟨b0, hb0, hb⟩ := Option.bind_eq_some_iff.1 hb
    cases hb
    exact brNot_has _ _ (gc b0 hb0)
  | .and c e, o, br, o', hd, hwt, h => by
    obtain ⟨p, h1, h⟩ := bind_ok h
    obtain ⟨q, h2, h⟩ := bind_ok h
    cases pure_ok h
    have gc := convB_sound H hctx c (fun hh => ⟨(hd hh).1.1, (hd hh).2.1⟩) hwt.1 h1
    have ge := convB_sound H hctx e (fun hh => ⟨(hd hh).1.2 p h1, (hd hh).2.2⟩) hwt.2 h2
    intro b hb
    obtain ⟨b0, hb0, hb⟩ := Option.bind_eq_some_iff.1 hb
    obtain ⟨b1, hb1, hb⟩ := Option.bind_eq_some_iff.1 hb
    cases hb
    exact brAnd_has _ _ _ _ (gc b0 hb0) (ge b1 hb1)
  | .or c e, o, br, o', hd, hwt, h => by
    obtain ⟨p, h1, h⟩ := bind_ok h
    obtain ⟨q, h2, h⟩ := bind_ok h
    cases pure_ok h
    have gc := convB_sound H hctx c (fun hh => ⟨(hd hh).1.1, (hd hh).2.1⟩) hwt.1 h1
    have ge := convB_sound H hctx e (fun hh => ⟨(hd hh).1.2 p h1, (hd hh).2.2⟩) hwt.2 h2
    intro b hb
    obtain ⟨b0, hb0, hb⟩ := Option.bind_eq_some_iff.1 hb
    obtain ⟨b1, hb1, hb⟩ := Option.bind_eq_some_iff.1 hb
    cases hb
    exact brOr_has _ _ _ _ (gc b0 hb0) (ge b1 hb1)
  | .ite c a b, o, br, o', hd, hwt, h => by
    obtain ⟨pc, hc, h⟩ := bind_ok h
    obtain ⟨p, h1, h⟩ := bind_ok h
    obtain ⟨q, h2, h⟩ := bind_ok h
    cases pure_ok h
    have gc := convB_sound H hctx c (fun hh => ⟨(hd hh).1.1, (hd hh).2.1⟩) hwt.1 hc
    have ga := convB_sound H hctx a (fun hh => ⟨((hd hh).1.2 pc hc).1, (hd hh).2.2.1⟩) hwt.2.1 h1
    have gb := convB_sound H hctx b (fun hh => ⟨((hd hh).1.2 pc hc).2 p h1, (hd hh).2.2.2⟩) hwt.2.2 h2
    intro bv hbv
    obtain ⟨cv, hcv, hbv⟩ := Option.bind_eq_some_iff.1 hbv
    apply iteB_has _ _ _ cv bv (gc cv hcv)
    cases cv with
    | true => simp only [if_true] at hbv ⊢; exact ga bv hbv
    | false => simp only [Bool.false_eq_true, if_false] at hbv ⊢; exact gb bv hbv
end

theorem OpsOK.ops (H : OpsOK) (anno : Nat → SI) : Ops False (fun _ _ => True) anno :=
  have mid : ∀ {p q : Prop}, p ∧ q → p ∧ True ∧ q := fun h => ⟨h.1, trivial, h.2⟩
  { var := fun _ _ => trivial
    free := fun _ _ _ => trivial
    const := fun _ _ _ => trivial
    bin := fun op _ _ a b r o o' ha hb hbits _ h => mid (H.bin op a b r o o' ha.wf hb.wf hbits h)
    neg := fun _ a ha => mid (H.neg a ha.wf)
    not := fun _ a r ha h => mid (H.not a r ha.wf h)
    zext := fun _ a r k ha h => mid (H.zext a r k ha.wf h)
    sext := fun _ a r k ha h => mid (H.sext a r k ha.wf h)
    sextKeeps := fun _ a k x ha => H.sextKeeps a k x ha.wf
    extract := fun _ a r hi lo ha hlo hhi h => mid (H.extract a r hi lo ha.wf hlo hhi h)
    concat := fun _ _ a b r ha hb h => mid (H.concat a b r ha.wf hb.wf h)
    iteL := fun _ _ _ _ _ => trivial
    iteR := fun _ _ _ _ _ => trivial
    union := fun _ _ _ a b r ha hb hbits h => mid (H.union a b r ha.wf hb.wf hbits h)
    cmp := fun op _ _ a b br he hne ha hb => H.cmp op a b br he hne ha.wf hb.wf
    meet := fun _ _ a b r x ha hb hbits _ => H.meet a b r x ha.wf hb.wf hbits }

theorem convBV_good (H : OpsOK) (anno : Nat → SI) (env : Nat → Nat)
    (hctx : ∀ i, (anno i).WF ∧ (anno i).mem (env i)) :
    ∀ (e : BV) (o : Orders) (av : AV) (o' : Orders), WTBV anno env e → convBV anno e o = .ok (av, o') → GoodBV env e av :=
  fun e _ _ _ hwt h => (convBV_sound (H.ops anno) hctx e False.elim hwt h).1

theorem convB_good (H : OpsOK) (anno : Nat → SI) (env : Nat → Nat)
    (hctx : ∀ i, (anno i).WF ∧ (anno i).mem (env i)) :
    ∀ (c : BExp) (o : Orders) (br : BoolRes) (o' : Orders), WTB anno env c → convB anno c o = .ok (br, o') → GoodB env c br :=
  fun c _ _ _ hwt h => convB_sound (H.ops anno) hctx c False.elim hwt h

end Claripy.VSA

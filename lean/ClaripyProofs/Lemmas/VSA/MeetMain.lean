import ClaripyProofs.Lemmas.VSA.MeetMin
import ClaripyProofs.Lemmas.VSA.MeetGeo
import ClaripyProofs.Lemmas.VSA.Members
/-! The meet (`_multi_valued_intersection`, `intersection`) of two operands in constructor-normal form each of which, if it
wraps, splits into two pieces (`TwoPieces`; aligned operands do, `aligned_two`).  Per configuration: the first common member
`n` found by `_minimal_common_integer` precedes every common member `x` on the overlap arc, the distances from both lower
bounds grow in lockstep along it (`MeetGeo`), hence the least common multiple of the strides divides the distance from `n` to
`x` (`LockOK`).  This file: the interval built from `n`, the order facts about `n`, what `_multi_valued_intersection` returns
(`MeetShape`), and `LockOK` for every configuration in which the common points form one arc (`lockOK_single`), through the
coordinates relative to `s.lb` (`lockOK_of_rot`). -/
namespace Claripy.VSA

theorem new_offset_aligned (w st : Nat) (l : Int) (K : Nat) (hK : K < 2 ^ w) (hd : st ∣ K) :
    (SI.new w st l ((modAdd (K : Int) l w : Nat) : Int)).Aligned := by
  apply new_aligned_of_mem
  have hn := imod_lt l w
  unfold modAdd
  rw [mem_new, imod_of_lt _ _ (imod_lt _ _), Int.add_comm, imod_add, cd_add_right _ _ _ hn hK]
  exact ⟨Nat.mod_lt _ (Nat.two_pow_pos w), Nat.le_refl _, stride_cond _ _ hd⟩

/-- the interval built from a first common member ends at the last multiple of the new stride: aligned whatever the operands -/
theorem meetFrom_aligned (w ns : Nat) (n : Int) (upTo : Nat) : (meetFrom w ns (some n) upTo).Aligned := by
  unfold meetFrom
  apply new_offset_aligned _ _ _ _ ?_ (Nat.dvd_mul_left _ _)
  have h1 : modSub (upTo : Int) n w < 2 ^ w := by unfold modSub; exact imod_lt _ _
  exact Nat.lt_of_le_of_lt (Nat.div_mul_le_self _ _) h1

theorem meetFrom_good (w ns : Nat) (n : Int) (upTo : Nat) (hw : 0 < w) (hns : ns ≠ 0) :
    Good w True (meetFrom w ns (some n) upTo) :=
  ⟨by unfold meetFrom; exact new_WF_nz _ _ _ _ hw hns, by unfold meetFrom; exact nrm_new _ _ _ _ hw,
    fun _ => meetFrom_aligned w ns n upTo⟩

theorem meetFrom_mem (w ns n upTo x : Nat) (hn : n < 2 ^ w) (hu : upTo < 2 ^ w) (hx : x < 2 ^ w) (hns : ns ≠ 0)
    (h1 : ns ∣ cd (2 ^ w) n x) (h2 : cd (2 ^ w) n x ≤ cd (2 ^ w) n upTo) :
    (meetFrom w ns (some (n : Int)) upTo).mem x := by
  have hM := Nat.two_pow_pos w
  unfold meetFrom
  simp only []
  rw [modSub_nat _ _ _ hu hn, modAdd_nat]
  generalize hD : cd (2 ^ w) n upTo = D at *
  have hDlt : D < 2 ^ w := by rw [← hD]; exact cd_lt _ _ _ hn hu
  have hfl : D / ns * ns ≤ D := Nat.div_mul_le_self _ _
  -- the upper bound is the last multiple of the stride before `upTo`
  have hub : cd (2 ^ w) n ((D / ns * ns + n) % 2 ^ w) = D / ns * ns := by
    rw [Nat.add_comm]; exact cd_add_right _ _ _ hn (by omega)
  rw [mem_new, imod_of_lt _ _ hn, imod_nat, Nat.mod_mod, hub]
  obtain ⟨k, hk⟩ := h1
  refine ⟨hx, ?_, ?_⟩
  · rw [hk, Nat.mul_comm]
    apply Nat.mul_le_mul_right
    rw [Nat.le_div_iff_mul_le (Nat.pos_of_ne_zero hns), Nat.mul_comm, ← hk]
    exact h2
  · rw [if_neg hns, hk, Nat.mul_mod_right]

theorem aligned_two (X : SI) (hX : X.WF) (hal : X.Aligned) (hwrap : X.ub < X.lb) : TwoPieces X := by
  have hc := (crosses_south _ _ _ hX.2.1 hX.2.2.1).2 hwrap
  unfold Crosses at hc
  have hsp := ssplit_eq X hX
  unfold splitAt at hsp
  rw [if_pos hc] at hsp
  unfold cutAt at hsp
  generalize cd (2 ^ X.bits) X.lb (2 ^ X.bits - 1) = D at hc hsp
  have hgap := dvd_gap _ _ _ (Nat.dvd_sub_mod D) (aligned_dvd X hX hal)
    (Nat.lt_of_le_of_lt (Nat.sub_le _ _) hc)
  rw [if_neg (by omega)] at hsp
  exact ⟨_, _, hsp⟩

/-- what the meet asks of an operand: if it wraps, `_ssplit` makes two pieces of it -/
def MeetReady (r : SI) : Prop := r.ub < r.lb → TwoPieces r

theorem meetReady_of_aligned (r : SI) (hr : r.WF) (h : r.Aligned) : MeetReady r := aligned_two r hr h

theorem meetReady_of_le (r : SI) (h : r.lb ≤ r.ub) : MeetReady r := fun hw => absurd hw (by omega)

/-- two wrapping arcs with a point before the pole of one and after the pole of the other overlap at both ends -/
def NoCross (X Y : SI) : Prop := ¬ (X.ub < X.lb ∧ Y.ub < Y.lb ∧ (X.lb ≤ Y.ub ∨ Y.lb ≤ X.ub))

/-- **the first common member**: with no point of mixed kind, `_minimal_common_integer` returns a common member that
precedes every common member in the circular order of one of the operands -/
theorem mci_order (w : Nat) (X Y : SI) (hX : WFw w X) (hY : WFw w Y) (hXb : X.bottom = false) (hYb : Y.bottom = false)
    (HX : X.ub < X.lb → TwoPieces X ∨ (TwoPieces Y ∧ Y.ub < X.lb))
    (HY : Y.ub < Y.lb → TwoPieces Y ∨ (TwoPieces X ∧ X.ub < Y.lb))
    (hnc : NoCross X Y) (o : Option Int) (h : minimalCommonInteger X Y = .ok o) (x : Nat) (hx : X.mem x) (hy : Y.mem x) :
    ∃ n : Nat, o = some (n : Int) ∧ X.mem n ∧ Y.mem n ∧
      ((X.ub < X.lb ∨ ¬ Y.ub < Y.lb) → cd (2 ^ w) X.lb n ≤ cd (2 ^ w) X.lb x) ∧
      ((Y.ub < Y.lb ∨ ¬ X.ub < X.lb) → cd (2 ^ w) Y.lb n ≤ cd (2 ^ w) Y.lb x) := by
  obtain ⟨sp1, sp2⟩ := minimalCommonInteger_spec w X Y hX hY hXb hYb HX HY o h
  obtain ⟨hxl, hx1, _⟩ := arc_facts w X x hX hx
  obtain ⟨_, hy1, _⟩ := arc_facts w Y x hY hy
  have hXl := hX.lb_lt; have hXu := hX.ub_lt; have hYl := hY.lb_lt; have hYu := hY.ub_lt
  have hcr := num_cross (2 ^ w) X.lb X.ub Y.lb Y.ub x hXl hXu hYl hYu hxl hx1 hy1 hnc
  cases o with
  | none =>
    exfalso
    obtain ⟨n1, n2⟩ := sp2 rfl x hx hy
    unfold Up at n1; unfold Lo at n2
    rcases hcr with h | h
    · exact n1 h
    · exact n2 h
  | some m =>
    obtain ⟨n, e, mx, my, hUL, hord⟩ := sp1 m rfl
    obtain ⟨hnl, hn1, _⟩ := arc_facts w X n hX mx
    obtain ⟨_, hn2, _⟩ := arc_facts w Y n hY my
    have ho := hord x hx hy
    refine ⟨n, by rw [e], mx, my, fun hw => ?_, fun hw => ?_⟩
    · exact first_precedes (2 ^ w) X.lb X.ub x n hXu hnl (Up X Y x) (Lo X Y x) (Up X Y n) hn1 (fun h => h.1) (fun h => h.1)
        hcr ho (fun nw => ⟨fun h => absurd h nw, fun h => absurd h (by omega)⟩)
    · exact first_precedes (2 ^ w) Y.lb Y.ub x n hYu hnl (Up X Y x) (Lo X Y x) (Up X Y n) hn2 (fun h => h.2) (fun h => h.2)
        hcr ho (fun nw => ⟨fun h => absurd h (by omega), fun h => absurd h nw⟩)

/-- the local function `fin` of the model's `SI.multiMeet` -/
def meetFin (bits ns : Nat) (lb : Option Int) (upTo : Nat) : R SI :=
  match lb with
  | none => pure (SI.empty bits)
  | some _ => if ns = 0 then throw .zeroDiv else pure (meetFrom bits ns lb upTo)

theorem multiMeet_general (s b : SI) (hsb : s.bottom = false) (hbb : b.bottom = false) (hbits : s.bits = b.bits)
    (hs : s.isInteger = false) (hb : b.isInteger = false) :
    s.multiMeet b =
      (if s.isSurrounded b then minimalCommonInteger s b >>= fun m => meetFin s.bits (Nat.lcm s.stride b.stride) m s.ub >>= fun r => pure [r]
      else if b.isSurrounded s then minimalCommonInteger s b >>= fun m => meetFin s.bits (Nat.lcm s.stride b.stride) m b.ub >>= fun r => pure [r]
      else if s.surroundsMember b.lb && s.surroundsMember b.ub && b.surroundsMember s.lb && b.surroundsMember s.ub then
        minimalCommonInteger (SI.new s.bits s.stride s.lb b.ub) b >>= fun l0 =>
        minimalCommonInteger (SI.new s.bits b.stride b.lb s.ub) s >>= fun l1 =>
        meetFin s.bits (Nat.lcm s.stride b.stride) l0 b.ub >>= fun r0 =>
        meetFin s.bits (Nat.lcm s.stride b.stride) l1 s.ub >>= fun r1 => pure [r0, r1]
      else if s.surroundsMember b.lb then minimalCommonInteger b s >>= fun m => meetFin s.bits (Nat.lcm s.stride b.stride) m s.ub >>= fun r => pure [r]
      else if s.surroundsMember b.ub then minimalCommonInteger b s >>= fun m => meetFin s.bits (Nat.lcm s.stride b.stride) m b.ub >>= fun r => pure [r]
      else if b.surroundsMember s.lb then minimalCommonInteger s b >>= fun m => meetFin s.bits (Nat.lcm s.stride b.stride) m b.ub >>= fun r => pure [r]
      else if b.surroundsMember s.ub then minimalCommonInteger s b >>= fun m => meetFin s.bits (Nat.lcm s.stride b.stride) m s.ub >>= fun r => pure [r]
      else pure [SI.empty s.bits]) := by
  unfold SI.multiMeet
  simp only [hsb, hbb, hbits, hs, hb, Bool.or_self, Bool.false_eq_true, if_false, ne_eq, not_true_eq_false, Bool.and_self]
  rfl

theorem meetFin_ok (w ns : Nat) (o : Option Int) (U : Nat) (r : SI) (h : meetFin w ns o U = .ok r) :
    r = SI.empty w ∨ ∃ m, ns ≠ 0 ∧ r = meetFrom w ns (some m) U := by
  unfold meetFin at h
  cases o with
  | none => exact Or.inl (pure_ok h)
  | some m =>
    simp only [] at h
    split at h
    · cases h
    · rename_i hns
      exact Or.inr ⟨m, hns, pure_ok h⟩

theorem meetFin_good (w ns : Nat) (o : Option Int) (U : Nat) (r : SI) (hw : 0 < w) (h : meetFin w ns o U = .ok r) :
    Good w True r := by
  rcases meetFin_ok w ns o U r h with rfl | ⟨m, hns, rfl⟩
  · exact good_empty w True hw
  · exact meetFrom_good w ns m U hw hns

theorem meetFin_aligned (w ns : Nat) (o : Option Int) (U : Nat) (r : SI) (_hU : U < 2 ^ w)
    (h : meetFin w ns o U = .ok r) : r.Aligned := by
  rcases meetFin_ok w ns o U r h with rfl | ⟨m, _, rfl⟩
  · exact empty_aligned w
  · exact meetFrom_aligned w ns m U

theorem multiMeet_int_left (s b : SI) (hsb : s.bottom = false) (hbb : b.bottom = false) (hbits : s.bits = b.bits)
    (hs : s.lb = s.ub) (hb : b.lb ≠ b.ub) (hz : b.stride ≠ 0) :
    s.multiMeet b = .ok [if modSub s.lb b.lb s.bits % b.stride = 0 ∧ b.surroundsMember s.lb = true
      then SI.new s.bits 0 s.lb s.lb else SI.empty s.bits] := by
  unfold SI.multiMeet
  simp only [hsb, hbb, Bool.or_self, Bool.false_eq_true, if_false, hbits, ne_eq, not_true_eq_false]
  have h1 : s.isInteger = true := by simp [SI.isInteger, hs]
  have h2 : b.isInteger = false := by simp [SI.isInteger, hb]
  simp only [h1, h2, Bool.and_false, Bool.false_eq_true, if_false, if_true, hz]
  split <;> rfl

/-- what `_multi_valued_intersection` returns: the empty interval, a single value, or what `fin` builds from a first common
member -/
def MeetResult (w : Nat) (r : SI) : Prop :=
  r = SI.empty w ∨ (∃ v : Int, r = SI.new w 0 v v) ∨ ∃ ns o U, meetFin w ns o U = .ok r

/-- what `_multi_valued_intersection` does: with a single-valued operand, that value or the empty interval; on two proper
intervals, one result built from a first common member (with a configuration in which the common points form one arc, or an
operand that is the full circle), two results (mutual overlap), or the empty interval (no bound of one operand on the arc of
the other) -/
inductive MeetShape (w : Nat) (s b : SI) (l : List SI) : Prop
  | konst (c : Prop) [Decidable c] (v : Nat) (hv : v < 2 ^ w) (hint : s.lb = s.ub ∨ b.lb = b.ub)
      (hl : l = [if c then SI.new w 0 (v : Int) (v : Int) else SI.empty w])
      (hc : ∀ x, s.mem x → b.mem x → c ∧ x = v) : MeetShape w s b l
  | single (hp : s.lb ≠ s.ub ∧ b.lb ≠ b.ub) (X Y : SI) (U : Nat) (o : Option Int) (r : SI) (hl : l = [r]) (hXY : (X = s ∧ Y = b) ∨ (X = b ∧ Y = s))
      (hU : U = s.ub ∨ U = b.ub) (hm : minimalCommonInteger X Y = .ok o)
      (hf : meetFin w (Nat.lcm s.stride b.stride) o U = .ok r)
      (cfg : (b.isTop = true ∧ U = s.ub) ∨ (s.isTop = true ∧ U = b.ub) ∨
        (¬ (sur s b.lb ∧ sur s b.ub ∧ sur b s.lb ∧ sur b s.ub) ∨ G s b ∨ G b s)) : MeetShape w s b l
  | mutual (hp : s.lb ≠ s.ub ∧ b.lb ≠ b.ub) (o0 o1 : Option Int) (r0 r1 : SI) (hl : l = [r0, r1])
      (four : sur s b.lb ∧ sur s b.ub ∧ sur b s.lb ∧ sur b s.ub) (nG1 : ¬ G s b) (nG2 : ¬ G b s)
      (hm0 : minimalCommonInteger (SI.new w s.stride (s.lb : Int) (b.ub : Int)) b = .ok o0)
      (hm1 : minimalCommonInteger (SI.new w b.stride (b.lb : Int) (s.ub : Int)) s = .ok o1)
      (hf0 : meetFin w (Nat.lcm s.stride b.stride) o0 b.ub = .ok r0)
      (hf1 : meetFin w (Nat.lcm s.stride b.stride) o1 s.ub = .ok r1) : MeetShape w s b l
  | none (hl : l = [SI.empty w]) (h1 : ¬ sur s b.lb) (h3 : ¬ sur b s.lb) : MeetShape w s b l

theorem multiMeet_shape (w : Nat) (s b : SI) (hs : WFw w s) (hb : WFw w b) (hsb : s.bottom = false)
    (hbb : b.bottom = false) (l : List SI) (h : s.multiMeet b = .ok l) : MeetShape w s b l := by
  have hbits : s.bits = b.bits := by rw [hs.2, hb.2]
  have hsl := hs.lb_lt; have hsu := hs.ub_lt; have hbl := hb.lb_lt; have hbu := hb.ub_lt
  -- a single value `p.lb` against an interval `q`: a common member is that value, and it passes the two tests of the code
  have one : ∀ p q : SI, WFw w p → WFw w q → p.lb = p.ub → ∀ x, p.mem x → q.mem x →
      (modSub p.lb q.lb w % q.stride = 0 ∧ q.surroundsMember p.lb = true) ∧ x = p.lb := by
    intro p q hp hq hpi x hx hy
    have e1 := mem_integer p x hp.1 hpi hx
    rw [e1] at hy
    obtain ⟨_, h2, h3⟩ := arc_facts w q p.lb hq hy
    exact ⟨⟨by rw [modSub_nat _ _ _ hp.lb_lt hq.lb_lt]; exact Nat.mod_eq_zero_of_dvd h3,
      (surrounds_sur q p.lb hq.1 (by rw [hq.2]; exact hp.lb_lt)).2 (by unfold sur; rw [hq.2]; exact h2)⟩, e1⟩
  by_cases hsi : s.lb = s.ub
  · by_cases hbi : b.lb = b.ub
    · rw [multiMeet_int_int s b hsb hbb hbits hsi hbi, hs.2] at h
      refine .konst (s.lb = b.lb) s.lb hsl (Or.inl hsi) (Except.ok.inj h).symm ?_
      intro x hx hy
      have e1 := mem_integer s x hs.1 hsi hx
      have e2 := mem_integer b x hb.1 hbi hy
      exact ⟨by omega, e1⟩
    · have hbs : b.stride ≠ 0 := fun h0 => hbi (hb.1.2.2.2.1 h0)
      rw [multiMeet_int_left s b hsb hbb hbits hsi hbi hbs, hs.2] at h
      exact .konst _ s.lb hsl (Or.inl hsi) (Except.ok.inj h).symm (one s b hs hb hsi)
  by_cases hbi : b.lb = b.ub
  · have hss : s.stride ≠ 0 := fun h0 => hsi (hs.1.2.2.2.1 h0)
    rw [multiMeet_int s b hsb hbb hbits hsi hss hbi, hs.2] at h
    exact .konst _ b.lb hbl (Or.inr hbi) (Except.ok.inj h).symm (fun x hx hy => one b s hb hs hbi x hy hx)
  rw [multiMeet_general s b hsb hbb hbits (by simp [SI.isInteger, hsi]) (by simp [SI.isInteger, hbi]), hs.2] at h
  have single : ∀ (X Y : SI) (U : Nat) (rest : R (List SI)),
      rest = (minimalCommonInteger X Y >>= fun m => meetFin w (Nat.lcm s.stride b.stride) m U >>= fun r => pure [r]) →
      rest = .ok l → ((X = s ∧ Y = b) ∨ (X = b ∧ Y = s)) → (U = s.ub ∨ U = b.ub) →
      ((b.isTop = true ∧ U = s.ub) ∨ (s.isTop = true ∧ U = b.ub) ∨
        (¬ (sur s b.lb ∧ sur s b.ub ∧ sur b s.lb ∧ sur b s.ub) ∨ G s b ∨ G b s)) → MeetShape w s b l := by
    intro X Y U rest hrest hok hXY hU cfg
    rw [hrest] at hok
    obtain ⟨o, hm, hok⟩ := bind_ok hok
    obtain ⟨r, hf, hok⟩ := bind_ok hok
    exact .single ⟨hsi, hbi⟩ X Y U o r (pure_ok hok) hXY hU hm hf cfg
  by_cases c1 : s.isSurrounded b = true
  · rw [if_pos c1] at h
    refine single s b s.ub _ rfl h (Or.inl ⟨rfl, rfl⟩) (Or.inl rfl) ?_
    rcases isSurrounded_true s b hs.1 hb.1 hbits hsb c1 with ht | hG
    · exact Or.inl ⟨ht, rfl⟩
    · exact Or.inr (Or.inr (Or.inr (Or.inl hG)))
  · rw [if_neg c1] at h
    obtain ⟨bnt, c1'⟩ := isSurrounded_false s b hs.1 hb.1 hbits hsb c1
    by_cases c2 : b.isSurrounded s = true
    · rw [if_pos c2] at h
      refine single s b b.ub _ rfl h (Or.inl ⟨rfl, rfl⟩) (Or.inr rfl) ?_
      rcases isSurrounded_true b s hb.1 hs.1 hbits.symm hbb c2 with ht | hG
      · exact Or.inr (Or.inl ⟨ht, rfl⟩)
      · exact Or.inr (Or.inr (Or.inr (Or.inr hG)))
    · rw [if_neg c2] at h
      obtain ⟨snt, c2'⟩ := isSurrounded_false b s hb.1 hs.1 hbits.symm hbb c2
      have nG1 : ¬ G s b := by
        rcases c1' with h1 | h1
        · rw [snt] at h1; cases h1
        · exact h1
      have nG2 : ¬ G b s := by
        rcases c2' with h1 | h1
        · rw [bnt] at h1; cases h1
        · exact h1
      have e1 : s.surroundsMember (b.lb : Int) = true ↔ sur s b.lb := surrounds_sur s b.lb hs.1 (by rw [hs.2]; exact hbl)
      have e2 : s.surroundsMember (b.ub : Int) = true ↔ sur s b.ub := surrounds_sur s b.ub hs.1 (by rw [hs.2]; exact hbu)
      have e3 : b.surroundsMember (s.lb : Int) = true ↔ sur b s.lb := surrounds_sur b s.lb hb.1 (by rw [hb.2]; exact hsl)
      have e4 : b.surroundsMember (s.ub : Int) = true ↔ sur b s.ub := surrounds_sur b s.ub hb.1 (by rw [hb.2]; exact hsu)
      by_cases c3 : (s.surroundsMember (b.lb : Int) && s.surroundsMember (b.ub : Int) && b.surroundsMember (s.lb : Int) &&
          b.surroundsMember (s.ub : Int)) = true
      · rw [if_pos c3] at h
        simp only [Bool.and_eq_true, e1, e2, e3, e4] at c3
        obtain ⟨o0, hm0, h⟩ := bind_ok h
        obtain ⟨o1, hm1, h⟩ := bind_ok h
        obtain ⟨r0, hf0, h⟩ := bind_ok h
        obtain ⟨r1', hf1, h⟩ := bind_ok h
        exact .mutual ⟨hsi, hbi⟩ o0 o1 r0 r1' (pure_ok h) ⟨c3.1.1.1, c3.1.1.2, c3.1.2, c3.2⟩ nG1 nG2 hm0 hm1 hf0 hf1
      · rw [if_neg c3] at h
        simp only [Bool.and_eq_true, e1, e2, e3, e4] at c3
        have n4 : ¬ (sur s b.lb ∧ sur s b.ub ∧ sur b s.lb ∧ sur b s.ub) := fun hh => c3 ⟨⟨⟨hh.1, hh.2.1⟩, hh.2.2.1⟩, hh.2.2.2⟩
        by_cases c4 : s.surroundsMember (b.lb : Int) = true
        · rw [if_pos c4] at h
          exact single b s s.ub _ rfl h (Or.inr ⟨rfl, rfl⟩) (Or.inl rfl) (Or.inr (Or.inr (Or.inl n4)))
        · rw [if_neg c4] at h
          by_cases c5 : s.surroundsMember (b.ub : Int) = true
          · rw [if_pos c5] at h
            exact single b s b.ub _ rfl h (Or.inr ⟨rfl, rfl⟩) (Or.inr rfl) (Or.inr (Or.inr (Or.inl n4)))
          · rw [if_neg c5] at h
            by_cases c6 : b.surroundsMember (s.lb : Int) = true
            · rw [if_pos c6] at h
              exact single s b b.ub _ rfl h (Or.inl ⟨rfl, rfl⟩) (Or.inr rfl) (Or.inr (Or.inr (Or.inl n4)))
            · rw [if_neg c6] at h
              by_cases c7 : b.surroundsMember (s.ub : Int) = true
              · rw [if_pos c7] at h
                exact single s b s.ub _ rfl h (Or.inl ⟨rfl, rfl⟩) (Or.inl rfl) (Or.inr (Or.inr (Or.inl n4)))
              · rw [if_neg c7] at h
                exact .none (pure_ok h) (fun hh => c4 (e1.2 hh)) (fun hh => c6 (e3.2 hh))

theorem multiMeet_shape_results (w : Nat) (s b : SI) (l : List SI) (h : MeetShape w s b l) : ∀ r, r ∈ l → MeetResult w r := by
  rcases h with ⟨c, v, _, _, hl, _⟩ | ⟨_, X, Y, U, o, r, hl, _, _, _, hf, _⟩ |
    ⟨_, o0, o1, r0, r1, hl, _, _, _, _, _, hf0, hf1⟩ | ⟨hl, _, _⟩
  · subst hl
    intro r' hr'
    rw [List.mem_singleton.1 hr']
    split
    · exact Or.inr (Or.inl ⟨v, rfl⟩)
    · exact Or.inl rfl
  · subst hl
    intro r' hr'
    rw [List.mem_singleton.1 hr']; exact Or.inr (Or.inr ⟨_, _, _, hf⟩)
  · subst hl
    intro r' hr'
    rcases List.mem_cons.1 hr' with e | e
    · rw [e]; exact Or.inr (Or.inr ⟨_, _, _, hf0⟩)
    · rw [List.mem_singleton.1 e]; exact Or.inr (Or.inr ⟨_, _, _, hf1⟩)
  · subst hl
    intro r' hr'
    rw [List.mem_singleton.1 hr']; exact Or.inl rfl

theorem multiMeet_results (w : Nat) (s b : SI) (hs : WFw w s) (hb : WFw w b) (hsb : s.bottom = false)
    (hbb : b.bottom = false) (l : List SI) (h : s.multiMeet b = .ok l) :
    ∀ r, r ∈ l → MeetResult w r :=
  multiMeet_shape_results w s b l (multiMeet_shape w s b hs hb hsb hbb l h)

theorem multiMeet_good (w : Nat) (s b : SI) (hs : WFw w s) (hb : WFw w b) (hsb : s.bottom = false)
    (hbb : b.bottom = false) (l : List SI) (h : s.multiMeet b = .ok l) : ∀ r, r ∈ l → Good w True r := by
  have hw0 := hs.pos
  intro r hr
  rcases multiMeet_results w s b hs hb hsb hbb l h r hr with e | ⟨v, e⟩ | ⟨ns, o, U, e⟩
  · rw [e]; exact good_empty w True hw0
  · rw [e]; exact good_const w True v hw0
  · exact meetFin_good w ns o U r hw0 e

theorem multiMeet_WF (w : Nat) (s b : SI) (hs : WFw w s) (hb : WFw w b) (hsb : s.bottom = false)
    (hbb : b.bottom = false) (l : List SI) (h : s.multiMeet b = .ok l) : ∀ r, r ∈ l → WFw w r :=
  fun r hr => (multiMeet_good w s b hs hb hsb hbb l h r hr).wf

theorem multiMeet_aligned (w : Nat) (s b : SI) (hs : WFw w s) (hb : WFw w b) (hsb : s.bottom = false)
    (hbb : b.bottom = false) (l : List SI) (h : s.multiMeet b = .ok l) : ∀ r, r ∈ l → r.Aligned :=
  fun r hr => (multiMeet_good w s b hs hb hsb hbb l h r hr).aligned trivial

theorem dvd_of_order (N st l n x : Nat) (hl : l < N) (hn : n < N) (hx : x < N) (h1 : st ∣ cd N l n) (h2 : st ∣ cd N l x)
    (ho : cd N l n ≤ cd N l x) : st ∣ cd N n x := by
  rw [cd_between N l n x hl hn hx ho]
  exact Nat.dvd_sub h2 h1

theorem meet_call (w : Nat) (s b X Y : SI) (U x : Nat) (o : Option Int) (r : SI)
    (hss : s.stride ≠ 0) (hbs : b.stride ≠ 0)
    (hX : WFw w X) (hY : WFw w Y) (hXb : X.bottom = false) (hYb : Y.bottom = false)
    (HX : X.ub < X.lb → TwoPieces X ∨ (TwoPieces Y ∧ Y.ub < X.lb))
    (HY : Y.ub < Y.lb → TwoPieces Y ∨ (TwoPieces X ∧ X.ub < Y.lb))
    (hnc : NoCross X Y)
    (hm : minimalCommonInteger X Y = .ok o) (hf : meetFin w (Nat.lcm s.stride b.stride) o U = .ok r) (hU : U < 2 ^ w)
    (hxX : X.mem x) (hxY : Y.mem x)
    (hgeo : ∀ n, X.mem n → Y.mem n → n < 2 ^ w →
      ((X.ub < X.lb ∨ ¬ Y.ub < Y.lb) → cd (2 ^ w) X.lb n ≤ cd (2 ^ w) X.lb x) →
      ((Y.ub < Y.lb ∨ ¬ X.ub < X.lb) → cd (2 ^ w) Y.lb n ≤ cd (2 ^ w) Y.lb x) →
      s.stride ∣ cd (2 ^ w) n x ∧ b.stride ∣ cd (2 ^ w) n x ∧ cd (2 ^ w) n x ≤ cd (2 ^ w) n U) : r.mem x := by
  obtain ⟨n, ho, mx, my, f1, f2⟩ := mci_order w X Y hX hY hXb hYb HX HY hnc o hm x hxX hxY
  have hnl : n < 2 ^ w := by have := mx.2.1; rwa [hX.2] at this
  have hxl : x < 2 ^ w := by have := hxX.2.1; rwa [hX.2] at this
  obtain ⟨d1, d2, d3⟩ := hgeo n mx my hnl f1 f2
  have hl : Nat.lcm s.stride b.stride ≠ 0 := Nat.lcm_ne_zero hss hbs
  subst ho
  unfold meetFin at hf
  simp only [] at hf
  rw [if_neg hl] at hf
  rw [pure_ok hf]
  exact meetFrom_mem w _ n U x hnl hU hxl hl (Nat.lcm_dvd d1 d2) d3

theorem top_nrm (b : SI) (hb : b.WF) (hbb : b.bottom = false) (nb : Nrm b) (ht : b.isTop = true) :
    b.stride = 1 ∧ b.lb = 0 ∧ b.ub = 2 ^ b.bits - 1 := by
  obtain ⟨h1, h2⟩ := isTop_facts b hb ht
  exact ⟨h1, (nrm_iff b hb hbb).1 nb h1 ((cd_eq_pred_iff _ _ _ hb.2.1 hb.2.2.1).1 h2)⟩

theorem nocross_of_G (w : Nat) (s b : SI) (hs : WFw w s) (hb : WFw w b) (hG : G s b ∨ G b s) : NoCross s b := by
  intro hc
  have hsl := hs.lb_lt; have hsu := hs.ub_lt; have hbl := hb.lb_lt; have hbu := hb.ub_lt
  obtain ⟨a1, a2, a3, a4, a5⟩ := num_nc (2 ^ w) s.lb s.ub b.lb b.ub hsl hsu hbl hbu hc
  unfold G sur at hG
  rw [hs.2, hb.2] at hG
  rcases hG with ⟨_, _, g⟩ | ⟨_, _, g⟩
  · rcases g with g | g | g
    · exact a5 g
    · exact g a1
    · exact g a2
  · rcases g with g | g | g
    · exact a5 ⟨g.1.symm, g.2.symm⟩
    · exact g a3
    · exact g a4

theorem nocross_of_not4 (w : Nat) (s b : SI) (hs : WFw w s) (hb : WFw w b)
    (h4 : ¬ (sur s b.lb ∧ sur s b.ub ∧ sur b s.lb ∧ sur b s.ub)) : NoCross s b := by
  intro hc
  have hsl := hs.lb_lt; have hsu := hs.ub_lt; have hbl := hb.lb_lt; have hbu := hb.ub_lt
  obtain ⟨a1, a2, a3, a4, _⟩ := num_nc (2 ^ w) s.lb s.ub b.lb b.ub hsl hsu hbl hbu hc
  apply h4
  unfold sur
  rw [hs.2, hb.2]
  exact ⟨a1, a2, a3, a4⟩

theorem nocross_symm (X Y : SI) (h : NoCross X Y) : NoCross Y X := by
  unfold NoCross at *
  omega

/-- what a configuration has to supply: every common member `x` follows a common member `n` that is first in the order of `s`
or of `b` (as `mci_order` says of the result of `_minimal_common_integer`) at a distance that both strides divide and that
does not pass `U` -/
def LockOK (w : Nat) (s b : SI) (U : Nat) : Prop :=
  ∀ x n, s.mem x → b.mem x → s.mem n → b.mem n →
    ((s.ub < s.lb ∨ ¬ b.ub < b.lb) → cd (2 ^ w) s.lb n ≤ cd (2 ^ w) s.lb x) →
    ((b.ub < b.lb ∨ ¬ s.ub < s.lb) → cd (2 ^ w) b.lb n ≤ cd (2 ^ w) b.lb x) →
    s.stride ∣ cd (2 ^ w) n x ∧ b.stride ∣ cd (2 ^ w) n x ∧ cd (2 ^ w) n x ≤ cd (2 ^ w) n U

/-- a configuration with a single result `[fin(mci(X, Y), U)]`, `{X, Y} = {s, b}` -/
theorem meet_single_tp (w : Nat) (s b X Y : SI) (U : Nat) (hs : WFw w s) (hb : WFw w b) (hsb : s.bottom = false)
    (hbb : b.bottom = false) (Hs : s.ub < s.lb → TwoPieces s) (Hb : b.ub < b.lb → TwoPieces b) (hss : s.stride ≠ 0) (hbs : b.stride ≠ 0)
    (hXY : (X = s ∧ Y = b) ∨ (X = b ∧ Y = s)) (hU : U < 2 ^ w) (hnc : NoCross s b)
    (hgeoR : LockOK w s b U)
    (o : Option Int) (r : SI) (hm : minimalCommonInteger X Y = .ok o)
    (hf : meetFin w (Nat.lcm s.stride b.stride) o U = .ok r) (x : Nat) (hx : s.mem x) (hy : b.mem x) : r.mem x := by
  rcases hXY with ⟨e1, e2⟩ | ⟨e1, e2⟩
  · subst e1; subst e2
    exact meet_call w X Y X Y U x o r hss hbs hs hb hsb hbb (fun h => Or.inl (Hs h)) (fun h => Or.inl (Hb h)) hnc hm hf hU
      hx hy (fun n mx my _ f1 f2 => hgeoR x n hx hy mx my f1 f2)
  · subst e1; subst e2
    exact meet_call w Y X X Y U x o r hss hbs hb hs hbb hsb (fun h => Or.inl (Hb h)) (fun h => Or.inl (Hs h))
      (nocross_symm _ _ hnc) hm hf hU hy hx (fun n mx my _ f1 f2 => hgeoR x n hx hy my mx f2 f1)

theorem ord_of (P Q : Prop) (A B : Prop) (f1 : (P ∨ ¬ Q) → A) (f2 : (Q ∨ ¬ P) → B) : A ∨ B := by
  by_cases hc : P ∨ ¬ Q
  · exact Or.inl (f1 hc)
  · refine Or.inr (f2 ?_)
    by_cases hq : Q
    · exact Or.inl hq
    · exact absurd (Or.inr hq) hc

theorem lockOK_symm (w : Nat) (s b : SI) (U : Nat) (h : LockOK w b s U) : LockOK w s b U := by
  intro x n hx hy hn hm f1 f2
  obtain ⟨a1, a2, a3⟩ := h x n hy hx hm hn f2 f1
  exact ⟨a2, a1, a3⟩

/-- **from the geometry in coordinates relative to `s.lb` to what a configuration has to supply**: the distances of `x` and
`n` from `s.lb` are their positions, `le_rot` carries every comparison over -/
theorem lockOK_of_rot (w : Nat) (s b : SI) (hs : WFw w s) (hb : WFw w b) (U : Nat) (hU : U < 2 ^ w)
    (hgeo : GeoOK (2 ^ w) (cd (2 ^ w) s.lb s.ub) (cd (2 ^ w) s.lb b.lb) (cd (2 ^ w) s.lb b.ub) (cd (2 ^ w) s.lb U)) :
    LockOK w s b U := by
  intro x n hx hy hn hm f1 f2
  have hsl := hs.lb_lt; have hbl := hb.lb_lt; have hbu := hb.ub_lt
  obtain ⟨hxl, hxs, hxsd⟩ := arc_facts w s x hs hx
  obtain ⟨_, hxb, hxbd⟩ := arc_facts w b x hb hy
  obtain ⟨hnl, hns, hnsd⟩ := arc_facts w s n hs hn
  obtain ⟨_, hnb, hnbd⟩ := arc_facts w b n hb hm
  have rot := fun a y z ha hy hz => le_rot (2 ^ w) s.lb a y z hsl ha hy hz
  obtain ⟨r1, r2, r3⟩ := hgeo _ _ hxs hns ((rot b.lb b.ub x hbl hbu hxl).1 hxb) ((rot b.lb b.ub n hbl hbu hnl).1 hnb)
    ((ord_of _ _ _ _ f1 f2).imp id (rot b.lb x n hbl hxl hnl).1)
  exact ⟨dvd_of_order _ _ _ _ _ hsl hnl hxl hnsd hxsd r1,
    dvd_of_order _ _ _ _ _ hbl hnl hxl hnbd hxbd ((rot b.lb x n hbl hxl hnl).2 r2), (rot n U x hnl hU hxl).2 r3⟩

/-- **the common points form one arc** (not all four bounds lie on the other arc, or one operand surrounds the other): every
branch of `_multi_valued_intersection` with one result is of this kind, and either upper bound will do for `U` -/
theorem lockOK_single (w : Nat) (s b : SI) (hs : WFw w s) (hb : WFw w b) (U : Nat)
    (one : ¬ (sur s b.lb ∧ sur s b.ub ∧ sur b s.lb ∧ sur b s.ub) ∨ G s b ∨ G b s)
    (hU : U = s.ub ∨ U = b.ub) : LockOK w s b U := by
  have hsl := hs.lb_lt; have hsu := hs.ub_lt; have hbl := hb.lb_lt; have hbu := hb.ub_lt
  have hUl : U < 2 ^ w := by
    rcases hU with e | e
    · rw [e]; exact hsu
    · rw [e]; exact hbu
  apply lockOK_of_rot w s b hs hb U hUl
  apply geo_single _ _ _ _ _ (cd_lt _ _ _ hsl hsu) (cd_lt _ _ _ hsl hbl) (cd_lt _ _ _ hsl hbu)
  · rw [← four_rot w s b hs hb, ← G_rot_sb w s b hs hb, ← G_rot_bs w s b hs hb]
    exact one
  · rcases hU with e | e
    · rw [e]; exact Or.inl rfl
    · rw [e]; exact Or.inr rfl

/-- an operand that is the full circle `1[0, 2^w - 1]`: its order and stride impose nothing -/
theorem lockOK_top (w : Nat) (s b : SI) (hs : WFw w s) (hb : WFw w b) (hbb : b.bottom = false) (nb : Nrm b)
    (ht : b.isTop = true) : ¬ b.ub < b.lb ∧ LockOK w s b s.ub := by
  obtain ⟨t1, t2, t3⟩ := top_nrm b hb.1 hbb nb ht
  have hsl := hs.lb_lt; have hsu := hs.ub_lt
  rw [hb.2] at t3
  have hnw : ¬ b.ub < b.lb := by omega
  refine ⟨hnw, ?_⟩
  intro x n hx hy hn hm f1 _
  obtain ⟨hxl, hxs, hxd⟩ := arc_facts w s x hs hx
  obtain ⟨hnl, hns, hnd⟩ := arc_facts w s n hs hn
  have o1 := f1 (Or.inr hnw)
  exact ⟨dvd_of_order _ _ _ _ _ hsl hnl hxl hnd hxd o1, by rw [t1]; exact Nat.one_dvd _,
    arc_tail _ _ _ _ _ hsl hsu hnl hxl o1 hxs⟩

end Claripy.VSA

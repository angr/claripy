import ClaripyProofs.Lemmas.VSA.Basic
import Mathlib.Algebra.Group.Nat.Defs
import Mathlib.Algebra.Group.Int.Defs
/-! `extended_euclid` and `diop_natural_solution_linear` as the meet uses it: for `a > 0 > b` and `gcd(a, b) ∣ c` the
result is the natural solution of `a*x + b*y = c` with the least `x` (hence `_minimal_common_integer_splitted` finds
the least common member of two arithmetic progressions). -/
namespace Claripy.VSA

theorem extendedEuclidF_spec : ∀ (fuel a b : Nat), b < fuel →
    (a : Int) * (extendedEuclidF fuel a b).1 + (b : Int) * (extendedEuclidF fuel a b).2.1 = (extendedEuclidF fuel a b).2.2 ∧
      (extendedEuclidF fuel a b).2.2 = Nat.gcd a b
  | 0, _, _, h => by omega
  | fuel + 1, a, b, h => by
    unfold extendedEuclidF
    by_cases hb : b = 0
    · subst hb; simp
    · rw [if_neg hb]
      have hlt : a % b < fuel := by
        have := Nat.mod_lt a (Nat.pos_of_ne_zero hb)
        omega
      obtain ⟨ih1, ih2⟩ := extendedEuclidF_spec fuel b (a % b) hlt
      simp only []
      refine ⟨?_, ?_⟩
      · rw [← ih1]
        have hdm : (a : Int) = (b : Int) * ((a / b : Nat) : Int) + ((a % b : Nat) : Int) := by
          have := Nat.div_add_mod a b
          exact_mod_cast this.symm
        generalize (extendedEuclidF fuel b (a % b)).1 = u
        generalize (extendedEuclidF fuel b (a % b)).2.1 = v
        rw [hdm]
        grind
      · rw [ih2, Nat.gcd_comm a b, Nat.gcd_rec b a, Nat.gcd_comm]

theorem extendedEuclid_spec (a b : Nat) :
    (a : Int) * (extendedEuclid a b).1 + (b : Int) * (extendedEuclid a b).2.1 = (extendedEuclid a b).2.2 ∧
      (extendedEuclid a b).2.2 = Nat.gcd a b :=
  extendedEuclidF_spec (b + 1) a b (by omega)

/-- the choice of the parameter `t` and the solution returned (the text of the model after the particular solution) -/
def diopTail (a b c x0 y0 : Int) : R (Option (Int × Int)) :=
    let t0 := Q.mk' (-c * x0) b
    let t1 := Q.mk' (c * y0) a
    let t0ge := !(decide (b < 0))      -- t0_dir == ">="
    let t1ge := decide (a < 0)         -- t1_dir == ">="
    let bounds : Option (EQ × EQ) :=
      if t0ge && t1ge then some (.fin (if t1.lt t0 then t0 else t1), .posInf)
      else if !t0ge && t1ge then (if t1.lt t0 then some (.fin t1, .fin t0) else none)
      else if t0ge && !t1ge then (if t0.lt t1 then some (.fin t0, .fin t1) else none)
      else some (.negInf, .fin (if t0.lt t1 then t0 else t1))
    match bounds with
    | none => throw .typeError
    | some (lb, ub) =>
      let pickUb : Bool :=
        if lb.leZero && ub.geZero then ub.absLt lb
        else if lb.isInf then true
        else if ub.isInf then false
        else ub.absLt lb
      let t : EQ := if pickUb then ub else lb
      match t, ub with
      | .fin tq, .fin uq =>
        let ti := if tq.eq uq then tq.floor else tq.ceil
        pure (some (c * x0 + b * ti, c * y0 - a * ti))
      | .fin tq, _ => let ti := tq.ceil; pure (some (c * x0 + b * ti, c * y0 - a * ti))
      | _, _ => throw .typeError

/-- the model after the division by the gcd of the three coefficients -/
def diopCore (a b c : Int) : R (Option (Int × Int)) :=
  if c = 0 then pure (some (0, 0)) else
  let e := extendedEuclid a.natAbs b.natAbs
  let x0 := e.1 * isign a
  let y0 := e.2.1 * isign b
  let d := e.2.2
  if d = 0 then throw .zeroDiv else
  if Int.emod c d = 0 then
    if b = 0 ∨ a = 0 then throw .assertion else diopTail a b c x0 y0
  else pure none

theorem diop_eq (c a b : Int) :
    diop c a b =
      if Nat.gcd (Nat.gcd a.natAbs b.natAbs) c.natAbs = 0 then throw .zeroDiv
      else diopCore (Int.fdiv a (Nat.gcd (Nat.gcd a.natAbs b.natAbs) c.natAbs : Nat))
        (Int.fdiv b (Nat.gcd (Nat.gcd a.natAbs b.natAbs) c.natAbs : Nat))
        (Int.fdiv c (Nat.gcd (Nat.gcd a.natAbs b.natAbs) c.natAbs : Nat)) := rfl

/-- with `a > 0 > b` both conditions on `t` are upper bounds: the largest admissible integer is chosen -/
theorem diopTail_eval (a b c x0 y0 : Int) (ha : 0 < a) (hb : b < 0) :
    diopTail a b c x0 y0 =
      .ok (some (c * x0 + b * (if (Q.mk' (-c * x0) b).lt (Q.mk' (c * y0) a) then Q.mk' (-c * x0) b else Q.mk' (c * y0) a).floor,
        c * y0 - a * (if (Q.mk' (-c * x0) b).lt (Q.mk' (c * y0) a) then Q.mk' (-c * x0) b else Q.mk' (c * y0) a).floor)) := by
  unfold diopTail
  have h1 : decide (b < 0) = true := by simpa using hb
  have h2 : decide (a < 0) = false := by simp; omega
  simp only [h1, h2, Bool.not_true, Bool.false_and, Bool.and_false, Bool.false_eq_true, if_false, Bool.not_false,
    Bool.and_self]
  generalize (if (Q.mk' (-c * x0) b).lt (Q.mk' (c * y0) a) then Q.mk' (-c * x0) b else Q.mk' (c * y0) a) = tm
  have hpick : (if (EQ.negInf.leZero && (EQ.fin tm).geZero) = true then (EQ.fin tm).absLt EQ.negInf
      else if EQ.negInf.isInf = true then true else if (EQ.fin tm).isInf = true then false
      else (EQ.fin tm).absLt EQ.negInf) = true := by
    simp [EQ.leZero, EQ.geZero, EQ.absLt, EQ.isInf]
  simp only [hpick, if_true]
  have : tm.eq tm = true := by simp [Q.eq]
  simp only [this, if_true]
  rfl

theorem Q_floor_spec (n : Int) (d : Nat) (hd : 0 < d) :
    (⟨n, d⟩ : Q).floor * d ≤ n ∧ ∀ t : Int, t * d ≤ n → t ≤ (⟨n, d⟩ : Q).floor := by
  have hd' : (0 : Int) < d := by exact_mod_cast hd
  unfold Q.floor
  simp only []
  rw [Int.fdiv_eq_ediv_of_nonneg _ (Int.le_of_lt hd')]
  refine ⟨Int.ediv_mul_le _ (Int.ne_of_gt hd'), ?_⟩
  intro t ht
  exact Int.le_ediv_of_mul_le hd' ht

theorem diopCore_spec (a b c : Int) (ha : 0 < a) (hb : b < 0) (hco : Nat.gcd a.natAbs b.natAbs = 1) :
    ∃ x y, diopCore a b c = .ok (some (x, y)) ∧ a * x + b * y = c ∧ 0 ≤ x ∧ 0 ≤ y ∧
      ∀ x' y', 0 ≤ x' → 0 ≤ y' → a * x' + b * y' = c → x ≤ x' := by
  unfold diopCore
  by_cases hc : c = 0
  · rw [if_pos hc]
    exact ⟨0, 0, rfl, by simp [hc], Int.le_refl _, Int.le_refl _, fun x' _ hx' _ _ => hx'⟩
  · rw [if_neg hc]
    obtain ⟨e1, e2⟩ := extendedEuclid_spec a.natAbs b.natAbs
    rw [hco] at e2
    simp only []
    rw [e2]
    have hia : isign a = 1 := by unfold isign; rw [if_neg (by omega)]
    have hib : isign b = -1 := by unfold isign; rw [if_pos hb]
    have hna : (a.natAbs : Int) = a := Int.natAbs_of_nonneg (Int.le_of_lt ha)
    have hnb : (b.natAbs : Int) = -b := by omega
    rw [hia, hib]
    generalize (extendedEuclid a.natAbs b.natAbs).1 = u at *
    generalize (extendedEuclid a.natAbs b.natAbs).2.1 = v at *
    rw [e2, hna, hnb] at e1
    have hbez : a * (u * 1) + b * (v * -1) = 1 := by push_cast at e1; grind
    have hem : Int.emod c ((1 : Nat) : Int) = 0 := by show c % 1 = 0; exact Int.emod_one c
    rw [if_neg (by decide), if_pos hem, if_neg (by omega), diopTail_eval _ _ _ _ _ ha hb]
    generalize u * 1 = x0 at *
    generalize v * -1 = y0 at *
    -- the two bounds on `t`, as fractions with positive denominators
    have hq0 : Q.mk' (-c * x0) b = ⟨c * x0, b.natAbs⟩ := by
      unfold Q.mk'; rw [if_pos hb]; congr 1; grind
    have hq1 : Q.mk' (c * y0) a = ⟨c * y0, a.natAbs⟩ := by
      unfold Q.mk'; rw [if_neg (by omega)]
    rw [hq0, hq1]
    have hbpos : 0 < b.natAbs := by omega
    have hapos : 0 < a.natAbs := by omega
    obtain ⟨f0a, f0b⟩ := Q_floor_spec (c * x0) b.natAbs hbpos
    obtain ⟨f1a, f1b⟩ := Q_floor_spec (c * y0) a.natAbs hapos
    rw [hnb] at f0a f0b
    rw [hna] at f1a f1b
    -- the chosen `t` satisfies both bounds and is the largest such integer
    have key : ∃ ti : Int, (if (⟨c * x0, b.natAbs⟩ : Q).lt ⟨c * y0, a.natAbs⟩ then (⟨c * x0, b.natAbs⟩ : Q)
        else ⟨c * y0, a.natAbs⟩).floor = ti ∧ ti * (-b) ≤ c * x0 ∧ ti * a ≤ c * y0 ∧
        ∀ t : Int, t * (-b) ≤ c * x0 → t * a ≤ c * y0 → t ≤ ti := by
      by_cases hlt : (⟨c * x0, b.natAbs⟩ : Q).lt ⟨c * y0, a.natAbs⟩ = true
      · rw [if_pos hlt]
        refine ⟨_, rfl, f0a, ?_, fun t h1 _ => f0b t h1⟩
        have hlt' : c * x0 * a < c * y0 * (-b) := by
          have : c * x0 * (a.natAbs : Int) < c * y0 * (b.natAbs : Int) := by simpa [Q.lt] using hlt
          rwa [hna, hnb] at this
        have hnbpos : 0 < -b := by omega
        have h3 : (⟨c * x0, b.natAbs⟩ : Q).floor * a * (-b) < c * y0 * (-b) := by
          rw [Int.mul_right_comm]
          exact Int.lt_of_le_of_lt (Int.mul_le_mul_of_nonneg_right f0a (Int.le_of_lt ha)) hlt'
        exact Int.le_of_lt (Int.lt_of_mul_lt_mul_right h3 (Int.le_of_lt hnbpos))
      · rw [if_neg hlt]
        refine ⟨_, rfl, ?_, f1a, fun t _ h2 => f1b t h2⟩
        have hge : c * y0 * (-b) ≤ c * x0 * a := by
          have : ¬ c * x0 * (a.natAbs : Int) < c * y0 * (b.natAbs : Int) := by simpa [Q.lt] using hlt
          rw [hna, hnb] at this
          omega
        have h3 : (⟨c * y0, a.natAbs⟩ : Q).floor * (-b) * a ≤ c * x0 * a := by
          rw [Int.mul_right_comm]
          exact Int.le_trans (Int.mul_le_mul_of_nonneg_right f1a (by omega)) hge
        exact Int.le_of_mul_le_mul_right h3 ha
    obtain ⟨ti, hti, k1, k2, k3⟩ := key
    rw [hti]
    have k1' : 0 ≤ c * x0 + b * ti := by rw [Int.mul_neg, Int.mul_comm] at k1; omega
    have k2' : 0 ≤ c * y0 - a * ti := by rw [Int.mul_comm] at k2; omega
    refine ⟨_, _, rfl, ?_, k1', k2', ?_⟩
    · have : a * (c * x0 + b * ti) + b * (c * y0 - a * ti) = c * (a * x0 + b * y0) := by grind
      rw [this, hbez, Int.mul_one]
    · intro x' y' hx' hy' heq
      -- `x' - x = (-b) * j`, `y' - y = a * j` with `j` read off the Bezout identity
      have h0 : a * (c * x0 + b * ti) + b * (c * y0 - a * ti) = c := by
        have : a * (c * x0 + b * ti) + b * (c * y0 - a * ti) = c * (a * x0 + b * y0) := by grind
        rw [this, hbez, Int.mul_one]
      have h1 : a * (x' - (c * x0 + b * ti)) = (-b) * (y' - (c * y0 - a * ti)) := by grind
      obtain ⟨X, hX⟩ : ∃ X, X = x' - (c * x0 + b * ti) := ⟨_, rfl⟩
      obtain ⟨Y, hY⟩ : ∃ Y, Y = y' - (c * y0 - a * ti) := ⟨_, rfl⟩
      rw [← hX, ← hY] at h1
      have hj : X = (-b) * (x0 * Y - y0 * X) := by grind
      have hjy : Y = a * (x0 * Y - y0 * X) := by grind
      generalize x0 * Y - y0 * X = j at hj hjy
      -- `t' = ti - j` is admissible, so `t' ≤ ti`
      have hxe : x' = c * x0 + b * (ti - j) := by rw [hX] at hj; grind
      have hye : y' = c * y0 - a * (ti - j) := by rw [hY] at hjy; grind
      have := k3 (ti - j) (by rw [hxe] at hx'; grind) (by rw [hye] at hy'; grind)
      have hj0 : 0 ≤ j := by omega
      have : 0 ≤ (-b) * j := Int.mul_nonneg (by omega) hj0
      rw [← hj, hX] at this
      omega

theorem diop_spec (c a b : Int) (ha : 0 < a) (hb : b < 0) (hg : ((Nat.gcd a.natAbs b.natAbs : Nat) : Int) ∣ c) :
    ∃ x y, diop c a b = .ok (some (x, y)) ∧ a * x + b * y = c ∧ 0 ≤ x ∧ 0 ≤ y ∧
      ∀ x' y', 0 ≤ x' → 0 ≤ y' → a * x' + b * y' = c → x ≤ x' := by
  generalize hgd : Nat.gcd a.natAbs b.natAbs = g at hg
  have hgpos : 0 < g := by
    rw [← hgd]; exact Nat.gcd_pos_of_pos_left _ (by omega)
  have hgpos' : (0 : Int) < g := by exact_mod_cast hgpos
  have hd : Nat.gcd g c.natAbs = g := Nat.gcd_eq_left (Int.ofNat_dvd_left.1 hg)
  have hga : (g : Int) ∣ a := Int.ofNat_dvd_left.2 (by rw [← hgd]; exact Nat.gcd_dvd_left _ _)
  have hgb : (g : Int) ∣ b := Int.ofNat_dvd_left.2 (by rw [← hgd]; exact Nat.gcd_dvd_right _ _)
  rw [diop_eq, hgd, hd, if_neg (by omega), Int.fdiv_eq_ediv_of_nonneg _ (Int.le_of_lt hgpos'),
    Int.fdiv_eq_ediv_of_nonneg _ (Int.le_of_lt hgpos'), Int.fdiv_eq_ediv_of_nonneg _ (Int.le_of_lt hgpos')]
  have ea : (g : Int) * (a / g) = a := Int.mul_ediv_cancel' hga
  have eb : (g : Int) * (b / g) = b := Int.mul_ediv_cancel' hgb
  have ec : (g : Int) * (c / g) = c := Int.mul_ediv_cancel' hg
  generalize a / (g : Int) = A at *
  generalize b / (g : Int) = B at *
  generalize c / (g : Int) = C at *
  have hA : 0 < A := by
    apply Decidable.byContradiction; intro hn
    have : (g : Int) * A ≤ 0 := Int.mul_nonpos_of_nonneg_of_nonpos (Int.le_of_lt hgpos') (by omega)
    omega
  have hB : B < 0 := by
    apply Decidable.byContradiction; intro hn
    have : 0 ≤ (g : Int) * B := Int.mul_nonneg (Int.le_of_lt hgpos') (by omega)
    omega
  have hco : Nat.gcd A.natAbs B.natAbs = 1 := by
    have e1 : a.natAbs = g * A.natAbs := by rw [← ea, Int.natAbs_mul, Int.natAbs_natCast]
    have e2 : b.natAbs = g * B.natAbs := by rw [← eb, Int.natAbs_mul, Int.natAbs_natCast]
    rw [e1, e2, Nat.gcd_mul_left] at hgd
    have : g * Nat.gcd A.natAbs B.natAbs = g * 1 := by rw [hgd, Nat.mul_one]
    exact Nat.eq_of_mul_eq_mul_left hgpos this
  obtain ⟨x, y, h1, h2, h3, h4, h5⟩ := diopCore_spec A B C hA hB hco
  refine ⟨x, y, h1, ?_, h3, h4, ?_⟩
  · rw [← ea, ← eb, ← ec, ← h2]; grind
  · intro x' y' hx' hy' heq
    apply h5 x' y' hx' hy'
    rw [← ea, ← eb, ← ec] at heq
    have : (g : Int) * (A * x' + B * y') = (g : Int) * C := by grind
    exact Int.eq_of_mul_eq_mul_left (Int.ne_of_gt hgpos') this

end Claripy.VSA

import ClaripyProofs.Lemmas.VSA.Lub
import ClaripyProofs.Lemmas.VSA.Invariants
/-! What an interval operation guarantees of its result, as one record (`Good`: well formed of the right width, in
constructor-normal form, aligned if the operands were), with the lemmas through which every operation establishes it:
the constructor, `renorm`, `pseudo_join`, and the ways the piecewise operations end — `least_upper_bound` over the images
of the pieces (`lub_map_good`, `lub_pairs_good`), `union`, the loop over shift amounts (`overRange_good`).  Each comes with
the members it contains, so that one walk through an operation yields closure, normal form, alignment and soundness. -/
namespace Claripy.VSA

/-- `al` is "the operands were aligned": `True` for operations that always align, `False` when nothing is claimed. -/
structure Good (w : Nat) (al : Prop) (r : SI) : Prop where
  wf : WFw w r
  nrm : Nrm r
  aligned : al → r.Aligned

theorem Good.pos {w : Nat} {al : Prop} {r : SI} (h : Good w al r) : 0 < w := WFw.pos h.wf

theorem Good.lb_lt {w : Nat} {al : Prop} {r : SI} (h : Good w al r) : r.lb < 2 ^ w := WFw.lb_lt h.wf

theorem Good.ub_lt {w : Nat} {al : Prop} {r : SI} (h : Good w al r) : r.ub < 2 ^ w := WFw.ub_lt h.wf

theorem Good.mono {w : Nat} {al al' : Prop} {r : SI} (h : Good w al r) (himp : al' → al) : Good w al' r :=
  ⟨h.wf, h.nrm, fun a => h.aligned (himp a)⟩

theorem good_top (w : Nat) (al : Prop) (hw : 0 < w) : Good w al (SI.top w) :=
  ⟨⟨top_WF w hw, top_bits w⟩, nrm_top w hw, fun _ => top_aligned w⟩

theorem good_empty (w : Nat) (al : Prop) (hw : 0 < w) : Good w al (SI.empty w) :=
  ⟨empty_WFw w hw, by unfold Nrm SI.renorm SI.empty; simp, fun _ => empty_aligned w⟩

theorem good_new (w st : Nat) (l u : Int) (al : Prop) (hw : 0 < w) (h0 : st = 0 → imod l w = imod u w)
    (hal : al → (SI.new w st l u).mem (imod u w)) : Good w al (SI.new w st l u) :=
  ⟨⟨new_WF w st l u hw h0, new_bits _ _ _ _⟩, nrm_new _ _ _ _ hw, fun a => new_aligned_of_mem _ _ _ _ (hal a)⟩

theorem good_const (w : Nat) (al : Prop) (v : Int) (hw : 0 < w) : Good w al (SI.new w 0 v v) :=
  ⟨⟨new_WF w 0 v v hw (fun _ => rfl), new_bits _ _ _ _⟩, nrm_new _ _ _ _ hw, fun _ => new_singleton_aligned _ _ _⟩

theorem good_renorm (w : Nat) (al : Prop) (u : SI) (hu : WFw w u) (hal : al → u.Aligned) : Good w al u.renorm :=
  have h := renorm_WFw w u hu
  ⟨h, nrm_of_renorm u _ rfl h.1, fun a => renorm_aligned u hu.1 (hal a)⟩

theorem Good.renorm {w : Nat} {al : Prop} {u : SI} (h : Good w al u) : Good w al u.renorm := by
  rw [h.nrm]; exact h

theorem Good.join {w : Nat} {al : Prop} {a b : SI} (smart : Bool) (ha : Good w al a) (hb : Good w al b) :
    Good w al (pseudoJoin a b smart) :=
  ⟨(pseudoJoin_ok w a b ha.wf hb.wf smart).1, pseudoJoin_nrm a b smart ha.wf.1 ha.nrm hb.nrm,
    fun h => pseudoJoin_aligned a b smart ha.wf.1 hb.wf.1 (by rw [ha.wf.2, hb.wf.2]) (ha.aligned h) (hb.aligned h)⟩

theorem lub_good (w : Nat) (al : Prop) (l : List SI) (r : SI) (hP : ∀ s, s ∈ l → Good w al s)
    (h : leastUpperBound l = .ok r) : Good w al r ∧ ∀ x, memL l x → r.mem x :=
  ⟨lub_keeps (Good w al) (fun _ _ smart ha hb => ha.join smart hb) (fun _ ha => ha.renorm) l r hP h,
    (lub_sup w l r (fun s hs => (hP s hs).wf) h).2⟩

theorem union_good {w : Nat} {al : Prop} {a b r : SI} (ha : Good w al a) (hb : Good w al b) (h : a.union b = .ok r) :
    Good w al r ∧ ∀ x, (a.mem x ∨ b.mem x) → r.mem x := by
  refine ⟨?_, (union_sup w a b r ha.wf hb.wf h).2⟩
  cases h
  exact ha.join true hb

theorem lub_map_good (w : Nat) (al : Prop) (ps : List SI) (f : SI → SI) (u : SI) (X : Nat → Prop) (g : Nat → Nat)
    (hcov : ∀ x, X x → ∃ p, p ∈ ps ∧ p.mem x)
    (hf : ∀ p, p ∈ ps → Good w al (f p) ∧ ∀ x, p.mem x → (f p).mem (g x))
    (hl : leastUpperBound (ps.map f) = .ok u) : Good w al u ∧ ∀ x, X x → u.mem (g x) := by
  obtain ⟨h1, h2⟩ := lub_good w al (ps.map f) u (fun t ht => by
    obtain ⟨p, hp, rfl⟩ := List.mem_map.1 ht
    exact (hf p hp).1) hl
  refine ⟨h1, fun x hx => ?_⟩
  obtain ⟨p, hp, hpx⟩ := hcov x hx
  exact h2 _ ⟨f p, List.mem_map.2 ⟨p, hp, rfl⟩, (hf p hp).2 x hpx⟩

theorem lub_pairs_good (w : Nat) (al : Prop) (us vs : List SI) (F : SI → SI → SI) (l : List SI) (r : SI)
    (X Y : Nat → Prop) (C : Nat → Nat → Prop) (g : Nat → Nat → Nat)
    (hcovX : ∀ x, X x → ∃ u, u ∈ us ∧ u.mem x) (hcovY : ∀ y, Y y → ∃ v, v ∈ vs ∧ v.mem y)
    (hF : ∀ u v, u ∈ us → v ∈ vs → Good w al (F u v) ∧ ∀ x y, u.mem x → v.mem y → C x y → (F u v).mem (g x y))
    (hsub : ∀ t, t ∈ l → ∃ u v, u ∈ us ∧ v ∈ vs ∧ t = F u v) (hall : ∀ u v, u ∈ us → v ∈ vs → F u v ∈ l)
    (h : leastUpperBound l = .ok r) : Good w al r ∧ ∀ x y, X x → Y y → C x y → r.mem (g x y) := by
  obtain ⟨h1, h2⟩ := lub_good w al l r (fun t ht => by
    obtain ⟨u, v, hu, hv, rfl⟩ := hsub t ht
    exact (hF u v hu hv).1) h
  refine ⟨h1, fun x y hx hy hc => ?_⟩
  obtain ⟨u, hu, hux⟩ := hcovX x hx
  obtain ⟨v, hv, hvy⟩ := hcovY y hy
  exact h2 _ ⟨F u v, hall u v hu hv, (hF u v hu hv).2 x y hux hvy hc⟩

theorem mem_table (us vs : List SI) (F : SI → SI → SI) (t : SI) :
    t ∈ (us.map fun u => vs.map fun v => F u v).flatten ↔ ∃ u v, u ∈ us ∧ v ∈ vs ∧ t = F u v := by
  rw [List.mem_flatten]
  constructor
  · rintro ⟨row, hrow, ht⟩
    obtain ⟨u, hu, rfl⟩ := List.mem_map.1 hrow
    obtain ⟨v, hv, rfl⟩ := List.mem_map.1 ht
    exact ⟨u, v, hu, hv, rfl⟩
  · rintro ⟨u, v, hu, hv, rfl⟩
    exact ⟨_, List.mem_map.2 ⟨u, hu, rfl⟩, List.mem_map.2 ⟨v, hv, rfl⟩⟩

/-- the loop `for q in l: acc = acc.union(f(q))` -/
def unionLoop {α : Type} (f : α → R SI) : List α → SI → R SI
  | [], acc => pure acc
  | q :: qs, acc => f q >>= fun x => acc.union x >>= fun u => unionLoop f qs u

/-- `unionLoop` keeps whatever the union keeps (`Good w al`, `WFw w`, `WFw w` with alignment) -/
theorem unionLoop_keeps {α : Type} (P : SI → Prop)
    (hU : ∀ a b u, P a → P b → a.union b = .ok u → P u ∧ ∀ x, (a.mem x ∨ b.mem x) → u.mem x) (f : α → R SI) :
    ∀ (l : List α) (acc r : SI), (∀ q, q ∈ l → ∀ t, f q = .ok t → P t) → P acc → unionLoop f l acc = .ok r →
      P r ∧ (∀ x, acc.mem x → r.mem x) ∧ ∀ q, q ∈ l → ∃ t, f q = .ok t ∧ ∀ x, t.mem x → r.mem x := by
  intro l
  induction l with
  | nil =>
    intro acc r _ hacc h
    unfold unionLoop at h
    cases h
    exact ⟨hacc, fun x hx => hx, fun q hq => nomatch hq⟩
  | cons q qs ih =>
    intro acc r hf hacc h
    unfold unionLoop at h
    obtain ⟨t, hq, h⟩ := bind_ok h
    obtain ⟨u, hu, h⟩ := bind_ok h
    obtain ⟨u1, u2⟩ := hU acc t u hacc (hf q List.mem_cons_self t hq) hu
    obtain ⟨r1, r2, r3⟩ := ih u r (fun q' hq' => hf q' (List.mem_cons_of_mem _ hq')) u1 h
    refine ⟨r1, fun x hx => r2 x (u2 x (Or.inl hx)), fun q' hq' => ?_⟩
    rcases List.mem_cons.1 hq' with rfl | he
    · exact ⟨t, hq, fun x hx => r2 x (u2 x (Or.inr hx))⟩
    · exact r3 q' he

theorem unionLoop_good {α : Type} (w : Nat) (al : Prop) (f : α → R SI) : ∀ (l : List α) (acc r : SI),
    (∀ q, q ∈ l → ∀ t, f q = .ok t → Good w al t) → Good w al acc → unionLoop f l acc = .ok r →
      Good w al r ∧ (∀ x, acc.mem x → r.mem x) ∧ ∀ q, q ∈ l → ∃ t, f q = .ok t ∧ ∀ x, t.mem x → r.mem x :=
  unionLoop_keeps (Good w al) (fun _ _ _ ha hb h => union_good ha hb h) f

theorem unionLoop_sup (w : Nat) (f : SI → R SI) : ∀ (l : List SI) (acc r : SI),
    (∀ q, q ∈ l → ∀ t, f q = .ok t → WFw w t) → WFw w acc → unionLoop f l acc = .ok r →
      WFw w r ∧ (∀ x, acc.mem x → r.mem x) ∧ ∀ q, q ∈ l → ∃ t, f q = .ok t ∧ ∀ x, t.mem x → r.mem x :=
  unionLoop_keeps (WFw w) (union_sup w) f

theorem overRangeAux_some (f : Nat → R SI) : ∀ (ks : List Nat) (a : SI),
    overRangeAux f ks (some a) = unionLoop f ks a >>= fun r => pure (some r)
  | [], _ => rfl
  | k :: ks, a => by
    unfold overRangeAux unionLoop
    cases f k with
    | error e => rfl
    | ok si =>
      show (match a.union si with
        | .error e => .error e
        | .ok u => overRangeAux f ks (some u)) = a.union si >>= fun u => unionLoop f ks u >>= fun r => pure (some r)
      cases a.union si with
      | error e => rfl
      | ok u => exact overRangeAux_some f ks u

/-- `overRange` over an empty range returns the full circle; otherwise the result has what the union and `renorm` keep -/
theorem overRange_keeps (P : SI → Prop)
    (hU : ∀ a b u, P a → P b → a.union b = .ok u → P u ∧ ∀ x, (a.mem x ∨ b.mem x) → u.mem x)
    (hR : ∀ u, P u → P u.renorm ∧ ∀ x, u.mem x → u.renorm.mem x) (self : SI) (lower upper : Nat)
    (f : Nat → R SI) (hf : ∀ k, lower ≤ k → k ≤ upper → ∀ si, f k = .ok si → P si) (r : SI)
    (h : overRange self lower upper f = .ok r) :
    (r = SI.top self.bits ∨ P r) ∧ ∀ k, lower ≤ k → k ≤ upper → ∃ si, f k = .ok si ∧ ∀ x, si.mem x → r.mem x := by
  unfold overRange at h
  have hrange : ∀ k, k ∈ (List.range (upper + 1 - lower)).map (lower + ·) ↔ lower ≤ k ∧ k ≤ upper := by
    intro k
    rw [List.mem_map]
    exact ⟨fun ⟨i, hi, hik⟩ => by have := List.mem_range.1 hi; omega,
      fun hk => ⟨k - lower, List.mem_range.2 (by omega), by omega⟩⟩
  generalize (List.range (upper + 1 - lower)).map (lower + ·) = ks at h hrange
  cases ks with
  | nil =>
    cases h
    exact ⟨Or.inl rfl, fun k hk1 hk2 => nomatch (hrange k).2 ⟨hk1, hk2⟩⟩
  | cons k0 ks =>
    unfold overRangeAux at h
    cases hf0 : f k0 with
    | error e => rw [hf0] at h; cases h
    | ok s0 =>
      rw [hf0] at h
      simp only [] at h
      rw [overRangeAux_some] at h
      cases hl : unionLoop f ks s0 with
      | error e => rw [hl] at h; cases h
      | ok u =>
        rw [hl] at h
        cases h
        have hin := fun k hk => (hrange k).1 hk
        obtain ⟨g, m0, ms⟩ := unionLoop_keeps P hU f ks s0 u
          (fun k hk => hf k (hin k (List.mem_cons_of_mem _ hk)).1 (hin k (List.mem_cons_of_mem _ hk)).2)
          (hf k0 (hin k0 List.mem_cons_self).1 (hin k0 List.mem_cons_self).2 s0 hf0) hl
        obtain ⟨gr, mr⟩ := hR u g
        refine ⟨Or.inr gr, fun k hk1 hk2 => ?_⟩
        rcases List.mem_cons.1 ((hrange k).2 ⟨hk1, hk2⟩) with rfl | hk
        · exact ⟨s0, hf0, fun x hx => mr x (m0 x hx)⟩
        · obtain ⟨si, hsi, hsub⟩ := ms k hk
          exact ⟨si, hsi, fun x hx => mr x (hsub x hx)⟩

theorem overRange_good (w : Nat) (al : Prop) (self : SI) (hself : self.bits = w) (hw : 0 < w) (lower upper : Nat)
    (f : Nat → R SI) (hf : ∀ k, lower ≤ k → k ≤ upper → ∀ si, f k = .ok si → Good w al si) (r : SI)
    (h : overRange self lower upper f = .ok r) :
    Good w al r ∧ ∀ k, lower ≤ k → k ≤ upper → ∃ si, f k = .ok si ∧ ∀ x, si.mem x → r.mem x := by
  obtain ⟨h1, h2⟩ := overRange_keeps (Good w al) (fun _ _ _ ha hb h => union_good ha hb h)
    (fun u g => ⟨g.renorm, fun x hx => (renorm_mem u g.wf.1 x).2 hx⟩) self lower upper f hf r h
  refine ⟨?_, h2⟩
  rcases h1 with rfl | g
  · rw [hself]
    exact good_top w al hw
  · exact g

theorem overRange_sup (w : Nat) (self : SI) (hself : self.bits = w) (hw : 0 < w) (lower upper : Nat) (f : Nat → R SI)
    (hf : ∀ k si, f k = .ok si → WFw w si) (r : SI) (h : overRange self lower upper f = .ok r) :
    WFw w r ∧ ∀ k, lower ≤ k → k ≤ upper → ∃ si, f k = .ok si ∧ ∀ x, si.mem x → r.mem x := by
  obtain ⟨h1, h2⟩ := overRange_keeps (WFw w) (union_sup w)
    (fun u g => ⟨renorm_WFw w u g, fun x hx => (renorm_mem u g.1 x).2 hx⟩) self lower upper f
    (fun k _ _ => hf k) r h
  refine ⟨?_, h2⟩
  rcases h1 with rfl | g
  · rw [hself]
    exact ⟨top_WF w hw, top_bits w⟩
  · exact g

theorem lub_aligned (w : Nat) (l : List SI) (r : SI) (hP : ∀ s, s ∈ l → WFw w s ∧ s.Aligned)
    (h : leastUpperBound l = .ok r) : r.Aligned :=
  (lub_keeps (fun s => WFw w s ∧ s.Aligned)
    (fun a b smart ha hb => ⟨(pseudoJoin_ok w a b ha.1 hb.1 smart).1,
      pseudoJoin_aligned a b smart ha.1.1 hb.1.1 (by rw [ha.1.2, hb.1.2]) ha.2 hb.2⟩)
    (fun a ha => ⟨renorm_WFw w a ha.1, renorm_aligned a ha.1.1 ha.2⟩) l r hP h).2

theorem union_aligned (w : Nat) (a b r : SI) (ha : WFw w a) (hb : WFw w b) (ala : a.Aligned) (alb : b.Aligned)
    (h : a.union b = .ok r) : r.Aligned :=
  lub_aligned w [a, b] r (by simpa using ⟨⟨ha, ala⟩, hb, alb⟩) h

theorem overRange_aligned (w : Nat) (self : SI) (lower upper : Nat) (f : Nat → R SI)
    (hf : ∀ k si, f k = .ok si → WFw w si ∧ si.Aligned) (r : SI) (h : overRange self lower upper f = .ok r) :
    r.Aligned := by
  obtain ⟨h1, _⟩ := overRange_keeps (fun s => WFw w s ∧ s.Aligned)
    (fun a b u ha hb hu => ⟨⟨(union_sup w a b u ha.1 hb.1 hu).1, union_aligned w a b u ha.1 hb.1 ha.2 hb.2 hu⟩,
      (union_sup w a b u ha.1 hb.1 hu).2⟩)
    (fun u g => ⟨⟨renorm_WFw w u g.1, renorm_aligned u g.1.1 g.2⟩, fun x hx => (renorm_mem u g.1.1 x).2 hx⟩)
    self lower upper f (fun k _ _ => hf k) r h
  rcases h1 with rfl | g
  · exact top_aligned _
  · exact g.2

end Claripy.VSA

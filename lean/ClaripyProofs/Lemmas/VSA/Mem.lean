import ClaripyProofs.Lemmas.VSA.Basic
/-! Membership in closed form (`mem_iff`, `mem_facts`; at a given width: `WFw`, `arc_facts`); what the constructor `SI.new` returns:
its members (`mem_new`; `mem_new_of`, `mem_new_lin` as the forms proofs end in), well-formedness (`new_WF`), its bounds
(`new_bounds_or`); `SI.top`. -/
namespace Claripy.VSA

theorem mem_iff (s : SI) (x : Nat) (hlb : s.lb < 2 ^ s.bits) (hub : s.ub < 2 ^ s.bits) :
    s.mem x ↔ s.bottom = false ∧ x < 2 ^ s.bits ∧ cd (2 ^ s.bits) s.lb x ≤ cd (2 ^ s.bits) s.lb s.ub ∧
      (if s.stride = 0 then cd (2 ^ s.bits) s.lb x = 0 else cd (2 ^ s.bits) s.lb x % s.stride = 0) := by
  unfold SI.mem SI.span
  constructor
  · rintro ⟨h1, h2, h3, h4⟩
    rw [modSub_nat _ _ _ h2 hlb] at h3 h4
    rw [modSub_nat _ _ _ hub hlb] at h3
    exact ⟨h1, h2, h3, h4⟩
  · rintro ⟨h1, h2, h3, h4⟩
    rw [modSub_nat _ _ _ h2 hlb, modSub_nat _ _ _ hub hlb]
    exact ⟨h1, h2, h3, h4⟩

theorem new_eq (b s : Nat) (l u : Int) :
    SI.new b s l u =
      if imod l b = imod u b then { bits := b, stride := 0, lb := imod l b, ub := imod u b }
      else if imod l b = (imod u b + 1) % 2 ^ b ∧ s = 1 then { bits := b, stride := s, lb := 0, ub := 2 ^ b - 1 }
      else { bits := b, stride := s, lb := imod l b, ub := imod u b } := by
  have hcast : ((imod u b : Int) + 1) = ((imod u b + 1 : Nat) : Int) := by push_cast; rfl
  simp only [SI.new, modAdd, maxInt, hcast, imod_nat]
  by_cases h : imod l b = imod u b
  · simp [h]
  · simp [h]

@[simp] theorem new_bits (b s : Nat) (l u : Int) : (SI.new b s l u).bits = b := by
  rw [new_eq]; split; rfl; split <;> rfl

@[simp] theorem new_bottom (b s : Nat) (l u : Int) : (SI.new b s l u).bottom = false := by
  rw [new_eq]; split; rfl; split <;> rfl

theorem new_lb_lt (b s : Nat) (l u : Int) : (SI.new b s l u).lb < 2 ^ b := by
  rw [new_eq]; split; exact imod_lt _ _; split; exact Nat.two_pow_pos b; exact imod_lt _ _

theorem new_ub_lt (b s : Nat) (l u : Int) : (SI.new b s l u).ub < 2 ^ b := by
  have := Nat.two_pow_pos b
  rw [new_eq]; split; exact imod_lt _ _; split; (show 2 ^ b - 1 < 2 ^ b; omega); exact imod_lt _ _

theorem mem_new (b s : Nat) (l u : Int) (x : Nat) :
    (SI.new b s l u).mem x ↔ x < 2 ^ b ∧ cd (2 ^ b) (imod l b) x ≤ cd (2 ^ b) (imod l b) (imod u b) ∧
      (if s = 0 then cd (2 ^ b) (imod l b) x = 0 else cd (2 ^ b) (imod l b) x % s = 0) := by
  have hl := imod_lt l b
  have hu := imod_lt u b
  have hm := Nat.two_pow_pos b
  rw [mem_iff _ _ (by simpa using new_lb_lt b s l u) (by simpa using new_ub_lt b s l u)]
  simp only [new_bits, new_bottom, true_and]
  rw [new_eq]
  generalize imod l b = l' at *
  generalize imod u b = u' at *
  by_cases h1 : l' = u'
  · rw [if_pos h1]
    subst h1
    simp only [cd_self, Nat.le_zero, if_true]
    by_cases hs : s = 0
    · simp [hs]
    · simp only [hs, if_false]
      constructor
      · rintro ⟨hx, h2, h3⟩
        refine ⟨hx, h2, ?_⟩
        rw [h3]; exact Nat.zero_mod _
      · rintro ⟨hx, h2, _⟩
        exact ⟨hx, h2, h2⟩
  · rw [if_neg h1]
    by_cases h2 : l' = (u' + 1) % 2 ^ b ∧ s = 1
    · rw [if_pos h2]
      obtain ⟨h2a, h2b⟩ := h2
      subst h2b
      simp only [Nat.mod_one, Nat.one_ne_zero, if_false, and_true, cd_zero]
      rw [(cd_eq_pred_iff _ _ _ hl hu).2 h2a]
      constructor
      · rintro ⟨hx, _⟩
        have := cd_lt _ _ _ hl hx
        exact ⟨hx, by omega⟩
      · rintro ⟨hx, _⟩
        exact ⟨hx, by omega⟩
    · rw [if_neg h2]

theorem new_stride_ite (w st l u : Nat) (hl : l < 2 ^ w) (hu : u < 2 ^ w) :
    SI.new w (if l = u then 0 else st) (l : Int) (u : Int) = SI.new w st (l : Int) (u : Int) := by
  by_cases h : l = u
  · rw [if_pos h, new_eq, new_eq, imod_of_lt _ _ hl, imod_of_lt _ _ hu, if_pos h, if_pos h]
  · rw [if_neg h]

theorem new_bounds_or (b s l u : Nat) (hl : l < 2 ^ b) (hu : u < 2 ^ b) :
    ((SI.new b s (l : Int) (u : Int)).lb = l ∧ (SI.new b s (l : Int) (u : Int)).ub = u) ∨
      (l = (u + 1) % 2 ^ b ∧ s = 1 ∧ (SI.new b s (l : Int) (u : Int)).lb = 0 ∧ (SI.new b s (l : Int) (u : Int)).ub = 2 ^ b - 1) := by
  rw [new_eq, imod_of_lt _ _ hl, imod_of_lt _ _ hu]
  split
  · exact Or.inl ⟨rfl, rfl⟩
  · split
    · rename_i h
      exact Or.inr ⟨h.1, h.2, rfl, rfl⟩
    · exact Or.inl ⟨rfl, rfl⟩

theorem new_bounds (b s l u : Nat) (hl : l < 2 ^ b) (hu : u < 2 ^ b) (hnt : ¬ (l = (u + 1) % 2 ^ b ∧ s = 1)) :
    (SI.new b s (l : Int) (u : Int)).lb = l ∧ (SI.new b s (l : Int) (u : Int)).ub = u :=
  (new_bounds_or b s l u hl hu).resolve_right fun h => hnt ⟨h.1, h.2.1⟩

theorem new_bounds_of_cd (b s l u : Nat) (hl : l < 2 ^ b) (hu : u < 2 ^ b) (h : cd (2 ^ b) l u < 2 ^ b - 1) :
    (SI.new b s (l : Int) (u : Int)).lb = l ∧ (SI.new b s (l : Int) (u : Int)).ub = u :=
  new_bounds b s l u hl hu fun h1 => by
    have := (cd_eq_pred_iff _ _ _ hl hu).2 h1.1
    omega

/-- the only full circle that does not wrap is `[0, 2^b - 1]` itself -/
theorem new_bounds_nowrap (b s l u : Nat) (hu : u < 2 ^ b) (hle : l ≤ u) :
    (SI.new b s (l : Int) (u : Int)).lb = l ∧ (SI.new b s (l : Int) (u : Int)).ub = u := by
  rcases new_bounds_or b s l u (by omega) hu with h | ⟨h1, _, h3, h4⟩
  · exact h
  · rw [succ_mod_cases _ _ hu] at h1
    split_ifs at h1 <;> omega

theorem renorm_new (s : SI) (hnb : s.bottom = false) : s.renorm = SI.new s.bits s.stride s.lb s.ub := by
  unfold SI.renorm
  rw [hnb]
  rfl

theorem mem_lb (s : SI) (hs : s.WF) (hnb : s.bottom = false) : s.mem s.lb := by
  obtain ⟨_, hl, hu, _⟩ := hs
  rw [mem_iff _ _ hl hu, cd_self]
  refine ⟨hnb, hl, Nat.zero_le _, ?_⟩
  split_ifs <;> simp

theorem mem_ub (s : SI) (hs : s.WF) (hnb : s.bottom = false) (hal : s.Aligned) : s.mem s.ub := by
  obtain ⟨_, hl, hu, hst⟩ := hs
  rw [mem_iff _ _ hl hu]
  refine ⟨hnb, hu, Nat.le_refl _, ?_⟩
  unfold SI.Aligned SI.span at hal
  rw [modSub_nat _ _ _ hu hl] at hal
  by_cases hz : s.stride = 0
  · rw [if_pos hz, ← hst.1 hz, cd_self]
  · rw [if_neg hz]
    exact hal.resolve_left hz

theorem imod_zero (w : Nat) : imod 0 w = 0 := by unfold imod; simp

theorem mem_top (w x : Nat) : (SI.top w).mem x ↔ x < 2 ^ w := by
  unfold SI.top
  rw [mem_new]
  have hm := Nat.two_pow_pos w
  have h1 : imod ((maxInt w : Nat) : Int) w = 2 ^ w - 1 := imod_of_lt _ w (by unfold maxInt; omega)
  rw [imod_zero, h1]
  simp only [cd_zero, Nat.one_ne_zero, if_false, Nat.mod_one, and_true]
  constructor
  · exact fun h => h.1
  · exact fun h => ⟨h, by omega⟩

theorem two_le_two_pow (w : Nat) (hw : 0 < w) : 2 ≤ 2 ^ w :=
  calc 2 = 2 ^ 1 := rfl
    _ ≤ 2 ^ w := Nat.pow_le_pow_right (by omega) hw

theorem new_WF (b s : Nat) (l u : Int) (hb : 0 < b) (h : s = 0 → imod l b = imod u b) : (SI.new b s l u).WF := by
  have hl := imod_lt l b
  have hu := imod_lt u b
  have hm := two_le_two_pow b hb
  unfold SI.WF
  rw [new_eq]
  by_cases h1 : imod l b = imod u b
  · rw [if_pos h1]
    exact ⟨hb, hl, hu, by simp [h1]⟩
  · rw [if_neg h1]
    by_cases h2 : imod l b = (imod u b + 1) % 2 ^ b ∧ s = 1
    · rw [if_pos h2]
      obtain ⟨_, hs1⟩ := h2
      subst hs1
      refine ⟨hb, ?_, ?_, ?_⟩
      · show 0 < 2 ^ b; omega
      · show 2 ^ b - 1 < 2 ^ b; omega
      · show (1 = 0 ↔ 0 = 2 ^ b - 1)
        constructor
        · intro hs; cases hs
        · intro hh; omega
    · rw [if_neg h2]
      refine ⟨hb, hl, hu, ?_⟩
      constructor
      · intro hs; exact absurd (h hs) h1
      · intro hh; exact absurd hh h1

theorem top_WF (w : Nat) (hw : 0 < w) : (SI.top w).WF := by
  unfold SI.top
  exact new_WF w 1 0 _ hw (by intro h; cases h)

theorem top_bits (w : Nat) : (SI.top w).bits = w := by unfold SI.top; simp

theorem top_eq (w : Nat) (hw : 0 < w) : SI.top w = { bits := w, stride := 1, lb := 0, ub := 2 ^ w - 1 } := by
  have h2 := two_le_two_pow w hw
  have hmax : imod ((maxInt w : Nat) : Int) w = 2 ^ w - 1 := imod_of_lt _ w (by unfold maxInt; omega)
  unfold SI.top
  rw [new_eq, imod_zero, hmax, if_neg (by omega), if_pos ⟨by rw [Nat.sub_add_cancel (by omega), Nat.mod_self], rfl⟩]

theorem top_stride (w : Nat) (hw : 0 < w) : (SI.top w).stride = 1 := by rw [top_eq w hw]

theorem wrappedCard_nat (x y w : Nat) (hx : x < 2 ^ w) (hy : y < 2 ^ w) :
    wrappedCard (x : Int) (y : Int) w = cd (2 ^ w) x y + 1 := by
  have hm := Nat.two_pow_pos w
  unfold wrappedCard
  have hcast : ((y : Int) + 1) % ((2 ^ w : Nat) : Int) = (((y + 1) % 2 ^ w : Nat) : Int) := by
    rw [Int.natCast_emod]; push_cast; rfl
  rw [hcast]
  have h2 : imod ((y : Int) - x + 1) w = (cd (2 ^ w) x y + 1) % 2 ^ w := by
    have := imod_add ((y : Int) - x) 1 w
    rwa [imod_sub y x w hy hx] at this
  rw [h2]
  simp only [Int.natCast_inj]
  have hlt := cd_lt _ _ _ hx hy
  -- the arc is the whole circle exactly when `x` follows `y`
  by_cases hs : x = (y + 1) % 2 ^ w
  · rw [if_pos hs, (cd_eq_pred_iff _ _ _ hx hy).2 hs]
    omega
  · have := mt (cd_eq_pred_iff _ _ _ hx hy).1 hs
    rw [if_neg hs, Nat.mod_eq_of_lt (by omega)]

theorem dvd_of_stride (s d : Nat) (g : Nat) (hg : g ∣ s) (h : if s = 0 then d = 0 else d % s = 0) : g ∣ d := by
  split_ifs at h with h0
  · subst h; exact Nat.dvd_zero _
  · exact Nat.dvd_trans hg (Nat.dvd_of_mod_eq_zero h)

/-- the stride condition of `mem` is divisibility (`0 ∣ d` says `d = 0`) -/
theorem stride_cond (g d : Nat) (h : g ∣ d) : if g = 0 then d = 0 else d % g = 0 := by
  split_ifs with hg
  · exact Nat.eq_zero_of_zero_dvd (hg ▸ h)
  · exact Nat.mod_eq_zero_of_dvd h

theorem const_WF (v w : Nat) (hw : 0 < w) : (SI.new w 0 v v).WF := new_WF w 0 v v hw (fun _ => rfl)

theorem const_mem (v w : Nat) (hv : v < 2 ^ w) : (SI.new w 0 (v : Int) (v : Int)).mem v := by
  rw [mem_new, imod_of_lt v w hv]
  simp [cd_self, hv]

theorem mem_integer (s : SI) (x : Nat) (hw : s.WF) (hi : s.lb = s.ub) (hx : s.mem x) : x = s.lb := by
  obtain ⟨_, hl, hu, _⟩ := hw
  rw [mem_iff _ _ hl hu] at hx
  obtain ⟨_, hxl, hle, _⟩ := hx
  rw [← hi, cd_self] at hle
  have := (cd_eq_zero _ _ _ hl hxl).1 (by omega)
  exact this.symm

theorem mem_new_of (w s l u x : Nat) (hl : l < 2 ^ w) (hu : u < 2 ^ w) (hx : x < 2 ^ w)
    (h1 : cd (2 ^ w) l x ≤ cd (2 ^ w) l u) (h2 : s ∣ cd (2 ^ w) l x) : (SI.new w s (l : Int) (u : Int)).mem x := by
  rw [mem_new, imod_of_lt l w hl, imod_of_lt u w hu]
  exact ⟨hx, h1, stride_cond s _ h2⟩

theorem mem_new_lin (w s l u x : Nat) (hu : u < 2 ^ w) (h1 : l ≤ x) (h2 : x ≤ u) (hd : s ∣ x - l) :
    (SI.new w s (l : Int) (u : Int)).mem x :=
  mem_new_of w s l u x (by omega) hu (by omega) (cd_mono _ _ _ _ h1 h2) (by rw [cd_pos _ _ _ h1]; exact hd)

theorem surrounds_iff (s : SI) (v : Nat) (hl : s.lb < 2 ^ s.bits) (hu : s.ub < 2 ^ s.bits) (hv : v < 2 ^ s.bits) :
    s.surroundsMember (v : Int) = true ↔ cd (2 ^ s.bits) s.lb v ≤ cd (2 ^ s.bits) s.lb s.ub := by
  unfold SI.surroundsMember lexLte
  rw [imod_sub v s.lb s.bits hv hl, imod_sub s.ub s.lb s.bits hu hl]
  simp

theorem mem_facts (s : SI) (x : Nat) (hw : s.WF) (hx : s.mem x) :
    s.bottom = false ∧ x < 2 ^ s.bits ∧ cd (2 ^ s.bits) s.lb x ≤ cd (2 ^ s.bits) s.lb s.ub ∧ s.stride ∣ cd (2 ^ s.bits) s.lb x := by
  obtain ⟨_, hl, hu, _⟩ := hw
  rw [mem_iff _ _ hl hu] at hx
  obtain ⟨h1, h2, h3, h4⟩ := hx
  exact ⟨h1, h2, h3, dvd_of_stride _ _ _ (Nat.dvd_refl _) h4⟩

theorem isInteger_iff (s : SI) : s.isInteger = true ↔ s.lb = s.ub := by simp [SI.isInteger]

def WFw (w : Nat) (s : SI) : Prop := s.WF ∧ s.bits = w

theorem WFw.pos {w : Nat} {s : SI} (h : WFw w s) : 0 < w := by rw [← h.2]; exact h.1.1

theorem WFw.lb_lt {w : Nat} {s : SI} (h : WFw w s) : s.lb < 2 ^ w := by have := h.1.2.1; rwa [h.2] at this

theorem WFw.ub_lt {w : Nat} {s : SI} (h : WFw w s) : s.ub < 2 ^ w := by have := h.1.2.2.1; rwa [h.2] at this

theorem arc_facts (w : Nat) (p : SI) (z : Nat) (hp : WFw w p) (hz : p.mem z) :
    z < 2 ^ w ∧ cd (2 ^ w) p.lb z ≤ cd (2 ^ w) p.lb p.ub ∧ p.stride ∣ cd (2 ^ w) p.lb z := by
  obtain ⟨_, h1, h2, h3⟩ := mem_facts p z hp.1 hz
  rw [hp.2] at h1 h2 h3
  exact ⟨h1, h2, h3⟩

end Claripy.VSA

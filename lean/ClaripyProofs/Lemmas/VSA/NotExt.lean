import ClaripyProofs.Lemmas.VSA.AddSub
import ClaripyProofs.Lemmas.VSA.Split
/-! `bitwise_not` and `zero_extend`, each walked once (`not_good`, `zext_good`): closed, normal, sound; `bitwise_not` always
returns an aligned interval (every piece ends at the complement of the piece's lower bound, a member), `zero_extend` keeps
alignment. -/
namespace Claripy.VSA

theorem imod_neg (n w : Nat) (hn : n < 2 ^ w) : imod (-(n : Int) - 1) w = 2 ^ w - 1 - n := by
  unfold imod
  have hm : (0 : Int) < ((2 ^ w : Nat) : Int) := by exact_mod_cast Nat.two_pow_pos w
  have : (-(n : Int) - 1) % ((2 ^ w : Nat) : Int) = ((2 ^ w : Nat) : Int) - 1 - n := by
    rw [← Int.add_emod_right]
    have e : -(n : Int) - 1 + ((2 ^ w : Nat) : Int) = ((2 ^ w : Nat) : Int) - 1 - n := by omega
    rw [e]
    apply Int.emod_eq_of_lt <;> omega
  rw [this]; omega

theorem not_piece_mem (w st : Nat) (p : SI) (hp : WFw w p) (hst : p.stride = 0 ∨ p.stride = st)
    (x : Nat) (hx : p.mem x) :
    (SI.new w st (-(p.lastMember : Int) - 1) (-(p.lb : Int) - 1)).mem (2 ^ w - 1 - x) := by
  obtain ⟨hw, hb⟩ := hp
  obtain ⟨hlastlt, hlastcd⟩ := lastMember_facts p hw
  obtain ⟨h0, hl, hu, hs⟩ := hw
  rw [hb] at hl hu hlastlt hlastcd
  have hxm := hx
  rw [mem_iff _ _ (by rw [hb]; exact hl) (by rw [hb]; exact hu), hb] at hxm
  obtain ⟨_, hxl, hx1, hx2⟩ := hxm
  obtain ⟨hle2, hdv⟩ := mem_le_last _ _ _ hx1 hx2
  rw [← hlastcd] at hle2 hdv
  rw [mem_new, imod_neg _ _ hlastlt, imod_neg _ _ hl, cd_compl _ _ _ hlastlt hxl, cd_compl _ _ _ hlastlt hl,
    cd_between _ _ _ _ hl hxl hlastlt hle2]
  have hm := Nat.two_pow_pos w
  refine ⟨by omega, by omega, ?_⟩
  apply stride_cond
  rcases hst with h | h
  · rw [h] at hdv
    rw [Nat.eq_zero_of_zero_dvd hdv]
    exact Nat.dvd_zero _
  · rw [← h]; exact hdv

theorem not_piece_good (w st : Nat) (p : SI) (hp : WFw w p) (hpb : p.bottom = false)
    (hst : p.stride = 0 ∨ p.stride = st) :
    Good w True (SI.new w st (-(p.lastMember : Int) - 1) (-(p.lb : Int) - 1)) ∧
      ∀ x, p.mem x → (SI.new w st (-(p.lastMember : Int) - 1) (-(p.lb : Int) - 1)).mem (2 ^ w - 1 - x) := by
  have hm := not_piece_mem w st p hp hst
  refine ⟨good_new _ _ _ _ True hp.pos (fun hz => ?_) (fun _ => ?_), hm⟩
  · have : p.lastMember = p.lb := by
      unfold SI.lastMember
      rw [if_pos (hst.elim id fun h => h.trans hz)]
    rw [this]
  · rw [imod_neg _ _ hp.lb_lt]
    exact hm p.lb (mem_lb p hp.1 hpb)

theorem not_good (a r : SI) (ha : a.WF) (hnb : a.bottom = false) (h : a.bitwiseNot = .ok r) :
    Good a.bits True r ∧ ∀ x, a.mem x → r.mem (Conc.not a.bits x) := by
  obtain ⟨ps, hps, hprop, hcov⟩ := ssplit_pieces a ha hnb
  unfold SI.bitwiseNot at h
  rw [hps] at h
  obtain ⟨u, hl, h⟩ := bind_ok (x := leastUpperBound _) h
  cases h
  have g := lub_map_good a.bits True ps _ u a.mem _ hcov (fun p hp =>
    have q := hprop p hp
    not_piece_good _ _ p q.good.wf q.nb q.stride) hl
  rw [g.1.nrm]
  refine ⟨g.1, fun x hx => ?_⟩
  unfold Conc.not
  rw [Nat.mod_eq_of_lt hx.2.1]
  exact g.2 x hx

theorem not_sound (a r : SI) (ha : a.WF) (hnb : a.bottom = false) (h : a.bitwiseNot = .ok r) :
    WFw a.bits r ∧ ∀ x, a.mem x → r.mem (2 ^ a.bits - 1 - x) := by
  obtain ⟨g1, g2⟩ := not_good a r ha hnb h
  refine ⟨g1.wf, fun x hx => ?_⟩
  have := g2 x hx
  unfold Conc.not at this
  rwa [Nat.mod_eq_of_lt hx.2.1] at this

theorem not_aligned (a r : SI) (ha : a.WF) (hnb : a.bottom = false) (h : a.bitwiseNot = .ok r) : r.Aligned :=
  (not_good a r ha hnb h).1.aligned trivial

theorem translate_mem (p : SI) (w nl c : Nat) (hp : WFw w p) (hle : p.lb ≤ p.ub) (hfit : p.ub + c < 2 ^ nl) (x : Nat)
    (hx : p.mem x) : ({ p with bits := nl, lb := p.lb + c, ub := p.ub + c } : SI).mem (x + c) := by
  obtain ⟨hbt, _, h1, h2⟩ := mem_facts p x hp.1 hx
  obtain ⟨hb1, hb2⟩ := mem_between p w hp hle x hx
  rw [cd_pos _ _ _ hb1] at h1 h2
  rw [cd_pos _ _ _ hle] at h1
  rw [mem_iff _ _ (show p.lb + c < 2 ^ nl by omega) hfit]
  show p.bottom = false ∧ x + c < 2 ^ nl ∧ cd (2 ^ nl) (p.lb + c) (x + c) ≤ cd (2 ^ nl) (p.lb + c) (p.ub + c) ∧
    (if p.stride = 0 then cd (2 ^ nl) (p.lb + c) (x + c) = 0 else cd (2 ^ nl) (p.lb + c) (x + c) % p.stride = 0)
  have e1 : x + c - (p.lb + c) = x - p.lb := by omega
  have e2 : p.ub + c - (p.lb + c) = p.ub - p.lb := by omega
  rw [cd_pos _ _ _ (by omega), cd_pos _ _ _ (by omega), e1, e2]
  exact ⟨hbt, by omega, h1, stride_cond _ _ h2⟩

theorem translate_good (p : SI) (w nl c : Nat) (al : Prop) (hp : Good w al p) (hpb : p.bottom = false) (hle : p.lb ≤ p.ub)
    (hnl : w ≤ nl) (hfit : p.ub + c < 2 ^ nl) :
    Good nl al ({ p with bits := nl, lb := p.lb + c, ub := p.ub + c } : SI) ∧
      ∀ x, p.mem x → ({ p with bits := nl, lb := p.lb + c, ub := p.ub + c } : SI).mem (x + c) := by
  have hw : ({ p with bits := nl, lb := p.lb + c, ub := p.ub + c } : SI).WF := by
    refine ⟨Nat.lt_of_lt_of_le hp.pos hnl, by show p.lb + c < 2 ^ nl; omega, hfit, ?_⟩
    show p.stride = 0 ↔ p.lb + c = p.ub + c
    rw [hp.wf.1.2.2.2]
    omega
  refine ⟨⟨⟨hw, rfl⟩, nrm_of_nowrap _ hw hpb (Nat.add_le_add_right hle c), fun a => ?_⟩,
    translate_mem p w nl c hp.wf hle hfit⟩
  apply aligned_of_dvd _ hw.2.1 hfit
  show p.stride ∣ cd (2 ^ nl) (p.lb + c) (p.ub + c)
  rw [cd_pos _ _ _ (Nat.add_le_add_right hle _), Nat.add_sub_add_right, ← cd_pos (2 ^ p.bits) _ _ hle]
  exact aligned_dvd p hp.wf.1 (hp.aligned a)

theorem widen_bits_mem (p : SI) (w nl : Nat) (hp : WFw w p) (hle : p.lb ≤ p.ub) (hnl : w ≤ nl) (x : Nat) (hx : p.mem x) :
    ({ p with bits := nl } : SI).mem x :=
  have hpow : 2 ^ w ≤ 2 ^ nl := Nat.pow_le_pow_right (by omega) hnl
  translate_mem p w nl 0 hp hle (by have := hp.ub_lt; omega) x hx

theorem widen_bits_WF (p : SI) (w nl : Nat) (hp : WFw w p) (hnl : w ≤ nl) : WFw nl ({ p with bits := nl } : SI) := by
  obtain ⟨⟨h0, hl, hu, hs⟩, hb⟩ := hp
  rw [hb] at hl hu
  have hpow : 2 ^ w ≤ 2 ^ nl := Nat.pow_le_pow_right (by omega) hnl
  exact ⟨⟨by show 0 < nl; omega, by show p.lb < 2 ^ nl; omega, by show p.ub < 2 ^ nl; omega, hs⟩, rfl⟩

theorem widen_bits_nrm (a : SI) (nl : Nat) (ha : a.WF) (hnb : a.bottom = false) (na : Nrm a) (hnl : a.bits ≤ nl) :
    Nrm { a with bits := nl } := by
  have hpow : 2 ^ a.bits ≤ 2 ^ nl := Nat.pow_le_pow_right (by omega) hnl
  have hl := ha.2.1
  have hu := ha.2.2.1
  rw [nrm_iff a ha hnb] at na
  rw [nrm_iff _ (widen_bits_WF a a.bits nl ⟨ha, rfl⟩ hnl).1 hnb]
  intro hs hlb
  change a.lb = (a.ub + 1) % 2 ^ nl at hlb
  show a.lb = 0 ∧ a.ub = 2 ^ nl - 1
  by_cases hlt : a.ub + 1 < 2 ^ nl
  · -- then the circle was already full at the old width, where it is written `[0, 2^w - 1]`
    rw [Nat.mod_eq_of_lt hlt] at hlb
    have := na hs (by rw [Nat.mod_eq_of_lt (by omega)]; exact hlb)
    omega
  · have e : a.ub + 1 = 2 ^ nl := by omega
    rw [e, Nat.mod_self] at hlb
    exact ⟨hlb, by omega⟩

theorem widen_bits_good (p : SI) (w nl : Nat) (al : Prop) (hp : Good w al p) (hpb : p.bottom = false)
    (hle : p.lb ≤ p.ub) (hnl : w ≤ nl) :
    Good nl al ({ p with bits := nl } : SI) ∧ ∀ x, p.mem x → ({ p with bits := nl } : SI).mem x :=
  have hpow : 2 ^ w ≤ 2 ^ nl := Nat.pow_le_pow_right (by omega) hnl
  translate_good p w nl 0 al hp hpb hle hnl (Nat.lt_of_lt_of_le hp.ub_lt hpow)

theorem zext_good (a r : SI) (nl : Nat) (ha : a.WF) (hnb : a.bottom = false) (hnl : a.bits ≤ nl)
    (h : a.zeroExtend nl = .ok r) : Good nl a.Aligned r ∧ ∀ x, a.mem x → r.mem (Conc.zext a.bits nl x) := by
  unfold SI.zeroExtend at h
  by_cases hwrap : (!a.bottom && decide (a.lb > a.ub)) = true
  · rw [if_pos hwrap] at h
    obtain ⟨ps, hps, hprop, hcov⟩ := ssplit_pieces a ha hnb
    rw [hps] at h
    refine lub_map_good nl a.Aligned ps _ r a.mem id hcov (fun p hp => ?_) h
    have q := hprop p hp
    rw [q.good.nrm]
    exact widen_bits_good p a.bits nl _ q.good q.nb q.le hnl
  · rw [if_neg hwrap] at h
    cases h
    have hle : a.lb ≤ a.ub := by
      simp only [hnb, Bool.not_false, Bool.true_and, decide_eq_true_eq] at hwrap
      omega
    obtain ⟨g1, g2⟩ := widen_bits_good a.renorm a.bits nl _ (good_renorm _ a.Aligned a ⟨ha, rfl⟩ id)
      (by rw [renorm_new a hnb]; exact new_bottom _ _ _ _) (renorm_le a ha hnb hle) hnl
    exact ⟨g1, fun x hx => g2 x ((renorm_mem a ha x).2 hx)⟩

theorem zext_sound (a r : SI) (nl : Nat) (ha : a.WF) (hnb : a.bottom = false) (hnl : a.bits ≤ nl)
    (h : a.zeroExtend nl = .ok r) : WFw nl r ∧ ∀ x, a.mem x → r.mem x :=
  have g := zext_good a r nl ha hnb hnl h
  ⟨g.1.wf, g.2⟩

theorem zext_aligned (a r : SI) (nl : Nat) (ha : a.WF) (hnb : a.bottom = false) (hnl : a.bits ≤ nl) (al : a.Aligned)
    (h : a.zeroExtend nl = .ok r) : r.Aligned :=
  (zext_good a r nl ha hnb hnl h).1.aligned al

end Claripy.VSA

import Claripy.VSA.DSIS
import ClaripyProofs.Lemmas.Util.Except
import ClaripyProofs.Lemmas.Util.AddNew
/-! Generic lifting: an operation that meets its specification on every pair of members is sound on sets of intervals
(`apply_on_each_si`), through de-duplication, re-ordering, `normalize` and `collapse`; and per region on value sets.
Every definition of the pipeline has ONE lemma saying what a successful call returns (`pyset_mem`, `collapse_cases`, and the
relation `Wrap` with `normalize_wrap`, `finishSet_wrap`, `extract_wrap`, `meetSI_wrap`); the rest is read off those. -/
namespace Claripy.VSA

theorem mapM_ok {α β : Type} (f : α → R β) :
    ∀ (l : List α) (L : List β), l.mapM f = .ok L →
      (∀ x, x ∈ l → ∃ r, r ∈ L ∧ f x = .ok r) ∧ (∀ r, r ∈ L → ∃ x, x ∈ l ∧ f x = .ok r)
  | [], L, h => by
    rw [List.mapM_nil] at h
    cases h
    exact ⟨fun x hx => (nomatch hx), fun r hr => (nomatch hr)⟩
  | a :: t, L, h => by
    rw [List.mapM_cons] at h
    obtain ⟨ra, hfa, h⟩ := bind_ok h
    obtain ⟨Lt, ht, h⟩ := bind_ok h
    cases pure_ok h
    obtain ⟨ih1, ih2⟩ := mapM_ok f t Lt ht
    refine ⟨fun x hx => ?_, fun r hr => ?_⟩
    · rcases List.mem_cons.1 hx with rfl | hx'
      · exact ⟨ra, List.mem_cons_self, hfa⟩
      · obtain ⟨r, hr, hfr⟩ := ih1 x hx'
        exact ⟨r, List.mem_cons_of_mem _ hr, hfr⟩
    · rcases List.mem_cons.1 hr with rfl | hr'
      · exact ⟨a, List.mem_cons_self, hfa⟩
      · obtain ⟨x, hx, hfx⟩ := ih2 r hr'
        exact ⟨x, List.mem_cons_of_mem _ hx, hfx⟩

theorem mapM_ok_mem {α β : Type} (f : α → R β) (l : List α) (L : List β) (h : l.mapM f = .ok L) :
    ∀ x, x ∈ l → ∃ r, r ∈ L ∧ f x = .ok r := (mapM_ok f l L h).1

theorem mapM_ok_mem_rev {α β : Type} (f : α → R β) (l : List α) (L : List β) (h : l.mapM f = .ok L) :
    ∀ r, r ∈ L → ∃ x, x ∈ l ∧ f x = .ok r := (mapM_ok f l L h).2

theorem mem_pairs (as bs : List SI) (p : SI × SI) :
    p ∈ (as.flatMap fun a => bs.map fun b => (a, b)) ↔ p.1 ∈ as ∧ p.2 ∈ bs := by
  constructor
  · intro h
    obtain ⟨s, hs, h2⟩ := List.mem_flatMap.1 h
    obtain ⟨t, ht, he⟩ := List.mem_map.1 h2
    subst he
    exact ⟨hs, ht⟩
  · exact fun h => List.mem_flatMap.2 ⟨p.1, h.1, List.mem_map.2 ⟨p.2, h.2, rfl⟩⟩

theorem applyEach2_mem (op : SI → SI → R SI) (as bs L : List SI) (h : applyEach2 op as bs = .ok L)
    (a b : SI) (ha : a ∈ as) (hb : b ∈ bs) : ∃ r, r ∈ L ∧ op a b = .ok r := by
  unfold applyEach2 at h
  have hp : (a, b) ∈ as.flatMap fun a => bs.map fun b => (a, b) := by
    rw [List.mem_flatMap]
    exact ⟨a, ha, List.mem_map.2 ⟨b, hb, rfl⟩⟩
  exact mapM_ok_mem _ _ _ h (a, b) hp

theorem applyEach1_mem (op : SI → R SI) (as L : List SI) (h : applyEach1 op as = .ok L)
    (a : SI) (ha : a ∈ as) : ∃ r, r ∈ L ∧ op a = .ok r :=
  mapM_ok_mem _ _ _ h a ha

theorem applyEach2_sound (op : SI → SI → R SI) (f : Nat → Nat → Nat) (as bs L : List SI)
    (hop : ∀ a b r x y, a ∈ as → b ∈ bs → a.mem x → b.mem y → op a b = .ok r → r.mem (f x y))
    (h : applyEach2 op as bs = .ok L) (x y : Nat) (hx : memL as x) (hy : memL bs y) : memL L (f x y) := by
  obtain ⟨a, ha, hax⟩ := hx
  obtain ⟨b, hb, hby⟩ := hy
  obtain ⟨r, hr, hor⟩ := applyEach2_mem op as bs L h a b ha hb
  exact ⟨r, hr, hop a b r x y ha hb hax hby hor⟩

theorem mem_reorder {α : Type} (l : List α) (order : List Nat)
    (hc : ¬ (order.length ≠ l.length ∨ (!(List.range l.length).all (fun i => order.contains i)) = true)) (s : α) :
    s ∈ order.filterMap (fun i => l[i]?) ↔ s ∈ l := by
  constructor
  · intro hs
    obtain ⟨i, _, hi⟩ := List.mem_filterMap.1 hs
    exact List.mem_of_getElem? hi
  · intro hs
    obtain ⟨i, hi, hget⟩ := List.getElem_of_mem hs
    have hall : (List.range l.length).all (fun i => order.contains i) = true := by
      cases hb : (List.range l.length).all (fun i => order.contains i) with
      | true => rfl
      | false => exact absurd (Or.inr (by rw [hb]; rfl)) hc
    have hio : i ∈ order := by simpa using (List.all_eq_true.1 hall) i (List.mem_range.2 hi)
    exact List.mem_filterMap.2 ⟨i, hio, by rw [List.getElem?_eq_getElem hi, hget]⟩

theorem keyEq_eq (y x : SI)
    (h : (y.bits == x.bits && y.lb == x.lb && y.ub == x.ub && y.stride == x.stride && y.bottom == x.bottom) = true) :
    y = x := by
  cases y; cases x
  simp only [Bool.and_eq_true, beq_iff_eq] at h
  obtain ⟨⟨⟨⟨h1, h2⟩, h3⟩, h4⟩, h5⟩ := h
  simp_all

theorem mem_dedupe (l : List SI) (s : SI) : s ∈ dedupe l ↔ s ∈ l := by
  unfold dedupe
  rw [mem_foldl_addNew (fun _ x h => let ⟨y, hy, hk⟩ := List.any_eq_true.1 h; keyEq_eq y x hk ▸ hy)]
  simp

theorem dedupe_mem (l : List SI) (s : SI) (h : s ∈ l) : s ∈ dedupe l := (mem_dedupe l s).2 h

theorem dedupe_subset (l : List SI) (s : SI) (h : s ∈ dedupe l) : s ∈ l := (mem_dedupe l s).1 h

theorem mem_permute (l l' : List SI) (order : List Nat) (h : permute l order = some l') (s : SI) : s ∈ l' ↔ s ∈ l := by
  unfold permute at h
  split at h
  · cases h
  · cases h; exact mem_reorder l order ‹_› s

theorem permute_mem (l l' : List SI) (order : List Nat) (h : permute l order = some l') (s : SI) (hs : s ∈ l) :
    s ∈ l' := (mem_permute l l' order h s).2 hs

theorem permute_subset (l l' : List SI) (order : List Nat) (h : permute l order = some l') (s : SI) (hs : s ∈ l') :
    s ∈ l := (mem_permute l l' order h s).1 hs

theorem pyset_mem (L l : List SI) (order : List Nat) (h : permute (dedupe L) order = some l) (s : SI) : s ∈ l ↔ s ∈ L :=
  (mem_permute _ l order h s).trans (mem_dedupe L s)

theorem foldl_join_sup (J : SI → SI → SI) (P : SI → Prop)
    (hJ : ∀ a b, P a → P b → P (J a b) ∧ ∀ x, (a.mem x ∨ b.mem x) → (J a b).mem x) :
    ∀ (l : List SI) (r : SI), P r → (∀ s, s ∈ l → P s) →
      P (l.foldl J r) ∧ ∀ x, (r.mem x ∨ memL l x) → (l.foldl J r).mem x := by
  intro l
  induction l with
  | nil =>
    intro r hr _
    refine ⟨hr, ?_⟩
    intro x hx
    cases hx with
    | inl h => exact h
    | inr h => obtain ⟨s, hs, _⟩ := h; cases hs
  | cons a t ih =>
    intro r hr hall
    rw [List.foldl_cons]
    have ha := hall a List.mem_cons_self
    obtain ⟨hP, hsup⟩ := hJ r a hr ha
    obtain ⟨hP', hsup'⟩ := ih (J r a) hP (fun s hs => hall s (List.mem_cons_of_mem _ hs))
    refine ⟨hP', ?_⟩
    intro x hx
    apply hsup'
    cases hx with
    | inl h => exact Or.inl (hsup x (Or.inl h))
    | inr h =>
      obtain ⟨s, hs, hm⟩ := h
      cases hs with
      | head => exact Or.inl (hsup x (Or.inr hm))
      | tail _ hs' => exact Or.inr ⟨s, hs', hm⟩

theorem foldl_keeps (J : SI → SI → SI) (P : SI → Prop) (hJ : ∀ a b, P a → P b → P (J a b)) :
    ∀ (l : List SI) (r : SI), P r → (∀ s, s ∈ l → P s) → P (l.foldl J r)
  | [], _, hr, _ => hr
  | a :: t, r, hr, hl =>
    foldl_keeps J P hJ t (J r a) (hJ r a hr (hl a List.mem_cons_self)) (fun s hs => hl s (List.mem_cons_of_mem _ hs))

theorem si_card_zero (s : SI) (h : s.cardinality = .ok 0) : s.bottom = true := by
  unfold SI.cardinality at h
  by_cases hb : s.bottom = true
  · exact hb
  · exfalso
    rw [if_neg hb] at h
    split at h
    · cases h
    · split at h
      · cases h
      · rename_i hs
        have h' : (modSub (↑s.ub) (↑s.lb) s.bits + s.stride) / s.stride = 0 := by
          injection h
        have hpos : 0 < s.stride := Nat.pos_of_ne_zero hs
        have := Nat.div_eq_zero_iff.1 h'
        omega

theorem dsis_card_zero (d : DSIS) (h : d.cardinality = .ok 0) (x : Nat) : ¬ d.mem x := by
  intro ⟨s, hs, hm⟩
  unfold DSIS.cardinality at h
  cases hc : d.sis.mapM SI.cardinality with
  | error e => rw [hc] at h; cases h
  | ok cs =>
    rw [hc] at h
    have hsum : cs.sum = 0 := by
      have : (Except.ok cs.sum : R Nat) = Except.ok 0 := h
      injection this
    obtain ⟨c, hcin, hcs⟩ := mapM_ok_mem _ _ _ hc s hs
    have hc0 := List.sum_eq_zero_iff_forall_eq_nat.1 hsum c hcin
    subst hc0
    have hb := si_card_zero s hcs
    exact absurd hm.1 (by rw [hb]; decide)

/-- the property of the join that `collapse` relies on (proved for `pseudo_join` in C22; a hypothesis here) -/
def JoinOK (P : SI → Prop) : Prop :=
  ∀ a b, P a → P b → P (pseudoJoin a b true) ∧ ∀ x, (a.mem x ∨ b.mem x) → (pseudoJoin a b true).mem x

theorem collapse_cases (d : DSIS) (r : SI) (h : d.collapse = .ok r) :
    (r = SI.empty d.bits ∧ ∀ x, ¬ d.mem x) ∨
      ∃ y ys, d.sis = y :: ys ∧ r = ys.foldl (fun r s => pseudoJoin r s true) y := by
  unfold DSIS.collapse at h
  cases hc : d.cardinality with
  | error e => rw [hc] at h; cases h
  | ok c =>
    rw [hc] at h
    simp only [] at h
    by_cases hc0 : c = 0
    · subst hc0
      rw [if_pos rfl] at h
      cases h
      exact Or.inl ⟨rfl, dsis_card_zero d hc⟩
    · rw [if_neg hc0] at h
      cases hsis : d.sis with
      | nil =>
        rw [hsis] at h
        cases h
        exact Or.inl ⟨rfl, fun x ⟨s, hs, _⟩ => by rw [hsis] at hs; cases hs⟩
      | cons y ys =>
        rw [hsis] at h
        cases h
        exact Or.inr ⟨y, ys, rfl, rfl⟩

theorem collapse_sound (P : SI → Prop) (hJ : JoinOK P) (d : DSIS) (r : SI) (hP : ∀ s, s ∈ d.sis → P s)
    (h : d.collapse = .ok r) (x : Nat) (hx : d.mem x) : r.mem x := by
  rcases collapse_cases d r h with ⟨_, hno⟩ | ⟨y, ys, hsis, rfl⟩
  · exact absurd hx (hno x)
  · rw [hsis] at hP
    obtain ⟨s, hs, hm⟩ := hx
    rw [hsis] at hs
    refine (foldl_join_sup _ P hJ ys y (hP y List.mem_cons_self) (fun s hs => hP s (List.mem_cons_of_mem _ hs))).2 x ?_
    rcases List.mem_cons.1 hs with rfl | hs
    · exact Or.inl hm
    · exact Or.inr ⟨s, hs, hm⟩

theorem collapse_prop (P : SI → Prop) (d : DSIS) (r : SI) (hE : P (SI.empty d.bits))
    (hJ : ∀ a b, P a → P b → P (pseudoJoin a b true)) (hP : ∀ s, s ∈ d.sis → P s) (h : d.collapse = .ok r) : P r := by
  rcases collapse_cases d r h with ⟨rfl, _⟩ | ⟨y, ys, hsis, rfl⟩
  · exact hE
  · rw [hsis] at hP
    exact foldl_keeps _ P hJ ys y (hP y List.mem_cons_self) (fun s hs => hP s (List.mem_cons_of_mem _ hs))

/-- how the (de-duplicated, re-ordered) results `l` of a set operation become the value `v` it returns: as a set, unwrapped
if a singleton, or collapsed (`normalize`, hence `finishSet`; `extract`; `_intersection_with_si`) -/
inductive Wrap (bits : Nat) (l : List SI) : Val → Prop
  | set : Wrap bits l (.ds { bits := bits, sis := l })
  | one (s : SI) : l = [s] → Wrap bits l (.si s)
  | col (r : SI) : DSIS.collapse { bits := bits, sis := l } = .ok r → Wrap bits l (.si r)

theorem Wrap.mem {bits : Nat} {l : List SI} {v : Val} (hW : Wrap bits l v) (P : SI → Prop) (hJ : JoinOK P)
    (hP : ∀ s, s ∈ l → P s) (x : Nat) (hx : memL l x) : v.mem x := by
  cases hW with
  | set => exact hx
  | one s hs =>
    obtain ⟨t, ht, hm⟩ := hx
    rw [hs, List.mem_singleton] at ht
    exact ht ▸ hm
  | col r hr => exact collapse_sound P hJ _ r hP hr x hx

theorem normalize_wrap (d : DSIS) (v : Val) (h : d.normalize = .ok v) : Wrap d.bits d.sis v := by
  unfold DSIS.normalize at h
  cases hc : d.cardinality with
  | error e => rw [hc] at h; cases h
  | ok c =>
    rw [hc] at h
    simp only [] at h
    split at h
    · cases hcol : d.collapse with
      | error e => rw [hcol] at h; cases h
      | ok r => rw [hcol] at h; cases h; exact .col r hcol
    · split at h
      · cases h; exact .one _ ‹_›
      · cases h; exact .set

theorem finishSet_wrap (bits : Nat) (L : List SI) (order : List Nat) (v : Val) (h : finishSet bits L order = .ok v) :
    ∃ l, (∀ s, s ∈ l ↔ s ∈ L) ∧ Wrap (setBits bits l) l v := by
  unfold finishSet at h
  cases hp : permute (dedupe L) order with
  | none => rw [hp] at h; cases h
  | some l => rw [hp] at h; exact ⟨l, pyset_mem L l order hp, normalize_wrap _ v h⟩

theorem extract_wrap (a : DSIS) (hi lo : Nat) (order : List Nat) (v : Val) (h : a.extract hi lo order = .ok v) :
    ∃ L l, applyEach1 (fun s => s.extract hi lo) a.sis = .ok L ∧ (∀ s, s ∈ l ↔ s ∈ L) ∧ Wrap (hi + 1 - lo) l v := by
  obtain ⟨L, hL, h⟩ := bind_ok h
  simp only [] at h
  cases hp : permute (dedupe L) order with
  | none => rw [hp] at h; cases h
  | some l =>
    rw [hp] at h
    refine ⟨L, l, hL, pyset_mem L l order hp, ?_⟩
    split at h
    · cases h
    · cases h; exact .one _ (by simp_all)
    · cases h; simp_all; exact .set

theorem meetSI_wrap (a : DSIS) (s : SI) (order : List Nat) (v : Val) (h : a.meetSI s order = .ok v) :
    ∃ L l, applyEach1 (fun x => x.intersection s) a.sis = .ok L ∧ (∀ s, s ∈ l ↔ s ∈ L) ∧ Wrap a.bits l v := by
  obtain ⟨L, hL, h⟩ := bind_ok h
  simp only [] at h
  cases hp : permute (dedupe L) order with
  | none => rw [hp] at h; cases h
  | some l =>
    rw [hp] at h
    refine ⟨L, l, hL, pyset_mem L l order hp, ?_⟩
    split at h
    · cases h
    · cases h; simp_all; exact .col _ rfl
    · obtain ⟨c, _, h⟩ := bind_ok h
      split at h
      · obtain ⟨r, hr, h⟩ := bind_ok h
        cases h; simp_all; exact .col r hr
      · cases h; simp_all; exact .set

theorem normalize_sound (P : SI → Prop) (hJ : JoinOK P) (d : DSIS) (v : Val) (hP : ∀ s, s ∈ d.sis → P s)
    (h : d.normalize = .ok v) (x : Nat) (hx : d.mem x) : v.mem x :=
  (normalize_wrap d v h).mem P hJ hP x hx

theorem finishSet_sound (P : SI → Prop) (hJ : JoinOK P) (bits : Nat) (results : List SI) (order : List Nat) (v : Val)
    (hP : ∀ s, s ∈ results → P s) (h : finishSet bits results order = .ok v) (x : Nat) (hx : memL results x) :
    v.mem x := by
  obtain ⟨l, hl, hW⟩ := finishSet_wrap bits results order v h
  obtain ⟨s, hs, hm⟩ := hx
  exact hW.mem P hJ (fun s hs => hP s ((hl s).1 hs)) x ⟨s, (hl s).2 hs, hm⟩

/-- `Rel s t r` stands for "the operation returned `r` on `s`, `t`": a relation and not a function, so that an operation
with a further argument per pair (the recorded order of `udiv`) is an instance. -/
theorem finish2_spec (P : SI → Prop) (hJ : JoinOK P) (Rel : SI → SI → SI → Prop) (f : Nat → Nat → Nat)
    (C : Nat → Nat → Prop) (Q1 Q2 : SI → Prop) (as bs L : List SI) (bits : Nat) (order : List Nat) (v : Val)
    (hspec : ∀ s t r, Q1 s → Q2 t → Rel s t r → P r ∧ ∀ x y, s.mem x → t.mem y → C x y → r.mem (f x y))
    (ha : ∀ s, s ∈ as → Q1 s) (hb : ∀ t, t ∈ bs → Q2 t)
    (h1 : ∀ s t, s ∈ as → t ∈ bs → ∃ r, r ∈ L ∧ Rel s t r) (h2 : ∀ r, r ∈ L → ∃ s t, s ∈ as ∧ t ∈ bs ∧ Rel s t r)
    (h : finishSet bits L order = .ok v) (x y : Nat) (hx : memL as x) (hy : memL bs y) (hc : C x y) : v.mem (f x y) := by
  obtain ⟨s, hs, hsx⟩ := hx
  obtain ⟨t, ht, hty⟩ := hy
  obtain ⟨r, hrL, hor⟩ := h1 s t hs ht
  refine finishSet_sound P hJ bits L order v (fun r' hr' => ?_) h (f x y)
    ⟨r, hrL, (hspec s t r (ha s hs) (hb t ht) hor).2 x y hsx hty hc⟩
  obtain ⟨s', t', hs', ht', hr⟩ := h2 r' hr'
  exact (hspec s' t' r' (ha s' hs') (hb t' ht') hr).1

theorem lift2_spec (P : SI → Prop) (hJ : JoinOK P) (op : SI → SI → R SI) (f : Nat → Nat → Nat) (C : Nat → Nat → Prop)
    (Q1 Q2 : SI → Prop) (a : DSIS) (bs : List SI) (order : List Nat) (v : Val)
    (hspec : ∀ s t r, Q1 s → Q2 t → op s t = .ok r → P r ∧ ∀ x y, s.mem x → t.mem y → C x y → r.mem (f x y))
    (ha : ∀ s, s ∈ a.sis → Q1 s) (hb : ∀ t, t ∈ bs → Q2 t) (h : a.lift2 op bs order = .ok v)
    (x y : Nat) (hx : a.mem x) (hy : memL bs y) (hc : C x y) : v.mem (f x y) := by
  obtain ⟨L, hL, h⟩ := bind_ok h
  refine finish2_spec P hJ (fun s t r => op s t = .ok r) f C Q1 Q2 a.sis bs L a.bits order v hspec ha hb
    (fun s t hs ht => applyEach2_mem op a.sis bs L hL s t hs ht) (fun r hr => ?_) h x y hx hy hc
  obtain ⟨p, hp, hpr⟩ := mapM_ok_mem_rev _ _ _ hL r hr
  exact ⟨p.1, p.2, ((mem_pairs _ _ p).1 hp).1, ((mem_pairs _ _ p).1 hp).2, hpr⟩

theorem lift1_spec (P : SI → Prop) (hJ : JoinOK P) (op : SI → R SI) (f : Nat → Nat) (Q : SI → Prop)
    (a : DSIS) (order : List Nat) (v : Val)
    (hspec : ∀ s r, Q s → op s = .ok r → P r ∧ ∀ x, s.mem x → r.mem (f x))
    (ha : ∀ s, s ∈ a.sis → Q s) (h : a.lift1 op order = .ok v) (x : Nat) (hx : a.mem x) : v.mem (f x) := by
  obtain ⟨L, hL, h⟩ := bind_ok h
  obtain ⟨s, hs, hsx⟩ := hx
  obtain ⟨r, hrL, hor⟩ := applyEach1_mem op a.sis L hL s hs
  refine finishSet_sound P hJ a.bits L order v (fun r' hr' => ?_) h (f x) ⟨r, hrL, (hspec s r (ha s hs) hor).2 x hsx⟩
  obtain ⟨s', hs', hsr⟩ := mapM_ok_mem_rev _ _ _ hL r' hr'
  exact (hspec s' r' (ha s' hs') hsr).1

theorem lift2_total (P : SI → Prop) (hJ : JoinOK P) (op : SI → SI → R SI) (f : Nat → Nat → Nat)
    (Q1 Q2 : SI → Prop) (a : DSIS) (bs : List SI) (order : List Nat) (v : Val)
    (hspec : ∀ s t r, Q1 s → Q2 t → op s t = .ok r → P r ∧ ∀ x y, s.mem x → t.mem y → r.mem (f x y))
    (ha : ∀ s, s ∈ a.sis → Q1 s) (hb : ∀ t, t ∈ bs → Q2 t) (h : a.lift2 op bs order = .ok v)
    (x y : Nat) (hx : a.mem x) (hy : memL bs y) : v.mem (f x y) :=
  lift2_spec P hJ op f (fun _ _ => True) Q1 Q2 a bs order v
    (fun s t r hs ht hr => ⟨(hspec s t r hs ht hr).1, fun x y hx hy _ => (hspec s t r hs ht hr).2 x y hx hy⟩)
    ha hb h x y hx hy trivial

theorem lift2_sound (P : SI → Prop) (hJ : JoinOK P) (op : SI → SI → R SI) (f : Nat → Nat → Nat)
    (a : DSIS) (bs : List SI) (order : List Nat) (v : Val)
    (hop : ∀ s t r x y, s ∈ a.sis → t ∈ bs → s.mem x → t.mem y → op s t = .ok r → r.mem (f x y))
    (hPr : ∀ s t r, s ∈ a.sis → t ∈ bs → op s t = .ok r → P r)
    (h : a.lift2 op bs order = .ok v) (x y : Nat) (hx : a.mem x) (hy : memL bs y) : v.mem (f x y) :=
  lift2_total P hJ op f (· ∈ a.sis) (· ∈ bs) a bs order v
    (fun s t r hs ht hr => ⟨hPr s t r hs ht hr, fun x y hx hy => hop s t r x y hs ht hx hy hr⟩)
    (fun _ hs => hs) (fun _ ht => ht) h x y hx hy

theorem lift1_sound (P : SI → Prop) (hJ : JoinOK P) (op : SI → R SI) (f : Nat → Nat)
    (a : DSIS) (order : List Nat) (v : Val)
    (hop : ∀ s r x, s ∈ a.sis → s.mem x → op s = .ok r → r.mem (f x))
    (hPr : ∀ s r, s ∈ a.sis → op s = .ok r → P r)
    (h : a.lift1 op order = .ok v) (x : Nat) (hx : a.mem x) : v.mem (f x) :=
  lift1_spec P hJ op f (· ∈ a.sis) a order v
    (fun s r hs hr => ⟨hPr s r hs hr, fun x hx => hop s r x hs hx hr⟩) (fun _ hs => hs) h x hx

theorem onRegion_ok (op : SI → R SI) (p q : String × SI) (h : onRegion op p = .ok q) :
    ∃ r, op p.2 = .ok r ∧ q = (p.1, r) := by
  unfold onRegion at h
  split at h
  · cases h; exact ⟨_, ‹_›, rfl⟩
  · cases h

theorem mapRegions_entry (v v' : VS) (op : SI → R SI) (h : v.mapRegions op = .ok v') (p : String × SI) (hp : p ∈ v.regions) :
    ∃ r, op p.2 = .ok r ∧ (p.1, r) ∈ v'.regions := by
  unfold VS.mapRegions at h
  cases hm : v.regions.mapM (onRegion op) with
  | error e => rw [hm] at h; cases h
  | ok regs =>
    rw [hm] at h
    cases hs : op v.si with
    | error e => rw [hs] at h; cases h
    | ok s' =>
      rw [hs] at h
      cases h
      obtain ⟨q, hq, hqo⟩ := mapM_ok_mem _ _ _ hm p hp
      obtain ⟨r, hr, rfl⟩ := onRegion_ok op p q hqo
      exact ⟨r, hr, hq⟩

theorem vs_opSI (v v' : VS) (op : SI → R SI) (f : Nat → Nat) (Q : SI → Prop) (C : Prop)
    (hspec : ∀ s r, Q s → op s = .ok r → ∀ x, s.mem x → C → r.mem (f x))
    (hv : ∀ p, p ∈ v.regions → Q p.2) (h : v.mapRegions op = .ok v') (region : String) (x : Nat)
    (hx : v.memAt region x) (hc : C) : v'.memAt region (f x) := by
  obtain ⟨p, hp, hreg, hm⟩ := hx
  obtain ⟨r, hr, hin⟩ := mapRegions_entry v v' op h p hp
  exact ⟨(p.1, r), hin, hreg, hspec p.2 r (hv p hp) hr x hm hc⟩

theorem mapRegions_sound (v v' : VS) (op : SI → R SI) (f : Nat → Nat)
    (hop : ∀ s r x, s.mem x → op s = .ok r → r.mem (f x))
    (h : v.mapRegions op = .ok v') (region : String) (x : Nat) (hx : v.memAt region x) : v'.memAt region (f x) :=
  vs_opSI v v' op f (fun _ => True) True (fun s r _ hr x hm _ => hop s r x hm hr) (fun _ _ => trivial) h region x hx trivial

end Claripy.VSA

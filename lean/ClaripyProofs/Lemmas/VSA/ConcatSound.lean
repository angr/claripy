import ClaripyProofs.Lemmas.VSA.ZextBounds
import ClaripyProofs.Lemmas.VSA.AndXor
/-! `concat`, walked once (`concat_good`): the high operand is widened and shifted (`_lshift`; a wrapping operand becomes "all
multiples of `2^k`"), the low operand zero-extended, and the two are or-ed (or added, when the high part is a single
value). -/
namespace Claripy.VSA

theorem shl_lt (x ws wb : Nat) (hx : x < 2 ^ ws) : x <<< wb < 2 ^ (ws + wb) ∧ x <<< wb ≤ 2 ^ (ws + wb) - 2 ^ wb := by
  rw [Nat.shiftLeft_eq, Nat.pow_add]
  have hp := Nat.two_pow_pos wb
  have h1 : (x + 1) * 2 ^ wb ≤ 2 ^ ws * 2 ^ wb := Nat.mul_le_mul_right _ hx
  rw [Nat.add_mul, Nat.one_mul] at h1
  omega

theorem cd_add_left (m v a b : Nat) : cd m (v + a) (v + b) = cd m a b := by
  unfold cd
  by_cases h : a ≤ b
  · rw [if_pos h, if_pos (by omega)]; omega
  · rw [if_neg h, if_neg (by omega)]; omega

/-- the result of `concat` when the high part is the single value `v` (a multiple of `2^wb`): the low part `B`, which lies below
`2^wb`, moved up by `v` -/
theorem concat_const (W wb v : Nat) (B r : SI) (hwb : wb < W) (hvle : v ≤ 2 ^ W - 2 ^ wb) (hvd : 2 ^ wb ∣ v)
    (hBW : WFw W B) (nB : Nrm B) (hBb : B.bottom = false) (hBl : B.lb < 2 ^ wb) (hBu : B.ub < 2 ^ wb)
    (hrb : r.bits = W) (hrl : r.lb = v + B.lb) (hru : r.ub = v + B.ub) (hrs : r.stride = B.stride)
    (hrbot : r.bottom = false) :
    Good W B.Aligned r ∧ ∀ y, y < 2 ^ wb → B.mem y → r.mem (v ||| y) := by
  have hpw : 2 ^ wb < 2 ^ W := Nat.pow_lt_pow_right (by omega) hwb
  have hv : v + 2 ^ wb ≤ 2 ^ W := by omega
  have hrW : r.WF := by
    refine ⟨by rw [hrb]; omega, by rw [hrb, hrl]; exact Nat.lt_of_lt_of_le (Nat.add_lt_add_left hBl v) hv,
      by rw [hrb, hru]; exact Nat.lt_of_lt_of_le (Nat.add_lt_add_left hBu v) hv, ?_⟩
    rw [hrs, hrl, hru]
    have := hBW.1.2.2.2
    constructor
    · intro h0; rw [this.1 h0]
    · intro he; exact this.2 (by omega)
  refine ⟨⟨⟨hrW, hrb⟩, ?_, fun alB => ?_⟩, ?_⟩
  · rw [nrm_iff r hrW hrbot]
    intro e2 e1
    exfalso
    rw [hrb, hrl, hru] at e1
    rw [hrs] at e2
    have hfull := nrm_full B nB hBW.1 hBb e2
    rw [hBW.2] at hfull
    have hm := Nat.two_pow_pos W
    by_cases hc : v + B.ub + 1 < 2 ^ W
    · rw [Nat.mod_eq_of_lt hc] at e1
      have := hfull (by rw [Nat.mod_eq_of_lt (by omega)]; omega)
      omega
    · -- `r` would be `[0, 2^W - 1]`, but `B.ub` lies below `2^wb`
      have : v + B.ub + 1 = 2 ^ W := by omega
      rw [this, Nat.mod_self] at e1
      omega
  · -- the bounds are those of `B` moved up by `v`: the same distance apart
    apply aligned_of_dvd r hrW.2.1 hrW.2.2.1
    rw [hrb, hrl, hru, hrs, cd_add_left]
    exact hBW.2 ▸ aligned_dvd B hBW.1 alB
  · intro y hyl hyB
    obtain ⟨_, c1, c2⟩ := arc_facts W B y hBW hyB
    obtain ⟨q, hq⟩ := hvd
    rw [hq, Nat.mul_comm, mul_or_low _ _ _ hyl]
    rw [hq, Nat.mul_comm] at hvle hrl hru
    generalize q * 2 ^ wb = v' at *
    rw [mem_iff _ _ hrW.2.1 hrW.2.2.1, hrb, hrl, hru, hrs, cd_add_left, cd_add_left]
    exact ⟨hrbot, by omega, c1, stride_cond _ _ c2⟩

theorem concat_good (s b r : SI) (hs : s.WF) (hb : b.WF) (hsb : s.bottom = false) (hbb : b.bottom = false)
    (h : s.concat b = .ok r) :
    Good (s.bits + b.bits) (s.Aligned ∧ b.Aligned) r ∧
      ∀ x y, s.mem x → b.mem y → r.mem (Conc.concat b.bits x y) := by
  have hws := hs.1
  have hwb := hb.1
  have hW0 : 0 < s.bits + b.bits := by omega
  have gc := good_renorm s.bits s.Aligned s ⟨hs, rfl⟩ id
  have hcW := gc.wf
  have hcb : s.renorm.bottom = false := by rw [renorm_new s hsb]; exact new_bottom _ _ _ _
  unfold SI.concat at h
  simp only [] at h
  generalize ha : (SI.mk (s.bits + b.bits) s.renorm.stride s.renorm.lb s.renorm.ub s.renorm.bottom) = a at h
  have haW : WFw (s.bits + b.bits) a := by
    rw [← ha]; exact widen_bits_WF s.renorm s.bits (s.bits + b.bits) hcW (by omega)
  have hab : a.bottom = false := by rw [← ha]; exact hcb
  have habits : a.bits = s.bits + b.bits := haW.2
  have hal : a.lb = s.renorm.lb := by rw [← ha]
  have hau : a.ub = s.renorm.ub := by rw [← ha]
  obtain ⟨newSi, hns, h⟩ := bind_ok h
  obtain ⟨newB, hnb, h⟩ := bind_ok h
  -- a wrapping widened copy does not fit after the shift
  have hwrapfit : ¬ s.renorm.lb ≤ s.renorm.ub →
      ¬ cd (2 ^ a.bits) a.lb a.ub * 2 ^ b.bits < 2 ^ a.bits := by
    intro hnle hfit
    rw [habits, hal, hau] at hfit
    have hl := gc.lb_lt
    have hu := gc.ub_lt
    have : 2 ^ s.bits ≤ cd (2 ^ (s.bits + b.bits)) s.renorm.lb s.renorm.ub := by
      have h2 : 2 * 2 ^ s.bits ≤ 2 ^ (s.bits + b.bits) := by
        rw [← Nat.pow_succ']
        exact Nat.pow_le_pow_right (by omega) (by omega)
      rw [cd_neg _ _ _ hnle]
      omega
    have := Nat.mul_le_mul_right (2 ^ b.bits) this
    rw [← Nat.pow_add] at this
    omega
  obtain ⟨gK, mK⟩ := lshiftK_good a b.bits haW.1 hab
  rw [habits] at gK mK
  have gK' : Good (s.bits + b.bits) s.Aligned (lshiftK a b.bits) := gK.mono (fun als hfit => by
    have hle : s.renorm.lb ≤ s.renorm.ub := Classical.byContradiction (fun hnle =>
      hwrapfit hnle (by rw [habits]; exact hfit))
    rw [← ha]
    exact (widen_bits_good s.renorm s.bits (s.bits + b.bits) _ gc hcb hle (by omega)).1.aligned als)
  unfold SI.lshiftRange at hns
  obtain ⟨gNs, hns2⟩ := overRange_good (s.bits + b.bits) s.Aligned a habits hW0 _ _ _
    (fun k hk1 hk2 si hk => by
      cases pure_ok hk
      cases Nat.le_antisymm hk2 hk1
      exact gK') newSi hns
  obtain ⟨si, hsi, hsub⟩ := hns2 b.bits (Nat.le_refl _) (Nat.le_refl _)
  cases pure_ok hsi
  have hhigh : ∀ x, s.mem x → newSi.mem (x <<< b.bits) := by
    intro x hx
    obtain ⟨hlt, _⟩ := shl_lt x s.bits b.bits hx.2.1
    apply hsub
    by_cases hle : s.renorm.lb ≤ s.renorm.ub
    · have hax : a.mem x := by
        rw [← ha]
        exact widen_bits_mem s.renorm s.bits (s.bits + b.bits) hcW hle (by omega) x ((renorm_mem s hs x).2 hx)
      have := mK x hax
      rwa [Nat.mod_eq_of_lt hlt] at this
    · exact lshiftK_multiples a b.bits haW.1 hab (hwrapfit hle) (by rw [habits]; omega) _ (by rw [habits]; exact hlt)
        (by rw [Nat.shiftLeft_eq]; exact Nat.dvd_mul_left _ _)
  have hnsb : newSi.bottom = false := (hhigh _ (mem_lb s hs hsb)).1
  rw [gNs.wf.2] at hnb
  obtain ⟨gB, hnb2⟩ := zext_good b newB (s.bits + b.bits) hb hbb (by omega) hnb
  obtain ⟨hBl, hBu⟩ := zeroExtend_bounds b newB (s.bits + b.bits) hb hbb (by omega) hnb
  have hnbb : newB.bottom = false := (hnb2 _ (mem_lb b hb hbb)).1
  by_cases hint : newSi.isInteger = true
  · rw [if_pos hint] at h
    have hr := pure_ok h
    have hi : newSi.lb = newSi.ub := (isInteger_iff newSi).1 hint
    have hv : ∀ x, s.mem x → x <<< b.bits = newSi.lb := fun x hx => mem_integer newSi _ gNs.wf.1 hi (hhigh x hx)
    have hvle : newSi.lb ≤ 2 ^ (s.bits + b.bits) - 2 ^ b.bits := by
      rw [← hv _ (mem_lb s hs hsb)]
      exact (shl_lt _ s.bits b.bits hs.2.1).2
    have hvd : 2 ^ b.bits ∣ newSi.lb := by
      rw [← hv _ (mem_lb s hs hsb), Nat.shiftLeft_eq]
      exact Nat.dvd_mul_left _ _
    obtain ⟨c1, c2⟩ := concat_const (s.bits + b.bits) b.bits newSi.lb newB r (by omega) hvle hvd gB.wf gB.nrm hnbb
      hBl hBu (by rw [hr]; exact gB.wf.2) (by rw [hr]) (by rw [hr, hi]) (by rw [hr]) (by rw [hr]; exact hnsb)
    refine ⟨c1.mono (fun al => gB.aligned al.2), fun x y hx hy => ?_⟩
    show r.mem (x <<< b.bits ||| y)
    rw [hv x hx]
    exact c2 y hy.2.1 (hnb2 y hy)
  · rw [if_neg hint] at h
    obtain ⟨g1, g2⟩ := or_good newSi newB r gNs.wf.1 gB.wf.1 (by rw [gNs.wf.2, gB.wf.2]) hnsb hnbb h
    rw [gNs.wf.2] at g1
    exact ⟨g1.mono (fun al => ⟨gNs.aligned al.1, gB.aligned al.2⟩), fun x y hx hy => g2 _ _ (hhigh x hx) (hnb2 y hy)⟩

theorem concat_sound (s b r : SI) (hs : s.WF) (hb : b.WF) (hsb : s.bottom = false) (hbb : b.bottom = false)
    (h : s.concat b = .ok r) :
    (WFw (s.bits + b.bits) r ∧ (Nrm b → Nrm r)) ∧ ∀ x y, s.mem x → b.mem y → r.mem (x <<< b.bits ||| y) :=
  have g := concat_good s b r hs hb hsb hbb h
  ⟨⟨g.1.wf, fun _ => g.1.nrm⟩, g.2⟩

theorem concat_aligned (s b r : SI) (hs : s.WF) (hb : b.WF) (hsb : s.bottom = false) (hbb : b.bottom = false)
    (als : s.Aligned) (alb : b.Aligned) (h : s.concat b = .ok r) : r.Aligned :=
  (concat_good s b r hs hb hsb hbb h).1.aligned ⟨als, alb⟩

end Claripy.VSA

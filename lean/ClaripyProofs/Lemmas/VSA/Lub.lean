import ClaripyProofs.Lemmas.VSA.JoinSound
import ClaripyProofs.Lemmas.VSA.Lift
/-! `least_upper_bound` returns a join of its arguments (`lub_cases`): it keeps what `pseudo_join` and `renorm` keep
(`lub_keeps`) and contains every argument (`lub_sup`), and so does `union`; `JoinOK` holds for `pseudo_join`. -/
namespace Claripy.VSA

theorem empty_WFw (w : Nat) (hw : 0 < w) : WFw w (SI.empty w) := by
  have := two_le_two_pow w hw
  refine ⟨⟨hw, ?_, ?_, ?_⟩, rfl⟩
  · show 0 < 2 ^ w; omega
  · show maxInt w < 2 ^ w; unfold maxInt; omega
  · show (1 = 0 ↔ 0 = maxInt w); unfold maxInt; constructor <;> intro h <;> omega

/-- the C22 obligation used by C23 (`collapse`, `normalize`) is discharged -/
theorem joinOK (w : Nat) : JoinOK (WFw w) := fun a b ha hb => pseudoJoin_ok w a b ha hb true

theorem renorm_mem (s : SI) (hs : s.WF) (x : Nat) : s.renorm.mem x ↔ s.mem x := by
  unfold SI.renorm
  by_cases hb : s.bottom = true
  · rw [if_pos hb]
  · rw [if_neg hb]
    obtain ⟨_, hl, hu, _⟩ := hs
    rw [mem_new, mem_iff _ _ hl hu, imod_of_lt _ _ hl, imod_of_lt _ _ hu]
    simp [hb]

theorem renorm_WFw (w : Nat) (s : SI) (hs : WFw w s) : WFw w s.renorm := by
  unfold SI.renorm
  by_cases hb : s.bottom = true
  · rw [if_pos hb]; exact hs
  · rw [if_neg hb]
    obtain ⟨⟨h0, hl, hu, hst⟩, hbits⟩ := hs
    refine ⟨new_WF _ _ _ _ h0 ?_, by rw [new_bits]; exact hbits⟩
    intro h
    rw [imod_of_lt _ _ hl, imod_of_lt _ _ hu]
    exact hst.1 h

theorem mem_insertByLb (x y : SI) : ∀ l : List SI, y ∈ insertByLb x l ↔ (y = x ∨ y ∈ l)
  | [] => by simp [insertByLb]
  | a :: t => by
    unfold insertByLb
    split
    · simp
    · rw [List.mem_cons, mem_insertByLb x y t, List.mem_cons]
      exact or_left_comm

theorem mem_sortByLb (l : List SI) (y : SI) : y ∈ sortByLb l ↔ y ∈ l :=
  (mem_foldl_ins (ins := insertByLb) (fun x l y => mem_insertByLb x y l) l [] y).trans (by simp)

theorem mem_rotate (l : List SI) (i : Nat) (y : SI) : y ∈ l.drop i ++ l.take i ↔ y ∈ l := by
  rw [List.mem_append, Or.comm, ← List.mem_append, List.take_append_drop]

theorem pick_mem (c : SI) (cs : List SI) :
    cs.foldl (fun ret si => if ret.nValues > si.nValues then si else ret) c ∈ c :: cs := by
  refine List.foldlRecOn cs _ List.mem_cons_self (fun ret hret si hsi => ?_)
  split
  · exact List.mem_cons_of_mem _ hsi
  · exact hret

theorem reduceJoin_sup (w : Nat) (l : List SI) (r : SI) (hP : ∀ s, s ∈ l → WFw w s) (h : reduceJoin l = some r) :
    WFw w r ∧ ∀ x, memL l x → r.mem x := by
  cases l with
  | nil => cases h
  | cons a t =>
    cases h
    obtain ⟨h1, h2⟩ := foldl_join_sup (fun acc y => pseudoJoin acc y false) (WFw w)
      (fun p q hp hq => pseudoJoin_ok w p q hp hq false) t a (hP a List.mem_cons_self)
      (fun s hs => hP s (List.mem_cons_of_mem _ hs))
    refine ⟨h1, ?_⟩
    rintro x ⟨s, hs, hm⟩
    rcases List.mem_cons.1 hs with rfl | hs'
    · exact h2 x (Or.inl hm)
    · exact h2 x (Or.inr ⟨s, hs', hm⟩)

theorem lub_cases (l : List SI) (r : SI) (h : leastUpperBound l = .ok r) :
    (∃ a, l = [a] ∧ r = a.renorm) ∨ (∃ a b, l = [a, b] ∧ r = pseudoJoin a b true) ∨
    (∃ x xs, (∀ s, s ∈ x :: xs ↔ s ∈ l) ∧ r = xs.foldl (fun acc y => pseudoJoin acc y false) x) := by
  unfold leastUpperBound at h
  match l, h with
  | [], h => cases h
  | [a], h => exact Or.inl ⟨a, rfl, by cases h; rfl⟩
  | [a, b], h => exact Or.inr (Or.inl ⟨a, b, rfl, by cases h; rfl⟩)
  | a :: b :: c :: t, h =>
    simp only [] at h
    generalize (a :: b :: c :: t) = l at h
    split at h
    · cases h
    · rename_i c0 cs hcs
      have hr : r = cs.foldl (fun ret si => if ret.nValues > si.nValues then si else ret) c0 := by cases h; rfl
      -- the pick is one of the candidates, each the ordered join of a rotation of the sorted list
      have hc := pick_mem c0 cs
      rw [← hr, ← hcs] at hc
      obtain ⟨i, _, hi⟩ := List.mem_filterMap.1 hc
      generalize hrot : (sortByLb l).drop i ++ (sortByLb l).take i = rot at hi
      cases rot with
      | nil => cases hi
      | cons x xs =>
        refine Or.inr (Or.inr ⟨x, xs, fun s => ?_, by unfold reduceJoin at hi; cases hi; rfl⟩)
        rw [← hrot, mem_rotate, mem_sortByLb]

theorem lub_keeps (P : SI → Prop) (hJ : ∀ a b smart, P a → P b → P (pseudoJoin a b smart))
    (hR : ∀ a, P a → P a.renorm) (l : List SI) (r : SI) (hP : ∀ s, s ∈ l → P s) (h : leastUpperBound l = .ok r) : P r := by
  rcases lub_cases l r h with ⟨a, rfl, rfl⟩ | ⟨a, b, rfl, rfl⟩ | ⟨y, ys, hmem, rfl⟩
  · exact hR a (hP a List.mem_cons_self)
  · exact hJ a b true (hP a List.mem_cons_self) (hP b (List.mem_cons_of_mem _ List.mem_cons_self))
  · exact List.foldlRecOn ys _ (hP y ((hmem y).1 List.mem_cons_self))
      (fun acc hacc z hz => hJ acc z false hacc (hP z ((hmem z).1 (List.mem_cons_of_mem _ hz))))

theorem lub_sup (w : Nat) (l : List SI) (r : SI) (hP : ∀ s, s ∈ l → WFw w s) (h : leastUpperBound l = .ok r) :
    WFw w r ∧ ∀ x, memL l x → r.mem x := by
  rcases lub_cases l r h with ⟨a, rfl, rfl⟩ | ⟨a, b, rfl, rfl⟩ | ⟨y, ys, hmem, rfl⟩
  · have ha := hP a List.mem_cons_self
    refine ⟨renorm_WFw w a ha, ?_⟩
    rintro x ⟨s, hs, hm⟩
    rw [List.mem_singleton.1 hs] at hm
    exact (renorm_mem a ha.1 x).2 hm
  · obtain ⟨h1, h2⟩ := pseudoJoin_ok w a b (hP a List.mem_cons_self) (hP b (List.mem_cons_of_mem _ List.mem_cons_self)) true
    refine ⟨h1, ?_⟩
    rintro x ⟨s, hs, hm⟩
    rcases List.mem_cons.1 hs with rfl | hs'
    · exact h2 x (Or.inl hm)
    · rw [List.mem_singleton.1 hs'] at hm
      exact h2 x (Or.inr hm)
  · obtain ⟨h1, h2⟩ := reduceJoin_sup w (y :: ys) _ (fun s hs => hP s ((hmem s).1 hs)) rfl
    exact ⟨h1, fun x ⟨s, hs, hm⟩ => h2 x ⟨s, (hmem s).2 hs, hm⟩⟩

theorem union_sup (w : Nat) (a b r : SI) (ha : WFw w a) (hb : WFw w b) (h : a.union b = .ok r) :
    WFw w r ∧ ∀ x, (a.mem x ∨ b.mem x) → r.mem x := by
  obtain ⟨h1, h2⟩ := lub_sup w [a, b] r (by simpa using ⟨ha, hb⟩) h
  exact ⟨h1, fun x hx => h2 x (hx.elim (fun hm => ⟨a, by simp, hm⟩) (fun hm => ⟨b, by simp, hm⟩))⟩

end Claripy.VSA

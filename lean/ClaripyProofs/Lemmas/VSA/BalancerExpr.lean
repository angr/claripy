import ClaripyProofs.Lemmas.VSA.BalancerWindow
import ClaripyProofs.Lemmas.VSA.ConvertProved
import ClaripyProofs.Lemmas.VSA.EvalExact
/-!
The expressions the balancer works on (`ExprOK`: well typed, with a value at every node, inside the fragment of C24 that needs
no alignment guard) against their concrete meaning (`evalBV`).  The value of such an expression fits its width (`evalBV_lt`)
and does not depend on the assignment when there is no symbolic leaf (`evalBV_nosym`); hence a node evaluated at construction
(`foldBV`, in `Base.__new__`) is a literal of the same typing, width and value (`foldBV_ok`), and nothing in the soundness of the
balancer depends on which nodes are symbolic.  Where the model asks the abstract domain a question (`is_true(e == 0)`, `eval(2)`)
the answer is read through the soundness of the abstract evaluation (C24: `conv_good`).
-/
namespace Claripy.VSA.Bal
open Claripy.VSA

theorem liftR_ok {α : Type} {x : R α} {a : α} (h : liftR x = .ok a) : x = .ok a := by
  cases x with
  | error e => cases h
  | ok b => cases h; rfl

/-- well typed, with a value at every node, without `==` / `!=` / `*` nodes (the operations whose abstract counterpart needs
an alignment guard) -/
def ExprOK (anno : Nat → SI) (env : Nat → Nat) (e : BV) : Prop := WTBV anno env e ∧ DefBV env e ∧ usesEqBV e = false

section
variable (anno : Nat → SI) (env : Nat → Nat) (hctx : ∀ i, (anno i).WF ∧ (anno i).mem (env i)) (hnrm : ∀ i, Nrm (anno i))
include hctx hnrm

theorem conv_good (e : BV) (hok : ExprOK anno env e) (o o' : Orders) (av : AV) (h : convBV anno e o = .ok (av, o')) :
    GoodBV env e av ∧ Nrm av.si :=
  convBV_rest_good anno env hctx hnrm e o av o' (fun hh => by rw [usesRestBV_false e] at hh; cases hh)
    (alBV_of_noEq anno e o hok.2.2) hok.2.1 hok.1 h

theorem conv_val (e : BV) (hok : ExprOK anno env e) (o : Orders) (p : AV × Orders) (h : convBV anno e o = .ok p)
    (v : Nat) (hv : evalBV env e = some v) : p.1.si.WF ∧ p.1.si.mem v :=
  have g := (conv_good anno env hctx hnrm e hok o p.2 p.1 h).1
  ⟨g.1.1, (g.2 v hv).1⟩

end

theorem exprOK_val (anno : Nat → SI) (env : Nat → Nat) (e : BV) (h : ExprOK anno env e) : ∃ v, evalBV env e = some v :=
  defBV_some env e h.2.1

theorem ok_zext {anno env k e} (h : ExprOK anno env (.zext k e)) : ExprOK anno env e := by
  obtain ⟨h1, h2, h3⟩ := h
  simp only [WTBV, DefBV, usesEqBV] at h1 h2 h3
  exact ⟨h1, h2, h3⟩
theorem ok_sext {anno env k e} (h : ExprOK anno env (.sext k e)) : ExprOK anno env e := by
  obtain ⟨h1, h2, h3⟩ := h
  simp only [WTBV, DefBV, usesEqBV] at h1 h2 h3
  exact ⟨h1, h2, h3⟩
theorem ok_extract {anno env hi lo e} (h : ExprOK anno env (.extract hi lo e)) : ExprOK anno env e ∧ lo ≤ hi ∧ hi < wd e := by
  obtain ⟨h1, h2, h3⟩ := h
  simp only [WTBV, DefBV, usesEqBV] at h1 h2 h3
  exact ⟨⟨h1.1, h2, h3⟩, h1.2⟩
theorem ok_concat {anno env a b} (h : ExprOK anno env (.concat a b)) : ExprOK anno env a ∧ ExprOK anno env b := by
  obtain ⟨h1, h2, h3⟩ := h
  simp only [WTBV, DefBV, usesEqBV, Bool.or_eq_false_iff] at h1 h2 h3
  exact ⟨⟨h1.1, h2.1, h3.1⟩, ⟨h1.2, h2.2, h3.2⟩⟩
theorem ok_bin {anno env op a b} (h : ExprOK anno env (.bin op a b)) :
    ExprOK anno env a ∧ ExprOK anno env b ∧ wd a = wd b := by
  obtain ⟨h1, h2, h3⟩ := h
  simp only [WTBV, DefBV, usesEqBV, Bool.or_eq_false_iff] at h1 h2 h3
  exact ⟨⟨h1.1, h2.1, h3.1.2⟩, ⟨h1.2.1, h2.2.1, h3.2⟩, h1.2.2⟩
theorem ok_mk_extract {anno env hi lo e} (h : ExprOK anno env e) (h1 : lo ≤ hi) (h2 : hi < wd e) :
    ExprOK anno env (.extract hi lo e) := by
  obtain ⟨a, b, c⟩ := h
  refine ⟨?_, ?_, ?_⟩
  · simp only [WTBV]; exact ⟨a, h1, h2⟩
  · simp only [DefBV]; exact b
  · simp only [usesEqBV]; exact c

theorem foldBV_sym (e : BV) (h : symBV e = true) : foldBV e = e := by
  unfold foldBV asConst
  rw [if_pos h]

mutual
theorem evalBV_nosym (env env' : Nat → Nat) : ∀ e : BV, symBV e = false → evalBV env e = evalBV env' e
  | .var _ _, h => by simp [symBV] at h
  | .free _ _, h => by simp [symBV] at h
  | .const _ _, _ => by simp [evalBV]
  | .bin op a b, h => by
    simp only [symBV, Bool.or_eq_false_iff] at h
    simp only [evalBV, evalBV_nosym env env' a h.1, evalBV_nosym env env' b h.2]
  | .neg a, h => by
    simp only [symBV] at h
    simp only [evalBV, evalBV_nosym env env' a h]
  | .not a, h => by
    simp only [symBV] at h
    simp only [evalBV, evalBV_nosym env env' a h]
  | .zext _ a, h => by
    simp only [symBV] at h
    simp only [evalBV, evalBV_nosym env env' a h]
  | .sext _ a, h => by
    simp only [symBV] at h
    simp only [evalBV, evalBV_nosym env env' a h]
  | .extract _ _ a, h => by
    simp only [symBV] at h
    simp only [evalBV, evalBV_nosym env env' a h]
  | .concat a b, h => by
    simp only [symBV, Bool.or_eq_false_iff] at h
    simp only [evalBV, evalBV_nosym env env' a h.1, evalBV_nosym env env' b h.2]
  | .ite c a b, h => by
    simp only [symBV, Bool.or_eq_false_iff] at h
    simp only [evalBV, evalB_nosym env env' c h.1.1, evalBV_nosym env env' a h.1.2, evalBV_nosym env env' b h.2]
theorem evalB_nosym (env env' : Nat → Nat) : ∀ c : BExp, symB c = false → evalB env c = evalB env' c
  | .lit _, _ => by simp [evalB]
  | .cmp _ a b, h => by
    simp only [symB, Bool.or_eq_false_iff] at h
    simp only [evalB, evalBV_nosym env env' a h.1, evalBV_nosym env env' b h.2]
  | .not c, h => by
    simp only [symB] at h
    simp only [evalB, evalB_nosym env env' c h]
  | .and c d, h => by
    simp only [symB, Bool.or_eq_false_iff] at h
    simp only [evalB, evalB_nosym env env' c h.1, evalB_nosym env env' d h.2]
  | .or c d, h => by
    simp only [symB, Bool.or_eq_false_iff] at h
    simp only [evalB, evalB_nosym env env' c h.1, evalB_nosym env env' d h.2]
  | .ite c a b, h => by
    simp only [symB, Bool.or_eq_false_iff] at h
    simp only [evalB, evalB_nosym env env' c h.1.1, evalB_nosym env env' a h.1.2, evalB_nosym env env' b h.2]
end

theorem valOf_spec (env : Nat → Nat) (e : BV) (c : Nat) (h : valOf e = .ok c) : symBV e = false ∧ evalBV env e = some c := by
  unfold valOf asConst at h
  by_cases hs : symBV e = true
  · rw [if_pos hs] at h; cases h
  · rw [if_neg hs] at h
    have hs' : symBV e = false := by simpa using hs
    refine ⟨hs', ?_⟩
    rw [evalBV_nosym env (fun _ => 0) e hs']
    cases he : evalBV (fun _ => 0) e with
    | none => rw [he] at h; cases h
    | some v => rw [he] at h; cases h; rfl

theorem wd_pos (anno : Nat → SI) (env : Nat → Nat) (hwf : ∀ i, (anno i).WF) : ∀ e : BV, WTBV anno env e → 0 < wd e
  | .var i w, h => by simp only [WTBV] at h; simp only [wd]; rw [← h]; exact (hwf i).1
  | .free _ _, h => by simp only [WTBV] at h; simp only [wd]; exact h.1
  | .const _ _, h => by simp only [WTBV] at h; simp only [wd]; exact h.1
  | .bin _ a _, h => by simp only [WTBV] at h; simp only [wd]; exact wd_pos anno env hwf a h.1
  | .neg a, h => by simp only [WTBV] at h; simp only [wd]; exact wd_pos anno env hwf a h
  | .not a, h => by simp only [WTBV] at h; simp only [wd]; exact wd_pos anno env hwf a h
  | .zext _ a, h => by simp only [WTBV] at h; simp only [wd]; have := wd_pos anno env hwf a h; omega
  | .sext _ a, h => by simp only [WTBV] at h; simp only [wd]; have := wd_pos anno env hwf a h; omega
  | .extract _ _ _, h => by simp only [WTBV] at h; simp only [wd]; omega
  | .concat a _, h => by simp only [WTBV] at h; simp only [wd]; have := wd_pos anno env hwf a h.1; omega
  | .ite _ a _, h => by simp only [WTBV] at h; simp only [wd]; exact wd_pos anno env hwf a h.2.1

theorem concBin_lt (op : BinOp) (w x y v : Nat) (hx : x < 2 ^ w) (hy : y < 2 ^ w) (h : concBin op w x y = some v) :
    v < 2 ^ w := by
  have hp := Nat.two_pow_pos w
  cases op <;> simp only [concBin] at h
  · cases h; exact Nat.mod_lt _ hp
  · cases h; exact Nat.mod_lt _ hp
  · cases h; exact Nat.mod_lt _ hp
  · split at h
    · cases h
    · cases h; exact Nat.lt_of_le_of_lt (Nat.div_le_self _ _) hx
  · split at h
    · cases h
    · cases h; exact Nat.lt_of_le_of_lt (Nat.mod_le _ _) hx
  · cases h; exact Nat.and_lt_two_pow _ hy
  · cases h; exact Nat.or_lt_two_pow hx hy
  · cases h; exact Nat.xor_lt_two_pow hx hy
  · cases h; unfold Conc.shl; split
    · exact Nat.mod_lt _ hp
    · exact hp
  · cases h; unfold Conc.lshr; split
    · exact Nat.lt_of_le_of_lt (Nat.shiftRight_le _ _) hx
    · exact hp
  · cases h; exact BitVec.isLt _

theorem evalBV_lt (anno : Nat → SI) (env : Nat → Nat) (hctx : ∀ i, (anno i).WF ∧ (anno i).mem (env i)) :
    ∀ (e : BV) (v : Nat), WTBV anno env e → evalBV env e = some v → v < 2 ^ wd e
  | .var i w, v, hwt, h => by
    simp only [WTBV] at hwt
    simp only [evalBV, Option.some.injEq] at h
    subst h
    -- membership in the annotation includes fitting its width, which typing makes the variable's
    have := (hctx i).2.2.1
    rwa [hwt] at this
  | .free i w, v, hwt, h => by
    simp only [WTBV] at hwt
    simp only [evalBV, Option.some.injEq] at h
    subst h; exact hwt.2
  | .const c w, v, hwt, h => by
    simp only [WTBV] at hwt
    simp only [evalBV, Option.some.injEq] at h
    subst h; exact hwt.2
  | .bin op a b, v, hwt, h => by
    simp only [WTBV] at hwt
    simp only [evalBV] at h
    obtain ⟨x, hx, h⟩ := Option.bind_eq_some_iff.1 h
    obtain ⟨y, hy, h⟩ := Option.bind_eq_some_iff.1 h
    -- `concBin` computes at `wd a`; `and`, `or`, `xor`, `udiv`, `urem`, `lshr` stay in range only because the operands are
    exact concBin_lt op (wd a) x y v (evalBV_lt anno env hctx a x hwt.1 hx)
      (hwt.2.2 ▸ evalBV_lt anno env hctx b y hwt.2.1 hy) h
  -- `neg`, `not`, `sext`, `extract` reduce to their width whatever the operand's value: no recursive call
  | .neg a, v, hwt, h => by
    simp only [evalBV] at h
    obtain ⟨x, _, h⟩ := Option.bind_eq_some_iff.1 h
    cases h; exact Nat.mod_lt _ (Nat.two_pow_pos _)
  | .not a, v, hwt, h => by
    simp only [evalBV] at h
    obtain ⟨x, _, h⟩ := Option.bind_eq_some_iff.1 h
    cases h
    have := Nat.two_pow_pos (wd a)
    unfold Conc.not; simp only [wd]; omega
  | .zext k a, v, hwt, h => by
    simp only [WTBV] at hwt
    simp only [evalBV] at h
    exact Nat.lt_of_lt_of_le (evalBV_lt anno env hctx a v hwt h) (Nat.pow_le_pow_right (by omega) (by simp only [wd]; omega))
  | .sext k a, v, hwt, h => by
    simp only [evalBV] at h
    obtain ⟨x, _, h⟩ := Option.bind_eq_some_iff.1 h
    cases h; exact BitVec.isLt _
  | .extract hi lo a, v, hwt, h => by
    simp only [evalBV] at h
    obtain ⟨x, _, h⟩ := Option.bind_eq_some_iff.1 h
    cases h; exact Nat.mod_lt _ (Nat.two_pow_pos _)
  | .concat a b, v, hwt, h => by
    simp only [WTBV] at hwt
    simp only [evalBV] at h
    obtain ⟨x, hx, h⟩ := Option.bind_eq_some_iff.1 h
    obtain ⟨y, hy, h⟩ := Option.bind_eq_some_iff.1 h
    cases h
    have hx' := evalBV_lt anno env hctx a x hwt.1 hx
    have hy' := evalBV_lt anno env hctx b y hwt.2 hy
    simp only [wd, Conc.concat]
    -- `x <<< wd b ||| y`: each side is below `2 ^ (wd a + wd b)`, and so is the `|||` of two such numbers
    refine Nat.or_lt_two_pow ?_ (Nat.lt_of_lt_of_le hy' (Nat.pow_le_pow_right (by omega) (by omega)))
    rw [Nat.shiftLeft_eq, Nat.pow_add]
    exact Nat.mul_lt_mul_of_pos_right hx' (Nat.two_pow_pos _)
  | .ite c a b, v, hwt, h => by
    simp only [WTBV] at hwt
    simp only [evalBV] at h
    obtain ⟨cv, _, h⟩ := Option.bind_eq_some_iff.1 h
    cases cv
    · exact hwt.2.2.2 ▸ evalBV_lt anno env hctx b v hwt.2.2.1 h
    · exact evalBV_lt anno env hctx a v hwt.2.1 h
theorem symBV_foldBV (e : BV) : symBV (foldBV e) = symBV e := by
  unfold foldBV asConst
  by_cases hs : symBV e = true
  · rw [if_pos hs]
  · rw [if_neg hs]
    cases evalBV (fun _ => 0) e with
    | none => rfl
    | some v => simpa [symBV] using hs

theorem foldBV_ok (anno : Nat → SI) (env : Nat → Nat) (hctx : ∀ i, (anno i).WF ∧ (anno i).mem (env i)) (e : BV)
    (hok : ExprOK anno env e) :
    ExprOK anno env (foldBV e) ∧ evalBV env (foldBV e) = evalBV env e ∧ wd (foldBV e) = wd e := by
  unfold foldBV asConst
  by_cases hs : symBV e = true
  · rw [if_pos hs]; exact ⟨hok, rfl, rfl⟩
  · rw [if_neg hs]
    have hev := evalBV_nosym env (fun _ => 0) e (by simpa using hs)
    cases h0 : evalBV (fun _ => 0) e with
    | none => exact ⟨hok, rfl, rfl⟩
    | some v =>
      rw [h0] at hev
      exact ⟨⟨⟨wd_pos anno env (fun i => (hctx i).1) e hok.1, evalBV_lt anno env hctx e v hok.1 hev⟩, trivial, rfl⟩, hev.symm, rfl⟩

theorem evalBV_bin (env : Nat → Nat) (op : BinOp) (a b : BV) (x y : Nat) (ha : evalBV env a = some x) (hb : evalBV env b = some y) :
    evalBV env (.bin op a b) = concBin op (wd a) x y := by
  simp [evalBV, ha, hb]

section
variable (anno : Nat → SI) (env : Nat → Nat) (hctx : ∀ i, (anno i).WF ∧ (anno i).mem (env i)) (hnrm : ∀ i, Nrm (anno i))
include hctx hnrm

/-- `is_true(e == 0)`: every value of `e` is 0 (the answer `true` of the abstract equality needs no alignment) -/
theorem isZero_sound (e : BV) (hok : ExprOK anno env e) (h : isZero anno e = .ok true) (v : Nat)
    (hv : evalBV env e = some v) : v = 0 := by
  unfold isZero truth at h
  obtain ⟨b, hb, h⟩ := bind_ok h
  have hbt : b = .t := by have := pure_ok h; simpa using this.symm
  subst hbt
  obtain ⟨p, hp, hb⟩ := bind_ok (liftR_ok hb)
  have hp2 := pure_ok hb
  simp only [convB, convBV] at hp
  obtain ⟨p1, h1, hp⟩ := bind_ok hp
  obtain ⟨q, hq, hp⟩ := bind_ok hp
  obtain ⟨r, hr, hp⟩ := bind_ok hp
  cases pure_ok hp
  cases pure_ok hq
  simp only at hp2
  subst hp2
  obtain ⟨⟨⟨hw, hbits⟩, hm⟩, _⟩ := conv_good anno env hctx hnrm e hok [] p1.2 p1.1 h1
  have hwpos : 0 < wd e := by have := hw.1; rwa [hbits] at this
  have := eqNamed_has env p1.1 ⟨SI.new (wd e) 0 ((0 : Nat) : Int) ((0 : Nat) : Int), some (.node (.const 0 (wd e)))⟩ .t v 0 hw
    (new_WF _ _ _ _ hwpos (fun _ => rfl)) (hm v hv) ⟨const_mem 0 (wd e) (Nat.two_pow_pos _), by simp [NameOK, evalBV]⟩
    (fun hc => by cases hc) hr
  simpa [BoolRes.has, BoolRes.hasTrue, BoolRes.hasFalse] using this

theorem isZero_fold (e : BV) (hok : ExprOK anno env e) (h : isZero anno (foldBV e) = .ok true) (v : Nat)
    (hv : evalBV env e = some v) : v = 0 :=
  have f := foldBV_ok anno env hctx e hok
  isZero_sound anno env hctx hnrm _ f.1 h v (f.2.1.trans hv)

end

theorem eval_single (s : SI) (v : Int) (hs : s.WF) (h : s.eval 2 false = .ok [v]) (x : Nat) (hx : s.mem x) : (x : Int) = v := by
  have he := eval_exact s 2 [v] hs hx.1 h
  have hlen : s.members.length ≤ 2 := by
    have := congrArg List.length he
    simp only [List.length_cons, List.length_nil, List.length_map, List.length_take] at this
    omega
  exact List.mem_singleton.1 (mem_map_take s hs _ 2 [v] he hlen x hx)

end Claripy.VSA.Bal

import ClaripyProofs.Lemmas.VSA.OrSound
import ClaripyProofs.Lemmas.VSA.Psplit
/-! `bitwise_and` (sign-bit shortcut, then De Morgan through `bitwise_or`) and `bitwise_xor`
(`(x & ~y) | (~x & y)` through `bitwise_or`/`bitwise_not`) are sound and closed. -/
namespace Claripy.VSA

theorem compl_testBit (w z i : Nat) (hz : z < 2 ^ w) : (2 ^ w - 1 - z).testBit i = (decide (i < w) && !z.testBit i) := by
  have : 2 ^ w - 1 - z = 2 ^ w - (z + 1) := by omega
  rw [this]
  exact Nat.testBit_two_pow_sub_succ hz i

theorem testBit_high (w z i : Nat) (hz : z < 2 ^ w) (hi : w ≤ i) : z.testBit i = false :=
  Nat.testBit_lt_two_pow (Nat.lt_of_lt_of_le hz (Nat.pow_le_pow_right (by omega) hi))

theorem compl_lt (w z : Nat) : 2 ^ w - 1 - z < 2 ^ w := by
  have := Nat.two_pow_pos w
  omega

/-- De Morgan: `x & y = ~(~x | ~y)` -/
theorem and_demorgan (w x y : Nat) (hx : x < 2 ^ w) (hy : y < 2 ^ w) :
    x &&& y = 2 ^ w - 1 - ((2 ^ w - 1 - x) ||| (2 ^ w - 1 - y)) := by
  apply Nat.eq_of_testBit_eq
  intro i
  rw [compl_testBit w _ i (Nat.or_lt_two_pow (compl_lt w x) (compl_lt w y)), Nat.testBit_or, Nat.testBit_and,
    compl_testBit w x i hx, compl_testBit w y i hy]
  by_cases hi : i < w
  · simp [hi]
  · simp [hi, testBit_high w x i hx (by omega)]

/-- `x ^ y = ~(~x | y) | ~(x | ~y)` -/
theorem xor_via_or (w x y : Nat) (hx : x < 2 ^ w) (hy : y < 2 ^ w) :
    x ^^^ y = (2 ^ w - 1 - ((2 ^ w - 1 - x) ||| y)) ||| (2 ^ w - 1 - (x ||| (2 ^ w - 1 - y))) := by
  apply Nat.eq_of_testBit_eq
  intro i
  rw [Nat.testBit_or, compl_testBit w _ i (Nat.or_lt_two_pow (compl_lt w x) hy),
    compl_testBit w _ i (Nat.or_lt_two_pow hx (compl_lt w y)), Nat.testBit_or, Nat.testBit_or, Nat.testBit_xor,
    compl_testBit w x i hx, compl_testBit w y i hy]
  by_cases hi : i < w
  · simp [hi]
    cases x.testBit i <;> cases y.testBit i <;> rfl
  · simp [hi, testBit_high w x i hx (by omega), testBit_high w y i hy (by omega)]

theorem and_signbit (w y : Nat) (hw : 0 < w) (hy : y < 2 ^ w) :
    2 ^ (w - 1) &&& y = if 2 ^ (w - 1) ≤ y then 2 ^ (w - 1) else 0 := by
  have hm2 := two_pow_half w hw
  have hH := Nat.two_pow_pos (w - 1)
  apply Nat.eq_of_testBit_eq
  intro i
  rw [Nat.testBit_and, Nat.testBit_two_pow]
  by_cases hi : w - 1 = i
  · subst hi
    split_ifs with h
    · have : y.testBit (w - 1) = true := by
        rw [testBit_iff]
        have : y / 2 ^ (w - 1) = 1 := by
          apply Nat.div_eq_of_lt_le <;> omega
        rw [this]
      simp [this]
    · simp [Nat.testBit_lt_two_pow (show y < 2 ^ (w - 1) by omega)]
  · split_ifs <;> simp [hi]

/-- the local function `try1` of the model's `SI.bitwiseAnd`: one round of the loop `for a, b in [[s, t], [t, s]]` of
`bitwise_and` (`tb` = width of the second operand of `bitwise_and`) -/
def andTry (tb : Nat) (a b : SI) : R (Option SI) :=
  if a.isInteger && numberOfOnes a.lb == 1 && a.lb == 2 ^ (tb - 1) then do
    let stride : Nat := 2 ^ (a.bits - 1)
    let ps ← b.psplit
    let signs := ps.map fun p => getMsb p.lb p.bits
    if signs.all (· == 1) then return some (SI.new b.bits 0 stride stride)
    else if signs.all (· == 0) then return some (SI.new b.bits 0 0 0)
    else return some (SI.new b.bits stride 0 stride)
  else return none

theorem bitwiseAnd_eq (s t : SI) :
    s.bitwiseAnd t = (andTry t.bits s t >>= fun o1 =>
      match o1 with
      | some r => pure r
      | none => andTry t.bits t s >>= fun o2 =>
        match o2 with
        | some r => pure r
        | none => s.bitwiseNot >>= fun ns => t.bitwiseNot >>= fun nt => ns.bitwiseOr nt >>= fun o =>
          o.bitwiseNot >>= fun r => pure r.renorm) := rfl

theorem getMsb_eq (v w : Nat) (hw : 0 < w) (hv : v < 2 ^ w) : getMsb (v : Int) w = if v < 2 ^ (w - 1) then 0 else 1 := by
  unfold getMsb
  by_cases h : isMsbZero (v : Int) w = true
  · rw [if_pos h, if_pos ((isMsbZero_iff v w hw hv).1 h)]
  · rw [if_neg h, if_neg (fun hh => h ((isMsbZero_iff v w hw hv).2 hh))]

/-- the sign-bit shortcut of `bitwise_and` returns `{2^(w-1)}`, `{0}` or `2^(w-1)[0, 2^(w-1)]`: good and always aligned;
sound when the other operand is not empty and in constructor-normal form (what `_psplit` needs) -/
theorem andTry_good (w : Nat) (a b r : SI) (ha : WFw w a) (hb : WFw w b) (h : andTry w a b = .ok (some r)) :
    Good w True r ∧ (b.bottom = false → Nrm b → ∀ x y, a.mem x → b.mem y → r.mem (x &&& y) ∧ r.mem (y &&& x)) := by
  have hw0 := ha.pos
  have hm2 := two_pow_half w hw0
  have hH := Nat.two_pow_pos (w - 1)
  unfold andTry at h
  split at h
  · rename_i hc
    have hc' : (a.lb = a.ub ∧ numberOfOnes a.lb = 1) ∧ a.lb = 2 ^ (w - 1) := by simpa [SI.isInteger] using hc
    obtain ⟨ps, hps, h⟩ := bind_ok h
    simp only [pure, Except.pure, ha.2, hb.2] at h
    -- what `_psplit` gives, for the soundness parts: the sign bit of a member is that of the lower bound of its piece
    have hsign : b.bottom = false → Nrm b → ∀ y, b.mem y →
        ∃ q, q ∈ ps ∧ (getMsb (q.lb : Int) q.bits = 1 ↔ 2 ^ (w - 1) ≤ y) := by
      intro hbb nb y hy
      obtain ⟨ps', hps', hprop, hcov⟩ := psplit_spec b hb.1 hbb nb
      cases hps.symm.trans hps'
      obtain ⟨q, hq, hqy⟩ := hcov y hy
      obtain ⟨qw, _, qle, qh, _⟩ := hprop q hq
      rw [hb.2] at qw qh
      obtain ⟨hy1, hy2, _⟩ := mem_nowrap w q qw qle y hqy
      refine ⟨q, hq, ?_⟩
      rw [qw.2, getMsb_eq _ _ hw0 qw.lb_lt]
      by_cases hlt : q.lb < 2 ^ (w - 1)
      · rw [if_pos hlt]
        exact ⟨fun h0 => absurd h0 (by decide), fun hge => by omega⟩
      · rw [if_neg hlt]
        exact ⟨fun _ => by omega, fun _ => rfl⟩
    -- the value of `x & y` for the only member `x` of `a`
    have hval : ∀ x y, a.mem x → b.mem y → x &&& y = (if 2 ^ (w - 1) ≤ y then 2 ^ (w - 1) else 0) ∧
        y &&& x = (if 2 ^ (w - 1) ≤ y then 2 ^ (w - 1) else 0) := by
      intro x y hx hy
      have ex := mem_integer a x ha.1 hc'.1.1 hx
      have hyl : y < 2 ^ w := by rw [← hb.2]; exact hy.2.1
      rw [ex, hc'.2, Nat.and_comm y]
      exact ⟨and_signbit w y hw0 hyl, and_signbit w y hw0 hyl⟩
    have hHmem : ∀ st, (SI.new w st 0 ((2 ^ (w - 1) : Nat) : Int)).mem 0 ∧ (st = 2 ^ (w - 1) →
        (SI.new w st 0 ((2 ^ (w - 1) : Nat) : Int)).mem (2 ^ (w - 1))) := by
      intro st
      exact ⟨mem_new_lin w st 0 _ 0 (by omega) (Nat.le_refl _) (Nat.zero_le _) (Nat.dvd_zero _),
        fun hst => mem_new_lin w st 0 _ _ (by omega) (Nat.zero_le _) (Nat.le_refl _) (by rw [hst]; exact Nat.dvd_refl _)⟩
    split at h
    · -- every piece starts in the upper half: every member has the sign bit
      rename_i hall
      have hr : r = SI.new w 0 ((2 ^ (w - 1) : Nat) : Int) ((2 ^ (w - 1) : Nat) : Int) := by cases h; rfl
      subst hr
      refine ⟨good_const w True _ hw0, ?_⟩
      intro hbb nb x y hx hy
      obtain ⟨q, hq, hiff⟩ := hsign hbb nb y hy
      have hq1 : getMsb (q.lb : Int) q.bits = 1 := by
        simpa using List.all_eq_true.1 hall _ (List.mem_map.2 ⟨q, hq, rfl⟩)
      obtain ⟨e1, e2⟩ := hval x y hx hy
      rw [e1, e2, if_pos (hiff.1 hq1)]
      exact ⟨const_mem _ _ (by omega), const_mem _ _ (by omega)⟩
    · split at h
      · rename_i _ hall
        have hr : r = SI.new w 0 0 0 := by cases h; rfl
        subst hr
        refine ⟨good_const w True _ hw0, ?_⟩
        intro hbb nb x y hx hy
        obtain ⟨q, hq, hiff⟩ := hsign hbb nb y hy
        have hq0 : getMsb (q.lb : Int) q.bits = 0 := by
          simpa using List.all_eq_true.1 hall _ (List.mem_map.2 ⟨q, hq, rfl⟩)
        obtain ⟨e1, e2⟩ := hval x y hx hy
        rw [e1, e2, if_neg (fun hge => by rw [hiff.2 hge] at hq0; cases hq0)]
        exact ⟨const_mem 0 w (by omega), const_mem 0 w (by omega)⟩
      · have hr : r = SI.new w (2 ^ (w - 1)) 0 ((2 ^ (w - 1) : Nat) : Int) := by cases h; rfl
        subst hr
        refine ⟨good_new _ _ _ _ True hw0 (by intro hz; omega)
          (fun _ => by rw [imod_of_lt _ _ (by omega)]; exact (hHmem _).2 rfl), ?_⟩
        intro _ _ x y hx hy
        obtain ⟨e1, e2⟩ := hval x y hx hy
        rw [e1, e2]
        split_ifs
        · exact ⟨(hHmem _).2 rfl, (hHmem _).2 rfl⟩
        · exact ⟨(hHmem _).1, (hHmem _).1⟩
  · cases pure_ok h

theorem and_good (s t r : SI) (hs : s.WF) (ht : t.WF) (hbits : s.bits = t.bits) (hsb : s.bottom = false)
    (htb : t.bottom = false) (h : s.bitwiseAnd t = .ok r) :
    Good s.bits True r ∧ (Nrm s → Nrm t → ∀ x y, s.mem x → t.mem y → r.mem (Conc.and s.bits x y)) := by
  rw [bitwiseAnd_eq] at h
  obtain ⟨o1, h1, h⟩ := bind_ok h
  cases o1 with
  | some r1 =>
    cases pure_ok h
    obtain ⟨g1, g2⟩ := andTry_good t.bits s t r ⟨hs, hbits⟩ ⟨ht, rfl⟩ h1
    rw [hbits]
    exact ⟨g1, fun _ nt x y hx hy => (g2 htb nt x y hx hy).1⟩
  | none =>
    obtain ⟨o2, h2, h⟩ := bind_ok h
    cases o2 with
    | some r2 =>
      cases pure_ok h
      obtain ⟨g1, g2⟩ := andTry_good t.bits t s r ⟨ht, rfl⟩ ⟨hs, hbits⟩ h2
      rw [hbits]
      exact ⟨g1, fun ns _ x y hx hy => (g2 hsb ns y x hy hx).2⟩
    | none =>
      obtain ⟨cs, hcs, h⟩ := bind_ok h
      obtain ⟨ct, hct, h⟩ := bind_ok h
      obtain ⟨o, ho, h⟩ := bind_ok h
      obtain ⟨q, hq, h⟩ := bind_ok h
      cases pure_ok h
      -- `x & y = ~(~x | ~y)`, each step with what the next needs: closed, not empty, sound
      obtain ⟨ws, ms⟩ := not_sound s cs hs hsb hcs
      obtain ⟨wt, mt⟩ := not_sound t ct ht htb hct
      have bs := (ms _ (mem_lb s hs hsb)).1
      have bt := (mt _ (mem_lb t ht htb)).1
      obtain ⟨wo, mo⟩ := or_sound cs ct o ws.1 wt.1 (by rw [ws.2, wt.2]; exact hbits) bs bt ho
      have bo := (mo _ _ (ms _ (mem_lb s hs hsb)) (mt _ (mem_lb t ht htb))).1
      obtain ⟨gq, _⟩ := not_good o q wo.1 bo hq
      obtain ⟨_, mq⟩ := not_sound o q wo.1 bo hq
      rw [wo.2, ws.2] at gq mq
      refine ⟨gq.renorm, fun _ _ x y hx hy => ?_⟩
      have hyl : y < 2 ^ s.bits := hbits ▸ hy.2.1
      rw [gq.nrm]
      show q.mem (x &&& y)
      rw [and_demorgan s.bits x y hx.2.1 hyl]
      exact mq _ (mo _ _ (ms x hx) (hbits ▸ mt y hy))

theorem and_sound (s t r : SI) (hs : s.WF) (ht : t.WF) (hbits : s.bits = t.bits) (hsb : s.bottom = false)
    (htb : t.bottom = false) (ns : Nrm s) (nt : Nrm t) (h : s.bitwiseAnd t = .ok r) :
    (WFw s.bits r ∧ Nrm r) ∧ ∀ x y, s.mem x → t.mem y → r.mem (x &&& y) :=
  have g := and_good s t r hs ht hbits hsb htb h
  ⟨⟨g.1.wf, g.1.nrm⟩, g.2 ns nt⟩

theorem and_aligned (s t r : SI) (hs : s.WF) (ht : t.WF) (hbits : s.bits = t.bits) (hsb : s.bottom = false)
    (htb : t.bottom = false) (h : s.bitwiseAnd t = .ok r) : r.Aligned :=
  (and_good s t r hs ht hbits hsb htb h).1.aligned trivial

/-- always aligned: an `or` of two complements -/
theorem xor_good (s t r : SI) (hs : s.WF) (ht : t.WF) (hbits : s.bits = t.bits) (hsb : s.bottom = false)
    (htb : t.bottom = false) (h : s.bitwiseXor t = .ok r) :
    Good s.bits True r ∧ ∀ x y, s.mem x → t.mem y → r.mem (Conc.xor s.bits x y) := by
  unfold SI.bitwiseXor at h
  obtain ⟨cs, hcs, h⟩ := bind_ok h
  obtain ⟨ct, hct, h⟩ := bind_ok h
  obtain ⟨o1, ho1, h⟩ := bind_ok h
  obtain ⟨l, hl, h⟩ := bind_ok h
  obtain ⟨o2, ho2, h⟩ := bind_ok h
  obtain ⟨q, hq, h⟩ := bind_ok h
  obtain ⟨o3, ho3, h⟩ := bind_ok h
  cases pure_ok h
  have ls := mem_lb s hs hsb
  have lt := mem_lb t ht htb
  obtain ⟨ws, ms⟩ := not_sound s cs hs hsb hcs
  obtain ⟨wt, mt⟩ := not_sound t ct ht htb hct
  rw [← hbits] at wt mt
  obtain ⟨w1, m1⟩ := or_sound cs t o1 ws.1 ht (by rw [ws.2]; exact hbits) (ms _ ls).1 htb ho1
  rw [ws.2] at w1
  have b1 := (m1 _ _ (ms _ ls) lt).1
  obtain ⟨gl, _⟩ := not_good o1 l w1.1 b1 hl
  obtain ⟨_, ml⟩ := not_sound o1 l w1.1 b1 hl
  rw [w1.2] at gl ml
  obtain ⟨w2, m2⟩ := or_sound s ct o2 hs wt.1 wt.2.symm hsb (mt _ lt).1 ho2
  have b2 := (m2 _ _ ls (mt _ lt)).1
  obtain ⟨gq, _⟩ := not_good o2 q w2.1 b2 hq
  obtain ⟨_, mq⟩ := not_sound o2 q w2.1 b2 hq
  rw [w2.2] at gq mq
  have bl := (ml _ (m1 _ _ (ms _ ls) lt)).1
  have bq := (mq _ (m2 _ _ ls (mt _ lt))).1
  obtain ⟨g3, m3⟩ := or_good l q o3 gl.wf.1 gq.wf.1 (by rw [gl.wf.2, gq.wf.2]) bl bq ho3
  rw [gl.wf.2] at g3
  refine ⟨(g3.mono (fun _ => ⟨gl.aligned trivial, gq.aligned trivial⟩)).renorm, fun x y hx hy => ?_⟩
  have hyl : y < 2 ^ s.bits := hbits ▸ hy.2.1
  rw [g3.nrm]
  show o3.mem (x ^^^ y)
  rw [xor_via_or s.bits x y hx.2.1 hyl]
  exact m3 _ _ (ml _ (m1 _ _ (ms x hx) hy)) (mq _ (m2 _ _ hx (mt y hy)))

theorem xor_sound (s t r : SI) (hs : s.WF) (ht : t.WF) (hbits : s.bits = t.bits) (hsb : s.bottom = false)
    (htb : t.bottom = false) (h : s.bitwiseXor t = .ok r) :
    (WFw s.bits r ∧ Nrm r) ∧ ∀ x y, s.mem x → t.mem y → r.mem (x ^^^ y) :=
  have g := xor_good s t r hs ht hbits hsb htb h
  ⟨⟨g.1.wf, g.1.nrm⟩, g.2⟩

theorem xor_aligned (s t r : SI) (hs : s.WF) (ht : t.WF) (hbits : s.bits = t.bits) (hsb : s.bottom = false)
    (htb : t.bottom = false) (h : s.bitwiseXor t = .ok r) : r.Aligned :=
  (xor_good s t r hs ht hbits hsb htb h).1.aligned trivial

end Claripy.VSA

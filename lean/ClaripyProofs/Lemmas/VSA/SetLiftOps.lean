import ClaripyProofs.Lemmas.VSA.Lub
import ClaripyProofs.Lemmas.VSA.Lift
import ClaripyProofs.Lemmas.VSA.ModSound
import ClaripyProofs.Lemmas.VSA.SextSound
import ClaripyProofs.Lemmas.VSA.AshrSound
import ClaripyProofs.Lemmas.VSA.ConcatSound
import Claripy.VSA.SetOps
/-! The lifted operations of `DiscreteStridedIntervalSet` as instances of the lifting theorems of `Lift` (`lift2_spec`,
`lift1_spec`, `finish2_spec`) with the interval theorems of C21/C22, for every iteration order of the Python sets involved.  The
side condition `C` carries "divisor ≠ 0"; `Q1`/`Q2` carry what the interval theorem asks of its operands (well formed, width,
non-empty, constructor-normal, aligned); `P` is what the join of `collapse` keeps (`WFw w` with `joinOK w`; `dsis_add` is stated
for any `P`). -/
namespace Claripy.VSA

/- the operand classes of the lifted operations: well formed, of width `w` and non-empty (`NE`); also constructor-normal (`NEn`);
also aligned (`NEa`) -/
structure NE (w : Nat) (s : SI) : Prop where
  wf : s.WF
  bits : s.bits = w
  nb : s.bottom = false

def NEn (w : Nat) (s : SI) : Prop := NE w s ∧ Nrm s
def NEa (w : Nat) (s : SI) : Prop := NE w s ∧ Nrm s ∧ s.Aligned

theorem dsis_add (P : SI → Prop) (hJ : JoinOK P) (w : Nat) (a : DSIS) (bs : List SI) (order : List Nat) (v : Val)
    (ha : ∀ s, s ∈ a.sis → WFw w s) (hb : ∀ t, t ∈ bs → WFw w t) (hPr : ∀ s t, s ∈ a.sis → t ∈ bs → P (s.add t))
    (h : a.lift2 (fun s t => pure (s.add t)) bs order = .ok v) (x y : Nat) (hx : a.mem x) (hy : memL bs y) :
    v.mem ((x + y) % 2 ^ w) := by
  refine lift2_total P hJ _ (fun x y => (x + y) % 2 ^ w) (· ∈ a.sis) (· ∈ bs) a bs order v
    (fun s t r hs ht hr => ?_) (fun _ hs => hs) (fun _ ht => ht) h x y hx hy
  cases pure_ok hr
  exact ⟨hPr s t hs ht, fun x y hx hy =>
    (ha s hs).2 ▸ add_sound s t x y ((ha s hs).2.trans (hb t ht).2.symm) (ha s hs).1 (hb t ht).1 hx hy⟩

theorem dsis_sub (w : Nat) (a : DSIS) (bs : List SI) (order : List Nat) (v : Val)
    (ha : ∀ s, s ∈ a.sis → NE w s) (hb : ∀ t, t ∈ bs → NE w t)
    (h : a.lift2 (fun s t => pure (s.sub t)) bs order = .ok v) (x y : Nat) (hx : a.mem x) (hy : memL bs y) :
    v.mem ((x + 2 ^ w - y) % 2 ^ w) := by
  refine lift2_total (WFw w) (joinOK w) _ (fun x y => (x + 2 ^ w - y) % 2 ^ w) (NE w) (NE w) a bs order v
    (fun s t r hs ht hr => ?_) ha hb h x y hx hy
  cases pure_ok hr
  have hbits := hs.bits.trans ht.bits.symm
  exact hs.bits ▸ ⟨sub_WF s t hs.wf ht.wf hbits, fun x y hx hy => sub_sound s t x y hbits hs.wf ht.wf hx hy⟩

theorem dsis_or (w : Nat) (a : DSIS) (bs : List SI) (order : List Nat) (v : Val)
    (ha : ∀ s, s ∈ a.sis → NE w s) (hb : ∀ t, t ∈ bs → NE w t)
    (h : a.lift2 SI.bitwiseOr bs order = .ok v) (x y : Nat) (hx : a.mem x) (hy : memL bs y) : v.mem (x ||| y) :=
  lift2_total (WFw w) (joinOK w) _ (· ||| ·) (NE w) (NE w) a bs order v
    (fun s t r hs ht hr => hs.bits ▸ or_sound s t r hs.wf ht.wf (hs.bits.trans ht.bits.symm) hs.nb ht.nb hr) ha hb h x y hx hy

theorem dsis_xor (w : Nat) (a : DSIS) (bs : List SI) (order : List Nat) (v : Val)
    (ha : ∀ s, s ∈ a.sis → NE w s) (hb : ∀ t, t ∈ bs → NE w t)
    (h : a.lift2 SI.bitwiseXor bs order = .ok v) (x y : Nat) (hx : a.mem x) (hy : memL bs y) : v.mem (x ^^^ y) :=
  lift2_total (WFw w) (joinOK w) _ (· ^^^ ·) (NE w) (NE w) a bs order v
    (fun s t r hs ht hr =>
      have k := xor_sound s t r hs.wf ht.wf (hs.bits.trans ht.bits.symm) hs.nb ht.nb hr
      hs.bits ▸ ⟨k.1.1, k.2⟩) ha hb h x y hx hy

theorem dsis_and (w : Nat) (a : DSIS) (bs : List SI) (order : List Nat) (v : Val)
    (ha : ∀ s, s ∈ a.sis → NEn w s) (hb : ∀ t, t ∈ bs → NEn w t)
    (h : a.lift2 SI.bitwiseAnd bs order = .ok v) (x y : Nat) (hx : a.mem x) (hy : memL bs y) : v.mem (x &&& y) :=
  lift2_total (WFw w) (joinOK w) _ (· &&& ·) (NEn w) (NEn w) a bs order v
    (fun s t r hs ht hr =>
      have k := and_sound s t r hs.1.wf ht.1.wf (hs.1.bits.trans ht.1.bits.symm) hs.1.nb ht.1.nb hs.2 ht.2 hr
      hs.1.bits ▸ ⟨k.1.1, k.2⟩) ha hb h x y hx hy

theorem dsis_mul (w : Nat) (a : DSIS) (bs : List SI) (order : List Nat) (v : Val)
    (ha : ∀ s, s ∈ a.sis → NEa w s) (hb : ∀ t, t ∈ bs → NEa w t)
    (h : a.lift2 SI.mul bs order = .ok v) (x y : Nat) (hx : a.mem x) (hy : memL bs y) : v.mem ((x * y) % 2 ^ w) :=
  lift2_total (WFw w) (joinOK w) _ (fun x y => (x * y) % 2 ^ w) (NEa w) (NEa w) a bs order v
    (fun s t r hs ht hr => mul_sound w s t r ⟨hs.1.wf, hs.1.bits⟩ ⟨ht.1.wf, ht.1.bits⟩ hs.1.nb ht.1.nb hs.2.2 ht.2.2 hs.2.1 ht.2.1 hr)
    ha hb h x y hx hy

theorem dsis_mod (w : Nat) (a : DSIS) (bs : List SI) (order : List Nat) (v : Val)
    (ha : ∀ s, s ∈ a.sis → NE w s) (hb : ∀ t, t ∈ bs → NE w t)
    (h : a.lift2 SI.mod bs order = .ok v) (x y : Nat) (hx : a.mem x) (hy : memL bs y) (hy0 : y ≠ 0) : v.mem (x % y) :=
  lift2_spec (WFw w) (joinOK w) _ (fun x y => x % y) (fun _ y => y ≠ 0) (NE w) (NE w) a bs order v
    (fun s t r hs ht hr =>
      have k := mod_sound_full w s t r ⟨hs.wf, hs.bits⟩ ⟨ht.wf, ht.bits⟩ hs.nb ht.nb hr
      ⟨k.1.1, k.2⟩) ha hb h x y hx hy hy0

theorem dsis_shl (w : Nat) (a : DSIS) (bs : List SI) (order : List Nat) (v : Val)
    (ha : ∀ s, s ∈ a.sis → NE w s) (hb : ∀ t, t ∈ bs → t.WF)
    (h : a.lift2 SI.lshift bs order = .ok v) (x y : Nat) (hx : a.mem x) (hy : memL bs y) : v.mem (Conc.shl w x y) :=
  lift2_total (WFw w) (joinOK w) _ (Conc.shl w) (NE w) SI.WF a bs order v
    (fun s t r hs ht hr => hs.bits ▸ shl_sound s t r hs.wf hs.nb ht hr) ha hb h x y hx hy

theorem dsis_lshr (w : Nat) (a : DSIS) (bs : List SI) (order : List Nat) (v : Val)
    (ha : ∀ s, s ∈ a.sis → NE w s) (hb : ∀ t, t ∈ bs → t.WF)
    (h : a.lift2 SI.rshiftLogical bs order = .ok v) (x y : Nat) (hx : a.mem x) (hy : memL bs y) : v.mem (Conc.lshr w x y) :=
  lift2_total (WFw w) (joinOK w) _ (Conc.lshr w) (NE w) SI.WF a bs order v
    (fun s t r hs ht hr => hs.bits ▸ lshr_sound s t r hs.wf hs.nb ht hr) ha hb h x y hx hy

theorem dsis_ashr (w : Nat) (a : DSIS) (bs : List SI) (order : List Nat) (v : Val)
    (ha : ∀ s, s ∈ a.sis → NEn w s) (hb : ∀ t, t ∈ bs → t.WF)
    (h : a.lift2 SI.rshiftArith bs order = .ok v) (x y : Nat) (hx : a.mem x) (hy : memL bs y) : v.mem (Conc.ashr w x y) :=
  lift2_total (WFw w) (joinOK w) _ (Conc.ashr w) (NEn w) SI.WF a bs order v
    (fun s t r hs ht hr => hs.1.bits ▸ ashr_sound s t r hs.1.wf hs.1.nb hs.2 ht hr) ha hb h x y hx hy

theorem dsis_concat (w wb : Nat) (a : DSIS) (bs : List SI) (order : List Nat) (v : Val)
    (ha : ∀ s, s ∈ a.sis → NE w s) (hb : ∀ t, t ∈ bs → NE wb t)
    (h : a.lift2 SI.concat bs order = .ok v) (x y : Nat) (hx : a.mem x) (hy : memL bs y) : v.mem (x <<< wb ||| y) :=
  lift2_total (WFw (w + wb)) (joinOK (w + wb)) _ (fun x y => x <<< wb ||| y) (NE w) (NE wb) a bs order v
    (fun s t r hs ht hr =>
      have k := concat_sound s t r hs.wf ht.wf hs.nb ht.nb hr
      hs.bits ▸ ht.bits ▸ ⟨k.1.1, k.2⟩) ha hb h x y hx hy

theorem applyEach2o_mem (op : SI → SI → List Nat → R SI) : ∀ (ps : List (SI × SI)) (os : List (List Nat)) (L : List SI),
    applyEach2o op ps os = .ok L →
    (∀ p, p ∈ ps → ∃ o r, r ∈ L ∧ op p.1 p.2 o = .ok r) ∧ (∀ r, r ∈ L → ∃ p o, p ∈ ps ∧ op p.1 p.2 o = .ok r)
  | [], _, L, h => by
    have := pure_ok h
    subst this
    exact ⟨fun p hp => (by cases hp), fun r hr => (by cases hr)⟩
  | p :: ps, [], L, h => by unfold applyEach2o at h; cases h
  | p :: ps, o :: os, L, h => by
    obtain ⟨r, hr, h⟩ := bind_ok h
    obtain ⟨rs, hrs, h⟩ := bind_ok h
    have := pure_ok h
    subst this
    obtain ⟨g1, g2⟩ := applyEach2o_mem op ps os rs hrs
    constructor
    · intro q hq
      rcases List.mem_cons.1 hq with he | he
      · subst he; exact ⟨o, r, List.mem_cons_self, hr⟩
      · obtain ⟨o', r', hr', ho'⟩ := g1 q he
        exact ⟨o', r', List.mem_cons_of_mem _ hr', ho'⟩
    · intro r' hr'
      rcases List.mem_cons.1 hr' with he | he
      · subst he; exact ⟨p, o, List.mem_cons_self, hr⟩
      · obtain ⟨q, o', hq, ho'⟩ := g2 r' he
        exact ⟨q, o', List.mem_cons_of_mem _ hq, ho'⟩

theorem dsis_udiv (w : Nat) (a : DSIS) (bs : List SI) (orders : List (List Nat)) (order : List Nat) (v : Val)
    (ha : ∀ s, s ∈ a.sis → NE w s) (hb : ∀ t, t ∈ bs → NE w t)
    (h : a.udivSet bs orders order = .ok v) (x y : Nat) (hx : a.mem x) (hy : memL bs y) (hy0 : y ≠ 0) : v.mem (x / y) := by
  obtain ⟨L, hL, h⟩ := bind_ok h
  obtain ⟨g1, g2⟩ := applyEach2o_mem SI.udiv _ orders L hL
  refine finish2_spec (WFw w) (joinOK w) (fun s t r => ∃ o, s.udiv t o = .ok r) (· / ·) (fun _ y => y ≠ 0) (NE w) (NE w)
    a.sis bs L a.bits order v ?_ ha hb (fun s t hs ht => ?_) (fun r hr => ?_) h x y hx hy hy0
  · rintro s t r hs ht ⟨o, hor⟩
    exact hs.bits ▸ udiv_sound s t r o hs.wf ht.wf (hs.bits.trans ht.bits.symm) hs.nb ht.nb hor
  · obtain ⟨o, r, hr, hor⟩ := g1 (s, t) ((mem_pairs _ _ _).2 ⟨hs, ht⟩)
    exact ⟨r, hr, o, hor⟩
  · obtain ⟨p, o, hp, ho⟩ := g2 r hr
    exact ⟨p.1, p.2, ((mem_pairs _ _ p).1 hp).1, ((mem_pairs _ _ p).1 hp).2, o, ho⟩

theorem dsis_neg (w : Nat) (a : DSIS) (order : List Nat) (v : Val) (ha : ∀ s, s ∈ a.sis → NE w s)
    (h : a.lift1 (fun s => pure s.neg) order = .ok v) (x : Nat) (hx : a.mem x) : v.mem ((2 ^ w - x) % 2 ^ w) := by
  refine lift1_spec (WFw w) (joinOK w) _ (fun x => (2 ^ w - x) % 2 ^ w) (NE w) a order v (fun s r hs hr => ?_) ha h x hx
  cases pure_ok hr
  exact hs.bits ▸ ⟨neg_WF s hs.wf, fun x hx => neg_sound s x hs.wf hx⟩

theorem dsis_not (w : Nat) (a : DSIS) (order : List Nat) (v : Val) (ha : ∀ s, s ∈ a.sis → NE w s)
    (h : a.lift1 SI.bitwiseNot order = .ok v) (x : Nat) (hx : a.mem x) : v.mem (2 ^ w - 1 - x) :=
  lift1_spec (WFw w) (joinOK w) _ (fun x => 2 ^ w - 1 - x) (NE w) a order v
    (fun s r hs hr => hs.bits ▸ not_sound s r hs.wf hs.nb hr) ha h x hx

theorem dsis_zext (w nl : Nat) (hnl : w ≤ nl) (a : DSIS) (order : List Nat) (v : Val) (ha : ∀ s, s ∈ a.sis → NE w s)
    (h : a.lift1 (fun s => s.zeroExtend nl) order = .ok v) (x : Nat) (hx : a.mem x) : v.mem x :=
  lift1_spec (WFw nl) (joinOK nl) _ (fun x => x) (NE w) a order v
    (fun s r hs hr => zext_sound s r nl hs.wf hs.nb (hs.bits.symm ▸ hnl) hr) ha h x hx

theorem dsis_sext (w nl : Nat) (hnl : w ≤ nl) (a : DSIS) (order : List Nat) (v : Val) (ha : ∀ s, s ∈ a.sis → NEn w s)
    (h : a.lift1 (fun s => s.signExtend nl) order = .ok v) (x : Nat) (hx : a.mem x) : v.mem (Conc.sext w nl x) :=
  lift1_spec (WFw nl) (joinOK nl) _ (Conc.sext w nl) (NEn w) a order v
    (fun s r hs hr => hs.1.bits ▸ sext_sound s r nl hs.1.wf hs.1.nb hs.2 (hs.1.bits.symm ▸ hnl) hr) ha h x hx

/-- `extract` does not `normalize` (more than one distinct result is returned as a bare set): not an instance of `lift1_spec` -/
theorem dsis_extract (w hi lo : Nat) (hlo : lo ≤ hi) (hhi : hi < w) (a : DSIS) (order : List Nat) (v : Val)
    (ha : ∀ s, s ∈ a.sis → NE w s) (h : a.extract hi lo order = .ok v) (x : Nat) (hx : a.mem x) :
    v.mem (Conc.extract hi lo x) := by
  obtain ⟨L, l, hL, hl, hW⟩ := extract_wrap a hi lo order v h
  have hspec : ∀ s r, s ∈ a.sis → s.extract hi lo = .ok r → _ := fun s r hs hr =>
    extract_sound s r hi lo (ha s hs).wf (ha s hs).nb hlo (by rw [(ha s hs).bits]; exact hhi) hr
  obtain ⟨s, hs, hsx⟩ := hx
  obtain ⟨r, hrL, hor⟩ := applyEach1_mem _ a.sis L hL s hs
  refine hW.mem (WFw (hi + 1 - lo)) (joinOK _) (fun r' hr' => ?_) _ ⟨r, (hl r).2 hrL, (hspec s r hs hor).2 x hsx⟩
  obtain ⟨s', hs', hsr⟩ := mapM_ok_mem_rev _ _ _ hL r' ((hl r').1 hr')
  exact (hspec s' r' hs' hsr).1

theorem val_collapse_sound (w : Nat) (b : Val) (cb : SI) (h : b.collapse = .ok cb)
    (hb : match b with | .si _ => True | .ds d => ∀ t, t ∈ d.sis → WFw w t) (y : Nat) (hy : b.mem y) : cb.mem y := by
  cases b with
  | si s => have := pure_ok h; subst this; exact hy
  | ds d => exact collapse_sound (WFw w) (joinOK w) d cb hb h y hy

theorem collapse_WFw (w : Nat) (hw : 0 < w) (d : DSIS) (r : SI) (hb : d.bits = w) (hP : ∀ s, s ∈ d.sis → WFw w s)
    (h : d.collapse = .ok r) : WFw w r :=
  collapse_prop (WFw w) d r (by rw [hb]; exact empty_WFw w hw) (fun a b ha hb => (pseudoJoin_ok w a b ha hb true).1) hP h

/-- The invariant carried through `collapse()` is "well formed unless empty": the empty result has width `d.bits`, which nothing
ties to `w`, and the join returns the other operand when one is empty. -/
theorem collapse_keeps (w : Nat) (P : SI → Prop) (hE : ∀ b, P (SI.empty b))
    (hJ : ∀ a b, WFw w a → WFw w b → P a → P b → P (pseudoJoin a b true)) (d : DSIS) (r : SI)
    (hP : ∀ s, s ∈ d.sis → WFw w s ∧ P s) (h : d.collapse = .ok r) : (r.bottom = false → WFw w r) ∧ P r := by
  refine collapse_prop (fun s => (s.bottom = false → WFw w s) ∧ P s) d r
    ⟨fun hb => (by simp [SI.empty] at hb), hE _⟩ ?_ (fun s hs => ⟨fun _ => (hP s hs).1, (hP s hs).2⟩) h
  intro a b ha hb
  by_cases hab : a.bottom = true
  · rw [pseudoJoin_botS a b true hab]; exact hb
  · by_cases hbb : b.bottom = true
    · rw [pseudoJoin_botB a b true (by simpa using hab) hbb]; exact ha
    · have wa := ha.1 (by simpa using hab)
      have wb := hb.1 (by simpa using hbb)
      exact ⟨fun _ => (pseudoJoin_ok w a b wa wb true).1, hJ a b wa wb ha.2 hb.2⟩

theorem collapse_nrm (w : Nat) (d : DSIS) (r : SI) (hP : ∀ s, s ∈ d.sis → WFw w s ∧ Nrm s)
    (h : d.collapse = .ok r) : Nrm r :=
  (collapse_keeps w Nrm (fun _ => by unfold Nrm SI.renorm SI.empty; simp)
    (fun a b wa _ na nb => pseudoJoin_nrm a b true wa.1 na nb) d r hP h).2

theorem collapse_aligned (w : Nat) (d : DSIS) (r : SI) (hP : ∀ s, s ∈ d.sis → WFw w s ∧ s.Aligned)
    (h : d.collapse = .ok r) : r.Aligned :=
  (collapse_keeps w SI.Aligned empty_aligned
    (fun a b wa wb ala alb => pseudoJoin_aligned a b true wa.1 wb.1 (by rw [wa.2, wb.2]) ala alb) d r hP h).2

end Claripy.VSA

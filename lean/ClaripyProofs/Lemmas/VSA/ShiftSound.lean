import ClaripyProofs.Lemmas.VSA.Split
import Claripy.VSA.Conc
/-! Right logical shift and left shift, by concrete amounts (`rshiftLogicalK_good`, `lshiftK_good`: each walked once) and by
interval amounts: the loop over the amounts is the same for every shift (`shiftRange_good`; `lshr_good`, `shl_good` and
`ashr_good` of AshrSound are its instances); soundness and alignment are read off. -/
namespace Claripy.VSA

theorem rshiftStride_ne_zero (st k : Nat) : rshiftStride st k ≠ 0 := by
  unfold rshiftStride
  split
  · have : 1 ≤ Nat.max (st >>> k) 1 := Nat.le_max_right _ _
    omega
  · omega

theorem shr_lt (x k w : Nat) (hx : x < 2 ^ w) : x >>> k < 2 ^ w := by
  rw [Nat.shiftRight_eq_div_pow]
  exact Nat.lt_of_le_of_lt (Nat.div_le_self _ _) hx

/-- shifting a non-wrapping piece right and moving it up by `c`: bounds are monotone, the stride survives when it is a
multiple of `2^k` -/
theorem rshift_piece_mem (w k st c : Nat) (p : SI) (hp : WFw w p) (hle : p.lb ≤ p.ub) (hst : p.stride = 0 ∨ p.stride = st)
    (hfit : p.ub >>> k + c < 2 ^ w) (x : Nat) (hx : p.mem x) :
    (SI.new w (rshiftStride st k) ((p.lb >>> k + c : Nat) : Int) ((p.ub >>> k + c : Nat) : Int)).mem (x >>> k + c) := by
  obtain ⟨hb1, hb2, h2⟩ := mem_nowrap w p hp hle x hx
  simp only [Nat.shiftRight_eq_div_pow] at hfit ⊢
  have hpos : 0 < 2 ^ k := Nat.two_pow_pos k
  have hlo : p.lb / 2 ^ k ≤ x / 2 ^ k := Nat.div_le_div_right hb1
  have hhi : x / 2 ^ k ≤ p.ub / 2 ^ k := Nat.div_le_div_right hb2
  apply mem_new_lin w _ _ _ _ hfit (by omega) (by omega)
  · -- divisibility of the offset
    rw [Nat.add_sub_add_right]
    unfold rshiftStride
    simp only [Nat.shiftRight_eq_div_pow]
    by_cases hdiv : st % 2 ^ k = 0
    · rw [if_pos hdiv]
      rcases hst with h0 | h0
      · -- singleton piece: offset 0
        rw [h0] at h2
        have : x = p.lb := by
          have := Nat.eq_zero_of_zero_dvd h2
          omega
        rw [this, Nat.sub_self]
        exact Nat.dvd_zero _
      · rw [h0] at h2
        obtain ⟨j, hj⟩ := h2
        obtain ⟨t, ht⟩ := Nat.dvd_of_mod_eq_zero hdiv
        have hx' : x = p.lb + j * t * 2 ^ k := by
          have : st * j = j * t * 2 ^ k := by rw [ht, Nat.mul_comm (2 ^ k) t, Nat.mul_comm, ← Nat.mul_assoc]
          omega
        rw [hx', Nat.add_mul_div_right _ _ hpos, ht, Nat.mul_div_cancel_left _ hpos, Nat.add_sub_cancel_left]
        by_cases ht0 : t = 0
        · rw [ht0, Nat.mul_zero]
          exact Nat.dvd_zero _
        · have : Nat.max t 1 = t := Nat.max_eq_left (by omega)
          rw [this]
          exact Nat.dvd_mul_left _ _
    · rw [if_neg hdiv]
      exact Nat.one_dvd _

/-- one piece shifted right (and moved up by `c`): the new upper bound is the image of the old one, so alignment is kept -/
theorem rshift_piece_good (w k st c : Nat) (al : Prop) (p : SI) (hp : Good w al p) (hpb : p.bottom = false)
    (hle : p.lb ≤ p.ub) (hst : p.stride = 0 ∨ p.stride = st) (hfit : p.ub >>> k + c < 2 ^ w) :
    Good w al (SI.new w (rshiftStride st k) ((p.lb >>> k + c : Nat) : Int) ((p.ub >>> k + c : Nat) : Int)) ∧
      ∀ x, p.mem x →
        (SI.new w (rshiftStride st k) ((p.lb >>> k + c : Nat) : Int) ((p.ub >>> k + c : Nat) : Int)).mem (x >>> k + c) := by
  have hm := rshift_piece_mem w k st c p hp.wf hle hst hfit
  refine ⟨good_new _ _ _ _ al hp.pos (fun h => absurd h (rshiftStride_ne_zero st k)) (fun a => ?_), hm⟩
  rw [imod_of_lt _ _ hfit]
  exact hm p.ub (mem_ub p hp.wf.1 hpb (hp.aligned a))

/-- `_rshift_logical(k)` on a piece of `_ssplit`: it does not wrap, so it is its own only piece -/
theorem rshiftLogicalK_piece (fuel k : Nat) (s p r : SI) (hp : Piece s (2 ^ s.bits - 1) p)
    (h : rshiftLogicalK (fuel + 1) p k = .ok r) :
    Good s.bits s.Aligned r ∧ ∀ x, p.mem x → r.mem (x >>> k) := by
  unfold rshiftLogicalK at h
  rw [hp.nb, ssplit_nowrap p (Nat.not_lt.2 hp.le), hp.good.nrm] at h
  cases h
  rw [hp.good.wf.2]
  exact rshift_piece_good s.bits k p.stride 0 _ p hp.good hp.nb hp.le (Or.inr rfl)
    (by rw [Nat.add_zero]; exact shr_lt _ _ _ hp.good.ub_lt)

theorem rshiftLogicalK_good (fuel k : Nat) (s r : SI) (hs : s.WF) (hnb : s.bottom = false)
    (h : rshiftLogicalK (fuel + 2) s k = .ok r) :
    Good s.bits s.Aligned r ∧ ∀ x, s.mem x → r.mem (x >>> k) := by
  obtain ⟨ps, hps, hprop, hcov⟩ := ssplit_pieces s hs hnb
  unfold rshiftLogicalK at h
  rw [hnb] at h
  obtain ⟨ps', hps', h⟩ := bind_ok h
  cases hps.symm.trans hps'
  match ps, hprop, hcov, h with
  | [], _, _, h => cases h
  | [p], hprop, hcov, h =>
    cases h
    have hp := hprop p List.mem_cons_self
    obtain ⟨g1, g2⟩ := rshift_piece_good s.bits k s.stride 0 _ p hp.good hp.nb hp.le hp.stride
      (by rw [Nat.add_zero]; exact shr_lt _ _ _ hp.good.ub_lt)
    refine ⟨g1, fun x hx => ?_⟩
    obtain ⟨p', hp', hpx⟩ := hcov x hx
    cases List.mem_singleton.1 hp'
    exact g2 x hpx
  | [p, q], hprop, hcov, h =>
    obtain ⟨a, ha, h⟩ := bind_ok h
    obtain ⟨b, hb, h⟩ := bind_ok h
    obtain ⟨a1, a2⟩ := rshiftLogicalK_piece fuel k s p a (hprop p List.mem_cons_self) ha
    obtain ⟨b1, b2⟩ := rshiftLogicalK_piece fuel k s q b (hprop q (List.mem_cons_of_mem _ List.mem_cons_self)) hb
    obtain ⟨u1, u2⟩ := union_good a1 b1 h
    refine ⟨u1, fun x hx => ?_⟩
    obtain ⟨p', hp', hpx⟩ := hcov x hx
    rcases List.mem_cons.1 hp' with rfl | he
    · exact u2 _ (Or.inl (a2 x hpx))
    · cases List.mem_singleton.1 he
      exact u2 _ (Or.inr (b2 x hpx))
  | _ :: _ :: _ :: _, _, _, h => cases h

theorem getShiftRange_covers (self amt : SI) (hamt : amt.WF) (y : Nat) (hy : amt.mem y) :
    (getShiftRange self amt).1 ≤ roundTo self.bits y ∧ roundTo self.bits y ≤ (getShiftRange self amt).2 := by
  unfold getShiftRange
  by_cases hint : amt.isInteger = true
  · rw [if_pos hint]
    have hyl := mem_integer amt y hamt ((isInteger_iff amt).1 hint) hy
    subst hyl
    exact ⟨Nat.le_refl _, Nat.le_refl _⟩
  · rw [if_neg hint]
    by_cases hwrap : amt.lb > amt.ub
    · rw [if_pos hwrap]
      refine ⟨Nat.zero_le _, ?_⟩
      unfold roundTo; split_ifs <;> omega
    · rw [if_neg hwrap]
      obtain ⟨h1, h2⟩ := mem_between amt amt.bits ⟨hamt, rfl⟩ (by omega) y hy
      simp only []
      unfold roundTo
      constructor <;> split_ifs <;> omega

theorem shiftRange_good (s amt r : SI) (f : Nat → R SI) (g : Nat → Nat → Nat) (hw : 0 < s.bits)
    (hf : ∀ k, k ≤ s.bits → ∀ si, f k = .ok si → Good s.bits s.Aligned si ∧ ∀ x, s.mem x → si.mem (g x k))
    (h : overRange s (getShiftRange s amt).1 (getShiftRange s amt).2 f = .ok r) :
    Good s.bits s.Aligned r ∧ (amt.WF → ∀ x y, s.mem x → amt.mem y → r.mem (g x (roundTo s.bits y))) := by
  have hrange : (getShiftRange s amt).2 ≤ s.bits := by
    unfold getShiftRange roundTo
    split_ifs <;> simp only [] <;> omega
  obtain ⟨h1, h2⟩ := overRange_good s.bits s.Aligned s rfl hw _ _ f
    (fun k _ hk2 si hk => (hf k (Nat.le_trans hk2 hrange) si hk).1) r h
  refine ⟨h1, fun hamt x y hx hy => ?_⟩
  obtain ⟨hc1, hc2⟩ := getShiftRange_covers s amt hamt y hy
  obtain ⟨si, hsi, hsub⟩ := h2 _ hc1 hc2
  exact hsub _ ((hf _ (Nat.le_trans hc2 hrange) si hsi).2 x hx)

theorem lshr_roundTo (w x y : Nat) (hx : x < 2 ^ w) : Conc.lshr w x y = x >>> roundTo w y := by
  unfold Conc.lshr roundTo
  by_cases h : y < w
  · rw [if_pos h, if_neg (by omega)]
  · have e : (if y > w then w else y) = w := by split_ifs <;> omega
    rw [if_neg h, e, Nat.shiftRight_eq_div_pow, Nat.div_eq_of_lt hx]

theorem lshr_good (s amt r : SI) (hs : s.WF) (hnb : s.bottom = false) (h : s.rshiftLogical amt = .ok r) :
    Good s.bits s.Aligned r ∧ (amt.WF → ∀ x y, s.mem x → amt.mem y → r.mem (Conc.lshr s.bits x y)) := by
  obtain ⟨h1, h2⟩ := shiftRange_good s amt r _ (fun x k => x >>> k) hs.1
    -- the model runs `rshiftLogicalK` with `recFuel = 64 = 62 + 2`
    (fun k _ si hk => rshiftLogicalK_good 62 k s si hs hnb hk) h
  exact ⟨h1, fun hamt x y hx hy => by rw [lshr_roundTo _ _ _ hx.2.1]; exact h2 hamt x y hx hy⟩

theorem lshr_sound (s amt r : SI) (hs : s.WF) (hnb : s.bottom = false) (hamt : amt.WF)
    (h : s.rshiftLogical amt = .ok r) :
    WFw s.bits r ∧ ∀ x y, s.mem x → amt.mem y → r.mem (Conc.lshr s.bits x y) :=
  have g := lshr_good s amt r hs hnb h
  ⟨g.1.wf, g.2 hamt⟩

theorem lshr_aligned (s amt r : SI) (hs : s.WF) (hnb : s.bottom = false) (al : s.Aligned)
    (h : s.rshiftLogical amt = .ok r) : r.Aligned :=
  (lshr_good s amt r hs hnb h).1.aligned al

theorem shl_val (M lb d x P : Nat) (hx : x = (lb + d) % M) : (x * P) % M = (lb * P + d * P) % M := by
  subst hx
  rw [Nat.mod_mul_mod, Nat.add_mul]

theorem shl_roundTo (w x y : Nat) : Conc.shl w x y = (x <<< roundTo w y) % 2 ^ w := by
  unfold Conc.shl roundTo
  by_cases h : y < w
  · rw [if_pos h, if_neg (by omega)]
  · have e : (if y > w then w else y) = w := by split_ifs <;> omega
    rw [if_neg h, e, Nat.shiftLeft_eq, Nat.mul_mod_left]

theorem mem_multiples (w k z : Nat) (hk : k < w) (hzl : z < 2 ^ w) (hzd : 2 ^ k ∣ z) :
    (SI.new w (2 ^ k) 0 ((2 ^ w - 2 ^ k : Nat) : Int)).mem z := by
  have hP := Nat.two_pow_pos k
  have hgap := dvd_gap _ _ _ hzd (Nat.pow_dvd_pow 2 (Nat.le_of_lt hk)) hzl
  exact mem_new_lin w (2 ^ k) 0 _ z (by omega) (Nat.zero_le _) (by omega) hzd

/-- the third branch of `_lshift`: the span does not fit after the shift, `k` is smaller than the width — every multiple
of `2^k` is a member -/
theorem lshiftK_multiples (s : SI) (k : Nat) (hs : s.WF) (hnb : s.bottom = false)
    (h1 : ¬ cd (2 ^ s.bits) s.lb s.ub * 2 ^ k < 2 ^ s.bits) (h2 : k < s.bits) (z : Nat) (hzl : z < 2 ^ s.bits)
    (hzd : 2 ^ k ∣ z) : (lshiftK s k).mem z := by
  have hspan : modSub (s.ub : Int) (s.lb : Int) s.bits = cd (2 ^ s.bits) s.lb s.ub := modSub_nat _ _ _ hs.2.2.1 hs.2.1
  unfold lshiftK
  rw [hnb]
  simp only [Bool.false_eq_true, if_false, hspan, Nat.shiftLeft_eq]
  rw [if_neg h1, if_neg (by omega)]
  exact mem_multiples s.bits k z h2 hzl hzd

/-- alignment is needed only in the branch that keeps the shape of the operand: the two other branches return `{0}` or all
multiples of `2^k` -/
theorem lshiftK_good (s : SI) (k : Nat) (hs : s.WF) (hnb : s.bottom = false) :
    Good s.bits (cd (2 ^ s.bits) s.lb s.ub * 2 ^ k < 2 ^ s.bits → s.Aligned) (lshiftK s k) ∧
      ∀ x, s.mem x → (lshiftK s k).mem ((x <<< k) % 2 ^ s.bits) := by
  have hwf := hs
  obtain ⟨hw, hl, hu, hst⟩ := hs
  have hM := Nat.two_pow_pos s.bits
  have hP := Nat.two_pow_pos k
  have hspan : modSub (s.ub : Int) (s.lb : Int) s.bits = cd (2 ^ s.bits) s.lb s.ub := modSub_nat _ _ _ hu hl
  unfold lshiftK
  rw [hnb]
  simp only [Bool.false_eq_true, if_false, hspan, Nat.shiftLeft_eq]
  generalize hS : cd (2 ^ s.bits) s.lb s.ub = span
  by_cases h1 : span * 2 ^ k < 2 ^ s.bits
  · rw [if_pos h1]
    have hm : ∀ x, s.mem x → (SI.new s.bits (s.stride * 2 ^ k) ((s.lb * 2 ^ k : Nat) : Int)
        (((s.lb + span) * 2 ^ k : Nat) : Int)).mem ((x * 2 ^ k) % 2 ^ s.bits) := by
      intro x hx
      obtain ⟨_, hxl, hd1, hd2⟩ := mem_facts s x ⟨hw, hl, hu, hst⟩ hx
      rw [hS] at hd1
      generalize hD : cd (2 ^ s.bits) s.lb x = d at hd1 hd2
      have hxe : x = (s.lb + d) % 2 ^ s.bits := by rw [← hD]; exact eq_add_cd _ _ _ hl hxl
      rw [mem_new, imod_nat, imod_nat, shl_val _ _ _ _ _ hxe, Nat.add_mul]
      have hdP : d * 2 ^ k ≤ span * 2 ^ k := Nat.mul_le_mul_right _ hd1
      rw [cd_mod_add _ _ _ hM (by omega), cd_mod_add _ _ _ hM h1]
      exact ⟨Nat.mod_lt _ hM, hdP, stride_cond _ _ (Nat.mul_dvd_mul_right hd2 _)⟩
    refine ⟨good_new _ _ _ _ _ hw (fun h0 => ?_) (fun al => ?_), hm⟩
    · have hlu : s.lb = s.ub := hst.1 ((Nat.mul_eq_zero.1 h0).resolve_right (Nat.ne_of_gt hP))
      have : span = 0 := by rw [← hS, hlu, cd_self]
      rw [this, Nat.add_zero]
    · -- the result ends at the image of the upper bound
      have hxe : s.ub = (s.lb + span) % 2 ^ s.bits := by
        rw [← hS]
        exact eq_add_cd _ _ _ hl hu
      have : ((s.lb + span) * 2 ^ k) % 2 ^ s.bits = (s.ub * 2 ^ k) % 2 ^ s.bits := by
        conv => rhs; rw [hxe]
        rw [Nat.mod_mul_mod]
      rw [imod_nat, this]
      exact hm s.ub (mem_ub s hwf hnb (al h1))
  · rw [if_neg h1]
    by_cases h2 : k ≥ s.bits
    · rw [if_pos h2]
      have hz : (SI.new s.bits 0 0 0).mem 0 := const_mem 0 s.bits hM
      refine ⟨good_const _ _ _ hw, fun x _ => ?_⟩
      rw [Nat.mod_eq_zero_of_dvd (Nat.dvd_trans (Nat.pow_dvd_pow 2 h2) (Nat.dvd_mul_left _ _))]
      exact hz
    · rw [if_neg h2]
      have hk : k < s.bits := by omega
      have hPM : 2 ^ k ∣ 2 ^ s.bits := Nat.pow_dvd_pow 2 (by omega)
      have hlt : 2 ^ s.bits - 2 ^ k < 2 ^ s.bits := by omega
      refine ⟨good_new _ _ _ _ _ hw (fun h => absurd h (by omega)) (fun _ => ?_), fun x _ =>
        mem_multiples s.bits k _ hk (Nat.mod_lt _ hM) ((Nat.dvd_mod_iff hPM).2 (Nat.dvd_mul_left _ _))⟩
      rw [imod_of_lt _ _ hlt]
      exact mem_multiples s.bits k _ hk hlt (Nat.dvd_sub hPM (Nat.dvd_refl _))

theorem lshiftK_sound (s : SI) (k : Nat) (hs : s.WF) (hnb : s.bottom = false) :
    WFw s.bits (lshiftK s k) ∧ ∀ x, s.mem x → (lshiftK s k).mem ((x <<< k) % 2 ^ s.bits) :=
  have g := lshiftK_good s k hs hnb
  ⟨g.1.wf, g.2⟩

theorem lshiftK_aligned_of (s : SI) (k : Nat) (hs : s.WF) (hnb : s.bottom = false)
    (al : cd (2 ^ s.bits) s.lb s.ub * 2 ^ k < 2 ^ s.bits → s.Aligned) : (lshiftK s k).Aligned :=
  (lshiftK_good s k hs hnb).1.aligned al

theorem lshiftK_aligned (s : SI) (k : Nat) (hs : s.WF) (hnb : s.bottom = false) (al : s.Aligned) :
    (lshiftK s k).Aligned := lshiftK_aligned_of s k hs hnb (fun _ => al)

theorem shl_good (s amt r : SI) (hs : s.WF) (hnb : s.bottom = false) (h : s.lshift amt = .ok r) :
    Good s.bits s.Aligned r ∧ (amt.WF → ∀ x y, s.mem x → amt.mem y → r.mem (Conc.shl s.bits x y)) := by
  obtain ⟨h1, h2⟩ := shiftRange_good s amt r _ (fun x k => (x <<< k) % 2 ^ s.bits) hs.1
    (fun k _ si hk => by
      cases pure_ok hk
      exact ⟨(lshiftK_good s k hs hnb).1.mono (fun al _ => al), (lshiftK_good s k hs hnb).2⟩) h
  exact ⟨h1, fun hamt x y hx hy => by rw [shl_roundTo]; exact h2 hamt x y hx hy⟩

theorem shl_sound (s amt r : SI) (hs : s.WF) (hnb : s.bottom = false) (hamt : amt.WF)
    (h : s.lshift amt = .ok r) :
    WFw s.bits r ∧ ∀ x y, s.mem x → amt.mem y → r.mem (Conc.shl s.bits x y) :=
  have g := shl_good s amt r hs hnb h
  ⟨g.1.wf, g.2 hamt⟩

theorem shl_aligned (s amt r : SI) (hs : s.WF) (hnb : s.bottom = false) (al : s.Aligned)
    (h : s.lshift amt = .ok r) : r.Aligned :=
  (shl_good s amt r hs hnb h).1.aligned al

end Claripy.VSA

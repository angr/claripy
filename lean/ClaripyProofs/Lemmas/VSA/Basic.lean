import Claripy.VSA.Shift
import ClaripyProofs.Lemmas.Util.Except
import ClaripyProofs.Lemmas.Util.AddNew
import ClaripyProofs.Lemmas.Util.Assoc
import ClaripyProofs.Lemmas.Util.InsertSort
import ClaripyProofs.Lemmas.Util.IntMod
import ClaripyProofs.Lemmas.Util.Pow2
import Mathlib.Tactic.SplitIfs
/-! Modular-arithmetic basics for the strided-interval lemmas: `imod`, `modAdd`, `modSub` on naturals below
`2^w` in closed form, and the algebra of `cd`, the clockwise distance on the circle of `2^w` points, in which
membership and every geometric argument about intervals is phrased; arcs read in the numeric order (`arc_nowrap_iff`,
`arc_wrap_iff`), poles (`Crosses`, `cd_along`), and two arcs in coordinates relative to the start of the first (`arc_inside`,
`arc_overlap`, `arc_disjoint`). -/
namespace Claripy.VSA

/-- clockwise distance from `a` to `b` on the circle of size `m` (for `a, b < m`) -/
def cd (m a b : Nat) : Nat := if a ≤ b then b - a else b + m - a

theorem cd_pos (m a b : Nat) (h : a ≤ b) : cd m a b = b - a := if_pos h

theorem cd_neg (m a b : Nat) (h : ¬ a ≤ b) : cd m a b = b + m - a := if_neg h

theorem imod_nat (x w : Nat) : imod (x : Int) w = x % 2 ^ w := toNat_emod_nat x w

theorem imod_lt (x : Int) (w : Nat) : imod x w < 2 ^ w := toNat_emod_lt x w

theorem imod_of_lt (x w : Nat) (h : x < 2 ^ w) : imod (x : Int) w = x := by
  rw [imod_nat, Nat.mod_eq_of_lt h]

theorem emod_eq_imod (x : Int) (w : Nat) : x % ((2 ^ w : Nat) : Int) = ((imod x w : Nat) : Int) := by
  unfold imod
  rw [Int.toNat_of_nonneg]
  apply Int.emod_nonneg
  have := Nat.two_pow_pos w
  omega

theorem imod_shift (x j : Int) (n w : Nat) (h : x = (n : Int) + j * ((2 ^ w : Nat) : Int)) : imod x w = n % 2 ^ w := by
  subst h
  unfold imod
  rw [Int.add_mul_emod_self_right, ← Int.natCast_emod, Int.toNat_natCast]

theorem imod_add (l : Int) (d w : Nat) : imod (l + (d : Int)) w = (imod l w + d) % 2 ^ w := by
  apply imod_shift _ (l / ((2 ^ w : Nat) : Int))
  have := Int.emod_add_ediv_mul l ((2 ^ w : Nat) : Int)
  rw [emod_eq_imod] at this
  omega

theorem imod_sub (a b w : Nat) (ha : a < 2 ^ w) (hb : b < 2 ^ w) : imod ((a : Int) - b) w = cd (2 ^ w) b a := by
  unfold imod
  by_cases h : b ≤ a
  · have := toNat_emod_of_nonneg (i := (a : Int) - b) (w := w) (by omega) (by omega)
    rw [cd_pos _ _ _ h]
    omega
  · have := toNat_emod_of_neg (i := (a : Int) - b) (w := w) (by omega) (by omega)
    rw [cd_neg _ _ _ h]
    omega

theorem modSub_nat (a b w : Nat) (ha : a < 2 ^ w) (hb : b < 2 ^ w) : modSub (a : Int) (b : Int) w = cd (2 ^ w) b a :=
  imod_sub a b w ha hb

theorem modAdd_nat (a b w : Nat) : modAdd (a : Int) (b : Int) w = (a + b) % 2 ^ w := by
  unfold modAdd
  rw [← Int.natCast_add, imod_nat]

theorem add_mod_cases (a b m : Nat) (ha : a < m) (hb : b < m) :
    (a + b) % m = if a + b < m then a + b else a + b - m := by
  split
  · exact Nat.mod_eq_of_lt ‹_›
  · rename_i h
    rw [Nat.mod_eq_sub_mod (Nat.le_of_not_lt h), Nat.mod_eq_of_lt (by omega)]

theorem succ_mod_cases (u m : Nat) (hu : u < m) : (u + 1) % m = if u + 1 < m then u + 1 else 0 := by
  split
  · exact Nat.mod_eq_of_lt ‹_›
  · have : u + 1 = m := by omega
    rw [this, Nat.mod_self]

theorem sub_mod_cases (a b m : Nat) (ha : a < m) (hb : b < m) :
    (a + m - b) % m = if b ≤ a then a - b else a + m - b := by
  split
  · rw [Nat.sub_add_comm ‹_›, Nat.add_mod_right, Nat.mod_eq_of_lt (by omega)]
  · exact Nat.mod_eq_of_lt (by omega)

/-! Everything about `cd` goes through two facts: walking `cd m l x` steps from `l` arrives at `x`, possibly after one turn
(`cd_split`, `add_cd_mul`), and two points that differ by `d < m` up to whole turns are at distance `d` (`cd_of_add_eq`). -/

/-- the two shapes of a distance, without truncated subtraction: no turn, or one -/
theorem cd_split (m a b : Nat) (ha : a < m) : (a ≤ b ∧ cd m a b + a = b) ∨ (b < a ∧ cd m a b + a = b + m) := by
  unfold cd
  split <;> omega

theorem arc_nowrap_iff (m l u x : Nat) (hu : u < m) (hlu : l ≤ u) : cd m l x ≤ cd m l u ↔ l ≤ x ∧ x ≤ u := by
  rw [cd_pos _ _ _ hlu]
  unfold cd
  split <;> omega

theorem arc_wrap_iff (m l u x : Nat) (hl : l < m) (hx : x < m) (hul : u < l) : cd m l x ≤ cd m l u ↔ l ≤ x ∨ x ≤ u := by
  rw [cd_neg _ _ _ (Nat.not_le.2 hul)]
  unfold cd
  split <;> omega

theorem cd_mono (m a x u : Nat) (h1 : a ≤ x) (h2 : x ≤ u) : cd m a x ≤ cd m a u := by
  rw [cd_pos _ _ _ h1, cd_pos _ _ _ (Nat.le_trans h1 h2)]
  omega

theorem add_cd_mul (m l x : Nat) (hl : l < m) : ∃ k, l + cd m l x = x + k * m := by
  rcases cd_split m l x hl with ⟨_, h⟩ | ⟨_, h⟩
  · exact ⟨0, by omega⟩
  · exact ⟨1, by omega⟩

theorem cd_lt (m a b : Nat) (ha : a < m) (_hb : b < m) : cd m a b < m := by
  unfold cd; split_ifs <;> omega

theorem cd_self (m a : Nat) : cd m a a = 0 := by
  unfold cd; simp

theorem cd_zero (m x : Nat) : cd m 0 x = x := by
  unfold cd; simp

theorem cd_eq_zero (m a b : Nat) (ha : a < m) (_hb : b < m) : cd m a b = 0 ↔ a = b := by
  unfold cd; split_ifs <;> omega

theorem eq_add_cd (M lb x : Nat) (hl : lb < M) (hx : x < M) : x = (lb + cd M lb x) % M := by
  obtain ⟨k, h⟩ := add_cd_mul M lb x hl
  rw [h, Nat.add_mul_mod_self_right, Nat.mod_eq_of_lt hx]

theorem cd_add_right (m l k : Nat) (hl : l < m) (hk : k < m) : cd m l ((l + k) % m) = k := by
  by_cases h : l + k < m
  · rw [Nat.mod_eq_of_lt h, cd_pos _ _ _ (Nat.le_add_right _ _), Nat.add_sub_cancel_left]
  · have hge := Nat.le_of_not_lt h
    rw [Nat.mod_eq_sub_mod hge, Nat.mod_eq_of_lt (by omega), cd_neg _ _ _ (by omega), Nat.sub_add_cancel hge,
      Nat.add_sub_cancel_left]

theorem cd_mod_add (M a d : Nat) (hM : 0 < M) (hd : d < M) : cd M (a % M) ((a + d) % M) = d := by
  have := cd_add_right M (a % M) d (Nat.mod_lt _ hM) hd
  rwa [Nat.mod_add_mod] at this

theorem cd_of_add_eq (m A B d k : Nat) (hm : 0 < m) (hd : d < m) (h : A + d = B + k * m) :
    cd m (A % m) (B % m) = d := by
  rw [← Nat.add_mul_mod_self_right B k m, ← h]
  exact cd_mod_add m A d hm hd

theorem cd_eq_of_add (m a b d k : Nat) (ha : a < m) (hb : b < m) (hd : d < m) (h : a + d = b + k * m) : cd m a b = d := by
  have := cd_of_add_eq m a b d k (Nat.lt_of_le_of_lt (Nat.zero_le _) ha) hd h
  rwa [Nat.mod_eq_of_lt ha, Nat.mod_eq_of_lt hb] at this

theorem cd_rel (m o a b : Nat) (ho : o < m) (ha : a < m) (hb : b < m) :
    cd m a b = cd m (cd m o a) (cd m o b) := by
  have hm : 0 < m := by omega
  have hda := cd_lt m o a ho ha
  have hdb := cd_lt m o b ho hb
  conv => lhs; rw [eq_add_cd m o a ho ha, eq_add_cd m o b ho hb]
  by_cases h : cd m o a ≤ cd m o b
  · rw [cd_pos m _ _ h]
    exact cd_of_add_eq m _ _ _ 0 hm (by omega) (by omega)
  · rw [cd_neg m _ _ h]
    exact cd_of_add_eq m _ _ _ 1 hm (by omega) (by omega)

theorem cd_between (m o y z : Nat) (ho : o < m) (hy : y < m) (hz : z < m) (h : cd m o y ≤ cd m o z) :
    cd m y z = cd m o z - cd m o y := by
  rw [cd_rel m o y z ho hy hz, cd_pos m _ _ h]

theorem le_rot (N o a y z : Nat) (ho : o < N) (ha : a < N) (hy : y < N) (hz : z < N) :
    cd N a z ≤ cd N a y ↔ cd N (cd N o a) (cd N o z) ≤ cd N (cd N o a) (cd N o y) := by
  rw [← cd_rel N o a z ho ha hz, ← cd_rel N o a y ho ha hy]

theorem cd_cancel_left (m o a b : Nat) (ho : o < m) (ha : a < m) (hb : b < m) (h : cd m o a = cd m o b) : a = b := by
  have := cd_rel m o a b ho ha hb
  rw [h, cd_self] at this
  exact (cd_eq_zero m a b ha hb).1 this

theorem cd_left_inj (m o a b : Nat) (ho : o < m) (ha : a < m) (hb : b < m) : cd m o a = cd m o b ↔ a = b :=
  ⟨cd_cancel_left m o a b ho ha hb, fun h => by rw [h]⟩

theorem cd_eq_pred_iff (m l u : Nat) (hl : l < m) (hu : u < m) : cd m l u = m - 1 ↔ l = (u + 1) % m := by
  rw [succ_mod_cases _ _ hu]
  rcases cd_split m l u hl with ⟨_, e⟩ | ⟨_, e⟩
  · split_ifs <;> omega
  · split_ifs <;> omega

theorem cd_compl (m a b : Nat) (ha : a < m) (hb : b < m) : cd m (m - 1 - a) (m - 1 - b) = cd m b a := by
  obtain ⟨k, hk⟩ := add_cd_mul m b a hb
  exact cd_eq_of_add m _ _ _ k (by omega) (by omega) (cd_lt m b a hb ha) (by omega)

theorem cd_add (m l1 l2 x y : Nat) (h1 : l1 < m) (h2 : l2 < m) (_hx : x < m) (_hy : y < m)
    (hs : cd m l1 x + cd m l2 y < m) :
    cd m ((l1 + l2) % m) ((x + y) % m) = cd m l1 x + cd m l2 y := by
  obtain ⟨k1, e1⟩ := add_cd_mul m l1 x h1
  obtain ⟨k2, e2⟩ := add_cd_mul m l2 y h2
  refine cd_of_add_eq m _ _ _ (k1 + k2) (Nat.lt_of_le_of_lt (Nat.zero_le _) h1) hs ?_
  rw [Nat.add_mul]
  omega

theorem cd_sub (m l1 x y l2 : Nat) (h1 : l1 < m) (_hx : x < m) (hy : y < m) (h2 : l2 < m)
    (hs : cd m l1 x + cd m y l2 < m) :
    cd m ((l1 + m - l2) % m) ((x + m - y) % m) = cd m l1 x + cd m y l2 := by
  obtain ⟨k1, e1⟩ := add_cd_mul m l1 x h1
  obtain ⟨k2, e2⟩ := add_cd_mul m y l2 hy
  refine cd_of_add_eq m _ _ _ (k1 + k2) (Nat.lt_of_le_of_lt (Nat.zero_le _) h1) hs ?_
  rw [Nat.add_mul]
  omega

/-! A pole is the step from a point `P` to its successor (`2^w - 1 → 0`, `2^(w-1) - 1 → 2^(w-1)`).  Along an arc that does not
take that step, the distance from the successor `o` of `P` grows with the distance walked (`cd_along`): the unsigned value
is the distance from `0`, the signed value the distance from `2^(w-1)` shifted by `2^(w-1)`. -/

theorem cd_trans (m o a x : Nat) (ho : o < m) (ha : a < m) (hx : x < m) (h : cd m o a + cd m a x < m) :
    cd m o x = cd m o a + cd m a x := by
  obtain ⟨k1, e1⟩ := add_cd_mul m o a ho
  obtain ⟨k2, e2⟩ := add_cd_mul m a x ha
  refine cd_eq_of_add m o x _ (k1 + k2) ho hx h ?_
  rw [Nat.add_mul]
  omega

/-- the arc `a → u` passes from `P` to its successor -/
def Crosses (m P a u : Nat) : Prop := cd m a P < cd m a u

theorem crosses_south (m a u : Nat) (ha : a < m) (hu : u < m) : Crosses m (m - 1) a u ↔ u < a := by
  unfold Crosses
  rw [← Nat.not_le, arc_nowrap_iff m a (m - 1) u (by omega) (Nat.le_sub_one_of_lt ha)]
  omega

theorem cd_along (m P o a u x : Nat) (ho : o < m) (hPo : P + 1 = o ∨ (P + 1 = m ∧ o = 0)) (ha : a < m) (_hu : u < m)
    (hx : x < m)
    (hn : ¬ Crosses m P a u) (hd : cd m a x ≤ cd m a u) : cd m o x = cd m o a + cd m a x := by
  apply cd_trans m o a x ho ha hx
  -- from `o` round to `P`, the point before it, is one step less than a full turn
  suffices h2 : cd m o a + cd m a P < m from
    Nat.lt_of_le_of_lt (Nat.add_le_add_left (Nat.le_trans hd (Nat.le_of_not_lt hn)) _) h2
  rcases hPo with hPo | ⟨hP, rfl⟩
  · have hP : P < m := by omega
    obtain ⟨k1, e1⟩ := add_cd_mul m o a ho
    obtain ⟨k2, e2⟩ := add_cd_mul m a P ha
    have h1 := cd_lt m o a ho ha
    have h2 := cd_lt m a P ha hP
    have e : cd m o a + cd m a P + 1 = (k1 + k2) * m := by
      rw [Nat.add_mul]
      omega
    have hK : k1 + k2 < 2 := Nat.lt_of_mul_lt_mul_right (show (k1 + k2) * m < 2 * m by omega)
    have := Nat.mul_le_mul_right m (Nat.le_of_lt_succ hK)
    omega
  · rw [cd_zero, cd_pos _ _ _ (by omega)]
    omega

theorem nocross_sub (m P a u p q : Nat) (ha : a < m) (hP : P < m) (hp : p < m) (hq : q < m)
    (hn : ¬ Crosses m P a u) (h1 : cd m a p ≤ cd m a q) (h2 : cd m a q ≤ cd m a u) : ¬ Crosses m P p q := by
  unfold Crosses at hn ⊢
  rw [cd_between m a p q ha hp hq h1, cd_between m a p P ha hp hP (by omega)]
  omega

/-- arc `[u, v]` (relative coordinates, origin = lower bound of the outer arc `[0, B]`) with both ends inside the
outer arc and not wrapping around it lies inside it; positions add up -/
theorem arc_inside (m u v B px : Nat) (hu : u < m) (hv : v < m) (hB : B < m) (hpx : px < m)
    (h1 : u ≤ B) (h2 : v ≤ B)
    (h3 : (u = 0 ∧ v = B) ∨ ¬ cd m u 0 ≤ cd m u v ∨ ¬ cd m u B ≤ cd m u v)
    (hx : cd m u px ≤ cd m u v) : px ≤ B ∧ px = u + cd m u px := by
  rcases Nat.lt_or_ge v u with hw | huv
  · -- a wrapping `[u, v]` would hold both `0` and `B`
    rw [arc_wrap_iff m u v 0 hu (by omega) hw, arc_wrap_iff m u v B hu hB hw] at h3
    omega
  · have := (arc_nowrap_iff m u v px hv huv).1 hx
    rw [cd_pos _ _ _ this.1]
    omega

/-- overlap: the arc `[0, S]` contains `p` (start of the other arc `[p, q]`), the other arc is not inside it and the
two do not cover the circle: the union is the arc `[0, q]` -/
theorem arc_overlap (m S p q px : Nat) (hS : S < m) (hp : p < m) (hq : q < m) (hpx : px < m)
    (h1 : p ≤ S)
    (hnotin : ¬ (q ≤ S ∧ cd m p 0 ≤ cd m p q ∧ cd m p S ≤ cd m p q) )
    (hnc : ¬ (q ≤ S ∧ p ≤ S ∧ ((p = 0 ∧ q = S) ∨ ¬ cd m p 0 ≤ cd m p q ∨ ¬ cd m p S ≤ cd m p q))) :
    (px ≤ S → px ≤ q) ∧ (cd m p px ≤ cd m p q → px ≤ q ∧ px = p + cd m p px) := by
  rcases Nat.lt_or_ge q p with hw | hpq
  · rw [arc_wrap_iff m p q 0 hp (by omega) hw, arc_wrap_iff m p q S hp hS hw] at hnotin hnc
    omega
  · rw [arc_nowrap_iff m p q 0 hq hpq, arc_nowrap_iff m p q S hq hpq] at hnotin hnc
    refine ⟨fun h => by omega, fun hx => ?_⟩
    have := (arc_nowrap_iff m p q px hq hpq).1 hx
    rw [cd_pos _ _ _ this.1]
    omega

/-- disjoint: neither arc contains the start of the other (`[0, S]` and `[p, q]` with `S < p` and `q < p`): the union
in the order given is `[0, q]` -/
theorem arc_disjoint (m S p q px : Nat) (hp : p < m) (hq : q < m) (hpx : px < m)
    (d1 : ¬ p ≤ S) (d2 : ¬ cd m p 0 ≤ cd m p q) :
    (px ≤ S → px ≤ q) ∧ (cd m p px ≤ cd m p q → px ≤ q ∧ px = p + cd m p px) := by
  rcases Nat.lt_or_ge q p with hw | hpq
  · exact absurd ((arc_wrap_iff m p q 0 hp (by omega) hw).2 (Or.inr (Nat.zero_le _))) d2
  · refine ⟨fun h => by omega, fun hx => ?_⟩
    have := (arc_nowrap_iff m p q px hq hpq).1 hx
    rw [cd_pos _ _ _ this.1]
    omega

end Claripy.VSA

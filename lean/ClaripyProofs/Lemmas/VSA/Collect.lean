import ClaripyProofs.Lemmas.VSA.Lift
/-! The accumulating `for` loops of `_psplit`, `mul` and `__mod__` (`for x in l: acc += f(x)`, also nested over pairs) are `mapM`
followed by `flatten`: the `forIn` form is rewritten once (`forIn_append`, `forIn_append2`), and what a loop returns is read
off `mapM_ok` (`collect_ok`, `collect2_ok`). -/
namespace Claripy.VSA

/-- `out = []; for x in l: out += f(x)` -/
def collect {α β : Type} (f : α → R (List β)) (l : List α) : R (List β) := l.mapM f >>= fun ls => pure ls.flatten

theorem collect_cons {α β : Type} (f : α → R (List β)) (x : α) (xs : List α) :
    collect f (x :: xs) = f x >>= fun lx => collect f xs >>= fun out => pure (lx ++ out) := by
  unfold collect
  rw [List.mapM_cons]
  cases f x with
  | error e => rfl
  | ok lx =>
    cases List.mapM f xs with
    | error e => rfl
    | ok ls => rfl

/-- the loop with an accumulator, as Python writes it -/
theorem forIn_append {α β : Type} (f : α → R (List β)) (l : List α) : ∀ acc : List β,
    forIn l acc (fun x r => (do let lx ← f x; pure (ForInStep.yield (r ++ lx)) : R _)) =
      collect f l >>= fun out => pure (acc ++ out) := by
  induction l with
  | nil => intro acc; simp [collect]
  | cons x xs ih =>
    intro acc
    rw [List.forIn_cons, collect_cons]
    cases f x with
    | error e => rfl
    | ok lx =>
      refine (ih (acc ++ lx)).trans ?_
      cases collect f xs with
      | error e => rfl
      | ok out => simp [bind, Except.bind, pure, Except.pure]

theorem collect_total {α β : Type} (f : α → R (List β)) (g : α → List β) : ∀ (l : List α), (∀ x, x ∈ l → f x = .ok (g x)) →
    collect f l = .ok (l.flatMap g)
  | [], _ => rfl
  | x :: xs, h => by
    rw [collect_cons, h x List.mem_cons_self, collect_total f g xs (fun y hy => h y (List.mem_cons_of_mem _ hy))]
    rfl

theorem collect_ok {α β : Type} (f : α → R (List β)) (l : List α) (out : List β) (h : collect f l = .ok out) :
    (∀ x, x ∈ l → ∃ lx, f x = .ok lx) ∧ ∀ q, q ∈ out ↔ ∃ x lx, x ∈ l ∧ f x = .ok lx ∧ q ∈ lx := by
  unfold collect at h
  cases hm : l.mapM f with
  | error e => rw [hm] at h; cases h
  | ok ls =>
    rw [hm] at h
    cases h
    obtain ⟨m1, m2⟩ := mapM_ok f l ls hm
    refine ⟨fun x hx => ?_, fun q => ?_⟩
    · obtain ⟨r, _, hr⟩ := m1 x hx; exact ⟨r, hr⟩
    · rw [List.mem_flatten]
      constructor
      · rintro ⟨lx, hlx, hq⟩
        obtain ⟨x, hx, hfx⟩ := m2 lx hlx
        exact ⟨x, lx, hx, hfx, hq⟩
      · rintro ⟨x, lx, hx, hfx, hq⟩
        obtain ⟨r, hr, hfr⟩ := m1 x hx
        rw [hfx] at hfr; cases hfr
        exact ⟨lx, hr, hq⟩

theorem collect2_ok {α β γ : Type} (g : α → β → R (List γ)) (l : List α) (l2 : List β) (out : List γ)
    (h : collect (fun x => collect (g x) l2) l = .ok out) :
    (∀ x y, x ∈ l → y ∈ l2 → ∃ lxy, g x y = .ok lxy) ∧
      ∀ q, q ∈ out ↔ ∃ x y lxy, x ∈ l ∧ y ∈ l2 ∧ g x y = .ok lxy ∧ q ∈ lxy := by
  obtain ⟨o1, o2⟩ := collect_ok _ l out h
  refine ⟨fun x y hx hy => ?_, fun q => ?_⟩
  · obtain ⟨lx, hlx⟩ := o1 x hx
    exact (collect_ok _ l2 lx hlx).1 y hy
  · rw [o2 q]
    constructor
    · rintro ⟨x, lx, hx, hlx, hq⟩
      obtain ⟨y, lxy, hy, hg, hq'⟩ := ((collect_ok _ l2 lx hlx).2 q).1 hq
      exact ⟨x, y, lxy, hx, hy, hg, hq'⟩
    · rintro ⟨x, y, lxy, hx, hy, hg, hq⟩
      obtain ⟨lx, hlx⟩ := o1 x hx
      exact ⟨x, lx, hx, hlx, ((collect_ok _ l2 lx hlx).2 q).2 ⟨y, lxy, hy, hg, hq⟩⟩

theorem forIn_append2 {α β γ : Type} (g : α → β → R (List γ)) (l : List α) (l2 : List β) (acc : List γ) :
    forIn l acc (fun x r => (do
      let r' ← forIn l2 r (fun y r2 => (do let lxy ← g x y; pure (ForInStep.yield (r2 ++ lxy)) : R _))
      pure (ForInStep.yield r') : R _)) =
      collect (fun x => collect (g x) l2) l >>= fun out => pure (acc ++ out) := by
  rw [← forIn_append]
  congr
  funext x r
  rw [forIn_append]
  cases collect (g x) l2 <;> rfl

end Claripy.VSA

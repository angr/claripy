import ClaripyProofs.Lemmas.VSA.Balancer
import Claripy.VSA.BalancerModel
/-!
Arithmetic behind the arms of the balancer (`Claripy/VSA/BalancerModel.lean`), on concrete values: what each
`_balance_<op>` does to `value(lhs) OP r`, at every width.  `m = 2^w` throughout.
-/
namespace Claripy.VSA.Bal
open Claripy.VSA

/-- the comparisons whose meaning does not depend on the width (unsigned orderings, `==`, `!=`) -/
def unsOp : CmpOp → Bool
  | .ult | .ule | .ugt | .uge | .eq | .ne => true
  | _ => false

def uOrd (op : CmpOp) : Prop := op = .ult ∨ op = .ule ∨ op = .ugt ∨ op = .uge

def sOrd (op : CmpOp) : Prop := op = .slt ∨ op = .sle ∨ op = .sgt ∨ op = .sge

theorem uOrd_uns (op : CmpOp) (h : uOrd op) : unsOp op = true := by rcases h with h | h | h | h <;> rw [h] <;> rfl

theorem uns_cases (op : CmpOp) (h : unsOp op = true) : (op = .eq ∨ op = .ne) ∨ uOrd op := by
  cases op <;> simp_all [unsOp, uOrd]

theorem sOrd_isSigned (op : CmpOp) (h : sOrd op) : isSigned op = true := by
  rcases h with h | h | h | h <;> rw [h] <;> rfl

theorem ord_ne (op : CmpOp) (h : uOrd op ∨ sOrd op) : op ≠ .eq ∧ op ≠ .ne := by
  rcases h with (h | h | h | h) | (h | h | h | h) <;> rw [h] <;> constructor <;> intro h' <;> cases h'

theorem sOrd_signed (op : CmpOp) (h : sOrd op) : (cmpInfo op).2.2 = false := by
  rcases h with h | h | h | h <;> rw [h] <;> rfl

theorem concCmp_uns (op : CmpOp) (w w' x y : Nat) (h : unsOp op = true) : concCmp op w x y = concCmp op w' x y := by
  cases op <;> simp_all [concCmp, unsOp]

theorem concCmp_scale (op : CmpOp) (w w' x y n : Nat) (h : unsOp op = true) :
    concCmp op w (x * 2 ^ n) (y * 2 ^ n) = concCmp op w' x y := by
  have hp : 0 < 2 ^ n := Nat.two_pow_pos n
  have hinj : x * 2 ^ n = y * 2 ^ n ↔ x = y := ⟨fun h => Nat.eq_of_mul_eq_mul_right hp h, fun h => by rw [h]⟩
  cases op <;> simp_all [concCmp, unsOp, Nat.mul_lt_mul_right hp, Nat.mul_le_mul_right_iff hp]

theorem concCmp_opposite (op : CmpOp) (w x y : Nat) : concCmp (opposite op) w y x = concCmp op w x y := by
  cases op <;> simp [concCmp, opposite, eq_comm]

theorem high_zero (w k r : Nat) (hk : k ≤ w) (hr : r < 2 ^ w) (h : Conc.extract (w - 1) (w - k) r = 0) :
    r < 2 ^ (w - k) := by
  rcases Nat.eq_zero_or_pos k with hk0 | hk0
  · subst hk0; exact hr
  unfold Conc.extract at h
  rw [Nat.shiftRight_eq_div_pow] at h
  have e : w - 1 + 1 - (w - k) = k := by omega
  rw [e] at h
  have hlt : r / 2 ^ (w - k) < 2 ^ k := by
    apply Nat.div_lt_of_lt_mul
    rw [← Nat.pow_add]
    have : w - k + k = w := by omega
    rw [this]; exact hr
  rw [Nat.mod_eq_of_lt hlt] at h
  have := Nat.lt_of_div_eq_zero (Nat.two_pow_pos (w - k)) h
  exact this

theorem low_id (n r : Nat) (hn : 0 < n) (hr : r < 2 ^ n) : Conc.extract (n - 1) 0 r = r := by
  unfold Conc.extract
  have e : n - 1 + 1 - 0 = n := by omega
  rw [e, Nat.shiftRight_zero, Nat.mod_eq_of_lt hr]

theorem low_lt (n r : Nat) (hn : 0 < n) : Conc.extract (n - 1) 0 r < 2 ^ n := by
  unfold Conc.extract
  have e : n - 1 + 1 - 0 = n := by omega
  rw [e]
  exact Nat.mod_lt _ (Nat.two_pow_pos n)

theorem conc_sub_lt (w r c : Nat) : Conc.sub w r c < 2 ^ w := Nat.mod_lt _ (Nat.two_pow_pos w)
theorem conc_add_lt (w r c : Nat) : Conc.add w r c < 2 ^ w := Nat.mod_lt _ (Nat.two_pow_pos w)

theorem sub_eq_move (w x c r : Nat) (hx : x < 2 ^ w) (hc : c < 2 ^ w) (hr : r < 2 ^ w) :
    Conc.sub w x c = r ↔ x = Conc.add w r c := by
  unfold Conc.add Conc.sub
  rw [Nat.mod_eq_of_lt hc]
  have hm := Nat.two_pow_pos w
  generalize 2 ^ w = m at *
  rw [add_mod_cases r c m hr hc]
  by_cases hc0 : c = 0
  · subst hc0
    simp only [Nat.add_zero, Nat.sub_zero, Nat.add_mod_right, Nat.mod_eq_of_lt hx, hr, if_true]
  · rw [add_mod_cases x (m - c) m hx (by omega)]
    split_ifs <;> omega

theorem sub_as_add (w x c : Nat) (hc : c < 2 ^ w) : Conc.sub w x c = Conc.add w x ((2 ^ w - c) % 2 ^ w) := by
  unfold Conc.add Conc.sub
  rw [Nat.mod_eq_of_lt hc, Nat.add_mod_mod]

/-- `c - x = (-x) + c` (what `_align_sub` relies on) -/
theorem sub_as_neg_add (w c x : Nat) : Conc.sub w c x = Conc.add w (Conc.neg w x) c := by
  unfold Conc.add Conc.sub Conc.neg
  rw [Nat.mod_add_mod, Nat.add_comm]

theorem add_comm' (w x y : Nat) : Conc.add w x y = Conc.add w y x := by unfold Conc.add; rw [Nat.add_comm]

theorem add_eq_move (w x c r : Nat) (hx : x < 2 ^ w) (hc : c < 2 ^ w) (hr : r < 2 ^ w) :
    Conc.add w x c = r ↔ x = Conc.sub w r c :=
  ⟨fun h => ((sub_eq_move w r c x hr hc hx).2 h.symm).symm, fun h => ((sub_eq_move w r c x hr hc hx).1 h.symm).symm⟩

theorem sub_neg_eq_add (w r c : Nat) (hc : c < 2 ^ w) : Conc.sub w r ((2 ^ w - c) % 2 ^ w) = Conc.add w r c := by
  unfold Conc.sub Conc.add
  have hm := Nat.two_pow_pos w
  generalize 2 ^ w = m at *
  by_cases h0 : c = 0
  · subst h0; simp
  · have e1 : (m - c) % m = m - c := Nat.mod_eq_of_lt (by omega)
    rw [e1, e1]
    have : m - (m - c) = c := by omega
    rw [this]

theorem sub_zero' (w r : Nat) (hr : r < 2 ^ w) : Conc.sub w r 0 = r := by
  unfold Conc.sub
  simp [Nat.mod_eq_of_lt hr]

theorem add_zero' (w v : Nat) (hv : v < 2 ^ w) : Conc.add w v 0 = v := by
  unfold Conc.add
  simp [Nat.mod_eq_of_lt hv]

theorem add_assoc' (w v c c' : Nat) : Conc.add w (Conc.add w v c') c = Conc.add w v (Conc.add w c c') := by
  unfold Conc.add
  rw [Nat.mod_add_mod, Nat.add_mod_mod]
  congr 1; omega

/-- moving `c`, then `c'`, is moving `c + c'`: both sides are the `s` with `s + (c + c') = r` -/
theorem sub_sub' (w r c c' : Nat) (hr : r < 2 ^ w) (hc : c < 2 ^ w) (hc' : c' < 2 ^ w) :
    Conc.sub w (Conc.sub w r c) c' = Conc.sub w r (Conc.add w c c') := by
  have h1 := (sub_eq_move w (Conc.sub w r c) c' _ (conc_sub_lt _ _ _) hc' (conc_sub_lt _ _ _)).1 rfl
  have h2 := (sub_eq_move w r c _ hr hc (conc_sub_lt _ _ _)).1 rfl
  symm
  apply (sub_eq_move w r (Conc.add w c c') _ hr (conc_add_lt _ _ _) (conc_sub_lt _ _ _)).2
  rw [← add_assoc', ← h1]
  exact h2

theorem ext_high_zero (isz hi v : Nat) (hhi : hi < isz - 1) (hv : v < 2 ^ isz)
    (h : Conc.extract (isz - 1) (hi + 1) v = 0) : v < 2 ^ (hi + 1) := by
  have := high_zero isz (isz - (hi + 1)) v (by omega) hv
  have e : isz - (isz - (hi + 1)) = hi + 1 := by omega
  rw [e] at this
  exact this h

theorem ext_low_zero (lo v : Nat) (hlo : 0 < lo) (h : Conc.extract (lo - 1) 0 v = 0) : v = v / 2 ^ lo * 2 ^ lo := by
  unfold Conc.extract at h
  have e : lo - 1 + 1 - 0 = lo := by omega
  rw [e, Nat.shiftRight_zero] at h
  have := Nat.div_add_mod v (2 ^ lo)
  rw [h] at this
  rw [Nat.mul_comm]; omega

theorem ext_val (hi lo v : Nat) (hlo : lo ≤ hi) (hv : v < 2 ^ (hi + 1)) : Conc.extract hi lo v = v / 2 ^ lo := by
  unfold Conc.extract
  rw [Nat.shiftRight_eq_div_pow]
  apply Nat.mod_eq_of_lt
  apply Nat.div_lt_of_lt_mul
  rw [← Nat.pow_add]
  have : lo + (hi + 1 - lo) = hi + 1 := by omega
  rw [this]; exact hv

theorem scale_lt (hi lo r isz : Nat) (hlo : lo ≤ hi) (hhi : hi < isz) (hr : r < 2 ^ (hi + 1 - lo)) : r * 2 ^ lo < 2 ^ isz := by
  have h1 : r * 2 ^ lo < 2 ^ (hi + 1 - lo) * 2 ^ lo := Nat.mul_lt_mul_of_pos_right hr (Nat.two_pow_pos lo)
  rw [← Nat.pow_add] at h1
  have e : hi + 1 - lo + lo = hi + 1 := by omega
  rw [e] at h1
  exact Nat.lt_of_lt_of_le h1 (Nat.pow_le_pow_right (by omega) (by omega))

theorem shl_val (w v n : Nat) (hn : n < w) : Conc.shl w v n = (v * 2 ^ n) % 2 ^ w := by
  unfold Conc.shl
  rw [if_pos hn, Nat.shiftLeft_eq]

theorem lshr_val (w r n : Nat) (hn : n < w) : Conc.lshr w r n = r / 2 ^ n := by
  unfold Conc.lshr
  rw [if_pos hn, Nat.shiftRight_eq_div_pow]

/-- left shift, unknown shifted-out bits: `>=`, `>`, `!=` survive (one direction) -/
theorem shl_pre (op : CmpOp) (w w' v n r : Nat) (hop : op = .uge ∨ op = .ugt ∨ op = .ne) (hn : n < w)
    (hr : r = r / 2 ^ n * 2 ^ n) (hrw : r < 2 ^ w)
    (h : concCmp op w (Conc.shl w v n) r = true) : concCmp op w' v (r / 2 ^ n) = true := by
  rw [shl_val w v n hn] at h
  have hp := Nat.two_pow_pos n
  have hle : (v * 2 ^ n) % 2 ^ w ≤ v * 2 ^ n := Nat.mod_le _ _
  generalize r / 2 ^ n = q at *
  subst hr
  rcases hop with rfl | rfl | rfl
  · simp only [concCmp, decide_eq_true_eq] at h ⊢
    exact Nat.le_of_mul_le_mul_right (Nat.le_trans h hle) hp
  · simp only [concCmp, decide_eq_true_eq] at h ⊢
    exact Nat.lt_of_mul_lt_mul_right (Nat.lt_of_lt_of_le h hle)
  · simp only [concCmp, decide_eq_true_eq] at h ⊢
    intro he; apply h; rw [he]; exact Nat.mod_eq_of_lt hrw

theorem lowOnes_spec : ∀ (fuel v acc n : Nat), v < fuel → lowOnes fuel v acc = some n → acc ≤ n ∧ v = 2 ^ (n - acc) - 1
  | 0, _, _, _, h, _ => by omega
  | fuel + 1, v, acc, n, h, hl => by
    unfold lowOnes at hl
    by_cases h0 : v = 0
    · rw [if_pos h0] at hl
      cases hl
      subst h0
      simp
    · rw [if_neg h0] at hl
      by_cases h2 : v % 2 = 0
      · rw [if_pos h2] at hl; cases hl
      · rw [if_neg h2] at hl
        obtain ⟨h1, h3⟩ := lowOnes_spec fuel (v / 2) (acc + 1) n (by omega) hl
        refine ⟨by omega, ?_⟩
        have e : n - acc = (n - (acc + 1)) + 1 := by omega
        rw [e, Nat.pow_succ]
        have hp := Nat.two_pow_pos (n - (acc + 1))
        omega

theorem and_low_mask (x n : Nat) (hx : x < 2 ^ n) : Conc.and 0 x (2 ^ n - 1) = x := by
  unfold Conc.and
  rw [Nat.and_two_pow_sub_one_eq_mod, Nat.mod_eq_of_lt hx]

theorem same_high (op : CmpOp) (w w' k s r : Nat) (hop : unsOp op = true)
    (h : s / 2 ^ (w - k) = r / 2 ^ (w - k)) :
    concCmp op w s r = concCmp op w' (s % 2 ^ (w - k)) (r % 2 ^ (w - k)) := by
  have hs := Nat.div_add_mod s (2 ^ (w - k))
  have hr := Nat.div_add_mod r (2 ^ (w - k))
  rw [h] at hs
  generalize 2 ^ (w - k) * (r / 2 ^ (w - k)) = q at *
  generalize s % 2 ^ (w - k) = a at *
  generalize r % 2 ^ (w - k) = b at *
  subst hs; subst hr
  cases op <;> simp_all [concCmp, unsOp]

end Claripy.VSA.Bal

import ClaripyProofs.Lemmas.VSA.BalancerArith
import ClaripyProofs.Lemmas.VSA.Signed
import ClaripyProofs.Lemmas.VSA.MulAux
/-!
What a recorded pair of bounds means, and why the pairs the balancer records contain the value.  `_handle_comparison`
records Python integers: the tightest of `int_min` / `int_max`, a hull bound of the left side and the literal (moved by one
for the strict comparisons), unsigned for the unsigned orderings and signed for the signed ones; `_replacements_iter`
reduces them modulo `2^w` (`InB`).  The idea throughout: an integer interval less than a turn long, read modulo `2^w`, is a
wrapped interval (`Win_int`); an end given by an integer less than a turn away from a representative `X` of the member can
be tightened by any bound of `X` without losing the member (`Win_clip_lo`, `Win_clip_hi`), whatever the reading.  At the end the
five ways an arm of the balancing loop relates the old value and literal to the new ones (`Kind`) and what each keeps of a
comparison (`Kind.keeps`).
-/
namespace Claripy.VSA.Bal
open Claripy.VSA

/-- the meaning of a recorded (lower, upper) pair for an expression of width `w`: `SI(1, mn, mx)` of `_replacements_iter`
with the defaults 0 and `2^w - 1`, i.e. the wrapped interval from `mn mod 2^w` to `mx mod 2^w` -/
def InB (w : Nat) (lo hi : Option Int) (v : Nat) : Prop :=
  Win (2 ^ w) (imod (lo.getD 0) w) (imod (hi.getD ((2 : Int) ^ w - 1)) w) v

theorem pow_cast (w : Nat) : (2 : Int) ^ w = ((2 ^ w : Nat) : Int) := by push_cast; rfl

theorem Win_int (w : Nat) (L X U : Int) (h1 : L ≤ X) (h2 : X ≤ U) (h3 : U - L < ((2 ^ w : Nat) : Int)) :
    Win (2 ^ w) (imod L w) (imod U w) (imod X w) := by
  unfold Win
  rw [cd_imod L X w (by omega) (by omega), cd_imod L U w (by omega) h3]
  omega

/-- raising the integer lower end `L` to `max a L` with `a ≤ X`: the new end is `L` itself when `L` lies above `X` (the
interval wraps past the representatives), else an integer in `[L, X]` -/
theorem Win_clip_lo (w l0 u0 x : Nat) (X a L : Int) (hl0 : l0 < 2 ^ w) (hu0 : u0 < 2 ^ w) (hx : x < 2 ^ w)
    (hX : imod X w = x) (hL : imod L w = l0) (ha : a ≤ X) (hXL : X - L < ((2 ^ w : Nat) : Int))
    (hW : Win (2 ^ w) l0 u0 x) : Win (2 ^ w) (imod (max a L) w) u0 x := by
  apply Win_shrink_lo _ l0 u0 x _ hl0 hu0 hx (imod_lt _ _) hW
  rw [← hL, ← hX]
  by_cases h : L ≤ X
  · rw [cd_imod L (max a L) w (by omega) (by omega), cd_imod L X w (by omega) hXL]; omega
  · rw [show max a L = L by omega, cd_self]; exact Nat.zero_le _

theorem Win_clip_hi (w l0 u0 x : Nat) (X b U : Int) (hl0 : l0 < 2 ^ w) (hu0 : u0 < 2 ^ w) (hx : x < 2 ^ w)
    (hX : imod X w = x) (hU : imod U w = u0) (hb : X ≤ b) (hUX : U - X < ((2 ^ w : Nat) : Int))
    (hW : Win (2 ^ w) l0 u0 x) : Win (2 ^ w) l0 (imod (min b U) w) x := by
  apply Win_shrink_hi _ l0 u0 x _ hl0 hu0 hx (imod_lt _ _) hW
  rw [← hU, ← hX]
  by_cases h : X ≤ U
  · rw [cd_imod X (min b U) w (by omega) (by omega), cd_imod X U w (by omega) hUX]; omega
  · rw [show min b U = U by omega]; exact Nat.le_refl _

theorem InB_clip (w l0 u0 x : Nat) (X a b L U : Int) (hl0 : l0 < 2 ^ w) (hu0 : u0 < 2 ^ w) (hx : x < 2 ^ w)
    (hX : imod X w = x) (hL : imod L w = l0) (hU : imod U w = u0) (ha : a ≤ X) (hb : X ≤ b)
    (hXL : X - L < ((2 ^ w : Nat) : Int)) (hUX : U - X < ((2 ^ w : Nat) : Int)) (hW : Win (2 ^ w) l0 u0 x) :
    InB w (some (max a L)) (some (min b U)) x :=
  Win_clip_hi w _ u0 x X b U (imod_lt _ _) hu0 hx hX hU hb hUX (Win_clip_lo w l0 u0 x X a L hl0 hu0 hx hX hL ha hXL hW)

theorem InB_lone_upper (w u0 x : Nat) (X b U : Int) (hu0 : u0 < 2 ^ w) (hX : imod X w = x) (hU : imod U w = u0)
    (hb : X ≤ b) (hUX : U - X < ((2 ^ w : Nat) : Int)) (h : x ≤ u0) : InB w none (some (min b U)) x := by
  have hx : x < 2 ^ w := by omega
  have h0 : imod 0 w = 0 := imod_of_lt 0 w (Nat.two_pow_pos w)
  unfold InB
  simp only [Option.getD_none, Option.getD_some, h0]
  exact Win_clip_hi w 0 u0 x X b U (Nat.two_pow_pos w) hu0 hx hX hU hb hUX ((ule_iff_Win _ x u0).1 h)

theorem InB_lone_lower (w l0 x : Nat) (X a L : Int) (hl0 : l0 < 2 ^ w) (hx : x < 2 ^ w) (hX : imod X w = x)
    (hL : imod L w = l0) (ha : a ≤ X) (hXL : X - L < ((2 ^ w : Nat) : Int)) (h : l0 ≤ x) :
    InB w (some (max a L)) none x := by
  have hm := Nat.two_pow_pos w
  have hmax : imod ((2 : Int) ^ w - 1) w = 2 ^ w - 1 := by
    rw [← imod_of_lt (2 ^ w - 1) w (by omega)]
    congr 1; rw [pow_cast]; omega
  unfold InB
  simp only [Option.getD_none, Option.getD_some, hmax]
  exact Win_clip_lo w l0 (2 ^ w - 1) x X a L hl0 (by omega) hx hX hL ha hXL ((uge_iff_Win _ x l0 hx hl0).1 h)

/-! ### the integers `_handle_comparison` compares

The left side and the literal are read unsigned for the unsigned orderings and signed for the signed ones (`rd`); the
bound taken from the literal is moved by one for a strict comparison (`cmpShift`).  Whatever the reading, the integer is a
representative of the value modulo `2^w`, and moving a constant across `+` commutes with it (`imod_rd_move`). -/

def rd (sg : Bool) (w x : Nat) : Int := if sg then Conc.toInt w x else (x : Int)

def rdMin (sg : Bool) (w : Nat) : Int := if sg then -((2 : Int) ^ (w - 1)) else 0
def rdMax (sg : Bool) (w : Nat) : Int := if sg then (2 : Int) ^ (w - 1) - 1 else (2 : Int) ^ w - 1

/-- `bound_max` / `bound_min` of `_handle_comparison` relative to the literal -/
def cmpShift (op : CmpOp) : Int := if (cmpInfo op).2.1 then 0 else if (cmpInfo op).1 then -1 else 1

/-- the bound itself, as `_handle_comparison` computes it from the literal's `_min` / `_max` -/
def cmpBound (op : CmpOp) (R : Int) : Int := if (cmpInfo op).2.1 then R else if (cmpInfo op).1 then R - 1 else R + 1

theorem cmpBound_eq (op : CmpOp) (R : Int) : cmpBound op R = R + cmpShift op := by
  unfold cmpBound cmpShift
  split_ifs <;> omega

theorem cmpShift_sign (op : CmpOp) :
    ((cmpInfo op).1 = true → cmpShift op ≤ 0) ∧ ((cmpInfo op).1 = false → 0 ≤ cmpShift op) := by
  unfold cmpShift
  cases (cmpInfo op).1 <;> cases (cmpInfo op).2.1 <;> simp

theorem cmpShift_range (op : CmpOp) : -1 ≤ cmpShift op ∧ cmpShift op ≤ 1 := by
  unfold cmpShift
  split_ifs <;> omega

theorem rd_range (sg : Bool) (w x : Nat) (hw : 0 < w) (hx : x < 2 ^ w) :
    rdMin sg w ≤ rd sg w x ∧ rd sg w x ≤ rdMax sg w := by
  have hm := two_pow_half w hw
  unfold rd rdMin rdMax Conc.toInt
  rw [pow_cast, pow_cast]
  cases sg
  · simp only [if_false, Bool.false_eq_true]; omega
  · simp only [if_true]; split_ifs <;> omega

/-- a reading spans less than a turn, and `int_min` of `_handle_comparison` lies below it -/
theorem rd_span (sg : Bool) (w : Nat) (hw : 0 < w) :
    rdMax sg w - rdMin sg w < ((2 ^ w : Nat) : Int) ∧ -((2 : Int) ^ (w - 1)) ≤ rdMin sg w := by
  have hm := two_pow_half w hw
  unfold rdMin rdMax
  rw [pow_cast, pow_cast]
  cases sg <;> simp only [if_true, if_false, Bool.false_eq_true] <;> omega

theorem imod_add_turn (y : Int) (w : Nat) : imod (y + ((2 ^ w : Nat) : Int)) w = imod y w := by
  unfold imod; rw [Int.add_emod_right]

theorem imod_rd_add (sg : Bool) (w x : Nat) (k : Int) : imod (rd sg w x + k) w = imod ((x : Int) + k) w := by
  unfold rd Conc.toInt
  split_ifs
  · rfl
  · rw [← imod_add_turn ((x : Int) - ((2 ^ w : Nat) : Int) + k) w]
    congr 1; omega
  · rfl

theorem imod_rd (sg : Bool) (w x : Nat) (hx : x < 2 ^ w) : imod (rd sg w x) w = x := by
  have := imod_rd_add sg w x 0
  rw [Int.add_zero, Int.add_zero] at this
  rw [this]; exact imod_of_lt x w hx

theorem conc_sub_cases (w x c : Nat) (hx : x < 2 ^ w) (hc : c < 2 ^ w) :
    ((Conc.sub w x c : Nat) : Int) = x - c ∨ ((Conc.sub w x c : Nat) : Int) = x - c + ((2 ^ w : Nat) : Int) := by
  unfold Conc.sub
  rw [Nat.mod_eq_of_lt hc, show x + (2 ^ w - c) = x + 2 ^ w - c by omega, sub_mod_cases x c _ hx hc]
  split_ifs <;> omega

theorem imod_rd_move (sg : Bool) (w x c : Nat) (k : Int) (hx : x < 2 ^ w) (hc : c < 2 ^ w) :
    imod (rd sg w (Conc.sub w x c) + k) w = imod (rd sg w x + k - c) w := by
  rw [show rd sg w x + k - (c : Int) = rd sg w x + (k - c) by omega, imod_rd_add, imod_rd_add]
  rcases conc_sub_cases w x c hx hc with h | h <;> rw [h]
  · congr 1; omega
  · rw [← imod_add_turn ((x : Int) + (k - c)) w]; congr 1; omega

theorem concCmp_rd (op : CmpOp) (w v r : Nat) (hop : op ≠ .eq ∧ op ≠ .ne) :
    concCmp op w v r = true ↔
      if (cmpInfo op).1 then rd (!(cmpInfo op).2.2) w v ≤ rd (!(cmpInfo op).2.2) w r + cmpShift op
      else rd (!(cmpInfo op).2.2) w r + cmpShift op ≤ rd (!(cmpInfo op).2.2) w v := by
  cases op <;> simp only [concCmp, cmpInfo, cmpShift, rd, decide_eq_true_eq, Bool.not_true, Bool.not_false, if_true, if_false,
    Bool.false_eq_true] <;> first | omega | (exact absurd rfl hop.1) | (exact absurd rfl hop.2)

/-- **the pair of bounds two truisms on `x + c` record for `x`**: one bounds `x + c` from below by the literal `rlo`
(moved by `klo ≥ 0`), one from above by `rhi` (moved by `khi ≤ 0`); `_balance_add` / `_balance_sub` turn the literals into
`rlo - c`, `rhi - c`; `_handle_comparison` takes the tightest of `int_min` / `int_max`, the hull `[lmin, lmax]` of `x` and
the literal in its reading.  Read modulo `2^w`, the pair contains `x`: it is the integer interval around the reading of
`x + c`, moved back by `c` and clipped. -/
theorem InB_pair (sg : Bool) (w x c rlo rhi : Nat) (klo khi lmin lmax iMin iMax : Int) (hw : 0 < w) (hx : x < 2 ^ w)
    (hc : c < 2 ^ w) (hrlo : rlo < 2 ^ w) (hrhi : rhi < 2 ^ w)
    (hlo : rd sg w rlo + klo ≤ rd sg w (Conc.add w x c)) (hhi : rd sg w (Conc.add w x c) ≤ rd sg w rhi + khi)
    (hklo : 0 ≤ klo) (hkhi : khi ≤ 0) (hmin : lmin ≤ rd sg w x) (hmax : rd sg w x ≤ lmax)
    (hiMin : iMin ≤ rdMin sg w) (hiMax : rdMax sg w ≤ iMax) :
    InB w (some (max iMin (max lmin (rd sg w (Conc.sub w rlo c) + klo))))
      (some (min iMax (min lmax (rd sg w (Conc.sub w rhi c) + khi)))) x := by
  have hs := conc_sub_lt w
  obtain ⟨x1, x2⟩ := rd_range sg w x hw hx
  obtain ⟨l1, l2⟩ := rd_range sg w (Conc.sub w rlo c) hw (hs _ _)
  obtain ⟨u1, u2⟩ := rd_range sg w (Conc.sub w rhi c) hw (hs _ _)
  obtain ⟨a1, a2⟩ := rd_range sg w rlo hw hrlo
  obtain ⟨b1, b2⟩ := rd_range sg w rhi hw hrhi
  obtain ⟨hspan, _⟩ := rd_span sg w hw
  have hW := Win_int w (rd sg w rlo + klo - c) (rd sg w (Conc.add w x c) + 0 - c) (rd sg w rhi + khi - c)
    (by omega) (by omega) (by omega)
  rw [← imod_rd_move sg w rlo c klo hrlo hc, ← imod_rd_move sg w rhi c khi hrhi hc,
    ← imod_rd_move sg w _ c 0 (conc_add_lt w x c) hc, Int.add_zero, imod_rd sg w _ (hs _ _),
    (sub_eq_move w (Conc.add w x c) c x (conc_add_lt w x c) hc hx).2 rfl] at hW
  rw [← Int.max_assoc, ← Int.min_assoc]
  exact InB_clip w _ _ x (rd sg w x) _ _ _ _ (imod_lt _ _) (imod_lt _ _) hx (imod_rd sg w x hx) rfl rfl
    (by omega) (by omega) (by omega) (by omega) hW

theorem imod_toInt (w x : Nat) (hx : x < 2 ^ w) : imod (Conc.toInt w x) w = x := imod_rd true w x hx

theorem toInt_range (w x : Nat) (hw : 0 < w) (hx : x < 2 ^ w) :
    -((2 ^ (w - 1) : Nat) : Int) ≤ Conc.toInt w x ∧ Conc.toInt w x < ((2 ^ (w - 1) : Nat) : Int) := by
  have hm := two_pow_half w hw
  unfold Conc.toInt
  split_ifs <;> omega

/-- the pair `_handle_comparison` records for a signed ordering and its implicit assumption, read as `_replacements_iter`
reads it, contains `x` when the exact wrapped pre-image `W[l0, u0]` does and the signed hull `[a, b]` of the operand does;
`L` / `U` are the signed values of the ends, or one past the signed range for a strict comparison at the pole -/
theorem InB_signed (w l0 u0 x : Nat) (a b L U : Int) (hw : 0 < w)
    (hl0 : l0 < 2 ^ w) (hu0 : u0 < 2 ^ w) (hx : x < 2 ^ w)
    (hax : a ≤ Conc.toInt w x) (hxb : Conc.toInt w x ≤ b)
    (hL : L = Conc.toInt w l0 ∨ (L = (2 : Int) ^ (w - 1) ∧ l0 = 2 ^ (w - 1)))
    (hU : U = Conc.toInt w u0 ∨ (U = -(2 : Int) ^ (w - 1) - 1 ∧ u0 = 2 ^ (w - 1) - 1))
    (hW : Win (2 ^ w) l0 u0 x) :
    InB w (some (max (-((2 : Int) ^ (w - 1))) (max a L))) (some (min ((2 : Int) ^ (w - 1) - 1) (min b U))) x := by
  have hm := two_pow_half w hw
  have hH := Nat.two_pow_pos (w - 1)
  obtain ⟨x1, x2⟩ := toInt_range w x hw hx
  obtain ⟨l1, l2⟩ := toInt_range w l0 hw hl0
  obtain ⟨u1, u2⟩ := toInt_range w u0 hw hu0
  rw [pow_cast] at hL hU ⊢
  rw [← Int.max_assoc, ← Int.min_assoc]
  refine InB_clip w l0 u0 x (Conc.toInt w x) _ _ L U hl0 hu0 hx (imod_toInt w x hx) ?_ ?_ (by omega) (by omega) ?_ ?_ hW
  · rcases hL with h | ⟨h, h'⟩
    · rw [h]; exact imod_toInt w l0 hl0
    · rw [h, h']; exact imod_of_lt _ w (by omega)
  · rcases hU with h | ⟨h, h'⟩
    · rw [h]; exact imod_toInt w u0 hu0
    · rw [h, h', imod_shift _ (-1) (2 ^ (w - 1) - 1) w (by omega)]; exact Nat.mod_eq_of_lt (by omega)
  · rcases hL with h | ⟨h, _⟩ <;> omega
  · rcases hU with h | ⟨h, _⟩ <;> omega

/-- `_get_assumptions` before the constructor is applied: the non-strict ordering of the other direction, against the
extreme of the reading -/
def assumOf (op : CmpOp) (n : Nat) : CmpOp × Nat :=
  match op with
  | .ule | .ult => (.uge, 0)
  | .uge | .ugt => (.ule, 2 ^ n - 1)
  | .sle | .slt => (.sge, 2 ^ (n - 1))
  | .sge | .sgt => (.sle, 2 ^ (n - 1) - 1)
  | _ => (op, 0)

theorem assumOf_spec (op : CmpOp) (n v : Nat) (hop : uOrd op ∨ sOrd op) (hn : 0 < n) (hv : v < 2 ^ n) :
    (assumOf op n).2 < 2 ^ n ∧ concCmp (assumOf op n).1 n v (assumOf op n).2 = true ∧
      (uOrd op → uOrd (assumOf op n).1) ∧ (sOrd op → sOrd (assumOf op n).1) ∧
      cmpInfo (assumOf op n).1 = (!(cmpInfo op).1, true, (cmpInfo op).2.2) ∧
      ((assumOf op n).1 = .uge → (assumOf op n).2 = 0) := by
  have hm := two_pow_half n hn
  have hH := Nat.two_pow_pos (n - 1)
  obtain ⟨t1, t2⟩ := toInt_range n v hn hv
  have hlo : Conc.toInt n (2 ^ (n - 1)) = -((2 ^ (n - 1) : Nat) : Int) := by
    unfold Conc.toInt; rw [if_neg (by omega)]; omega
  have hhi : Conc.toInt n (2 ^ (n - 1) - 1) = ((2 ^ (n - 1) : Nat) : Int) - 1 := by
    unfold Conc.toInt; rw [if_pos (by omega)]; omega
  rcases hop with (h | h | h | h) | (h | h | h | h) <;> subst h <;>
    refine ⟨?_, ?_, by simp [assumOf, uOrd], by simp [assumOf, sOrd], rfl, by simp [assumOf]⟩ <;>
    simp only [assumOf, concCmp, decide_eq_true_eq, ge_iff_le, hlo, hhi] <;> first | omega | exact decide_eq_true (by omega)

theorem ti_scale (H P v : Nat) (hP : 0 < P) : ti (H * P) (v * P) = ti H v * (P : Int) := by
  unfold ti
  have hiff : v * P < H * P ↔ v < H := ⟨fun h => Nat.lt_of_mul_lt_mul_right h, fun h => Nat.mul_lt_mul_of_pos_right h hP⟩
  by_cases h : v < H
  · rw [if_pos h, if_pos (hiff.2 h)]; push_cast; grind
  · rw [if_neg h, if_neg (fun hc => h (hiff.1 hc))]; push_cast; grind

theorem scmp_scale (op : CmpOp) (w n x y : Nat) (hw : 0 < w) (hop : sOrd op) :
    concCmp op (w + n) (x * 2 ^ n) (y * 2 ^ n) = concCmp op w x y := by
  have hP := Nat.two_pow_pos n
  have hH : 2 ^ (w + n - 1) = 2 ^ (w - 1) * 2 ^ n := by
    rw [← Nat.pow_add]; congr 1; omega
  have hPi : (0 : Int) < ((2 ^ n : Nat) : Int) := by exact_mod_cast hP
  have e1 : ∀ z, Conc.toInt (w + n) (z * 2 ^ n) = Conc.toInt w z * ((2 ^ n : Nat) : Int) := by
    intro z
    rw [toInt_ti _ _ (by omega), toInt_ti _ _ hw, hH, ti_scale _ _ _ hP]
  have hlt : ∀ a b : Int, a * ((2 ^ n : Nat) : Int) < b * ((2 ^ n : Nat) : Int) ↔ a < b :=
    fun a b => ⟨fun h => Int.lt_of_mul_lt_mul_right h (Int.le_of_lt hPi), fun h => Int.mul_lt_mul_of_pos_right h hPi⟩
  have hle : ∀ a b : Int, a * ((2 ^ n : Nat) : Int) ≤ b * ((2 ^ n : Nat) : Int) ↔ a ≤ b :=
    fun a b => ⟨fun h => Int.le_of_mul_le_mul_right h hPi, fun h => Int.mul_le_mul_of_nonneg_right h (Int.le_of_lt hPi)⟩
  rcases hop with h | h | h | h <;> subst h <;> simp only [concCmp, e1, decide_eq_decide, gt_iff_lt, ge_iff_le]
  · exact hlt _ _
  · exact hle _ _
  · exact hlt _ _
  · exact hle _ _

def uOf : CmpOp → CmpOp
  | .slt => .ult | .sle => .ule | .sgt => .ugt | .sge => .uge
  | op => op

theorem uOf_unsOp (op : CmpOp) : unsOp (uOf op) = true := by cases op <;> rfl

theorem uOf_of_uns (op : CmpOp) (h : unsOp op = true) : uOf op = op := by
  cases op <;> simp_all [uOf, unsOp]

theorem scmp_eq_ucmp (op : CmpOp) (w x y : Nat) (hw : 0 < w) (hop : sOrd op) (hx : x < 2 ^ w) (hy : y < 2 ^ w)
    (hs : x < 2 ^ (w - 1) ↔ y < 2 ^ (w - 1)) : concCmp op w x y = concCmp (uOf op) w x y := by
  have hm := two_pow_half w hw
  have hp : ((2 ^ w : Nat) : Int) = 2 * ((2 ^ (w - 1) : Nat) : Int) := by rw [hm]; push_cast; rfl
  rcases hop with h | h | h | h <;> subst h <;> simp only [concCmp, uOf, Conc.toInt, hp] <;>
    split_ifs <;> simp only [decide_eq_decide] <;> omega

theorem same_high_sign (w k v r : Nat) (hk : 0 < k) (hkw : k ≤ w) (h : v / 2 ^ (w - k) = r / 2 ^ (w - k)) :
    v < 2 ^ (w - 1) ↔ r < 2 ^ (w - 1) := by
  have e : 2 ^ (w - 1) = 2 ^ (k - 1) * 2 ^ (w - k) := by
    rw [← Nat.pow_add]; congr 1; omega
  rw [e, ← Nat.div_lt_iff_lt_mul (Nat.two_pow_pos _), ← Nat.div_lt_iff_lt_mul (Nat.two_pow_pos _), h]

/-- how an arm that fired relates the value `v` of the old left side and the literal `r` (width `w`, operator `op`) to the
new ones `v'`, `r'`, `w'` -/
inductive Kind (op : CmpOp) (w v r w' v' r' : Nat) : Prop
  /-- same value and literal: `__and__` with a mask of ones, a shift by 0 -/
  | same (hw : w' = w) (hv : v' = v) (hr : r' = r)
  /-- `w - w'` EQUAL high bits dropped on both sides: `ZeroExt`, `Concat(0, ·)`, `SignExt` -/
  | drop (hw : w' ≤ w) (hv : v' = v % 2 ^ w') (hr : r' = r % 2 ^ w') (hd : v / 2 ^ w' = r / 2 ^ w')
  /-- both sides scaled by `2^n`: `Extract` with known-zero low bits; a signed operator only with the sign bit on top -/
  | scale (n : Nat) (hw : w + n ≤ w') (hs : isSigned op = true → w' = w + n) (hv : v' = v * 2 ^ n) (hr : r' = r * 2 ^ n)
  /-- both sides divided by `2^n`: `<<` with known-zero shifted-out bits -/
  | unscale (n : Nat) (hs : isSigned op = false) (hv : v = v' * 2 ^ n) (hr : r = r' * 2 ^ n)
  /-- the old value is the new one scaled and cut to `w` bits: only `>=`, `>`, `!=` (`Extract(hi, 0, ·)`, `<<`) -/
  | under (n : Nat) (hop : op = .uge ∨ op = .ugt ∨ op = .ne) (hv : v = (v' * 2 ^ n) % 2 ^ w) (hr : r = r' * 2 ^ n)

/-- **what each kind keeps**: the unsigned reading always; the signed reading as long as no bit is dropped, and it turns
into the unsigned one when equal high bits are dropped (both sides then have the same sign) -/
theorem Kind.keeps {op : CmpOp} {w v r w' v' r' : Nat} (k : Kind op w v r w' v' r') (hw : 0 < w) (hv : v < 2 ^ w)
    (hr : r < 2 ^ w) :
    (concCmp (uOf op) w v r = true → concCmp (uOf op) w' v' r' = true) ∧
    (sOrd op → concCmp op w v r = true →
      (w ≤ w' → concCmp op w' v' r' = true) ∧ (w' < w → concCmp (uOf op) w' v' r' = true)) := by
  have hu := uOf_unsOp op
  cases k with
  | same hw' hv' hr' => subst hw' hv' hr'; exact ⟨id, fun _ h => ⟨fun _ => h, fun h' => absurd h' (Nat.lt_irrefl _)⟩⟩
  | drop hw' hv' hr' hd =>
    have e : w - (w - w') = w' := by omega
    have key : concCmp (uOf op) w v r = concCmp (uOf op) w' v' r' := by
      have := same_high (uOf op) w w' (w - w') v r hu (by rw [e]; exact hd)
      rw [e] at this; rw [this, hv', hr']
    refine ⟨fun h => key ▸ h, fun hop h => ⟨fun hle => ?_, fun hlt => ?_⟩⟩
    · have : w' = w := by omega
      subst this
      rw [hv', hr', Nat.mod_eq_of_lt hv, Nat.mod_eq_of_lt hr]; exact h
    · rw [← key, ← scmp_eq_ucmp op w v r hw hop hv hr
        (same_high_sign w (w - w') v r (by omega) (by omega) (by rw [e]; exact hd))]
      exact h
  | scale n hw' hs hv' hr' =>
    subst hv' hr'
    refine ⟨fun h => by rw [concCmp_scale (uOf op) w' w v r n hu]; exact h, fun hop h => ⟨fun _ => ?_, fun hlt => by omega⟩⟩
    rw [hs (sOrd_isSigned op hop), scmp_scale op w n v r hw hop]; exact h
  | unscale n hs hv' hr' =>
    subst hv' hr'
    refine ⟨fun h => by rw [← concCmp_scale (uOf op) w w' v' r' n hu]; exact h, fun hop => ?_⟩
    rw [sOrd_isSigned op hop] at hs; cases hs
  | under n hop hv' hr' =>
    have hle : v ≤ v' * 2 ^ n := hv' ▸ Nat.mod_le _ _
    have hp := Nat.two_pow_pos n
    refine ⟨fun h => ?_, fun hs => ?_⟩
    · subst hr'
      rcases hop with rfl | rfl | rfl <;> simp only [uOf, concCmp, decide_eq_true_eq] at h ⊢
      · exact Nat.le_of_mul_le_mul_right (Nat.le_trans h hle) hp
      · exact Nat.lt_of_mul_lt_mul_right (Nat.lt_of_lt_of_le h hle)
      · intro he; apply h; rw [hv', he]; exact Nat.mod_eq_of_lt hr
    · rcases hop with rfl | rfl | rfl <;> rcases hs with h | h | h | h <;> cases h

end Claripy.VSA.Bal

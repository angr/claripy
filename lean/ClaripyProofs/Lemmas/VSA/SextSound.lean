import ClaripyProofs.Lemmas.VSA.BitsAux
import ClaripyProofs.Lemmas.VSA.EvalExact
import ClaripyProofs.Lemmas.VSA.Extract
import ClaripyProofs.Lemmas.VSA.NotExt
import ClaripyProofs.Lemmas.VSA.Signed
/-! `sign_extend`, walked once (`sext_good`): zero extension when every member is non-negative, a shifted copy when every
member is negative, otherwise the pieces of `_nsplit` extended one by one and joined.  Sign extension reads a value by its
distance from the north pole, in a larger circle (`sx_eq`). -/
namespace Claripy.VSA

theorem sext_val (w nl x : Nat) (hw : 0 < w) (hx : x < 2 ^ w) (h : w ≤ nl) :
    Conc.sext w nl x = if x < 2 ^ (w - 1) then x else x + (2 ^ nl - 2 ^ w) := by
  unfold Conc.sext
  have hpow : 2 ^ w ≤ 2 ^ nl := Nat.pow_le_pow_right (by omega) h
  rw [BitVec.toNat_signExtend, BitVec.toNat_setWidth, BitVec.msb_eq_decide, BitVec.toNat_ofNat, Nat.mod_eq_of_lt hx,
    Nat.mod_eq_of_lt (by omega)]
  by_cases hlt : x < 2 ^ (w - 1)
  · rw [if_pos hlt]; simp; omega
  · rw [if_neg hlt]; simp; omega

/-- what `sign_extend` learns from `extract(bits-1, bits-1).eval(2)`: if that list has one entry, it is the most significant
bit of EVERY member -/
theorem msb_all (s E : SI) (c : Int) (hs : s.WF) (hnb : s.bottom = false)
    (hE : s.extract (s.bits - 1) (s.bits - 1) = .ok E) (hl : E.eval 2 false = .ok [c]) :
    ∀ x, s.mem x → ((x / 2 ^ (s.bits - 1) : Nat) : Int) = c := by
  have h0 := hs.1
  obtain ⟨hEw, hEm⟩ := extract_sound s E (s.bits - 1) (s.bits - 1) hs hnb (Nat.le_refl _) (by omega) hE
  have hbit : ∀ x, s.mem x → E.mem (x / 2 ^ (s.bits - 1)) := by
    intro x hx
    have := hEm x hx
    unfold Conc.extract at this
    have e : s.bits - 1 + 1 - (s.bits - 1) = 1 := by omega
    rw [e, Nat.shiftRight_eq_div_pow] at this
    have hq : x / 2 ^ (s.bits - 1) < 2 := by
      apply (Nat.div_lt_iff_lt_mul (Nat.two_pow_pos _)).2
      have := two_pow_half s.bits h0
      have := hx.2.1
      omega
    rwa [Nat.mod_eq_of_lt (by simpa using hq)] at this
  have hEnb : E.bottom = false := (hbit s.lb (mem_lb s hs hnb)).1
  have hex := eval_exact E 2 [c] hEw.1 hEnb hl
  -- the member list of `E` has one entry, so all of it was returned
  have hlen : E.members.length ≤ 2 := by
    have := congrArg List.length hex
    simp only [List.length_cons, List.length_nil, List.length_map, List.length_take] at this
    omega
  intro x hx
  exact List.mem_singleton.1 (mem_map_take E hEw.1 _ 2 [c] hex hlen _ (hbit x hx))

theorem div_half_zero (w x : Nat) (h : x / 2 ^ (w - 1) = 0) : x < 2 ^ (w - 1) := by
  have := (Nat.div_eq_zero_iff).1 h
  rcases this with h1 | h1
  · have := Nat.two_pow_pos (w - 1); omega
  · exact h1

theorem div_half_one (w x : Nat) (h : x / 2 ^ (w - 1) = 1) : 2 ^ (w - 1) ≤ x := by
  have hp := Nat.two_pow_pos (w - 1)
  by_cases hlt : x < 2 ^ (w - 1)
  · rw [Nat.div_eq_of_lt hlt] at h; cases h
  · omega

/-- sign extension of a value below `2H` to the modulus `N` -/
def sx (H N v : Nat) : Nat := if v < H then v else v + (N - 2 * H)

theorem sx_lt (H N v : Nat) (hN : 2 * H ≤ N) (hv : v < 2 * H) : sx H N v < N := by
  unfold sx
  split_ifs <;> omega

theorem sx_eq (H N v : Nat) (hN : 2 * H ≤ N) (hv : v < 2 * H) : sx H N v = (cd (2 * H) H v + (N - H)) % N := by
  unfold sx
  by_cases h : v < H
  · rw [if_pos h, cd_neg _ _ _ (by omega), show v + 2 * H - H + (N - H) = v + N by omega, Nat.add_mod_right,
      Nat.mod_eq_of_lt (by omega)]
  · rw [if_neg h, cd_pos _ _ _ (by omega), Nat.mod_eq_of_lt (by omega)]
    omega

theorem sx_add (H N a x : Nat) (hH : 0 < H) (hN : 2 * H ≤ N) (ha : a < 2 * H) (hx : x < 2 * H)
    (h : cd (2 * H) a x ≤ cd (2 * H) a (H - 1)) : cd N (sx H N a) (sx H N x) = cd (2 * H) a x := by
  have e := cd_along (2 * H) (H - 1) H a (H - 1) x (by omega) (Or.inl (by omega)) ha (by omega) hx
    (Nat.lt_irrefl _) h
  have := cd_lt (2 * H) a x ha hx
  rw [sx_eq H N a hN ha, sx_eq H N x hN hx, e]
  exact cd_of_add_eq N _ _ _ 0 (by omega) (by omega) (by omega)

theorem sx_arc (H N lb ub x : Nat) (hH : 0 < H) (hN : 2 * H ≤ N) (hl : lb < 2 * H) (hu : ub < 2 * H) (hx : x < 2 * H)
    (hns : ¬ Str H lb ub) (hd : cd (2 * H) lb x ≤ cd (2 * H) lb ub) :
    cd N (sx H N lb) (sx H N x) = cd (2 * H) lb x ∧ cd N (sx H N lb) (sx H N ub) = cd (2 * H) lb ub ∧
      sx H N lb < N ∧ sx H N ub < N ∧ sx H N x < N := by
  rw [Str_iff (2 * H) H lb ub rfl hH hl hu] at hns
  exact ⟨sx_add H N lb x hH hN hl hx (by omega), sx_add H N lb ub hH hN hl hu (by omega), sx_lt H N lb hN hl,
    sx_lt H N ub hN hu, sx_lt H N x hN hx⟩

/-- the bound of a piece with the sign mask or-ed in is the sign extension of the bound -/
theorem or_signmask (v w nl : Nat) (hw : 0 < w) (hv : v < 2 ^ w) (h : w ≤ nl) :
    (v ||| (if getMsb (v : Int) w = 1 then (2 ^ (nl - w) - 1) <<< w else 0)) = sx (2 ^ (w - 1)) (2 ^ nl) v := by
  have hm := two_pow_half w hw
  have hmask : (2 ^ (nl - w) - 1) <<< w = 2 ^ nl - 2 ^ w := by
    rw [Nat.shiftLeft_eq, mask_eq w nl h, Nat.mul_comm]
  unfold getMsb sx
  by_cases hz : isMsbZero (v : Int) w = true
  · have := (isMsbZero_iff v w hw hv).1 hz
    rw [if_pos hz, if_neg (by decide), if_pos this, Nat.or_zero]
  · have hge : ¬ v < 2 ^ (w - 1) := fun hh => hz ((isMsbZero_iff v w hw hv).2 hh)
    rw [if_neg hz, if_pos rfl, if_neg hge, hmask, or_mask v w nl hv h, ← hm]

/-- the new upper bound is the image of the old one -/
theorem sext_piece_good (p : SI) (nl : Nat) (al : Prop) (hwf : p.WF) (hal : al → p.Aligned) (hnb : p.bottom = false)
    (hnl : p.bits ≤ nl) (hns : ¬ Str (2 ^ (p.bits - 1)) p.lb p.ub) :
    let q := SI.new nl p.stride
      ((p.lb ||| (if getMsb (p.lb : Int) p.bits = 1 then (2 ^ (nl - p.bits) - 1) <<< p.bits else 0) : Nat) : Int)
      ((p.ub ||| (if getMsb (p.ub : Int) p.bits = 1 then (2 ^ (nl - p.bits) - 1) <<< p.bits else 0) : Nat) : Int)
    Good nl al q ∧ ∀ x, p.mem x → q.mem (Conc.sext p.bits nl x) := by
  intro q
  have ⟨h0, hl, hu, hst⟩ := hwf
  have hm := two_pow_half p.bits h0
  have hH := Nat.two_pow_pos (p.bits - 1)
  have hN : 2 * 2 ^ (p.bits - 1) ≤ 2 ^ nl := by rw [← hm]; exact Nat.pow_le_pow_right (by omega) hnl
  have hnl0 : 0 < nl := by omega
  have eq : q = SI.new nl p.stride ((sx (2 ^ (p.bits - 1)) (2 ^ nl) p.lb : Nat) : Int) ((sx (2 ^ (p.bits - 1)) (2 ^ nl) p.ub : Nat) : Int) := by
    show SI.new _ _ _ _ = _
    rw [or_signmask p.lb p.bits nl h0 hl hnl, or_signmask p.ub p.bits nl h0 hu hnl]
  rw [eq]
  have hl' := hl
  have hu' := hu
  rw [hm] at hl' hu'
  have hsx : ∀ x, x < 2 ^ p.bits → Conc.sext p.bits nl x = sx (2 ^ (p.bits - 1)) (2 ^ nl) x := by
    intro x hxl
    rw [sext_val p.bits nl x h0 hxl hnl]
    unfold sx
    rw [← hm]
  have hmem : ∀ x, p.mem x → (SI.new nl p.stride ((sx (2 ^ (p.bits - 1)) (2 ^ nl) p.lb : Nat) : Int)
      ((sx (2 ^ (p.bits - 1)) (2 ^ nl) p.ub : Nat) : Int)).mem (Conc.sext p.bits nl x) := by
    intro x hx
    obtain ⟨_, hxl, hd1, hd2⟩ := mem_facts p x hwf hx
    have hxl' := hxl
    rw [hm] at hxl' hd1 hd2
    obtain ⟨a1, a2, a3, a4, a5⟩ := sx_arc _ (2 ^ nl) p.lb p.ub x hH hN hl' hu' hxl' hns hd1
    rw [hsx x hxl]
    apply mem_new_of nl _ _ _ _ a3 a4 a5
    · rw [a1, a2]; exact hd1
    · rw [a1]; exact hd2
  refine ⟨good_new _ _ _ _ al hnl0 (fun hz => by rw [hst.1 hz]) (fun a => ?_), hmem⟩
  rw [imod_of_lt _ _ (sx_lt _ _ _ hN hu')]
  have := hmem p.ub (mem_ub p hwf hnb (hal a))
  rwa [hsx p.ub hu] at this

theorem sext_piece (p : SI) (nl : Nat) (hp : p.WF) (hnb : p.bottom = false) (hnl : p.bits ≤ nl)
    (hns : ¬ Str (2 ^ (p.bits - 1)) p.lb p.ub) :
    let q := SI.new nl p.stride
      ((p.lb ||| (if getMsb (p.lb : Int) p.bits = 1 then (2 ^ (nl - p.bits) - 1) <<< p.bits else 0) : Nat) : Int)
      ((p.ub ||| (if getMsb (p.ub : Int) p.bits = 1 then (2 ^ (nl - p.bits) - 1) <<< p.bits else 0) : Nat) : Int)
    WFw nl q ∧ ∀ x, p.mem x → q.mem (Conc.sext p.bits nl x) :=
  have g := sext_piece_good p nl False hp False.elim hnb hnl hns
  ⟨g.1.wf, g.2⟩

theorem signExtend_cases (s r : SI) (nl : Nat) (hs : s.WF) (hnb : s.bottom = false) (hn : s.renorm = s)
    (hnl : s.bits ≤ nl) (h : s.signExtend nl = .ok r) :
    (s.zeroExtend nl = .ok r ∧ ∀ x, s.mem x → x < 2 ^ (s.bits - 1)) ∨
    (s.lb ≤ s.ub ∧ (∀ x, s.mem x → 2 ^ (s.bits - 1) ≤ x) ∧
      r = { s with bits := nl, lb := s.lb + (2 ^ nl - 2 ^ s.bits), ub := s.ub + (2 ^ nl - 2 ^ s.bits) }) ∨
    (∃ ps u, s.nsplit = .ok ps ∧ leastUpperBound (ps.map fun n =>
          SI.new nl n.stride
            ((n.lb ||| (if getMsb (n.lb : Int) n.bits = 1 then (2 ^ (nl - n.bits) - 1) <<< n.bits else 0) : Nat) : Int)
            ((n.ub ||| (if getMsb (n.ub : Int) n.bits = 1 then (2 ^ (nl - n.bits) - 1) <<< n.bits else 0) : Nat) : Int)) = .ok u ∧ r = u.renorm) := by
  unfold SI.signExtend at h
  obtain ⟨E, hE, h⟩ := bind_ok h
  obtain ⟨msb, hl2, h⟩ := bind_ok h
  by_cases h1 : msb = [0]
  · rw [if_pos h1] at h
    subst h1
    refine Or.inl ⟨h, fun x hx => div_half_zero s.bits x ?_⟩
    have := msb_all s E 0 hs hnb hE hl2 x hx
    omega
  rw [if_neg h1] at h
  by_cases h2 : msb = [1] ∧ s.lb ≤ s.ub
  · rw [if_pos h2] at h
    obtain ⟨rfl, hle⟩ := h2
    refine Or.inr (Or.inl ⟨hle, fun x hx => div_half_one s.bits x ?_, ?_⟩)
    · have := msb_all s E 1 hs hnb hE hl2 x hx
      omega
    · have hmask : (2 ^ nl - 1) - (2 ^ s.bits - 1) = 2 ^ nl - 2 ^ s.bits := by
        have := Nat.two_pow_pos s.bits
        omega
      simp only [pure, Except.pure, hn, hmask, or_mask s.lb s.bits nl hs.2.1 hnl, or_mask s.ub s.bits nl hs.2.2.1 hnl] at h
      cases h
      rfl
  rw [if_neg h2] at h
  obtain ⟨ps, hns, h⟩ := bind_ok h
  obtain ⟨u, hlub, h⟩ := bind_ok h
  exact Or.inr (Or.inr ⟨ps, u, hns, hlub, pure_ok h⟩)

theorem sext_good (s r : SI) (nl : Nat) (hs : s.WF) (hnb : s.bottom = false) (hn : Nrm s) (hnl : s.bits ≤ nl)
    (h : s.signExtend nl = .ok r) : Good nl s.Aligned r ∧ ∀ x, s.mem x → r.mem (Conc.sext s.bits nl x) := by
  have hpow : 2 ^ s.bits ≤ 2 ^ nl := Nat.pow_le_pow_right (by omega) hnl
  rcases signExtend_cases s r nl hs hnb hn hnl h with ⟨hz, hpos⟩ | ⟨hle, hneg, rfl⟩ | ⟨ps, u, hps, hlub, rfl⟩
  · obtain ⟨z1, z2⟩ := zext_good s r nl hs hnb hnl hz
    refine ⟨z1, fun x hx => ?_⟩
    rw [sext_val s.bits nl x hs.1 hx.2.1 hnl, if_pos (hpos x hx)]
    exact z2 x hx
  · -- the arc lies in the upper half and is moved up as it is
    have hu := hs.2.2.1
    obtain ⟨g1, g2⟩ := translate_good s s.bits nl (2 ^ nl - 2 ^ s.bits) s.Aligned ⟨⟨hs, rfl⟩, hn, id⟩ hnb hle hnl (by omega)
    refine ⟨g1, fun x hx => ?_⟩
    have := hneg x hx
    have hH := Nat.two_pow_pos (s.bits - 1)
    rw [sext_val s.bits nl x hs.1 hx.2.1 hnl, if_neg (by omega)]
    exact g2 x hx
  · obtain ⟨ps', hps', hprop, hcov⟩ := nsplit_pieces s hs hnb hn
    cases hps.symm.trans hps'
    have g := lub_map_good nl s.Aligned ps _ u s.mem (Conc.sext s.bits nl) hcov (fun p hp => by
      obtain ⟨pp, pns⟩ := hprop p hp
      have hb := pp.good.wf.2
      have := sext_piece_good p nl s.Aligned pp.good.wf.1 pp.good.aligned pp.nb (by rw [hb]; exact hnl)
        (by rw [hb]; exact pns)
      simp only [] at this
      rw [hb] at this ⊢
      exact this) hlub
    rw [g.1.nrm]
    exact g

theorem sext_sound (s r : SI) (nl : Nat) (hs : s.WF) (hnb : s.bottom = false) (hn : Nrm s) (hnl : s.bits ≤ nl)
    (h : s.signExtend nl = .ok r) : WFw nl r ∧ ∀ x, s.mem x → r.mem (Conc.sext s.bits nl x) :=
  have g := sext_good s r nl hs hnb hn hnl h
  ⟨g.1.wf, g.2⟩

theorem sext_aligned (s r : SI) (nl : Nat) (hs : s.WF) (hnb : s.bottom = false) (hn : Nrm s) (hnl : s.bits ≤ nl)
    (al : s.Aligned) (h : s.signExtend nl = .ok r) : r.Aligned :=
  (sext_good s r nl hs hnb hn hnl h).1.aligned al

theorem sext_nrm (s r : SI) (nl : Nat) (hs : s.WF) (hnb : s.bottom = false) (hn : Nrm s) (hnl : s.bits ≤ nl) (_hw : r.WF)
    (h : s.signExtend nl = .ok r) : Nrm r :=
  (sext_good s r nl hs hnb hn hnl h).1.nrm

theorem zeroExtend_nrm (a r : SI) (nl : Nat) (ha : a.WF) (hnb : a.bottom = false) (_na : Nrm a) (hnl : a.bits ≤ nl)
    (_hw : r.WF) (h : a.zeroExtend nl = .ok r) : Nrm r :=
  (zext_good a r nl ha hnb hnl h).1.nrm

/-- when `sign_extend` takes the zero-extension route every member is non-negative, so the value is unchanged
(this is what lets the backend keep the variable's name) -/
theorem sextKeeps_sound (a : SI) (k x : Nat) (ha : a.WF) (h : sextKeeps a = .ok true) (hx : a.mem x) :
    Conc.sext a.bits (k + a.bits) x = x := by
  unfold sextKeeps at h
  obtain ⟨E, hE, h⟩ := bind_ok h
  obtain ⟨msb, hl, h⟩ := bind_ok h
  have h0 : msb = [0] := of_decide_eq_true (Bool.and_eq_true_iff.1 (pure_ok h).symm).1
  subst h0
  have hmsb := msb_all a E 0 ha hx.1 hE hl
  have hx0 : x / 2 ^ (a.bits - 1) = 0 := by
    have := hmsb x hx
    omega
  rw [sext_val a.bits (k + a.bits) x ha.1 hx.2.1 (by omega), if_pos (div_half_zero a.bits x hx0)]

end Claripy.VSA

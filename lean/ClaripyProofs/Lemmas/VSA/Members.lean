import ClaripyProofs.Lemmas.VSA.Mem
/-! The member list of an interval: `cardinality` is its length, it has no duplicates, and it is exactly `mem`. -/
namespace Claripy.VSA

/-- the members in `eval` order: `lb, lb + stride, …` (mod `2^bits`) while the offset stays within the span -/
def SI.members (s : SI) : List Nat :=
  if s.bottom then []
  else if s.stride = 0 then [s.lb]
  else (List.range (s.span / s.stride + 1)).map fun k => (s.lb + k * s.stride) % 2 ^ s.bits

theorem span_eq (s : SI) (hw : s.WF) : s.span = cd (2 ^ s.bits) s.lb s.ub := by
  unfold SI.span; exact modSub_nat _ _ _ hw.2.2.1 hw.2.1

theorem mem_members (s : SI) (hw : s.WF) (x : Nat) : x ∈ s.members ↔ s.mem x := by
  obtain ⟨h0, hl, hu, hst⟩ := hw
  have hw' : s.WF := ⟨h0, hl, hu, hst⟩
  have hm := Nat.two_pow_pos s.bits
  unfold SI.members
  by_cases hb : s.bottom = true
  · rw [if_pos hb]
    constructor
    · intro h; cases h
    · intro h; exact absurd h.1 (by rw [hb]; decide)
  · rw [if_neg hb]
    have hbf : s.bottom = false := by simpa using hb
    rw [mem_iff _ _ hl hu]
    by_cases hz : s.stride = 0
    · rw [if_pos hz]
      simp only [hz, if_true, List.mem_singleton]
      have he := hst.1 hz
      constructor
      · intro hx; subst hx; exact ⟨hbf, hl, by rw [cd_self]; omega, cd_self _ _⟩
      · rintro ⟨_, hxl, _, h4⟩
        exact ((cd_eq_zero _ _ _ hl hxl).1 h4).symm
    · rw [if_neg hz]
      simp only [hz, if_false, List.mem_map, List.mem_range]
      have hsp : 0 < s.stride := Nat.pos_of_ne_zero hz
      have hspan := span_eq s hw'
      have hslt := cd_lt _ _ _ hl hu
      constructor
      · rintro ⟨k, hk, hx⟩
        have hk' : k * s.stride ≤ s.span := by
          have : k ≤ s.span / s.stride := by omega
          calc k * s.stride ≤ s.span / s.stride * s.stride := Nat.mul_le_mul_right _ this
            _ ≤ s.span := Nat.div_mul_le_self _ _
        rw [hspan] at hk'
        have hcd := cd_add_right _ s.lb (k * s.stride) hl (by omega)
        subst hx
        refine ⟨hbf, Nat.mod_lt _ hm, by rw [hcd]; exact hk', ?_⟩
        rw [hcd]; exact Nat.mul_mod_left _ _
      · rintro ⟨_, hxl, h3, h4⟩
        refine ⟨cd (2 ^ s.bits) s.lb x / s.stride, ?_, ?_⟩
        · rw [hspan]
          have := Nat.div_le_div_right (c := s.stride) h3
          omega
        · rw [Nat.div_mul_cancel (Nat.dvd_of_mod_eq_zero h4)]
          exact (eq_add_cd _ _ _ hl hxl).symm

theorem mem_map_take (s : SI) (hs : s.WF) (v : Nat → Int) (n : Nat) (l : List Int) (he : l = (s.members.take n).map v)
    (hn : s.members.length ≤ n) (x : Nat) (hx : s.mem x) : v x ∈ l := by
  rw [he, List.take_of_length_le hn]
  exact List.mem_map.2 ⟨x, (mem_members s hs x).2 hx, rfl⟩

theorem cardinality_exact (s : SI) (hw : s.WF) : s.cardinality = .ok s.members.length := by
  obtain ⟨h0, hl, hu, hst⟩ := hw
  unfold SI.cardinality SI.members
  by_cases hb : s.bottom = true
  · simp only [hb, if_true]; rfl
  · rw [if_neg hb, if_neg hb]
    by_cases hz : s.stride = 0
    · have he := hst.1 hz
      have : s.isInteger = true := by simp [SI.isInteger, he]
      rw [if_pos this, if_pos hz]; rfl
    · have hne : s.lb ≠ s.ub := fun h => hz (hst.2 h)
      have : ¬ s.isInteger = true := by simp [SI.isInteger, hne]
      rw [if_neg this, if_neg hz, if_neg hz]
      have hsp : 0 < s.stride := Nat.pos_of_ne_zero hz
      simp only [List.length_map, List.length_range]
      unfold SI.span
      rw [Nat.add_div_right _ hsp]
      rfl

theorem members_nodup (s : SI) (hw : s.WF) : s.members.Nodup := by
  obtain ⟨h0, hl, hu, hst⟩ := hw
  have hw' : s.WF := ⟨h0, hl, hu, hst⟩
  unfold SI.members
  by_cases hb : s.bottom = true
  · rw [if_pos hb]; exact List.nodup_nil
  · rw [if_neg hb]
    by_cases hz : s.stride = 0
    · rw [if_pos hz]; exact List.pairwise_singleton _ _
    · rw [if_neg hz]
      have hsp : 0 < s.stride := Nat.pos_of_ne_zero hz
      have hspan := span_eq s hw'
      have hslt := cd_lt _ _ _ hl hu
      apply List.pairwise_map.2
      apply List.Pairwise.imp_of_mem _ List.nodup_range
      intro i j hi hj hne hij
      apply hne
      rw [List.mem_range] at hi hj
      have bound : ∀ k, k < s.span / s.stride + 1 → k * s.stride < 2 ^ s.bits := by
        intro k hk
        have : k ≤ s.span / s.stride := by omega
        have h1 : k * s.stride ≤ s.span / s.stride * s.stride := Nat.mul_le_mul_right _ this
        have h2 := Nat.div_mul_le_self s.span s.stride
        omega
      have ci := cd_add_right _ s.lb (i * s.stride) hl (bound i hi)
      have cj := cd_add_right _ s.lb (j * s.stride) hl (bound j hj)
      rw [hij] at ci
      have : i * s.stride = j * s.stride := by omega
      exact Nat.eq_of_mul_eq_mul_right hsp this

theorem multiMeet_int_int (s b : SI) (hsb : s.bottom = false) (hbb : b.bottom = false) (hbits : s.bits = b.bits)
    (hs : s.lb = s.ub) (hb : b.lb = b.ub) :
    s.multiMeet b = .ok [if s.lb = b.lb then SI.new s.bits 0 s.lb s.lb else SI.empty s.bits] := by
  unfold SI.multiMeet
  simp [hsb, hbb, hbits, SI.isInteger, hs, hb, pure, Except.pure]

theorem multiMeet_int (s b : SI) (hsb : s.bottom = false) (hbb : b.bottom = false) (hbits : s.bits = b.bits)
    (hs : s.lb ≠ s.ub) (hz : s.stride ≠ 0) (hb : b.lb = b.ub) :
    s.multiMeet b = .ok [if modSub b.lb s.lb s.bits % s.stride = 0 ∧ s.surroundsMember b.lb = true
      then SI.new s.bits 0 b.lb b.lb else SI.empty s.bits] := by
  unfold SI.multiMeet
  simp only [hsb, hbb, Bool.or_self, Bool.false_eq_true, if_false, hbits, ne_eq, not_true_eq_false]
  have h1 : s.isInteger = false := by simp [SI.isInteger, hs]
  have h2 : b.isInteger = true := by simp [SI.isInteger, hb]
  simp only [h1, h2, Bool.false_and, Bool.false_eq_true, if_false, if_true, hz]
  split <;> rfl

theorem solution_exact (s : SI) (hw : s.WF) (hnb : s.bottom = false) (v : Nat) (hv : v < 2 ^ s.bits) :
    (s.solution (v : Int) = .ok true ∧ s.mem v) ∨ (s.solution (v : Int) = .ok false ∧ ¬ s.mem v) := by
  obtain ⟨h0, hl, hu, hst⟩ := hw
  have hnew : SI.new s.bits 0 (v : Int) (v : Int) = { bits := s.bits, stride := 0, lb := v, ub := v } := by
    rw [new_eq, imod_of_lt _ _ hv]; simp
  have hmem := mem_iff s v hl hu
  unfold SI.solution SI.intersection
  rw [hnew]
  by_cases hsi : s.lb = s.ub
  · have hz := hst.2 hsi
    rw [multiMeet_int_int s { bits := s.bits, stride := 0, lb := v, ub := v } hnb rfl rfl hsi rfl]
    by_cases hlv : s.lb = v
    · left
      subst hlv
      refine ⟨by simp [bind, Except.bind, pure, Except.pure], ?_⟩
      rw [hmem]; simp [hnb, hl, hz, cd_self]
    · right
      have hne : ¬ cd (2 ^ s.bits) s.lb v = 0 := fun h => hlv ((cd_eq_zero _ _ _ hl hv).1 h)
      refine ⟨by simp [bind, Except.bind, pure, Except.pure, hlv, SI.empty], ?_⟩
      rw [hmem]; simp [hz, hne]
  · have hz : s.stride ≠ 0 := fun h => hsi (hst.1 h)
    rw [multiMeet_int s { bits := s.bits, stride := 0, lb := v, ub := v } hnb rfl rfl hsi hz rfl]
    have hsur := surrounds_iff s v hl hu hv
    simp only [modSub_nat v s.lb s.bits hv hl]
    by_cases hc : cd (2 ^ s.bits) s.lb v % s.stride = 0 ∧ s.surroundsMember (v : Int) = true
    · left
      rw [if_pos hc]
      refine ⟨by simp [bind, Except.bind, pure, Except.pure], ?_⟩
      rw [hmem]; simp [hnb, hv, hz, hc.1, hsur.1 hc.2]
    · right
      rw [if_neg hc]
      refine ⟨by simp [bind, Except.bind, pure, Except.pure, SI.empty], ?_⟩
      rw [hmem]
      intro ⟨_, _, a1, a2⟩
      rw [if_neg hz] at a2
      exact hc ⟨a2, hsur.2 a1⟩

end Claripy.VSA

import ClaripyProofs.Lemmas.VSA.MulAux
import ClaripyProofs.Lemmas.VSA.Psplit
import ClaripyProofs.Lemmas.VSA.Collect
/-! **`mul`**: per pair of pieces of `_psplit` (each inside one half of the circle, `SignPiece`) the unsigned partial product
(`_wrapped_unsigned_mul`) and the signed one (`_wrapped_signed_mul`, four sign combinations) are intervals given by integer
bounds (`finSI`) that are well formed and normal and contain the product of any two members; alignment of the pieces is
needed where a piece meets a negative piece (its upper bound is then the anchor), for the alignment of the partial product,
and for the meet of the two (`MeetReady`; or else no overflow).  The results are joined (`pairOuter_lub`).  `mul_good` is the
instance for aligned operands, `mul_single_sound` (ModSound) the one for `{k} * t`. -/
namespace Claripy.VSA

theorem pairOuter_mem (g : SI → SI → R (List SI)) (p2 l out : List SI)
    (h : collect (fun x => collect (g x) p2) l = .ok out) :
    ∀ q, q ∈ out ↔ ∃ x y lxy, x ∈ l ∧ y ∈ p2 ∧ g x y = .ok lxy ∧ q ∈ lxy :=
  (collect2_ok g l p2 out h).2

theorem pairOuter_lub (w : Nat) (al : Prop) (g : SI → SI → R (List SI)) (ts ss all : List SI) (u : SI)
    (hall : collect (fun p => collect (g p) ts) ss = .ok all) (hu : leastUpperBound all = .ok u)
    (hW : ∀ p t l, p ∈ ss → t ∈ ts → g p t = .ok l → ∀ r, r ∈ l → Good w al r) :
    Good w al u.renorm ∧ ∀ p t v, p ∈ ss → t ∈ ts → (∀ l, g p t = .ok l → ∃ r, r ∈ l ∧ r.mem v) → u.renorm.mem v := by
  obtain ⟨hok, hmem⟩ := collect2_ok g ss ts all hall
  obtain ⟨m1, m2⟩ := lub_good w al all u (fun q hq => by
    obtain ⟨p, t, l, hp, ht, hl, hql⟩ := (hmem q).1 hq
    exact hW p t l hp ht hl q hql) hu
  refine ⟨m1.renorm, ?_⟩
  intro p t v hp ht hv
  obtain ⟨l, hl⟩ := hok p t hp ht
  obtain ⟨r', hr', hm⟩ := hv l hl
  rw [m1.nrm]
  exact m2 _ ⟨r', (hmem r').2 ⟨p, t, l, hp, ht, hl, hr'⟩, hm⟩

/-- the partial results of one pair of pieces -/
def mulPair (a b : SI) : R (List SI) :=
  wrappedSignedMul a b >>= fun sm => (wrappedUnsignedMul a b).multiMeet sm

theorem mul_eq (s o : SI) :
    s.mul o =
      if s.isInteger && o.isInteger then pure (SI.new s.bits 0 ((s.lb * o.lb : Nat) : Int) ((s.lb * o.lb : Nat) : Int))
      else s.psplit >>= fun p1 => o.psplit >>= fun p2 => collect (fun a => collect (mulPair a) p2) p1 >>= fun all =>
        leastUpperBound all >>= fun u => pure u.renorm := by
  unfold SI.mul
  split
  · rfl
  · congr
    funext p1
    congr
    funext p2
    have := forIn_append2 mulPair p1 p2 []
    simp only [mulPair, bind_assoc, List.nil_append, bind_pure] at this
    rw [← this]

/-- a piece of `_psplit`: well formed, not empty, not wrapping, inside one half of the circle -/
structure SignPiece (w : Nat) (p : SI) : Prop where
  wf : WFw w p
  nb : p.bottom = false
  le : p.lb ≤ p.ub
  half : p.ub < 2 ^ (w - 1) ∨ 2 ^ (w - 1) ≤ p.lb

theorem piece_mem (w : Nat) (p : SI) (hp : SignPiece w p) (x : Nat) (hx : p.mem x) :
    p.lb ≤ x ∧ x ≤ p.ub ∧ ((p.stride : Nat) : Int) ∣ (x : Int) - p.lb ∧
      (p.Aligned → ((p.stride : Nat) : Int) ∣ (x : Int) - p.ub) := by
  obtain ⟨h1, h2, h3⟩ := mem_nowrap w p hp.wf hp.le x hx
  have d1 : ((p.stride : Nat) : Int) ∣ (x : Int) - p.lb := by
    have : ((x - p.lb : Nat) : Int) = (x : Int) - p.lb := by omega
    rw [← this]; exact Int.natCast_dvd_natCast.2 h3
  refine ⟨h1, h2, d1, fun hal => ?_⟩
  have hd := aligned_dvd p hp.wf.1 hal
  rw [hp.wf.2, cd_pos _ _ _ hp.le] at hd
  have d2 : ((p.stride : Nat) : Int) ∣ (p.ub : Int) - p.lb := by
    have : ((p.ub - p.lb : Nat) : Int) = (p.ub : Int) - p.lb := by omega
    rw [← this]; exact Int.natCast_dvd_natCast.2 hd
  have : (x : Int) - p.ub = ((x : Int) - p.lb) - ((p.ub : Int) - p.lb) := by grind
  rw [this]; exact Int.dvd_sub d1 d2

theorem stride_dvd (sa sb : Nat) (A B X Y : Int) (h1 : (sa : Int) ∣ X - A) (h2 : (sb : Int) ∣ Y - B) :
    ((Nat.gcd sa sb : Nat) : Int) ∣ X * Y - A * B ∧ (Y = B → ((sa : Int) * B) ∣ X * Y - A * B) ∧
      (X = A → ((sb : Int) * A) ∣ X * Y - A * B) := by
  have e : X * Y - A * B = X * (Y - B) + B * (X - A) := by grind
  have g1 : ((Nat.gcd sa sb : Nat) : Int) ∣ (sa : Int) := Int.natCast_dvd_natCast.2 (Nat.gcd_dvd_left _ _)
  have g2 : ((Nat.gcd sa sb : Nat) : Int) ∣ (sb : Int) := Int.natCast_dvd_natCast.2 (Nat.gcd_dvd_right _ _)
  refine ⟨?_, ?_, ?_⟩
  · rw [e]
    exact Int.dvd_add (Int.dvd_mul_of_dvd_right (Int.dvd_trans g2 h2)) (Int.dvd_mul_of_dvd_right (Int.dvd_trans g1 h1))
  · intro hy
    rw [hy]
    have : X * B - A * B = (X - A) * B := by grind
    rw [this]
    exact Int.mul_dvd_mul_right B h1
  · intro hx
    rw [hx]
    have : A * Y - A * B = (Y - B) * A := by grind
    rw [this]
    exact Int.mul_dvd_mul_right A h2

/-- the stride of a partial product, given as `|stride * value|` when one factor is a single value (`B₀`, then `Y`, `B`,
`B'` all are that value; likewise `A₀`) -/
theorem prodStride_dvd (sa sb : Nat) (A B X Y A' B' A₀ B₀ : Int) (bInt aInt : Prop) [Decidable bInt] [Decidable aInt]
    (h1 : (sa : Int) ∣ X - A) (h2 : (sb : Int) ∣ Y - B) (h1' : (sa : Int) ∣ X - A') (h2' : (sb : Int) ∣ Y - B')
    (hb : bInt → Y = B₀ ∧ B = B₀ ∧ B' = B₀) (ha : aInt → X = A₀ ∧ A = A₀ ∧ A' = A₀) (g : Nat)
    (hg : g = if bInt then ((sa : Int) * B₀).natAbs else if aInt then ((sb : Int) * A₀).natAbs else Nat.gcd sa sb) :
    (g : Int) ∣ X * Y - A * B ∧ (g : Int) ∣ X * Y - A' * B' := by
  obtain ⟨p1, p2, p3⟩ := stride_dvd sa sb A B X Y h1 h2
  obtain ⟨q1, q2, q3⟩ := stride_dvd sa sb A' B' X Y h1' h2'
  by_cases c1 : bInt
  · rw [if_pos c1] at hg
    obtain ⟨e1, e2, e3⟩ := hb c1
    rw [hg, ← e2]
    refine ⟨Int.natAbs_dvd.2 (p2 (by rw [e1, e2])), ?_⟩
    rw [e2, ← e3]
    exact Int.natAbs_dvd.2 (q2 (by rw [e1, e3]))
  · rw [if_neg c1] at hg
    by_cases c2 : aInt
    · rw [if_pos c2] at hg
      obtain ⟨e1, e2, e3⟩ := ha c2
      rw [hg, ← e2]
      refine ⟨Int.natAbs_dvd.2 (p3 (by rw [e1, e2])), ?_⟩
      rw [e2, ← e3]
      exact Int.natAbs_dvd.2 (q3 (by rw [e1, e3]))
    · rw [if_neg c2] at hg
      rw [hg]; exact ⟨p1, q1⟩

theorem prodStride_zero (sa sb : Nat) (A B A' B' A₀ B₀ : Int) (bInt aInt : Prop) [Decidable bInt] [Decidable aInt]
    (hb : bInt → B = B₀ ∧ B' = B₀) (ha : aInt → A = A₀ ∧ A' = A₀)
    (za : sa = 0 → A = A') (zb : sb = 0 → B = B')
    (hg : 0 = if bInt then ((sa : Int) * B₀).natAbs else if aInt then ((sb : Int) * A₀).natAbs else Nat.gcd sa sb) :
    A * B = A' * B' := by
  by_cases c1 : bInt
  · rw [if_pos c1] at hg
    obtain ⟨e2, e3⟩ := hb c1
    rcases Int.mul_eq_zero.1 (Int.natAbs_eq_zero.1 hg.symm) with h | h
    · rw [za (by exact_mod_cast h), e2, e3]
    · rw [e2, e3, h, Int.mul_zero, Int.mul_zero]
  · rw [if_neg c1] at hg
    by_cases c2 : aInt
    · rw [if_pos c2] at hg
      obtain ⟨e2, e3⟩ := ha c2
      rcases Int.mul_eq_zero.1 (Int.natAbs_eq_zero.1 hg.symm) with h | h
      · rw [zb (by exact_mod_cast h), e2, e3]
      · rw [e2, e3, h, Int.zero_mul, Int.zero_mul]
    · rw [if_neg c2] at hg
      rw [za (Nat.eq_zero_of_gcd_eq_zero_left hg.symm), zb (Nat.eq_zero_of_gcd_eq_zero_right hg.symm)]

/-- **a partial product as an interval**, bounds `A*B`, `A'*B'`: always well formed, not empty, normal; it contains a product
`X*Y` between the bounds whose factors are congruent to the lower anchors, and is aligned if they are congruent to the upper
anchors too -/
theorem prod_interval (w sa sb : Nat) (A B X Y A' B' A₀ B₀ : Int) (bInt aInt : Prop) [Decidable bInt] [Decidable aInt]
    (hw : 0 < w) (hb : bInt → B = B₀ ∧ B' = B₀) (ha : aInt → A = A₀ ∧ A' = A₀)
    (za : sa = 0 → A = A') (zb : sb = 0 → B = B') (g : Nat)
    (hg : g = if bInt then ((sa : Int) * B₀).natAbs else if aInt then ((sb : Int) * A₀).natAbs else Nat.gcd sa sb) :
    (WFw w (finSI w g (A * B) (A' * B')) ∧ (finSI w g (A * B) (A' * B')).bottom = false ∧ Nrm (finSI w g (A * B) (A' * B'))) ∧
      ((sa : Int) ∣ X - A → (sb : Int) ∣ Y - B → (bInt → Y = B₀) → (aInt → X = A₀) → A * B ≤ X * Y → X * Y ≤ A' * B' →
        (finSI w g (A * B) (A' * B')).mem (imod (X * Y) w) ∧
        ((sa : Int) ∣ X - A' → (sb : Int) ∣ Y - B' → (finSI w g (A * B) (A' * B')).Aligned)) := by
  refine ⟨fin_WF w g (A * B) (A' * B') hw (fun hz =>
    prodStride_zero sa sb A B A' B' A₀ B₀ bInt aInt hb ha za zb (by rw [← hz]; exact hg)), ?_⟩
  intro h1 h2 yb xa hlo hhi
  have hb3 : bInt → Y = B₀ ∧ B = B₀ ∧ B' = B₀ := fun c => ⟨yb c, hb c⟩
  have ha3 : aInt → X = A₀ ∧ A = A₀ ∧ A' = A₀ := fun c => ⟨xa c, ha c⟩
  have d1 := (prodStride_dvd sa sb A B X Y A B A₀ B₀ bInt aInt h1 h2 h1 h2
    (fun c => ⟨yb c, (hb c).1, (hb c).1⟩) (fun c => ⟨xa c, (ha c).1, (ha c).1⟩) g hg).1
  obtain ⟨f3, f4⟩ := finInterval w g (A * B) (A' * B') (X * Y) hlo hhi d1
  refine ⟨f3, fun h1' h2' => f4 ?_⟩
  obtain ⟨_, d2⟩ := prodStride_dvd sa sb A B X Y A' B' A₀ B₀ bInt aInt h1 h2 h1' h2' hb3 ha3 g hg
  have : A' * B' - A * B = (X * Y - A * B) - (X * Y - A' * B') := by grind
  rw [this]; exact Int.dvd_sub d1 d2

/-- multiplying `A ≤ X ≤ A'` by a number of known sign (a non-positive factor reverses the order) -/
theorem mul_between (n : Prop) [Decidable n] (A X A' Y : Int) (h : A ≤ X) (h' : X ≤ A') (s : if n then Y ≤ 0 else 0 ≤ Y) :
    (if n then A' else A) * Y ≤ X * Y ∧ X * Y ≤ (if n then A else A') * Y := by
  by_cases c : n
  · simp only [if_pos c] at s ⊢
    exact ⟨Int.mul_le_mul_of_nonpos_right h' s, Int.mul_le_mul_of_nonpos_right h s⟩
  · simp only [if_neg c] at s ⊢
    exact ⟨Int.mul_le_mul_of_nonneg_right h s, Int.mul_le_mul_of_nonneg_right h' s⟩

/-- **the corners that bound a product**: for `X ∈ [A, A']` and `Y ∈ [B, B']`, neither interval containing numbers of both
signs (`an`, `bn`: the interval is non-positive), the least and the greatest product are those of the corners the signs pick -/
theorem mul_corners (an bn : Prop) [Decidable an] [Decidable bn] (A X A' B Y B' : Int)
    (hA : A ≤ X) (hA' : X ≤ A') (hB : B ≤ Y) (hB' : Y ≤ B')
    (sa : if an then A' ≤ 0 else 0 ≤ A) (sb : if bn then B' ≤ 0 else 0 ≤ B) :
    (if bn then A' else A) * (if an then B' else B) ≤ X * Y ∧ X * Y ≤ (if bn then A else A') * (if an then B else B') := by
  have sY : if bn then Y ≤ 0 else 0 ≤ Y := by
    by_cases c : bn
    · rw [if_pos c] at sb ⊢; omega
    · rw [if_neg c] at sb ⊢; omega
  have sA : ∀ P : Prop, [Decidable P] → if an then (if P then A' else A) ≤ 0 else 0 ≤ (if P then A' else A) := by
    intro P _
    by_cases c : an
    · rw [if_pos c] at sa ⊢; split <;> omega
    · rw [if_neg c] at sa ⊢; split <;> omega
  obtain ⟨l1, u1⟩ := mul_between bn A X A' Y hA hA' sY
  obtain ⟨l2, _⟩ := mul_between an B Y B' (if bn then A' else A) hB hB' (sA bn)
  obtain ⟨_, u2⟩ := mul_between an B Y B' (if bn then A else A') hB hB' (by have := sA (¬ bn); simpa only [ite_not] using this)
  rw [Int.mul_comm _ (if bn then A' else A), Int.mul_comm Y] at l2
  rw [Int.mul_comm Y, Int.mul_comm _ (if bn then A else A')] at u2
  exact ⟨Int.le_trans l2 l1, Int.le_trans u1 u2⟩

theorem imod_toInt_mul (w x y : Nat) : imod (Conc.toInt w x * Conc.toInt w y) w = (x * y) % 2 ^ w := by
  unfold Conc.toInt
  split <;> split
  · have : ((x : Int) * (y : Int)) = ((x * y : Nat) : Int) := by push_cast; rfl
    rw [this, imod_nat]
  · apply imod_shift _ (-(x : Int))
    push_cast; grind
  · apply imod_shift _ (-(y : Int))
    push_cast; grind
  · apply imod_shift _ (-(x : Int) - (y : Int) + ((2 ^ w : Nat) : Int))
    push_cast; grind

/-- a piece lies in one half of the circle: its signed values have one sign -/
theorem piece_sign (w : Nat) (p : SI) (hp : SignPiece w p) :
    if 2 ^ (w - 1) ≤ p.lb then Conc.toInt w p.ub ≤ 0 else 0 ≤ Conc.toInt w p.lb := by
  have hw0 := hp.wf.pos
  have hu := hp.wf.ub_lt
  have hle := hp.le
  have hm2 := two_pow_half w hw0
  unfold Conc.toInt
  split
  · rw [if_neg (by omega)]; omega
  · rcases hp.half with h | h
    · rw [if_pos (by omega)]; omega
    · omega

theorem piece_toInt (w : Nat) (p : SI) (hp : SignPiece w p) (x : Nat) (hx : p.mem x) :
    Conc.toInt w p.lb ≤ Conc.toInt w x ∧ Conc.toInt w x ≤ Conc.toInt w p.ub ∧
      ((p.stride : Nat) : Int) ∣ Conc.toInt w x - Conc.toInt w p.lb ∧
      (p.Aligned → ((p.stride : Nat) : Int) ∣ Conc.toInt w x - Conc.toInt w p.ub) := by
  obtain ⟨h1, h2, d1, d3⟩ := piece_mem w p hp x hx
  have hu := hp.wf.ub_lt
  have hw0 := hp.wf.pos
  have hm2 := two_pow_half w hw0
  unfold Conc.toInt
  rcases hp.half with hlow | hhigh
  · rw [if_pos (by omega), if_pos (by omega), if_pos hlow]
    exact ⟨by omega, by omega, d1, d3⟩
  · rw [if_neg (by omega), if_neg (by omega), if_neg (by omega)]
    refine ⟨by omega, by omega, ?_, fun hal => ?_⟩
    · have : (x : Int) - ((2 ^ w : Nat) : Int) - ((p.lb : Int) - ((2 ^ w : Nat) : Int)) = (x : Int) - p.lb := by grind
      rw [this]; exact d1
    · have : (x : Int) - ((2 ^ w : Nat) : Int) - ((p.ub : Int) - ((2 ^ w : Nat) : Int)) = (x : Int) - p.ub := by grind
      rw [this]; exact d3 hal

theorem natAbs_cast_mul (a b : Nat) : ((a : Int) * (b : Int)).natAbs = a * b := by
  rw [Int.natAbs_mul, Int.natAbs_natCast, Int.natAbs_natCast]

theorem piece_integer {α : Type} (f : Nat → α) (p : SI) (hp : p.WF) (x : Nat) (hx : p.mem x) (h : p.isInteger = true) :
    f x = f p.lb ∧ f p.ub = f p.lb := by
  have hi := (isInteger_iff p).1 h
  exact ⟨by rw [mem_integer p x hp hi hx], by rw [hi]⟩

theorem wrappedUnsignedMul_pieces (w : Nat) (a b : SI) (ha : a.bits = w) (hb : b.bits = w) :
    wrappedUnsignedMul a b = finSI w
      (if b.isInteger = true then a.stride * b.lb else if a.isInteger = true then a.lb * b.stride else Nat.gcd a.stride b.stride)
      ((a.lb : Int) * (b.lb : Int)) ((a.ub : Int) * (b.ub : Int)) := by
  unfold wrappedUnsignedMul finSI
  simp only [ha, hb, Nat.max_self, Int.natCast_mul]

/-- whatever the operands: wrapping, crossing a pole, empty -/
theorem umul_WF (w : Nat) (a b : SI) (ha : WFw w a) (hb : WFw w b) :
    WFw w (wrappedUnsignedMul a b) ∧ (wrappedUnsignedMul a b).bottom = false ∧ Nrm (wrappedUnsignedMul a b) := by
  rw [wrappedUnsignedMul_pieces w a b ha.2 hb.2]
  refine fin_WF w _ _ _ ha.pos (fun hz => prodStride_zero a.stride b.stride a.lb b.lb a.ub b.ub a.lb b.lb
    (b.isInteger = true) (a.isInteger = true) (fun hI => ⟨rfl, by rw [(isInteger_iff b).1 hI]⟩)
    (fun hI => ⟨rfl, by rw [(isInteger_iff a).1 hI]⟩) (fun h0 => by rw [ha.1.2.2.2.1 h0]) (fun h0 => by rw [hb.1.2.2.2.1 h0]) ?_)
  rw [← hz]
  split_ifs
  · rw [natAbs_cast_mul]
  · rw [natAbs_cast_mul, Nat.mul_comm]
  · rfl

theorem umul_piece (w : Nat) (a b : SI) (x y : Nat) (ha : SignPiece w a) (hb : SignPiece w b) (hx : a.mem x) (hy : b.mem y) :
    (WFw w (wrappedUnsignedMul a b) ∧ (wrappedUnsignedMul a b).bottom = false ∧ Nrm (wrappedUnsignedMul a b)) ∧
      (wrappedUnsignedMul a b).mem ((x * y) % 2 ^ w) ∧
      (a.Aligned → b.Aligned → (wrappedUnsignedMul a b).Aligned) ∧
      (a.ub * b.ub < 2 ^ w → (wrappedUnsignedMul a b).lb ≤ (wrappedUnsignedMul a b).ub) := by
  have hw0 := ha.wf.pos
  obtain ⟨a1, a2, a4, a6⟩ := piece_mem w a ha x hx
  obtain ⟨b1, b2, b4, b6⟩ := piece_mem w b hb y hy
  have e3 : imod ((x : Int) * (y : Int)) w = (x * y) % 2 ^ w := by
    have : ((x : Int) * (y : Int)) = ((x * y : Nat) : Int) := by push_cast; rfl
    rw [this, imod_nat]
  rw [wrappedUnsignedMul_pieces w a b ha.wf.2 hb.wf.2, ← e3]
  obtain ⟨k0, k⟩ := prod_interval w a.stride b.stride (a.lb : Int) (b.lb : Int) (x : Int) (y : Int) (a.ub : Int) (b.ub : Int)
    (a.lb : Int) (b.lb : Int) (b.isInteger = true) (a.isInteger = true) hw0
    (fun h => ⟨rfl, (piece_integer _ b hb.wf.1 y hy h).2⟩) (fun h => ⟨rfl, (piece_integer _ a ha.wf.1 x hx h).2⟩)
    (fun h => by rw [ha.wf.1.2.2.2.1 h]) (fun h => by rw [hb.wf.1.2.2.2.1 h])
    (if b.isInteger = true then a.stride * b.lb else if a.isInteger = true then a.lb * b.stride else Nat.gcd a.stride b.stride)
    (by
      split_ifs
      · rw [natAbs_cast_mul]
      · rw [natAbs_cast_mul, Nat.mul_comm]
      · rfl)
  obtain ⟨k3, k4⟩ := k a4 b4 (fun h => (piece_integer _ b hb.wf.1 y hy h).1)
    (fun h => (piece_integer _ a ha.wf.1 x hx h).1) (by exact_mod_cast Nat.mul_le_mul a1 b1)
    (by exact_mod_cast Nat.mul_le_mul a2 b2)
  refine ⟨k0, k3, fun alA alB => k4 (a6 alA) (b6 alB), fun hno => ?_⟩
  apply finSI_le w _ _ _ 0
  · exact_mod_cast Nat.mul_le_mul ha.le hb.le
  · rw [Int.zero_mul]; exact_mod_cast Nat.zero_le (a.lb * b.lb)
  · rw [Int.zero_add, Int.one_mul]; exact_mod_cast hno

/-- the stride `_wrapped_signed_mul` gives the multiples of a single value `v` is `|stride * signed v|` -/
theorem signedStride (w s v : Nat) (hw : 0 < w) (hv : v < 2 ^ w) :
    (if isMsbZero (v : Int) w = true then s * v else ((s : Int) * Conc.toInt w v).natAbs) =
      ((s : Int) * Conc.toInt w v).natAbs := by
  split
  · rename_i h
    have : Conc.toInt w v = v := by unfold Conc.toInt; rw [if_pos ((isMsbZero_iff v w hw hv).1 h)]
    rw [this, natAbs_cast_mul]
  · rfl

theorem isMsbZero_false (v w : Nat) (hw : 0 < w) (hv : v < 2 ^ w) (h : 2 ^ (w - 1) ≤ v) : isMsbZero (v : Int) w = false := by
  cases hh : isMsbZero (v : Int) w with
  | false => rfl
  | true => have := (isMsbZero_iff v w hw hv).1 hh; omega

theorem smul_WF (w : Nat) (a b sm : SI) (ha : WFw w a) (hb : WFw w b) (h : wrappedSignedMul a b = .ok sm) :
    WFw w sm ∧ sm.bottom = false ∧ Nrm sm := by
  have hw0 := ha.pos
  have hal := ha.lb_lt
  have hau := ha.ub_lt
  have hbl := hb.lb_lt
  have hbu := hb.ub_lt
  have pos : ∀ v : Nat, v < 2 ^ w → isMsbZero (v : Int) w = true → ((v : Nat) : Int) = Conc.toInt w v := by
    intro v hv hz
    unfold Conc.toInt
    rw [if_pos ((isMsbZero_iff v w hw0 hv).1 hz)]
  -- every branch returns the interval between two products of signed bounds, each factor running over both bounds
  have key : ∀ A B A' B' : Int,
      (A = Conc.toInt w a.lb ∧ A' = Conc.toInt w a.ub ∨ A = Conc.toInt w a.ub ∧ A' = Conc.toInt w a.lb) →
      (B = Conc.toInt w b.lb ∧ B' = Conc.toInt w b.ub ∨ B = Conc.toInt w b.ub ∧ B' = Conc.toInt w b.lb) →
      ∀ g, g = (if b.isInteger = true then ((a.stride : Int) * Conc.toInt w b.lb).natAbs
        else if a.isInteger = true then ((b.stride : Int) * Conc.toInt w a.lb).natAbs else Nat.gcd a.stride b.stride) →
      WFw w (finSI w g (A * B) (A' * B')) ∧ (finSI w g (A * B) (A' * B')).bottom = false ∧
        Nrm (finSI w g (A * B) (A' * B')) := by
    intro A B A' B' hA hB g hg
    refine fin_WF w _ _ _ hw0 (fun hz => prodStride_zero a.stride b.stride A B A' B' (Conc.toInt w a.lb)
      (Conc.toInt w b.lb) (b.isInteger = true) (a.isInteger = true) (fun hI => ?_) (fun hI => ?_) (fun h0 => ?_)
      (fun h0 => ?_) (by rw [← hz]; exact hg))
    · rw [← (isInteger_iff b).1 hI] at hB
      rcases hB with e | e <;> exact e
    · rw [← (isInteger_iff a).1 hI] at hA
      rcases hA with e | e <;> exact e
    · rw [← ha.1.2.2.2.1 h0] at hA
      rcases hA with ⟨e1, e2⟩ | ⟨e1, e2⟩ <;> rw [e1, e2]
    · rw [← hb.1.2.2.2.1 h0] at hB
      rcases hB with ⟨e1, e2⟩ | ⟨e1, e2⟩ <;> rw [e1, e2]
  unfold wrappedSignedMul at h
  simp only [ha.2, hb.2, Nat.max_self, signedStride w a.stride b.lb hw0 hbl, signedStride w b.stride a.lb hw0 hal,
    toSigned_nat _ w hw0 hal, toSigned_nat _ w hw0 hau, toSigned_nat _ w hw0 hbl, toSigned_nat _ w hw0 hbu] at h
  rcases ite_pure_ok h with ⟨hc, rfl⟩ | ⟨-, h⟩
  · simp only [Bool.and_eq_true] at hc
    rw [Int.natCast_mul, Int.natCast_mul, pos _ hal hc.1.1.1, pos _ hau hc.1.1.2, pos _ hbl hc.1.2, pos _ hbu hc.2]
    exact key _ _ _ _ (Or.inl ⟨rfl, rfl⟩) (Or.inl ⟨rfl, rfl⟩) _ rfl
  rcases ite_pure_ok h with ⟨-, rfl⟩ | ⟨-, h⟩
  · exact key _ _ _ _ (Or.inr ⟨rfl, rfl⟩) (Or.inr ⟨rfl, rfl⟩) _ rfl
  rcases ite_pure_ok h with ⟨hc, rfl⟩ | ⟨-, h⟩
  · simp only [Bool.and_eq_true] at hc
    rw [pos _ hbl hc.1.2, pos _ hbu hc.2]
    exact key _ _ _ _ (Or.inl ⟨rfl, rfl⟩) (Or.inr ⟨rfl, rfl⟩) _ rfl
  rcases ite_pure_ok h with ⟨hc, rfl⟩ | ⟨-, h⟩
  · simp only [Bool.and_eq_true] at hc
    rw [pos _ hal hc.1.1.1, pos _ hau hc.1.1.2]
    exact key _ _ _ _ (Or.inr ⟨rfl, rfl⟩) (Or.inl ⟨rfl, rfl⟩) _ rfl
  · cases h
/-- **`_wrapped_signed_mul` of two pieces computed**: the bounds are the corner products `mul_corners` picks for the signed
values, each piece lying in one half of the circle -/
theorem wrappedSignedMul_pieces (w : Nat) (a b : SI) (ha : SignPiece w a) (hb : SignPiece w b) :
    wrappedSignedMul a b = .ok (finSI w
      (if b.isInteger = true then ((a.stride : Int) * Conc.toInt w b.lb).natAbs
        else if a.isInteger = true then ((b.stride : Int) * Conc.toInt w a.lb).natAbs else Nat.gcd a.stride b.stride)
      ((if 2 ^ (w - 1) ≤ b.lb then Conc.toInt w a.ub else Conc.toInt w a.lb) *
        (if 2 ^ (w - 1) ≤ a.lb then Conc.toInt w b.ub else Conc.toInt w b.lb))
      ((if 2 ^ (w - 1) ≤ b.lb then Conc.toInt w a.lb else Conc.toInt w a.ub) *
        (if 2 ^ (w - 1) ≤ a.lb then Conc.toInt w b.lb else Conc.toInt w b.ub))) := by
  have hw0 := ha.wf.pos
  have hal := ha.wf.lb_lt
  have hau := ha.wf.ub_lt
  have hbl := hb.wf.lb_lt
  have hbu := hb.wf.ub_lt
  have hale := ha.le
  have hble := hb.le
  -- the sign flags of a piece both say in which half it lies; signed values of the lower half are the values
  have flag : ∀ (p : SI) (v : Nat), SignPiece w p → v < 2 ^ w → p.lb ≤ v → v ≤ p.ub →
      (if 2 ^ (w - 1) ≤ p.lb then isMsbZero (v : Int) w = false else isMsbZero (v : Int) w = true ∧ Conc.toInt w v = v) := by
    intro p v hp hv h1 h2
    split
    · exact isMsbZero_false v w hw0 hv (by omega)
    · have hlow : v < 2 ^ (w - 1) := by rcases hp.half with h | h <;> omega
      exact ⟨(isMsbZero_iff v w hw0 hv).2 hlow, by unfold Conc.toInt; rw [if_pos hlow]⟩
  have f1 := flag a a.lb ha hal (Nat.le_refl _) hale
  have f2 := flag a a.ub ha hau hale (Nat.le_refl _)
  have f3 := flag b b.lb hb hbl (Nat.le_refl _) hble
  have f4 := flag b b.ub hb hbu hble (Nat.le_refl _)
  unfold wrappedSignedMul finSI
  simp only [ha.wf.2, hb.wf.2, Nat.max_self, signedStride w a.stride b.lb hw0 hbl, signedStride w b.stride a.lb hw0 hal,
    toSigned_nat _ w hw0 hal, toSigned_nat _ w hw0 hau, toSigned_nat _ w hw0 hbl, toSigned_nat _ w hw0 hbu]
  by_cases an : 2 ^ (w - 1) ≤ a.lb <;> by_cases bn : 2 ^ (w - 1) ≤ b.lb
  · rw [if_pos an] at f1 f2
    rw [if_pos bn] at f3 f4
    simp only [f1, f2, f3, f4, an, bn, Bool.and_self, Bool.false_eq_true, Bool.not_false, if_true, if_false]
    rfl
  · rw [if_pos an] at f1 f2
    rw [if_neg bn] at f3 f4
    simp only [f1, f2, f3.1, f4.1, f3.2, f4.2, an, bn, Bool.and_self, Bool.and_true, Bool.and_false, Bool.false_eq_true,
      Bool.not_false, Bool.not_true, if_true, if_false]
    rfl
  · rw [if_neg an] at f1 f2
    rw [if_pos bn] at f3 f4
    simp only [f1.1, f2.1, f3, f4, f1.2, f2.2, an, bn, Bool.and_self, Bool.and_true, Bool.and_false, Bool.false_eq_true,
      Bool.not_false, Bool.not_true, if_true, if_false]
    rfl
  · rw [if_neg an] at f1 f2
    rw [if_neg bn] at f3 f4
    simp only [f1.1, f2.1, f3.1, f4.1, f1.2, f2.2, f3.2, f4.2, an, bn, Bool.and_self, if_true, if_false, Int.natCast_mul]
    rfl

/-- Membership needs a piece that meets a negative piece to be aligned (its upper bound is then the anchor of the lower bound
of the product). -/
theorem smul_piece (w : Nat) (a b sm : SI) (x y : Nat) (ha : SignPiece w a) (hb : SignPiece w b) (hx : a.mem x) (hy : b.mem y)
    (h : wrappedSignedMul a b = .ok sm) :
    (WFw w sm ∧ sm.bottom = false ∧ Nrm sm) ∧
      ((2 ^ (w - 1) ≤ b.lb → a.Aligned) → (2 ^ (w - 1) ≤ a.lb → b.Aligned) → sm.mem ((x * y) % 2 ^ w)) ∧
      (a.Aligned → b.Aligned → sm.Aligned) ∧
      (a.lb = a.ub → a.ub < 2 ^ (w - 1) → a.ub * b.ub < 2 ^ w → sm.lb ≤ sm.ub) := by
  have hw0 := ha.wf.pos
  have hm2 := two_pow_half w hw0
  obtain ⟨a1, a2, a4, a5⟩ := piece_toInt w a ha x hx
  obtain ⟨b1, b2, b4, b5⟩ := piece_toInt w b hb y hy
  obtain ⟨lo, hi⟩ := mul_corners (2 ^ (w - 1) ≤ a.lb) (2 ^ (w - 1) ≤ b.lb) _ _ _ _ _ _ a1 a2 b1 b2
    (piece_sign w a ha) (piece_sign w b hb)
  rw [wrappedSignedMul_pieces w a b ha hb] at h
  rw [← Except.ok.inj h, ← imod_toInt_mul w x y]
  have zz : ∀ (p : SI), SignPiece w p → p.stride = 0 → ∀ c : Prop, [Decidable c] →
      (if c then Conc.toInt w p.ub else Conc.toInt w p.lb) = (if c then Conc.toInt w p.lb else Conc.toInt w p.ub) := by
    intro p hp h0 c _
    rw [hp.wf.1.2.2.2.1 h0]
  have ii : ∀ (p : SI), p.isInteger = true → ∀ c : Prop, [Decidable c] →
      (if c then Conc.toInt w p.ub else Conc.toInt w p.lb) = Conc.toInt w p.lb ∧
      (if c then Conc.toInt w p.lb else Conc.toInt w p.ub) = Conc.toInt w p.lb := by
    intro p hp c _
    rw [(isInteger_iff p).1 hp]; exact ⟨ite_self _, ite_self _⟩
  obtain ⟨k0, k⟩ := prod_interval (w := w) (sa := a.stride) (sb := b.stride)
    (A := if 2 ^ (w - 1) ≤ b.lb then Conc.toInt w a.ub else Conc.toInt w a.lb)
    (B := if 2 ^ (w - 1) ≤ a.lb then Conc.toInt w b.ub else Conc.toInt w b.lb)
    (A' := if 2 ^ (w - 1) ≤ b.lb then Conc.toInt w a.lb else Conc.toInt w a.ub)
    (B' := if 2 ^ (w - 1) ≤ a.lb then Conc.toInt w b.lb else Conc.toInt w b.ub)
    (X := Conc.toInt w x) (Y := Conc.toInt w y) (A₀ := Conc.toInt w a.lb) (B₀ := Conc.toInt w b.lb)
    (bInt := b.isInteger = true) (aInt := a.isInteger = true) (hw := hw0)
    (hb := fun hI => ii b hI _) (ha := fun hI => ii a hI _)
    (za := fun h0 => zz a ha h0 _) (zb := fun h0 => zz b hb h0 _) (g := _) (hg := rfl)
  have core := fun (nA : 2 ^ (w - 1) ≤ b.lb → a.Aligned) (nB : 2 ^ (w - 1) ≤ a.lb → b.Aligned) =>
    k (by split; exact a5 (nA ‹_›); exact a4) (by split; exact b5 (nB ‹_›); exact b4)
      (fun hI => (piece_integer (Conc.toInt w) b hb.wf.1 y hy hI).1)
      (fun hI => (piece_integer (Conc.toInt w) a ha.wf.1 x hx hI).1) lo hi
  refine ⟨k0, fun nA nB => (core nA nB).1, fun alA alB => (core (fun _ => alA) (fun _ => alB)).2 ?_ ?_, ?_⟩
  · split; exact a4; exact a5 alA
  · split; exact b4; exact b5 alB
  · -- `a = {k}` without the sign bit and `k·b.ub < 2^w`: the bounds `k·b.lb`, `k·b.ub` (signed) lie in one block
    intro e hk hno
    rw [← e] at hk hno
    have an : ¬ 2 ^ (w - 1) ≤ a.lb := by omega
    have hbu := hb.wf.ub_lt
    have hble := hb.le
    have tk : Conc.toInt w a.lb = a.lb := by unfold Conc.toInt; rw [if_pos (by omega)]
    have LU := Int.le_trans lo hi
    simp only [if_neg an, ← e, ite_self, tk] at LU ⊢
    by_cases bn : 2 ^ (w - 1) ≤ b.lb
    · have hk1 := le_one_of_mul_lt w a.lb b.ub hw0 (by omega) hno
      have t1 : Conc.toInt w b.lb = (b.lb : Int) - ((2 ^ w : Nat) : Int) := by unfold Conc.toInt; rw [if_neg (by omega)]
      have t2 : Conc.toInt w b.ub = (b.ub : Int) - ((2 ^ w : Nat) : Int) := by unfold Conc.toInt; rw [if_neg (by omega)]
      rw [t1, t2] at LU ⊢
      have h01 : a.lb = 0 ∨ a.lb = 1 := by omega
      rcases h01 with h0 | h1
      · rw [h0] at LU ⊢
        simp only [Int.natCast_zero, Int.zero_mul] at LU ⊢
        exact finSI_le w _ _ _ 0 LU (by omega) (by have := Nat.two_pow_pos w; omega)
      · rw [h1] at LU ⊢
        simp only [Int.natCast_one, Int.one_mul] at LU ⊢
        exact finSI_le w _ _ _ (-1) LU (by omega) (by omega)
    · have hlow : b.ub < 2 ^ (w - 1) := by rcases hb.half with h | h <;> omega
      have t1 : Conc.toInt w b.lb = (b.lb : Int) := by unfold Conc.toInt; rw [if_pos (by omega)]
      have t2 : Conc.toInt w b.ub = (b.ub : Int) := by unfold Conc.toInt; rw [if_pos hlow]
      rw [t1, t2] at LU ⊢
      refine finSI_le w _ _ _ 0 LU ?_ ?_
      · rw [Int.zero_mul]; exact Int.mul_nonneg (Int.natCast_nonneg _) (Int.natCast_nonneg _)
      · rw [Int.zero_add, Int.one_mul]; exact_mod_cast hno

/-- whatever the operands: the meet always returns such intervals -/
theorem mulPair_good (w : Nat) (a b : SI) (ha : WFw w a) (hb : WFw w b) (l : List SI) (h : mulPair a b = .ok l) :
    ∀ r, r ∈ l → Good w True r := by
  unfold mulPair at h
  obtain ⟨sm, hsm, h⟩ := bind_ok h
  obtain ⟨u1, u2, _⟩ := umul_WF w a b ha hb
  obtain ⟨s1, s2, _⟩ := smul_WF w a b sm ha hb hsm
  exact multiMeet_good w _ sm u1 s1 u2 s2 l h

/-- **one pair of pieces of `mul`**: one of the partial results contains the product if every piece that meets a negative
piece is aligned and the two partial products are ready for the meet (aligned pieces; or `{k}` times a piece without overflow) -/
theorem mulPair_sound (w : Nat) (a b : SI) (ha : SignPiece w a) (hb : SignPiece w b) (l : List SI) (h : mulPair a b = .ok l)
    (nA : 2 ^ (w - 1) ≤ b.lb → a.Aligned) (nB : 2 ^ (w - 1) ≤ a.lb → b.Aligned)
    (hr : (a.Aligned ∧ b.Aligned) ∨ (a.lb = a.ub ∧ a.ub < 2 ^ (w - 1) ∧ a.ub * b.ub < 2 ^ w)) :
    ∀ x y, a.mem x → b.mem y → ∃ r, r ∈ l ∧ r.mem ((x * y) % 2 ^ w) := by
  unfold mulPair at h
  obtain ⟨sm, hsm, h⟩ := bind_ok h
  intro x y hx hy
  obtain ⟨⟨u1, u2, u3⟩, um, u4, u5⟩ := umul_piece w a b x y ha hb hx hy
  obtain ⟨⟨s1, s2, s3⟩, smm, s4, s5⟩ := smul_piece w a b sm x y ha hb hx hy hsm
  have rdy : MeetReady (wrappedUnsignedMul a b) ∧ MeetReady sm := by
    rcases hr with ⟨al1, al2⟩ | ⟨e, hk, hno⟩
    · exact ⟨meetReady_of_aligned _ u1.1 (u4 al1 al2), meetReady_of_aligned _ s1.1 (s4 al1 al2)⟩
    · exact ⟨meetReady_of_le _ (u5 hno), meetReady_of_le _ (s5 e hk hno)⟩
  exact (multiMeet_sound_tp w _ sm u1 s1 u2 s2 rdy.1 rdy.2 u3 s3 l h).2 _ um (smm nA nB)

theorem psplit_pieces (w : Nat) (s : SI) (hs : WFw w s) (hsb : s.bottom = false) (ns : Nrm s)
    (ps : List SI) (h : s.psplit = .ok ps) :
    (∀ a, a ∈ ps → SignPiece w a ∧ (s.Aligned → a.Aligned)) ∧ ∀ x, s.mem x → ∃ a, a ∈ ps ∧ a.mem x := by
  obtain ⟨q, e, pr, cov⟩ := psplit_good s hs.1 hsb ns
  rw [h] at e; cases e
  rw [hs.2] at pr
  refine ⟨fun a ha => ?_, cov⟩
  obtain ⟨g, c2, c3, c4, _⟩ := pr a ha
  exact ⟨⟨g.wf, c2, c3, c4⟩, g.aligned⟩

theorem mul_good (w : Nat) (s o r : SI) (hs : WFw w s) (ho : WFw w o) (hsb : s.bottom = false) (hob : o.bottom = false)
    (hsA : s.Aligned) (hoA : o.Aligned) (ns : Nrm s) (no : Nrm o) (h : s.mul o = .ok r) :
    Good w True r ∧ ∀ x y, s.mem x → o.mem y → r.mem ((x * y) % 2 ^ w) := by
  have hw0 := hs.pos
  rw [mul_eq] at h
  by_cases hint : (s.isInteger && o.isInteger) = true
  · rw [if_pos hint] at h
    have hr := pure_ok h
    have hi : s.lb = s.ub ∧ o.lb = o.ub := by simpa [SI.isInteger] using hint
    rw [hr, hs.2]
    have hm : (SI.new w 0 ((s.lb * o.lb : Nat) : Int) ((s.lb * o.lb : Nat) : Int)).mem ((s.lb * o.lb) % 2 ^ w) := by
      rw [mem_new, imod_nat]
      simp [cd_self, Nat.mod_lt _ (Nat.two_pow_pos w)]
    refine ⟨good_const w True _ hw0, ?_⟩
    intro x y hx hy
    rw [mem_integer s x hs.1 hi.1 hx, mem_integer o y ho.1 hi.2 hy]
    exact hm
  · rw [if_neg hint] at h
    obtain ⟨p1, hp1, h⟩ := bind_ok h
    obtain ⟨p2, hp2, h⟩ := bind_ok h
    obtain ⟨all, hall, h⟩ := bind_ok h
    obtain ⟨u, hu, h⟩ := bind_ok h
    obtain ⟨ok1, cov1⟩ := psplit_pieces w s hs hsb ns p1 hp1
    obtain ⟨ok2, cov2⟩ := psplit_pieces w o ho hob no p2 hp2
    obtain ⟨m1, m2⟩ := pairOuter_lub w True mulPair p2 p1 all u hall hu
      (fun a b l ha hb hl => mulPair_good w a b (ok1 a ha).1.wf (ok2 b hb).1.wf l hl)
    rw [pure_ok h]
    refine ⟨m1, ?_⟩
    intro x y hx hy
    obtain ⟨a, ha, hax⟩ := cov1 x hx
    obtain ⟨b, hb, hby⟩ := cov2 y hy
    have alA := (ok1 a ha).2 hsA
    have alB := (ok2 b hb).2 hoA
    exact m2 a b _ ha hb (fun l hl => mulPair_sound w a b (ok1 a ha).1 (ok2 b hb).1 l hl
      (fun _ => alA) (fun _ => alB) (Or.inl ⟨alA, alB⟩) x y hax hby)

theorem mul_sound (w : Nat) (s o r : SI) (hs : WFw w s) (ho : WFw w o) (hsb : s.bottom = false) (hob : o.bottom = false)
    (hsA : s.Aligned) (hoA : o.Aligned) (ns : Nrm s) (no : Nrm o) (h : s.mul o = .ok r) :
    WFw w r ∧ ∀ x y, s.mem x → o.mem y → r.mem ((x * y) % 2 ^ w) :=
  have g := mul_good w s o r hs ho hsb hob hsA hoA ns no h
  ⟨g.1.wf, g.2⟩

theorem mul_aligned (w : Nat) (s o r : SI) (hs : WFw w s) (ho : WFw w o) (hsb : s.bottom = false) (hob : o.bottom = false)
    (hsA : s.Aligned) (hoA : o.Aligned) (ns : Nrm s) (no : Nrm o) (h : s.mul o = .ok r) : r.Aligned :=
  (mul_good w s o r hs ho hsb hob hsA hoA ns no h).1.aligned trivial

end Claripy.VSA

import ClaripyProofs.Lemmas.VSA.Psplit
import ClaripyProofs.Lemmas.VSA.ShiftSound
import ClaripyProofs.Lemmas.VSA.BitsAux
/-! `rshift_arithmetic`, walked once (`ashr_good`): `_psplit` cuts the operand into non-wrapping pieces inside one half of
the circle; on such a piece the arithmetic shift is the logical shift, plus the sign mask in the upper half. -/
namespace Claripy.VSA

/-- arithmetic shift of a `w`-bit value by `k ≤ w`, as the code computes it on a piece -/
def ashrN (w x k : Nat) : Nat :=
  if x < 2 ^ (w - 1) then x >>> k else x >>> k ||| (2 ^ k - 1) <<< (w - k)

theorem ashr_val (w x k : Nat) (hx : x < 2 ^ w) :
    Conc.ashr w x k = if x < 2 ^ (w - 1) then x >>> k else 2 ^ w - 1 - ((2 ^ w - 1 - x) >>> k) := by
  unfold Conc.ashr
  have hmsb : (BitVec.ofNat w x).msb = decide (2 ^ (w - 1) ≤ x) := by
    rw [BitVec.msb_eq_decide, BitVec.toNat_ofNat, Nat.mod_eq_of_lt hx]
  by_cases h : x < 2 ^ (w - 1)
  · rw [if_pos h]
    have : (BitVec.ofNat w x).msb = false := by rw [hmsb]; simp; omega
    rw [BitVec.sshiftRight_eq_of_msb_false this, BitVec.toNat_ushiftRight, BitVec.toNat_ofNat, Nat.mod_eq_of_lt hx]
  · rw [if_neg h]
    have : (BitVec.ofNat w x).msb = true := by rw [hmsb]; simp; omega
    rw [BitVec.sshiftRight_eq_of_msb_true this, BitVec.toNat_not, BitVec.toNat_ushiftRight, BitVec.toNat_not,
      BitVec.toNat_ofNat, Nat.mod_eq_of_lt hx]

/-- the sign mask: the top `k` bits of `w` -/
theorem mask_val (w k : Nat) (hk : k ≤ w) : (2 ^ k - 1) <<< (w - k) = 2 ^ w - 2 ^ (w - k) := by
  rw [Nat.shiftLeft_eq, Nat.sub_mul, Nat.one_mul, ← Nat.pow_add]
  congr 2
  omega

/-- `~(~x >> k) = (x >> k) + mask` -/
theorem ashr_high (w x k : Nat) (hk : k ≤ w) (hx : x < 2 ^ w) :
    2 ^ w - 1 - ((2 ^ w - 1 - x) >>> k) = x >>> k + (2 ^ w - 2 ^ (w - k)) ∧ x >>> k < 2 ^ (w - k) := by
  -- with `x = q * 2^k + r`: `2^w - 1 - x = (2^(w-k) - 1 - q) * 2^k + (2^k - 1 - r)`; the two subtractions, on their own
  have split : ∀ N P A B x r : Nat, A + B + P = N → B + r = x → r < P → N - 1 - x = (P - 1 - r) + A := by
    intro N P A B x r h1 h2 h3
    omega
  have compl : ∀ N Q q : Nat, q < Q → Q ≤ N → N - 1 - (Q - 1 - q) = q + (N - Q) := by
    intro N Q q h1 h2
    omega
  have hP := Nat.two_pow_pos k
  have hw : 2 ^ w = 2 ^ k * 2 ^ (w - k) := by
    rw [← Nat.pow_add]
    congr 1
    omega
  simp only [Nat.shiftRight_eq_div_pow]
  have hq : x / 2 ^ k < 2 ^ (w - k) := Nat.div_lt_of_lt_mul (by rw [← hw]; exact hx)
  refine ⟨?_, hq⟩
  have e := Nat.div_add_mod x (2 ^ k)
  have hr := Nat.mod_lt x hP
  have hm : 2 ^ k * (2 ^ (w - k) - 1 - x / 2 ^ k) + 2 ^ k * (x / 2 ^ k) + 2 ^ k = 2 ^ w := by
    rw [hw, ← Nat.mul_add, ← Nat.mul_succ]
    congr 1
    omega
  rw [split _ _ _ _ x _ hm e hr, Nat.add_mul_div_left _ _ hP, Nat.div_eq_of_lt (by omega), Nat.zero_add]
  exact compl _ _ _ hq (Nat.pow_le_pow_right (by omega) (Nat.sub_le _ _))

theorem ashrN_val (w x k : Nat) (hk : k ≤ w) (hx : x < 2 ^ w) :
    ashrN w x k = if x < 2 ^ (w - 1) then x >>> k else x >>> k + (2 ^ w - 2 ^ (w - k)) := by
  unfold ashrN
  split
  · rfl
  · rw [mask_val w k hk, or_mask _ (w - k) w (ashr_high w x k hk hx).2 (Nat.sub_le _ _)]

theorem ashr_roundTo (w x y : Nat) (hx : x < 2 ^ w) : Conc.ashr w x y = ashrN w x (roundTo w y) := by
  have hrk : roundTo w y ≤ w := by unfold roundTo; split_ifs <;> omega
  rw [ashr_val w x y hx, ashrN_val w x _ hrk hx]
  by_cases hy : y > w
  · have hr : roundTo w y = w := by unfold roundTo; rw [if_pos hy]
    rw [hr]
    have z1 : x >>> y = 0 := by
      rw [Nat.shiftRight_eq_div_pow]
      exact Nat.div_eq_of_lt (Nat.lt_of_lt_of_le hx (Nat.pow_le_pow_right (by omega) (by omega)))
    have z2 : (2 ^ w - 1 - x) >>> y = 0 := by
      rw [Nat.shiftRight_eq_div_pow]
      have hp := Nat.two_pow_pos w
      exact Nat.div_eq_of_lt (Nat.lt_of_lt_of_le (show 2 ^ w - 1 - x < 2 ^ w by omega)
        (Nat.pow_le_pow_right (by omega) (by omega)))
    have z3 : x >>> w = 0 := by rw [Nat.shiftRight_eq_div_pow]; exact Nat.div_eq_of_lt hx
    rw [z1, z2, z3]
    simp
  · have hr : roundTo w y = y := by unfold roundTo; rw [if_neg hy]
    rw [hr]
    split
    · rfl
    · exact (ashr_high w x y (by omega) hx).1

theorem unionLoop_eq (f : SI → R SI) (l : List SI) : ∀ acc : SI,
    (forIn l acc (fun q r => (do let x ← f q; let u ← r.union x; pure (ForInStep.yield u) : R _))) = unionLoop f l acc := by
  induction l with
  | nil => intro acc; rfl
  | cons q qs ih =>
    intro acc
    rw [List.forIn_cons]
    unfold unionLoop
    simp only [bind_assoc, pure_bind, ih]

/-- the single-piece result of `_rshift_arithmetic` -/
def ashrPiece (s p : SI) (k : Nat) : SI :=
  let high := decide (p.lb > 2 ^ (p.bits - 1) - 1)
  let lower := p.lb >>> k
  let upper := p.ub >>> k
  let stride := rshiftStride s.stride k
  let mask := (2 ^ k - 1) <<< (s.bits - k)
  let lower := if high then lower ||| mask else lower
  let upper := if high then upper ||| mask else upper
  let stride := if lower = upper then 0 else stride
  SI.new s.bits stride (lower : Int) (upper : Int)

theorem rshiftArithK_succ (fuel : Nat) (s : SI) (k : Nat) :
    rshiftArithK (fuel + 1) s k =
      if s.bottom then pure s else s.psplit >>= fun ps =>
        match ps with
        | [p] => pure (ashrPiece s p k)
        | [] => throw .assertion
        | p :: rest => rshiftArithK fuel p k >>= fun acc => unionLoop (fun q => rshiftArithK fuel q k) rest acc := by
  rw [rshiftArithK]
  split
  · rfl
  · congr
    funext ps
    split
    · rfl
    · rfl
    · rename_i p rest hne
      cases rest with
      | nil => exact absurd rfl hne
      | cons q qs =>
        show _ = rshiftArithK fuel p k >>= fun acc => unionLoop (fun q => rshiftArithK fuel q k) (q :: qs) acc
        congr
        funext acc
        rw [← unionLoop_eq]
        simp

theorem ashrPiece_good (s p : SI) (k : Nat) (al : Prop) (hp : Good s.bits al p)
    (hpb : p.bottom = false) (hle : p.lb ≤ p.ub) (hhalf : p.ub < 2 ^ (s.bits - 1) ∨ 2 ^ (s.bits - 1) ≤ p.lb)
    (hst : p.stride = 0 ∨ p.stride = s.stride) (hk : k ≤ s.bits) :
    Good s.bits al (ashrPiece s p k) ∧ ∀ x, p.mem x → (ashrPiece s p k).mem (ashrN s.bits x k) := by
  have hH := Nat.two_pow_pos (s.bits - 1)
  have hpl := hp.lb_lt
  have hpu := hp.ub_lt
  obtain ⟨_, hloq⟩ := ashr_high s.bits p.lb k hk hpl
  obtain ⟨_, hhiq⟩ := ashr_high s.bits p.ub k hk hpu
  have hQ : 2 ^ (s.bits - k) ≤ 2 ^ s.bits := Nat.pow_le_pow_right (by omega) (by omega)
  have hlo := shr_lt p.lb k s.bits hpl
  -- on the piece the arithmetic shift is the logical one moved up by `c`
  have key : ∀ c : Nat, p.ub >>> k + c < 2 ^ s.bits →
      ashrPiece s p k = SI.new s.bits (if p.lb >>> k + c = p.ub >>> k + c then 0 else rshiftStride s.stride k)
        ((p.lb >>> k + c : Nat) : Int) ((p.ub >>> k + c : Nat) : Int) →
      (∀ x, p.lb ≤ x → x ≤ p.ub → ashrN s.bits x k = x >>> k + c) →
      Good s.bits al (ashrPiece s p k) ∧ ∀ x, p.mem x → (ashrPiece s p k).mem (ashrN s.bits x k) := by
    intro c hfit he hval
    have hmono : p.lb >>> k ≤ p.ub >>> k := by
      simp only [Nat.shiftRight_eq_div_pow]
      exact Nat.div_le_div_right hle
    rw [he, new_stride_ite _ _ _ _ (by omega) hfit]
    obtain ⟨g1, g2⟩ := rshift_piece_good s.bits k s.stride c al p hp hpb hle hst hfit
    refine ⟨g1, fun x hx => ?_⟩
    obtain ⟨hb1, hb2⟩ := mem_between p s.bits hp.wf hle x hx
    rw [hval x hb1 hb2]
    exact g2 x hx
  rcases hhalf with hlow | hhigh
  · refine key 0 (by omega) ?_ (fun x _ hx2 => ?_)
    · have hnh : decide (p.lb > 2 ^ (s.bits - 1) - 1) = false := by simp; omega
      unfold ashrPiece
      simp only [hp.wf.2, hnh, Bool.false_eq_true, if_false, Nat.add_zero]
    · rw [ashrN_val _ _ _ hk (by omega), if_pos (by omega), Nat.add_zero]
  · refine key (2 ^ s.bits - 2 ^ (s.bits - k)) (by omega) ?_ (fun x hx1 hx2 => ?_)
    · have hnh : decide (p.lb > 2 ^ (s.bits - 1) - 1) = true := by simp; omega
      unfold ashrPiece
      simp only [hp.wf.2, mask_val s.bits k hk, hnh, if_true]
      rw [or_mask _ (s.bits - k) s.bits hloq (Nat.sub_le _ _), or_mask _ (s.bits - k) s.bits hhiq (Nat.sub_le _ _)]
    · rw [ashrN_val _ _ _ hk (by omega), if_neg (by omega)]

theorem ashrPiece_spec (s p : SI) (k : Nat) (hs0 : 0 < s.bits) (hp : WFw s.bits p) (hle : p.lb ≤ p.ub)
    (hhalf : p.ub < 2 ^ (s.bits - 1) ∨ 2 ^ (s.bits - 1) ≤ p.lb) (hst : p.stride = 0 ∨ p.stride = s.stride)
    (hk : k ≤ s.bits) :
    WFw s.bits (ashrPiece s p k) ∧ ∀ x, p.mem x → (ashrPiece s p k).mem (ashrN s.bits x k) := by
  refine ⟨?_, fun x hx =>
    (ashrPiece_good s p k False ⟨hp, nrm_of_nowrap p hp.1 hx.1 hle, False.elim⟩ hx.1 hle hhalf hst hk).2 x hx⟩
  -- an empty piece has no member, and the stride of the result is `0` only where its bounds agree
  unfold ashrPiece
  refine ⟨new_WF _ _ _ _ hs0 (fun h0 => ?_), new_bits _ _ _ _⟩
  simp only [ite_eq_left_iff, rshiftStride_ne_zero, imp_false, Decidable.not_not] at h0
  rw [h0]

theorem rshiftArithK_good (k : Nat) : ∀ (fuel : Nat) (s r : SI), s.WF → s.bottom = false → Nrm s → k ≤ s.bits →
    rshiftArithK fuel s k = .ok r → Good s.bits s.Aligned r ∧ ∀ x, s.mem x → r.mem (ashrN s.bits x k) := by
  intro fuel
  induction fuel with
  | zero => intro s r _ _ _ _ h; unfold rshiftArithK at h; cases h
  | succ fuel ih =>
    intro s r hs hnb hn hk h
    rw [rshiftArithK_succ, hnb] at h
    simp only [Bool.false_eq_true, if_false] at h
    obtain ⟨ps, hps, hprop, hcov⟩ := psplit_good s hs hnb hn
    obtain ⟨ps', hps', h⟩ := bind_ok h
    cases hps.symm.trans hps'
    -- what the induction hypothesis gives on a piece
    have hpiece : ∀ q, q ∈ ps → ∀ t, rshiftArithK fuel q k = .ok t →
        Good s.bits s.Aligned t ∧ ∀ x, q.mem x → t.mem (ashrN s.bits x k) := by
      intro q hq t ht
      obtain ⟨qg, qb, _⟩ := hprop q hq
      have := ih q t qg.wf.1 qb qg.nrm (by rw [qg.wf.2]; exact hk) ht
      rw [qg.wf.2] at this
      exact ⟨this.1.mono qg.aligned, this.2⟩
    match ps, hprop, hcov, hpiece, h with
    | [], _, _, _, h => cases h
    | [p], hprop, hcov, _, h =>
      cases h
      obtain ⟨pg, pb, ple, ph, pst⟩ := hprop p List.mem_cons_self
      obtain ⟨g1, g2⟩ := ashrPiece_good s p k s.Aligned pg pb ple ph pst hk
      refine ⟨g1, fun x hx => ?_⟩
      obtain ⟨p', hp', hpx⟩ := hcov x hx
      cases List.mem_singleton.1 hp'
      exact g2 x hpx
    | p :: q :: rest, _, hcov, hpiece, h =>
      obtain ⟨acc, ha, h⟩ := bind_ok h
      obtain ⟨a1, a2⟩ := hpiece p List.mem_cons_self acc ha
      obtain ⟨r1, r2, r3⟩ := unionLoop_good s.bits s.Aligned (fun q => rshiftArithK fuel q k) (q :: rest) acc r
        (fun q' hq' t ht => (hpiece q' (List.mem_cons_of_mem _ hq') t ht).1) a1 h
      refine ⟨r1, fun x hx => ?_⟩
      obtain ⟨p', hp', hpx⟩ := hcov x hx
      rcases List.mem_cons.1 hp' with rfl | he
      · exact r2 _ (a2 x hpx)
      · obtain ⟨t, ht, hsub⟩ := r3 p' he
        exact hsub _ ((hpiece p' (List.mem_cons_of_mem _ he) t ht).2 x hpx)

/-- operand in constructor-normal form: the split at the north pole needs it -/
theorem ashr_good (s amt r : SI) (hs : s.WF) (hnb : s.bottom = false) (hn : Nrm s) (h : s.rshiftArith amt = .ok r) :
    Good s.bits s.Aligned r ∧ (amt.WF → ∀ x y, s.mem x → amt.mem y → r.mem (Conc.ashr s.bits x y)) := by
  obtain ⟨h1, h2⟩ := shiftRange_good s amt r _ (fun x k => ashrN s.bits x k) hs.1
    (fun k hk si hsi => rshiftArithK_good k recFuel s si hs hnb hn hk hsi) h
  exact ⟨h1, fun hamt x y hx hy => by rw [ashr_roundTo _ _ _ hx.2.1]; exact h2 hamt x y hx hy⟩

theorem ashr_sound (s amt r : SI) (hs : s.WF) (hnb : s.bottom = false) (hn : Nrm s) (hamt : amt.WF)
    (h : s.rshiftArith amt = .ok r) :
    WFw s.bits r ∧ ∀ x y, s.mem x → amt.mem y → r.mem (Conc.ashr s.bits x y) :=
  have g := ashr_good s amt r hs hnb hn h
  ⟨g.1.wf, g.2 hamt⟩

theorem ashr_aligned (s amt r : SI) (hs : s.WF) (hnb : s.bottom = false) (hn : Nrm s) (al : s.Aligned)
    (h : s.rshiftArith amt = .ok r) : r.Aligned :=
  (ashr_good s amt r hs hnb hn h).1.aligned al

end Claripy.VSA

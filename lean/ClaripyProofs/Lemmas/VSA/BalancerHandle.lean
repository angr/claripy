import ClaripyProofs.Lemmas.VSA.BalancerLoop
import ClaripyProofs.Lemmas.VSA.MinMax
/-!
`_handle`, `_handle_eq`, `_handle_ne`, `_handle_comparison` (model `handle`, `handleCmp`), `_add_lower_bound` /
`_add_upper_bound`: what `_handle_comparison` records, in the reading of the ordering (`handleCmp_char`); a truism that
holds in its unsigned reading yields bounds that hold (`PSound`: plain, non-wrapping bounds of the unsigned value), and
these are sound as `_replacements_iter` reads them (`Sound`, through `InB`).
-/
namespace Claripy.VSA.Bal
open Claripy.VSA

def Sound (env : Nat → Nat) (bs : Bounds) : Prop :=
  ∀ e lo hi, (e, lo, hi) ∈ bs → ∃ v, evalBV env e = some v ∧ v < 2 ^ wd e ∧ InB (wd e) lo hi v

def PSound (env : Nat → Nat) (bs : Bounds) : Prop :=
  ∀ e lo hi, (e, lo, hi) ∈ bs → ∃ v, evalBV env e = some v ∧ v < 2 ^ wd e ∧
    (∀ l, lo = some l → 0 ≤ l ∧ l ≤ (v : Int)) ∧ (∀ u, hi = some u → (v : Int) ≤ u ∧ u < (2 : Int) ^ wd e)

theorem psound_nil (env : Nat → Nat) : PSound env [] := by intro e lo hi h; cases h

theorem sound_nil (env : Nat → Nat) : Sound env [] := by intro e lo hi h; cases h

theorem sound_single (env : Nat → Nat) (e : BV) (lo hi : Option Int) (v : Nat) (hv : evalBV env e = some v)
    (hlt : v < 2 ^ wd e) (hin : InB (wd e) lo hi v) : Sound env [(e, lo, hi)] := by
  intro e' l u hm
  simp only [List.mem_singleton, Prod.mk.injEq] at hm
  obtain ⟨rfl, rfl, rfl⟩ := hm
  exact ⟨v, hv, hlt, hin⟩

theorem psound_sound (env : Nat → Nat) (bs : Bounds) (h : PSound env bs) : Sound env bs := by
  intro e lo hi hm
  obtain ⟨v, hv, hlt, hl, hu⟩ := h e lo hi hm
  refine ⟨v, hv, hlt, ?_⟩
  have hl' : 0 ≤ lo.getD 0 ∧ lo.getD 0 ≤ (v : Int) := by
    cases lo with
    | none => simp
    | some l => simpa using hl l rfl
  have hu' : (v : Int) ≤ hi.getD ((2 : Int) ^ wd e - 1) ∧ hi.getD ((2 : Int) ^ wd e - 1) < (2 : Int) ^ wd e := by
    have : ((v : Nat) : Int) < ((2 ^ wd e : Nat) : Int) := by exact_mod_cast hlt
    rw [← pow_cast] at this
    cases hi with
    | none => simp only [Option.getD_none]; constructor <;> omega
    | some u => simpa using hu u rfl
  have := Win_int (wd e) (lo.getD 0) v (hi.getD ((2 : Int) ^ wd e - 1)) hl'.2 hu'.1 (by rw [← pow_cast]; omega)
  rwa [imod_of_lt v _ hlt] at this

/-- `_add_lower_bound` / `_add_upper_bound`: a map from expressions to pairs, kept as a list; the entry of `e` is
updated by `f`, or `(e, d)` is appended.  Plain bounds stay plain bounds when `f` keeps them for the value of `e`. -/
theorem upd_psound (env : Nat → Nat) (e : BV) (f : Option Int × Option Int → Option Int × Option Int)
    (d : Option Int × Option Int) (g : Bounds → Bounds) (hnil : g [] = [(e, d)])
    (hcons : ∀ e' p rest, g ((e', p) :: rest) = if e' = e then (e', f p) :: rest else (e', p) :: g rest)
    (hd : PSound env [(e, d)]) (hf : ∀ p, PSound env [(e, p)] → PSound env [(e, f p)]) :
    ∀ bs : Bounds, PSound env bs → PSound env (g bs)
  | [], _ => hnil ▸ hd
  | (e', p) :: rest, hps => by
    have hhead : PSound env [(e', p)] := fun x lo hi hm => by
      rw [List.mem_singleton] at hm; exact hps x lo hi (hm ▸ List.mem_cons_self ..)
    have htail : PSound env rest := fun x y z hm => hps x y z (List.mem_cons_of_mem _ hm)
    rw [hcons]
    intro x lo hi hm
    by_cases he : e' = e
    · rw [if_pos he] at hm
      rcases List.mem_cons.1 hm with hm | hm
      · exact hf p (he ▸ hhead) x lo hi (by rw [hm, he]; exact List.mem_singleton.2 rfl)
      · exact htail x lo hi hm
    · rw [if_neg he] at hm
      rcases List.mem_cons.1 hm with hm | hm
      · exact hhead x lo hi (List.mem_singleton.2 hm)
      · exact upd_psound env e f d g hnil hcons hd hf rest htail x lo hi hm

theorem addLower_psound (env : Nat → Nat) (e : BV) (v : Nat) (b : Int) (hv : evalBV env e = some v) (hlt : v < 2 ^ wd e)
    (h0 : 0 ≤ b) (hb : b ≤ (v : Int)) (bs : Bounds) (hps : PSound env bs) : PSound env (addLower bs e b) := by
  refine upd_psound env e (fun p => (some (match p.1 with | some o => max b o | none => b), p.2)) (some b, none)
    (fun bs => addLower bs e b) rfl (fun _ _ _ => rfl) ?_ ?_ bs hps
  · intro x lo hi hm
    cases List.mem_singleton.1 hm
    exact ⟨v, hv, hlt, fun l hl => (by cases hl; exact ⟨h0, hb⟩), fun u hu => (by cases hu)⟩
  · intro p hp x lo hi hm
    cases List.mem_singleton.1 hm
    obtain ⟨v', hv', _, hl', hu'⟩ := hp e p.1 p.2 (List.mem_singleton.2 rfl)
    rw [hv] at hv'; cases hv'
    refine ⟨v, hv, hlt, fun l hl => ?_, hu'⟩
    cases hl
    rcases p with ⟨_ | o, _⟩
    · exact ⟨h0, hb⟩
    · obtain ⟨o0, ov⟩ := hl' o rfl
      dsimp only
      constructor <;> omega

theorem addUpper_psound (env : Nat → Nat) (e : BV) (v : Nat) (b : Int) (hv : evalBV env e = some v) (hlt : v < 2 ^ wd e)
    (hb : (v : Int) ≤ b) (h1 : b < (2 : Int) ^ wd e) (bs : Bounds) (hps : PSound env bs) : PSound env (addUpper bs e b) := by
  refine upd_psound env e (fun p => (p.1, some (match p.2 with | some o => min b o | none => b))) (none, some b)
    (fun bs => addUpper bs e b) rfl (fun _ _ _ => rfl) ?_ ?_ bs hps
  · intro x lo hi hm
    cases List.mem_singleton.1 hm
    exact ⟨v, hv, hlt, fun l hl => (by cases hl), fun u hu => (by cases hu; exact ⟨hb, h1⟩)⟩
  · intro p hp x lo hi hm
    cases List.mem_singleton.1 hm
    obtain ⟨v', hv', _, hl', hu'⟩ := hp e p.1 p.2 (List.mem_singleton.2 rfl)
    rw [hv] at hv'; cases hv'
    refine ⟨v, hv, hlt, hl', fun u hu => ?_⟩
    cases hu
    rcases p with ⟨_, _ | o⟩
    · exact ⟨hb, h1⟩
    · obtain ⟨o0, ov⟩ := hu' o rfl
      dsimp only
      constructor <;> omega

theorem handle_ord (anno : Nat → SI) (t : Tru) (bs bs' : Bounds) (hop : uOrd t.op ∨ sOrd t.op)
    (h : handle anno t bs = .ok bs') :
    ∃ c, card anno t.lhs = .ok c ∧ if c = 1 then bs' = bs else handleCmp anno t bs = .ok bs' := by
  unfold handle at h
  obtain ⟨c, hc, h⟩ := bind_ok h
  refine ⟨c, hc, ?_⟩
  by_cases h1 : c = 1
  · rw [if_pos h1] at h ⊢
    exact pure_ok h
  · rw [if_neg h1] at h ⊢
    rcases hop with (ho | ho | ho | ho) | (ho | ho | ho | ho) <;> rw [ho] at h <;> exact h

theorem processTru_ok (anno : Nat → SI) (t : Tru) (bs : Bounds) (res : Bounds × BalOut)
    (h : processTru anno t bs = .ok res) : balance1 anno t = .ok res.2 ∧ handle anno res.2.t bs = .ok res.1 := by
  unfold processTru at h
  obtain ⟨out, hout, h⟩ := bind_ok h
  obtain ⟨bs', hbs', h⟩ := bind_ok h
  cases pure_ok h
  exact ⟨hout, hbs'⟩

theorem siMin_spec (s : SI) (sg : Bool) (m : Int) (h : siMin s sg = .ok m) : s.renorm.min sg = .ok (some m) := by
  unfold siMin at h
  obtain ⟨o, ho, h⟩ := bind_ok h
  have ho := liftR_ok ho
  cases o with
  | none => cases h
  | some v => cases pure_ok h; exact ho

theorem siMax_spec (s : SI) (sg : Bool) (m : Int) (h : siMax s sg = .ok m) : s.renorm.max sg = .ok (some m) := by
  unfold siMax at h
  obtain ⟨o, ho, h⟩ := bind_ok h
  have ho := liftR_ok ho
  cases o with
  | none => cases h
  | some v => cases pure_ok h; exact ho

theorem const_signedBounds (w r : Nat) (hw : 0 < w) (hr : r < 2 ^ w) :
    (SI.new w 0 (r : Int) (r : Int)).signedBounds = .ok [(Conc.toInt w r, Conc.toInt w r)] := by
  have hs : SI.new w 0 (r : Int) (r : Int) = ⟨w, 0, r, r, false⟩ := by rw [new_eq]; simp [imod_of_lt r w hr]
  have hn := nrm_new w 0 (r : Int) (r : Int) hw
  rw [hs] at hn ⊢
  unfold SI.signedBounds SI.nsplit
  have hH := Nat.two_pow_pos (w - 1)
  have hstr : (if r ≥ 2 ^ (w - 1) then (decide (r > r) || decide (r ≤ maxInt (w - 1)))
      else (decide (r > r) && decide (r ≤ maxInt (w - 1)))) = false := by
    unfold maxInt; split_ifs with h <;> simp <;> omega
  simp only [hstr, Bool.false_eq_true, if_false]
  unfold Nrm at hn
  rw [hn]
  simp only [bind, Except.bind, pure, Except.pure, List.map]
  rw [toSigned_nat r w hw hr]

theorem const_mem_eq (w r x : Nat) (hw : 0 < w) (hr : r < 2 ^ w) (hx : (SI.new w 0 (r : Int) (r : Int)).mem x) : x = r := by
  have hlu : (SI.new w 0 (r : Int) (r : Int)).lb = (SI.new w 0 (r : Int) (r : Int)).ub ∧ (SI.new w 0 (r : Int) (r : Int)).lb = r := by
    rw [new_eq]; simp [imod_of_lt r w hr]
  rw [mem_integer _ x (const_WF r w hw) hlu.1 hx, hlu.2]

theorem const_siMin (sg : Bool) (w r : Nat) (m : Int) (hw : 0 < w) (hr : r < 2 ^ w)
    (h : siMin (SI.new w 0 (r : Int) (r : Int)) sg = .ok m) : m = rd sg w r := by
  have h := siMin_spec _ _ m h
  rw [nrm_new _ _ _ _ hw] at h
  cases sg
  · obtain ⟨x, hx, hxm⟩ := min_attained _ m (const_WF r w hw) (new_bottom _ _ _ _) h
    rw [← hxm, const_mem_eq w r x hw hr hx]; rfl
  · unfold SI.min at h
    rw [new_bottom] at h
    simp only [Bool.false_eq_true, if_false, if_true, const_signedBounds w r hw hr, bind, Except.bind, pure, Except.pure,
      List.foldl] at h
    cases h; rfl

theorem const_siMax (sg : Bool) (w r : Nat) (m : Int) (hw : 0 < w) (hr : r < 2 ^ w)
    (h : siMax (SI.new w 0 (r : Int) (r : Int)) sg = .ok m) : m = rd sg w r := by
  have h := siMax_spec _ _ m h
  rw [nrm_new _ _ _ _ hw] at h
  cases sg
  · have hst : (SI.new w 0 (r : Int) (r : Int)).stride = 0 := by rw [new_eq]; simp
    obtain ⟨x, hx, hxm⟩ := max_attained _ m (const_WF r w hw) (new_bottom _ _ _ _) (Or.inl hst) h
    rw [← hxm, const_mem_eq w r x hw hr hx]; rfl
  · unfold SI.max at h
    rw [new_bottom] at h
    simp only [Bool.false_eq_true, if_false, if_true, const_signedBounds w r hw hr, bind, Except.bind, pure, Except.pure,
      List.foldl] at h
    cases h; rfl

theorem siMin_le_rd (s : SI) (sg : Bool) (m : Int) (x : Nat) (hs : s.WF) (hn : Nrm s) (hx : s.mem x)
    (h : siMin s sg = .ok m) : m ≤ rd sg s.bits x := by
  have h := siMin_spec s sg m h
  rw [hn] at h
  cases sg
  · exact min_le s m x hs hx h
  · exact smin_le s m x hs hn hx h

theorem le_siMax_rd (s : SI) (sg : Bool) (m : Int) (x : Nat) (hs : s.WF) (hn : Nrm s) (hx : s.mem x)
    (h : siMax s sg = .ok m) : rd sg s.bits x ≤ m := by
  have h := siMax_spec s sg m h
  rw [hn] at h
  cases sg
  · exact le_max s m x hs hx h
  · exact le_smax s m x hs hn hx h

section
variable (anno : Nat → SI) (env : Nat → Nat) (hctx : ∀ i, (anno i).WF ∧ (anno i).mem (env i)) (hnrm : ∀ i, Nrm (anno i))
include hctx hnrm

omit hnrm in
/-- what `_handle_comparison` records: the tightest of `int_max` / `int_min`, the maximum / minimum of the left side and the
bound from the literal, all in the reading of the ordering -/
theorem handleCmp_char (t : Tru) (bs bs' : Bounds) (hok : TruWT anno env t) (h : handleCmp anno t bs = .ok bs') :
    ∃ pl lmin lmax, convBV anno t.lhs [] = .ok pl ∧ siMin pl.1.si (!(cmpInfo t.op).2.2) = .ok lmin ∧
      siMax pl.1.si (!(cmpInfo t.op).2.2) = .ok lmax ∧
      bs' = if (cmpInfo t.op).1 = true
        then addUpper bs t.lhs (min (rdMax (!(cmpInfo t.op).2.2) t.w) (min lmax (cmpBound t.op (rd (!(cmpInfo t.op).2.2) t.w t.r))))
        else addLower bs t.lhs (max (-((2 : Int) ^ (t.w - 1))) (max lmin (cmpBound t.op (rd (!(cmpInfo t.op).2.2) t.w t.r)))) := by
  have hwpos : 0 < t.w := by rw [← hok.wd_eq]; exact wd_pos anno env (fun i => (hctx i).1) _ hok.ok.1
  unfold handleCmp at h
  dsimp only at h
  obtain ⟨pl, hpl, h⟩ := bind_ok h
  obtain ⟨leftMin, hlmin, h⟩ := bind_ok h
  obtain ⟨leftMax, hlmax, h⟩ := bind_ok h
  obtain ⟨rightMin, hrmin, h⟩ := bind_ok h
  obtain ⟨rightMax, hrmax, h⟩ := bind_ok h
  cases const_siMin _ t.w t.r rightMin hwpos hok.r_lt hrmin
  cases const_siMax _ t.w t.r rightMax hwpos hok.r_lt hrmax
  refine ⟨pl, leftMin, leftMax, liftR_ok hpl, hlmin, hlmax, ?_⟩
  rw [hok.wd_eq] at h
  have hmax : (if (cmpInfo t.op).2.2 = true then (2 : Int) ^ t.w - 1 else (2 : Int) ^ (t.w - 1) - 1) =
      rdMax (!(cmpInfo t.op).2.2) t.w := by
    unfold rdMax; cases (cmpInfo t.op).2.2 <;> rfl
  rw [hmax] at h
  by_cases hlt : (cmpInfo t.op).1 = true
  · rw [if_pos hlt] at h ⊢; exact pure_ok h
  · rw [if_neg hlt] at h ⊢; exact pure_ok h

/-- `handleCmp_char` with what the abstract value says of the value `v` of the left side: its reading lies in the hull
`[lmin, lmax]`. -/
theorem handleCmp_hull (t : Tru) (bs bs' : Bounds) (hok : TruWT anno env t) (h : handleCmp anno t bs = .ok bs') (v : Nat)
    (hv : evalBV env t.lhs = some v) :
    ∃ lmin lmax, lmin ≤ rd (!(cmpInfo t.op).2.2) t.w v ∧ rd (!(cmpInfo t.op).2.2) t.w v ≤ lmax ∧
      bs' = if (cmpInfo t.op).1 = true
        then addUpper bs t.lhs (min (rdMax (!(cmpInfo t.op).2.2) t.w) (min lmax (rd (!(cmpInfo t.op).2.2) t.w t.r + cmpShift t.op)))
        else addLower bs t.lhs (max (-((2 : Int) ^ (t.w - 1))) (max lmin (rd (!(cmpInfo t.op).2.2) t.w t.r + cmpShift t.op))) := by
  obtain ⟨pl, lmin, lmax, hpl, hlmin, hlmax, hb⟩ := handleCmp_char anno env hctx t bs bs' hok h
  obtain ⟨⟨⟨hwf, hbits⟩, hm⟩, hnr⟩ := conv_good anno env hctx hnrm t.lhs hok.ok [] pl.2 pl.1 hpl
  have hmem := (hm v hv).1
  have hax := siMin_le_rd pl.1.si _ lmin v hwf hnr hmem hlmin
  have hxb := le_siMax_rd pl.1.si _ lmax v hwf hnr hmem hlmax
  rw [hbits, hok.wd_eq] at hax hxb
  rw [cmpBound_eq] at hb
  exact ⟨lmin, lmax, hax, hxb, hb⟩

theorem handleCmp_pt (t : Tru) (bs bs' : Bounds) (hok : TruWT anno env t) (hop : uOrd t.op) (hh : t.holds env)
    (hps : PSound env bs) (h : handleCmp anno t bs = .ok bs') : PSound env bs' := by
  obtain ⟨v, hv, hc⟩ := hh
  obtain ⟨lmin, lmax, hax, hxb, hb⟩ := handleCmp_hull anno env hctx hnrm t bs bs' hok h v hv
  have hvlt := evalBV_lt anno env hctx t.lhs v hok.ok.1 hv
  have huns : (cmpInfo t.op).2.2 = true := by rcases hop with h | h | h | h <;> rw [h] <;> rfl
  rw [huns] at hax hxb hb
  rw [concCmp_rd _ _ _ _ (ord_ne _ (Or.inl hop)), huns] at hc
  have hvi : (v : Int) < (2 : Int) ^ t.w := by
    rw [pow_cast]; exact_mod_cast (show v < 2 ^ t.w from hok.wd_eq ▸ hvlt)
  have h2pos : (0 : Int) < (2 : Int) ^ (t.w - 1) := Int.pow_pos (by decide)
  simp only [rd, rdMax, Bool.not_true, Bool.false_eq_true, if_false] at hax hxb hb hc
  obtain ⟨hk1, hk2⟩ := cmpShift_sign t.op
  by_cases hlt : (cmpInfo t.op).1 = true
  · rw [if_pos hlt] at hb hc
    rw [hb]
    exact addUpper_psound env t.lhs v _ hv hvlt (by omega) (by rw [hok.wd_eq]; omega) bs hps
  · rw [if_neg hlt] at hb hc
    rw [hb]
    have := hk2 (by simpa using hlt)
    exact addLower_psound env t.lhs v _ hv hvlt (by omega) (by omega) bs hps

theorem handle_pt (t : Tru) (bs bs' : Bounds) (hok : TruWT anno env t) (hop : unsOp t.op = true) (hh : t.holds env)
    (hps : PSound env bs) (h : handle anno t bs = .ok bs') : PSound env bs' := by
  rcases uns_cases t.op hop with heq | hord
  · unfold handle at h
    obtain ⟨c, hc, h⟩ := bind_ok h
    by_cases hc1 : c = 1
    · rw [if_pos hc1] at h; cases pure_ok h; exact hps
    · rw [if_neg hc1] at h
      obtain ⟨v, hv, hcmp⟩ := hh
      have hvlt := evalBV_lt anno env hctx t.lhs v hok.ok.1 hv
      have hpw : ((2 ^ wd t.lhs : Nat) : Int) = (2 : Int) ^ wd t.lhs := by push_cast; rfl
      have hvi : (v : Int) < (2 : Int) ^ wd t.lhs := by rw [← hpw]; exact_mod_cast hvlt
      have hrw : t.r < 2 ^ wd t.lhs := by rw [hok.wd_eq]; exact hok.r_lt
      rcases heq with hop' | hop' <;> rw [hop'] at h hcmp <;> simp only [concCmp, decide_eq_true_eq] at hcmp
      · -- ==
        cases pure_ok h
        have hvr : (v : Int) = (t.r : Int) := by rw [hcmp]
        exact addLower_psound env t.lhs v _ hv hvlt (by omega) (by omega) _
          (addUpper_psound env t.lhs v _ hv hvlt (by omega) (by omega) bs hps)
      · -- !=
        by_cases h0 : t.r = 0
        · rw [if_pos h0] at h; cases pure_ok h
          exact addLower_psound env t.lhs v 1 hv hvlt (by omega) (by omega) bs hps
        · rw [if_neg h0] at h
          by_cases hmx : t.r = 2 ^ t.w - 1
          · rw [if_pos hmx] at h; cases pure_ok h
            have hw2 : (2 : Int) ^ t.w = (2 : Int) ^ wd t.lhs := by rw [hok.wd_eq]
            have hvne : v ≠ 2 ^ wd t.lhs - 1 := by rw [hok.wd_eq, ← hmx]; exact hcmp
            have hvn : (v : Int) ≤ (2 : Int) ^ wd t.lhs - 1 - 1 := by
              have : v + 1 < 2 ^ wd t.lhs := by omega
              have : ((v + 1 : Nat) : Int) < ((2 ^ wd t.lhs : Nat) : Int) := by exact_mod_cast this
              rw [hpw] at this; push_cast at this; omega
            rw [hw2]
            exact addUpper_psound env t.lhs v _ hv hvlt hvn (by omega) bs hps
          · rw [if_neg hmx] at h; cases pure_ok h; exact hps
  · obtain ⟨c, _, hc⟩ := handle_ord anno t bs bs' (Or.inl hord) h
    by_cases h1 : c = 1
    · rw [if_pos h1] at hc; rw [hc]; exact hps
    · rw [if_neg h1] at hc
      exact handleCmp_pt anno env hctx hnrm t bs bs' hok hord hh hps hc

end

end Claripy.VSA.Bal

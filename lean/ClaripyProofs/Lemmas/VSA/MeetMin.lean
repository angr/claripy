import ClaripyProofs.Lemmas.VSA.MeetMci
import ClaripyProofs.Lemmas.VSA.Split
/-! `_minimal_common_integer`: the search over the pieces of `_ssplit`.  The result is a common member that comes first
among the common members lying before the south pole in every wrapping operand (`Up`), else among those lying after it in
every wrapping operand (`Lo`); common members of mixed kind are not looked at. -/
namespace Claripy.VSA

theorem lm_iff (w : Nat) (p : SI) (hp : WFw w p) (hb : p.bottom = false) (hle : p.lb ≤ p.ub) (x : Nat) :
    LM p x ↔ p.mem x := by
  constructor
  · rintro ⟨h1, h2, h3⟩
    obtain ⟨hw, hbits⟩ := hp
    obtain ⟨_, hl, hu, hst⟩ := hw
    rw [mem_iff _ _ hl hu]
    have e1 : cd (2 ^ p.bits) p.lb x = x - p.lb := cd_pos _ _ _ (by omega)
    have e2 : cd (2 ^ p.bits) p.lb p.ub = p.ub - p.lb := cd_pos _ _ _ (by omega)
    rw [e1, e2]
    exact ⟨hb, by omega, by omega, stride_cond _ _ h3⟩
  · intro hx
    obtain ⟨h1, h2, h3⟩ := mem_nowrap w p hp hle x hx
    exact ⟨h1, h2, h3⟩

/-- before the south pole in every wrapping operand -/
def Up (X Y : SI) (z : Nat) : Prop := (X.ub < X.lb → X.lb ≤ z) ∧ (Y.ub < Y.lb → Y.lb ≤ z)
/-- after the south pole in every wrapping operand -/
def Lo (X Y : SI) (z : Nat) : Prop := (X.ub < X.lb → z ≤ X.ub) ∧ (Y.ub < Y.lb → z ≤ Y.ub)

def MciSpec (X Y : SI) (o : Option Int) : Prop :=
  (∀ m, o = some m → ∃ n : Nat, m = (n : Int) ∧ X.mem n ∧ Y.mem n ∧ (Up X Y n ∨ Lo X Y n) ∧
      ∀ x, X.mem x → Y.mem x → (Up X Y x → Up X Y n ∧ n ≤ x) ∧ (Lo X Y x → Up X Y n ∨ n ≤ x)) ∧
    (o = none → ∀ x, X.mem x → Y.mem x → ¬ Up X Y x ∧ ¬ Lo X Y x)

def TwoPieces (X : SI) : Prop := ∃ A B, X.ssplit = .ok [A, B]

/-- the piece `A` holds the members of `X` before the south pole (all members if `X` does not wrap) -/
def UpView (X A : SI) : Prop := ∀ x, LM A x ↔ X.mem x ∧ (X.ub < X.lb → X.lb ≤ x)
/-- the piece `B` holds the members of `X` after the south pole (all members if `X` does not wrap) -/
def LoView (X B : SI) : Prop := ∀ x, LM B x ↔ X.mem x ∧ (X.ub < X.lb → x ≤ X.ub)

theorem ssplit_wrap_full (w : Nat) (X : SI) (hX : WFw w X) (hb : X.bottom = false) (hwrap : X.ub < X.lb) :
    ∃ A, WFw w A ∧
      ((X.ssplit = .ok [A] ∧ A.lb = X.lb ∧ ∀ x, X.mem x ↔ LM A x) ∨
        ∃ B, WFw w B ∧ X.ssplit = .ok [A, B] ∧ UpView X A ∧ LoView X B) := by
  obtain ⟨ps, hps, hprop, hcov, hback⟩ := ssplit_spec X hX.1 hb
  rw [hX.2] at hprop
  obtain ⟨A, hsh, _, hAl, _⟩ := ssplit_wrap_shape X hX.1 hwrap
  rw [hps] at hsh
  rcases hsh with h1 | ⟨B, h2, _, hBu, _⟩
  · have : ps = [A] := by cases h1; rfl
    subst this
    obtain ⟨a1, a2, a3, _⟩ := hprop A List.mem_cons_self
    have lmA := lm_iff w A a1 a2 a3
    refine ⟨A, a1, Or.inl ⟨hps, hAl, ?_⟩⟩
    intro x
    constructor
    · intro hx
      obtain ⟨p, hp, hpx⟩ := hcov x hx
      have : p = A := by simpa using hp
      subst this
      exact (lmA x).2 hpx
    · exact fun h => hback A List.mem_cons_self x ((lmA x).1 h)
  · have : ps = [A, B] := by cases h2; rfl
    subst this
    obtain ⟨a1, a2, a3, _⟩ := hprop A List.mem_cons_self
    obtain ⟨b1, b2, b3, _⟩ := hprop B (List.mem_cons_of_mem _ List.mem_cons_self)
    have lmA := lm_iff w A a1 a2 a3
    have lmB := lm_iff w B b1 b2 b3
    have hXm : ∀ x, X.mem x → LM A x ∨ LM B x := by
      intro x hx
      obtain ⟨p, hp, hpx⟩ := hcov x hx
      rcases List.mem_cons.1 hp with h | h
      · subst h; exact Or.inl ((lmA x).2 hpx)
      · have : p = B := by simpa using h
        subst this; exact Or.inr ((lmB x).2 hpx)
    refine ⟨A, a1, Or.inr ⟨B, b1, hps, ?_, ?_⟩⟩
    · intro x
      constructor
      · intro h
        exact ⟨hback A List.mem_cons_self x ((lmA x).1 h), fun _ => by unfold LM at h; omega⟩
      · rintro ⟨hx, hu⟩
        rcases hXm x hx with h | h
        · exact h
        · have := hu hwrap; unfold LM at h; omega
    · intro x
      constructor
      · intro h
        exact ⟨hback B (List.mem_cons_of_mem _ List.mem_cons_self) x ((lmB x).1 h), fun _ => by unfold LM at h; omega⟩
      · rintro ⟨hx, hl⟩
        rcases hXm x hx with h | h
        · have := hl hwrap; unfold LM at h; omega
        · exact h

theorem nowrap_views (w : Nat) (X : SI) (hX : WFw w X) (hb : X.bottom = false) (hnw : ¬ X.ub < X.lb) :
    WFw w X.renorm ∧ UpView X X.renorm ∧ LoView X X.renorm := by
  have hpw := renorm_WFw w X hX
  have hpb : X.renorm.bottom = false := by unfold SI.renorm; rw [hb]; simp
  have hple := renorm_le X hX.1 hb (by omega)
  have lmp : ∀ x, LM X.renorm x ↔ X.mem x := fun x =>
    (lm_iff w X.renorm hpw hpb hple x).trans (renorm_mem X hX.1 x)
  exact ⟨hpw, fun x => ⟨fun h => ⟨(lmp x).1 h, fun hh => absurd hh hnw⟩, fun h => (lmp x).2 h.1⟩,
    fun x => ⟨fun h => ⟨(lmp x).1 h, fun hh => absurd hh hnw⟩, fun h => (lmp x).2 h.1⟩⟩

def firstOf (i0 i1 : Option Int) : Option Int := match i0 with | none => i1 | some v => some v

/-- the search over an upper pair `(A, C)` and a lower pair `(B, D)` of pieces: every common member of `X`, `Y` that is `Up` lies
in `A ∩ C`, every one that is `Lo` lies in `B ∩ D`; members of `A ∩ C` are `Up`, members of `B ∩ D` are `Lo` -/
theorem search_pairs (X Y A B C D : SI) (i0 i1 : Option Int)
    (h0 : LeastCommon A C i0) (h1 : LeastCommon B D i1)
    (hAC : ∀ x, LM A x → LM C x → X.mem x ∧ Y.mem x ∧ Up X Y x)
    (hBD : ∀ x, LM B x → LM D x → X.mem x ∧ Y.mem x ∧ Lo X Y x)
    (hU : ∀ x, X.mem x → Y.mem x → Up X Y x → LM A x ∧ LM C x)
    (hL : ∀ x, X.mem x → Y.mem x → Lo X Y x → LM B x ∧ LM D x) :
    MciSpec X Y (firstOf i0 i1) := by
  cases i0 with
  | some m =>
    refine ⟨?_, (fun hn => by cases hn)⟩
    intro m' hm'
    cases hm'
    obtain ⟨n, e, a1, a2, a3⟩ := h0.1 m rfl
    obtain ⟨b1, b2, b3⟩ := hAC n a1 a2
    refine ⟨n, e, b1, b2, Or.inl b3, ?_⟩
    intro x hx hy
    refine ⟨fun hu => ⟨b3, ?_⟩, fun _ => Or.inl b3⟩
    obtain ⟨c1, c2⟩ := hU x hx hy hu
    exact a3 x c1 c2
  | none =>
    have hnoU : ∀ x, X.mem x → Y.mem x → ¬ Up X Y x := by
      intro x hx hy hu
      obtain ⟨c1, c2⟩ := hU x hx hy hu
      exact h0.2 rfl x ⟨c1, c2⟩
    cases i1 with
    | some m =>
      refine ⟨?_, (fun hn => by cases hn)⟩
      intro m' hm'
      cases hm'
      obtain ⟨n, e, a1, a2, a3⟩ := h1.1 m rfl
      obtain ⟨b1, b2, b3⟩ := hBD n a1 a2
      refine ⟨n, e, b1, b2, Or.inr b3, ?_⟩
      intro x hx hy
      refine ⟨fun hu => absurd hu (hnoU x hx hy), fun hl => Or.inr ?_⟩
      obtain ⟨c1, c2⟩ := hL x hx hy hl
      exact a3 x c1 c2
    | none =>
      refine ⟨(fun m hm => by cases hm), ?_⟩
      intro _ x hx hy
      refine ⟨hnoU x hx hy, ?_⟩
      intro hl
      obtain ⟨c1, c2⟩ := hL x hx hy hl
      exact h1.2 rfl x ⟨c1, c2⟩

theorem search_views (X Y A B C D : SI) (i0 i1 : Option Int) (h0 : LeastCommon A C i0) (h1 : LeastCommon B D i1)
    (hA : UpView X A) (hB : LoView X B) (hC : UpView Y C) (hD : LoView Y D) : MciSpec X Y (firstOf i0 i1) := by
  apply search_pairs X Y A B C D i0 i1 h0 h1
  · intro x h1 h2
    exact ⟨((hA x).1 h1).1, ((hC x).1 h2).1, ((hA x).1 h1).2, ((hC x).1 h2).2⟩
  · intro x h1 h2
    exact ⟨((hB x).1 h1).1, ((hD x).1 h2).1, ((hB x).1 h1).2, ((hD x).1 h2).2⟩
  · intro x hx hy hu
    exact ⟨(hA x).2 ⟨hx, hu.1⟩, (hC x).2 ⟨hy, hu.2⟩⟩
  · intro x hx hy hl
    exact ⟨(hB x).2 ⟨hx, hl.1⟩, (hD x).2 ⟨hy, hl.2⟩⟩

theorem firstOf_bind (P0 P1 : R (Option Int)) (o : Option Int)
    (h : (P0 >>= fun i0 => P1 >>= fun i1 => pure (match i0 with | none => i1 | some v => some v)) = .ok o) :
    ∃ i0 i1, P0 = .ok i0 ∧ P1 = .ok i1 ∧ o = firstOf i0 i1 := by
  obtain ⟨i0, h0, h⟩ := bind_ok h
  obtain ⟨i1, h1, h⟩ := bind_ok h
  exact ⟨i0, i1, h0, h1, pure_ok h⟩

/-- A wrapping operand must split into two pieces (it does when it is aligned), or be entirely before the pole while the
other operand has two pieces and ends before it starts. -/
theorem minimalCommonInteger_spec (w : Nat) (X Y : SI) (hX : WFw w X) (hY : WFw w Y) (hXb : X.bottom = false)
    (hYb : Y.bottom = false)
    (HX : X.ub < X.lb → TwoPieces X ∨ (TwoPieces Y ∧ Y.ub < X.lb))
    (HY : Y.ub < Y.lb → TwoPieces Y ∨ (TwoPieces X ∧ X.ub < Y.lb))
    (o : Option Int) (h : minimalCommonInteger X Y = .ok o) : MciSpec X Y o := by
  have stX : ∀ p, WFw w p → (p.stride = 0 ↔ p.lb = p.ub) := fun p hp => hp.1.2.2.2
  unfold minimalCommonInteger at h
  by_cases wX : X.ub < X.lb
  · obtain ⟨A, hAw, hXs⟩ := ssplit_wrap_full w X hX hXb wX
    by_cases wY : Y.ub < Y.lb
    · obtain ⟨C, hCw, hYs⟩ := ssplit_wrap_full w Y hY hYb wY
      rcases hXs with ⟨hXs, hAl, hXm⟩ | ⟨B, hBw, hXs, vA, vB⟩
      · -- X: one piece (before the pole)
        rcases hYs with ⟨hYs, _, _⟩ | ⟨D, hDw, hYs, vC, vD⟩
        · exfalso
          rcases HX wX with ⟨_, _, h2⟩ | ⟨⟨_, _, h2⟩, _⟩
          · rw [hXs] at h2; cases h2
          · rw [hYs] at h2; cases h2
        · have hYX : Y.ub < X.lb := by
            rcases HX wX with ⟨_, _, h2⟩ | ⟨_, h3⟩
            · rw [hXs] at h2; cases h2
            · exact h3
          rw [hXs, hYs] at h
          simp only [bind, Except.bind, List.length_cons, List.length_nil, and_self, if_true] at h
          obtain ⟨i0, i1, e0, e1, eo⟩ := firstOf_bind _ _ o h
          rw [eo]
          have l0 := leastCommon_symm A C i0 (mci_spec 2 C A i0 (stX C hCw) (stX A hAw) e0)
          have l1 := leastCommon_symm A D i1 (mci_spec 2 D A i1 (stX D hDw) (stX A hAw) e1)
          -- no member of `X` is after the pole of `Y`: the second search finds nothing
          apply search_pairs X Y A A C D i0 i1 l0 l1
          · intro x h1 h2
            exact ⟨(hXm x).2 h1, ((vC x).1 h2).1, fun _ => by unfold LM at h1; omega, ((vC x).1 h2).2⟩
          · intro x h1 h2
            have := ((vD x).1 h2).2 wY
            unfold LM at h1
            omega
          · intro x hx hy hu
            exact ⟨(hXm x).1 hx, (vC x).2 ⟨hy, hu.2⟩⟩
          · intro x hx _ hl
            have h1 := (hXm x).1 hx
            have := hl.1 wX
            unfold LM at h1
            omega
      · rcases hYs with ⟨hYs, hCl, hYm⟩ | ⟨D, hDw, hYs, vC, vD⟩
        · -- Y: one piece (before the pole)
          have hXY : X.ub < Y.lb := by
            rcases HY wY with ⟨_, _, h2⟩ | ⟨_, h3⟩
            · rw [hYs] at h2; cases h2
            · exact h3
          rw [hXs, hYs] at h
          simp only [bind, Except.bind, List.length_cons, List.length_nil] at h
          rw [if_neg (by omega)] at h
          simp only [] at h
          obtain ⟨i0, i1, e0, e1, eo⟩ := firstOf_bind _ _ o h
          rw [eo]
          have l0 := mci_spec 2 A C i0 (stX A hAw) (stX C hCw) e0
          have l1 := mci_spec 2 B C i1 (stX B hBw) (stX C hCw) e1
          apply search_pairs X Y A B C C i0 i1 l0 l1
          · intro x h1 h2
            exact ⟨((vA x).1 h1).1, (hYm x).2 h2, ((vA x).1 h1).2, fun _ => by unfold LM at h2; omega⟩
          · intro x h1 h2
            have := ((vB x).1 h1).2 wX
            unfold LM at h2
            omega
          · intro x hx hy hu
            exact ⟨(vA x).2 ⟨hx, hu.1⟩, (hYm x).1 hy⟩
          · intro x _ hy hl
            have h1 := (hYm x).1 hy
            have := hl.2 wY
            unfold LM at h1
            omega
        · -- both have two pieces
          rw [hXs, hYs] at h
          simp only [bind, Except.bind, List.length_cons, List.length_nil] at h
          rw [if_neg (by omega)] at h
          simp only [] at h
          obtain ⟨i0, i1, e0, e1, eo⟩ := firstOf_bind _ _ o h
          rw [eo]
          exact search_views X Y A B C D i0 i1 (mci_spec 2 A C i0 (stX A hAw) (stX C hCw) e0)
            (mci_spec 2 B D i1 (stX B hBw) (stX D hDw) e1) vA vB vC vD
    · -- Y does not wrap
      have hYs := ssplit_nowrap Y wY
      obtain ⟨hqw, vC, vD⟩ := nowrap_views w Y hY hYb wY
      rcases hXs with ⟨hXs, _, _⟩ | ⟨B, hBw, hXs, vA, vB⟩
      · exfalso
        rcases HX wX with ⟨_, _, h2⟩ | ⟨⟨_, _, h2⟩, _⟩
        · rw [hXs] at h2; cases h2
        · rw [hYs] at h2; cases h2
      · rw [hXs, hYs] at h
        simp only [bind, Except.bind, List.length_cons, List.length_nil] at h
        rw [if_neg (by omega)] at h
        simp only [] at h
        obtain ⟨i0, i1, e0, e1, eo⟩ := firstOf_bind _ _ o h
        rw [eo]
        exact search_views X Y A B Y.renorm Y.renorm i0 i1 (mci_spec 2 A Y.renorm i0 (stX A hAw) (stX _ hqw) e0)
          (mci_spec 2 B Y.renorm i1 (stX B hBw) (stX _ hqw) e1) vA vB vC vD
  · -- X does not wrap
    have hXs := ssplit_nowrap X wX
    obtain ⟨hpw, vA, vB⟩ := nowrap_views w X hX hXb wX
    by_cases wY : Y.ub < Y.lb
    · obtain ⟨C, hCw, hYs⟩ := ssplit_wrap_full w Y hY hYb wY
      rcases hYs with ⟨hYs, _, _⟩ | ⟨D, hDw, hYs, vC, vD⟩
      · exfalso
        rcases HY wY with ⟨_, _, h2⟩ | ⟨⟨_, _, h2⟩, _⟩
        · rw [hYs] at h2; cases h2
        · rw [hXs] at h2; cases h2
      · rw [hXs, hYs] at h
        simp only [bind, Except.bind, List.length_cons, List.length_nil, and_self, if_true] at h
        obtain ⟨i0, i1, e0, e1, eo⟩ := firstOf_bind _ _ o h
        rw [eo]
        exact search_views X Y X.renorm X.renorm C D i0 i1
          (leastCommon_symm X.renorm C i0 (mci_spec 2 C X.renorm i0 (stX C hCw) (stX _ hpw) e0))
          (leastCommon_symm X.renorm D i1 (mci_spec 2 D X.renorm i1 (stX D hDw) (stX _ hpw) e1)) vA vB vC vD
    · -- neither wraps: the raw operands are searched
      have hYs := ssplit_nowrap Y wY
      rw [hXs, hYs] at h
      simp only [bind, Except.bind, List.length_cons, List.length_nil] at h
      rw [if_neg (by omega)] at h
      simp only [] at h
      have lc := mci_spec 2 X Y o (stX X hX) (stX Y hY) h
      have lmX := lm_iff w X hX hXb (by omega)
      have lmY := lm_iff w Y hY hYb (by omega)
      refine ⟨?_, ?_⟩
      · intro m hm
        obtain ⟨n, e, a1, a2, a3⟩ := lc.1 m hm
        refine ⟨n, e, (lmX n).1 a1, (lmY n).1 a2, Or.inl ⟨fun hh => absurd hh wX, fun hh => absurd hh wY⟩, ?_⟩
        intro x hx hy
        have := a3 x ((lmX x).2 hx) ((lmY x).2 hy)
        exact ⟨fun _ => ⟨⟨fun hh => absurd hh wX, fun hh => absurd hh wY⟩, this⟩, fun _ => Or.inr this⟩
      · intro hn x hx hy
        exact absurd ⟨(lmX x).2 hx, (lmY x).2 hy⟩ (lc.2 hn x)

end Claripy.VSA

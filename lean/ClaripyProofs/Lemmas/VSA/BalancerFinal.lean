import ClaripyProofs.Lemmas.VSA.BalancerHandle
/-!
`_doit` (model `doit`) on one comparison, stage by stage: the constructors of the reversed truism and of the implicit
assumption (`mkCmpT`: evaluated when the left side has no symbolic leaf; `mkUGE` = `ge_simplifier`), `_adjust_truism`
(`adjust_spec`), `_get_assumptions` (`assumption_ord`), the exits of the work list (`DoitRun`).  None of it depends on which
sides have symbolic leaves: an entry of the work list that was evaluated to a literal holds like any other (`Tr.holds`).  Then
the statements that need no pair argument: one path on which no constant is moved across `+` / `-` (for `==` / `!=` any path)
keeps plain bounds (`processTru_pt`), hence the composite over both paths (`doit_pt`, guard `CoveredPt`), and the satisfiable
flag (`doit_unsat_ord`).
-/
namespace Claripy.VSA.Bal
open Claripy.VSA

theorem mkCmpT_tru (op : CmpOp) (l : BV) (r w : Nat) (t : Tru) (h : mkCmpT op l r w = .tru t) : t = ⟨op, l, r, w⟩ := by
  unfold mkCmpT at h
  split at h
  · cases h
  · cases h; rfl

theorem mkUGE_op (e : BV) (r w : Nat) : ∀ t, mkUGE e r w = .tru t → t.op = .uge := by
  fun_induction mkUGE e r w with
  | case1 k a r w hg ih => exact ih
  | case2 k a r w hg => intro t ht; cases ht
  | case3 k a r w hg ih => exact ih
  | case4 k a r w hg => intro t ht; cases ht
  | case5 e r w h1 h2 => intro t ht; rw [mkCmpT_tru _ _ _ _ _ ht]

theorem mkCmp_op (op : CmpOp) (l : BV) (r w : Nat) (t : Tru) (h : mkCmp op l r w = .tru t) : t.op = op := by
  unfold mkCmp at h
  split at h
  · exact mkUGE_op l r w t h
  · rw [mkCmpT_tru _ _ _ _ _ h]

/-- no simplifier fires on a sum / difference (`ge_simplifier` looks for an extension by zero bits) -/
theorem mkCmp_mod (op : CmpOp) (e : BV) (r w : Nat) (h : isModLhs e = true) : mkCmp op e r w = mkCmpT op e r w := by
  unfold mkCmp
  split
  · rcases isModLhs_cases e h with ⟨a, b, rfl⟩ | ⟨a, b, rfl⟩ <;> unfold mkUGE <;> rfl
  · rfl

def Tr.holds (env : Nat → Nat) : Tr → Prop
  | .tru t => t.holds env
  | .lit b => b = true

theorem extract_ne_zero (hi lo r : Nat) (h : Conc.extract hi lo r ≠ 0) : 2 ^ lo ≤ r := by
  apply Classical.byContradiction; intro hlt
  apply h
  unfold Conc.extract
  rw [Nat.shiftRight_eq_div_pow, Nat.div_eq_of_lt (by omega), Nat.zero_mod]

theorem concat_zero_val (env : Nat → Nat) (k : Nat) (a : BV) (v : Nat) (h : evalBV env (.concat (.const 0 k) a) = some v) :
    evalBV env a = some v := by
  simp only [evalBV, Option.bind_eq_bind, Option.bind_some] at h
  obtain ⟨x, hx, h⟩ := Option.bind_eq_some_iff.1 h
  rw [hx, ← h]
  simp [Conc.concat]

theorem adjust_op (op : CmpOp) (a b : BV) (ca cb : Nat) (t : Tru) (h : adjust op a b ca cb = .ok (.tru t)) :
    t.op = op ∨ t.op = opposite op := by
  unfold adjust at h
  split_ifs at h
  · split at h
    · exact Or.inr (mkCmp_op _ _ _ _ t (pure_ok h).symm)
    · cases h
  · split at h
    · cases h; exact Or.inl rfl
    · cases h

theorem adjust_ord (op : CmpOp) (a b : BV) (ca cb : Nat) (t : Tru) (h : adjust op a b ca cb = .ok (.tru t)) :
    (uOrd op → uOrd t.op) ∧ (sOrd op → sOrd t.op) ∧ (unsOp op = true → unsOp t.op = true) := by
  rcases adjust_op op a b ca cb t h with h | h <;> rw [h]
  · exact ⟨id, id, id⟩
  · cases op <;> simp [uOrd, sOrd, unsOp, opposite]

section
variable (anno : Nat → SI) (env : Nat → Nat) (hctx : ∀ i, (anno i).WF ∧ (anno i).mem (env i)) (hnrm : ∀ i, Nrm (anno i))
include hctx hnrm

omit hctx hnrm in
theorem mkCmpT_holds (t : Tru) (hh : t.holds env) : (mkCmpT t.op t.lhs t.r t.w).holds env := by
  obtain ⟨v, hv, hc⟩ := hh
  unfold mkCmpT asConst
  by_cases hs : symBV t.lhs = true
  · rw [if_pos hs]; exact ⟨v, hv, hc⟩
  · rw [if_neg hs, ← evalBV_nosym env (fun _ => 0) t.lhs (by simpa using hs), hv]; exact hc

omit hnrm in
/-- `ge_simplifier` strips the zero bits that `_balance_zeroext` / `_balance_concat` strip (`step_low`); it answers `false` when
the literal has a bit above the width of the extended operand. -/
theorem mkUGE_spec (e : BV) (r w : Nat) : TruWT anno env ⟨.uge, e, r, w⟩ →
    (∀ t, mkUGE e r w = .tru t → TruWT anno env t) ∧ (Tru.holds env ⟨.uge, e, r, w⟩ → (mkUGE e r w).holds env) := by
  -- the step to the operand `a` of `k` bits less, and why the literal is above every value when it does not apply
  have low : ∀ (l a : BV) (k r w : Nat), TruWT anno env ⟨.uge, l, r, w⟩ → ExprOK anno env a → w = k + wd a →
      (∀ v, evalBV env l = some v → evalBV env a = some v) →
      (Conc.extract (w - 1) (w - k) r = 0 → TruWT anno env ⟨.uge, a, Conc.extract (w - k - 1) 0 r, w - k⟩ ∧
        (Tru.holds env ⟨.uge, l, r, w⟩ → Tru.holds env ⟨.uge, a, Conc.extract (w - k - 1) 0 r, w - k⟩)) ∧
      (¬ Conc.extract (w - 1) (w - k) r = 0 → ¬ Tru.holds env ⟨.uge, l, r, w⟩) := by
    intro l a k r w hok hoa hw hval
    refine ⟨fun hg => ?_, fun hg ⟨v, hv, hc⟩ => ?_⟩
    · have st := step_low anno env hctx ⟨.uge, l, r, w⟩ a k hok hoa hw hg hval
      exact ⟨st.1, fun hh => st.keepsU anno env hctx hok hh⟩
    · have h1 := extract_ne_zero _ _ r hg
      have h2 := evalBV_lt anno env hctx a v hoa.1 (hval v hv)
      have h3 : r ≤ v := by simpa [concCmp] using hc
      rw [show w - k = wd a by omega] at h1
      omega
  fun_induction mkUGE e r w with
  | case1 k a r w hg ih =>
    intro hok
    obtain ⟨h1, h2⟩ := (low _ a k r w hok (ok_zext hok.ok) hok.wd_eq.symm (fun v hv => by simpa [evalBV] using hv)).1 hg
    exact (ih h1).imp_right (· ∘ h2)
  | case2 k a r w hg =>
    intro hok
    exact ⟨fun t ht => (nomatch ht), fun hh => absurd hh
      ((low _ a k r w hok (ok_zext hok.ok) hok.wd_eq.symm (fun v hv => by simpa [evalBV] using hv)).2 hg)⟩
  | case3 k a r w hg ih =>
    intro hok
    obtain ⟨h1, h2⟩ := (low _ a k r w hok (ok_concat hok.ok).2 hok.wd_eq.symm (concat_zero_val env k a)).1 hg
    exact (ih h1).imp_right (· ∘ h2)
  | case4 k a r w hg =>
    intro hok
    exact ⟨fun t ht => (nomatch ht), fun hh => absurd hh
      ((low _ a k r w hok (ok_concat hok.ok).2 hok.wd_eq.symm (concat_zero_val env k a)).2 hg)⟩
  | case5 e r w h1 h2 => exact fun hok => ⟨fun t ht => mkCmpT_tru _ _ _ _ _ ht ▸ hok, mkCmpT_holds env _⟩

omit hnrm in
theorem mkCmp_spec (t : Tru) (hok : TruWT anno env t) :
    (∀ t', mkCmp t.op t.lhs t.r t.w = .tru t' → TruWT anno env t') ∧ (t.holds env → (mkCmp t.op t.lhs t.r t.w).holds env) := by
  unfold mkCmp
  split
  · rename_i hop
    obtain ⟨op, l, r, w⟩ := t
    cases hop
    exact mkUGE_spec anno env hctx l r w hok
  · exact ⟨fun t' ht => mkCmpT_tru _ _ _ _ _ ht ▸ hok, mkCmpT_holds env t⟩

omit hnrm in
/-- The adjusted truism is the constraint itself, or — the literal on the left — the reversed comparison through its
constructor, which leaves a sum / difference as it is (`mkCmp_mod`): the last conjunct. -/
theorem adjust_spec (op : CmpOp) (a b : BV) (ca cb : Nat) (t : Tru) (hoa : ExprOK anno env a) (hob : ExprOK anno env b)
    (hwab : wd a = wd b) (hT : adjust op a b ca cb = .ok (.tru t)) :
    TruWT anno env t ∧ (evalB env (.cmp op a b) = some true → t.holds env) ∧
      (((∃ r w, b = .const r w) ∧ t.lhs = a) ∨ ((∃ r w, a = .const r w) ∧ (isModLhs b = true → t.lhs = b))) := by
  obtain ⟨x, hx⟩ := exprOK_val anno env a hoa
  obtain ⟨y, hy⟩ := exprOK_val anno env b hob
  have hcmp : evalB env (.cmp op a b) = some true → concCmp op (wd a) x y = true := by
    intro hsat
    simp only [evalB, hx, hy, Option.bind_eq_bind, Option.bind_some, Option.some.injEq] at hsat; exact hsat
  unfold adjust at hT
  split_ifs at hT
  · split at hT
    · rename_i r w
      have hTT : mkCmp (opposite op) b r w = .tru t := (pure_ok hT).symm
      have hrw : r < 2 ^ w := by have := hoa.1; simp only [WTBV] at this; exact this.2
      cases Option.some.inj (show some r = some x from hx)
      obtain ⟨h1, h2⟩ := mkCmp_spec anno env hctx ⟨opposite op, b, x, w⟩ ⟨hob, hwab.symm, hrw⟩
      rw [hTT] at h2
      refine ⟨h1 t hTT, fun hsat => h2 ⟨y, hy, by rw [concCmp_opposite]; exact hcmp hsat⟩, Or.inr ⟨⟨x, w, rfl⟩, fun hm => ?_⟩⟩
      rw [mkCmp_mod _ _ _ _ hm] at hTT
      rw [mkCmpT_tru _ _ _ _ _ hTT]
    · cases hT
  · split at hT
    · rename_i r w
      cases pure_ok hT
      have hrw : r < 2 ^ w := by have := hob.1; simp only [WTBV] at this; exact this.2
      cases Option.some.inj (show some r = some y from hy)
      exact ⟨⟨hoa, hwab, hrw⟩, fun hsat => ⟨x, hx, by simp only; rw [← show wd a = w from hwab]; exact hcmp hsat⟩,
        Or.inl ⟨⟨y, w, rfl⟩, rfl⟩⟩
    · cases hT

omit hctx hnrm in
theorem assumption_eq (t : Tru) (hop : uOrd t.op ∨ sOrd t.op) :
    assumption t = some (mkCmp (assumOf t.op (wd t.lhs)).1 t.lhs (assumOf t.op (wd t.lhs)).2 (wd t.lhs)) := by
  unfold assumption assumOf
  rcases hop with (h | h | h | h) | (h | h | h | h) <;> rw [h]

omit hnrm in
/-- Where no simplifier rewrites the implicit assumption (a sum / difference, a signed ordering) it is the non-strict ordering
of the other direction on the same left side: the last conjunct. -/
theorem assumption_ord (t : Tru) (hok : TruWT anno env t) (hop : uOrd t.op ∨ sOrd t.op) :
    ∃ A, assumption t = some A ∧ A.holds env ∧ ∀ ta, A = .tru ta → TruWT anno env ta ∧ (uOrd t.op → uOrd ta.op) ∧
      (sOrd t.op → sOrd ta.op) ∧ (isModLhs t.lhs = true ∨ sOrd t.op →
        ta.lhs = t.lhs ∧ ta.w = t.w ∧ cmpInfo ta.op = (!(cmpInfo t.op).1, true, (cmpInfo t.op).2.2)) := by
  obtain ⟨v, hv⟩ := exprOK_val anno env t.lhs hok.ok
  have hvlt := evalBV_lt anno env hctx t.lhs v hok.ok.1 hv
  have hpos := wd_pos anno env (fun i => (hctx i).1) t.lhs hok.ok.1
  obtain ⟨hr, hc, hu, hsg, hinfo, h0⟩ := assumOf_spec t.op (wd t.lhs) v hop hpos hvlt
  obtain ⟨h1, h2⟩ := mkCmp_spec anno env hctx ⟨(assumOf t.op (wd t.lhs)).1, t.lhs, _, wd t.lhs⟩ ⟨hok.ok, rfl, hr⟩
  refine ⟨_, assumption_eq t hop, h2 ⟨v, hv, hc⟩, fun ta hta => ⟨h1 ta hta, ?_⟩⟩
  have hopa := mkCmp_op _ _ _ _ ta hta
  refine ⟨fun h => hopa ▸ hu h, fun h => hopa ▸ hsg h, fun hraw => ?_⟩
  -- no simplifier fires: the comparison is the one written
  have hT : mkCmpT (assumOf t.op (wd t.lhs)).1 t.lhs (assumOf t.op (wd t.lhs)).2 (wd t.lhs) = .tru ta := by
    rcases hraw with hm | hs
    · rw [← mkCmp_mod _ _ _ _ hm]; exact hta
    · unfold mkCmp at hta
      split at hta
      · rename_i hge
        have := hsg hs
        rw [hge] at this
        rcases this with h | h | h | h <;> cases h
      · exact hta
  cases mkCmpT_tru _ _ _ _ _ hT
  exact ⟨rfl, hok.wd_eq, hinfo⟩

end

/-- the exits of `_doit` on the comparison `a op b`, each with the calls that led to it: the `is_false` test on the
constraint; nothing to record (both sides multi-valued, or the adjusted truism folded to a literal); the truism alone;
the `is_false` test on the implicit assumption; the truism and its assumption -/
inductive DoitRun (anno : Nat → SI) (op : CmpOp) (a b : BV) : Res → Prop
  | falseC : truth anno (.cmp op a b) = .ok .f → DoitRun anno op a b .unsat
  | nothing : DoitRun anno op a b (.sat [] {})
  | main (ca cb : Nat) (t : Tru) (p1 : Bounds × BalOut) :
      adjust op a b ca cb = .ok (.tru t) → processTru anno t [] = .ok p1 →
      DoitRun anno op a b (.sat p1.1 { main := some p1.2 })
  | falseA (ca cb : Nat) (t : Tru) (A : Tr) :
      adjust op a b ca cb = .ok (.tru t) → assumption t = some A → truth anno A.toB = .ok .f →
      DoitRun anno op a b .unsat
  | both (ca cb : Nat) (t ta : Tru) (p1 p2 : Bounds × BalOut) :
      adjust op a b ca cb = .ok (.tru t) → processTru anno t [] = .ok p1 → assumption t = some (.tru ta) →
      processTru anno ta p1.1 = .ok p2 → DoitRun anno op a b (.sat p2.1 { main := some p1.2, assum := some p2.2 })

theorem doit_run (anno : Nat → SI) (op : CmpOp) (a b : BV) (r : Res) (h : doit anno (.cmp op a b) = .ok r) :
    DoitRun anno op a b r := by
  unfold doit at h
  obtain ⟨tv, htv', h⟩ := bind_ok h
  by_cases htv : tv = .f
  · rw [if_pos htv] at h
    cases pure_ok h
    subst htv
    exact .falseC htv'
  · rw [if_neg htv] at h
    obtain ⟨ca, _, h⟩ := bind_ok h
    obtain ⟨cb, _, h⟩ := bind_ok h
    by_cases hboth : ca > 1 ∧ cb > 1
    · rw [if_pos hboth] at h
      cases pure_ok h
      exact .nothing
    · rw [if_neg hboth] at h
      obtain ⟨T, hT, h⟩ := bind_ok h
      cases T with
      | lit _ => cases pure_ok h; exact .nothing
      | tru t =>
        dsimp only at h
        obtain ⟨p1, hp1, h⟩ := bind_ok h
        cases hA : assumption t with
        | none =>
          rw [hA] at h
          cases pure_ok h
          exact .main ca cb t p1 hT hp1
        | some A =>
          rw [hA] at h
          dsimp only at h
          by_cases hAc : A.toB = BExp.cmp op a b
          · rw [if_pos hAc] at h
            cases pure_ok h
            exact .main ca cb t p1 hT hp1
          · rw [if_neg hAc] at h
            obtain ⟨av, hav', h⟩ := bind_ok h
            by_cases hav : av = .f
            · rw [if_pos hav] at h
              cases pure_ok h
              subst hav
              exact .falseA ca cb t A hT hA hav'
            · rw [if_neg hav] at h
              cases A with
              | lit _ =>
                cases pure_ok h
                exact .main ca cb t p1 hT hp1
              | tru ta =>
                dsimp only at h
                obtain ⟨_, _, h⟩ := bind_ok h
                obtain ⟨p2, hp2, h⟩ := bind_ok h
                cases pure_ok h
                exact .both ca cb t ta p1 p2 hT hp1 hA hp2

section
variable (anno : Nat → SI) (env : Nat → Nat) (hctx : ∀ i, (anno i).WF ∧ (anno i).mem (env i)) (hnrm : ∀ i, Nrm (anno i))
include hctx hnrm

theorem processTru_pt (t : Tru) (bs : Bounds) (res : Bounds × BalOut) (hok : TruWT anno env t) (hop : unsOp t.op = true)
    (hh : t.holds env) (hps : PSound env bs) (h : processTru anno t bs = .ok res)
    (hcov : res.2.usedMod = true → (t.op = .eq ∨ t.op = .ne)) : PSound env res.1 := by
  obtain ⟨hout, hbs'⟩ := processTru_ok anno t bs res h
  obtain ⟨h1, h2, h3, _⟩ := balance1_keeps anno env hctx hnrm t res.2 hok hout hcov
  exact handle_pt anno env hctx hnrm res.2.t bs res.1 h1 (h2 ▸ hop)
    (holds_of_keepsU hop h2 h3 hh) hps hbs'

/-- what the check's guard says about the two paths: no constant moved across `+` / `-` by an ordering -/
def CoveredPt (op : CmpOp) (info : PathInfo) : Prop :=
  (∀ m, info.main = some m → m.usedMod = true → (op = .eq ∨ op = .ne)) ∧ (∀ a, info.assum = some a → a.usedMod = false)

/-- Under `CoveredPt` each of the two paths keeps plain bounds. -/
theorem doit_pt (op : CmpOp) (a b : BV) (bs : Bounds) (info : PathInfo)
    (hoa : ExprOK anno env a) (hob : ExprOK anno env b) (hwab : wd a = wd b) (hop : unsOp op = true)
    (h : doit anno (.cmp op a b) = .ok (.sat bs info)) (hcov : CoveredPt op info)
    (hsat : evalB env (.cmp op a b) = some true) : Sound env bs := by
  apply psound_sound
  -- the truism alone: its operator is the constraint's or the opposite one
  have first : ∀ ca cb t p1, adjust op a b ca cb = .ok (.tru t) →
      processTru anno t [] = .ok p1 → (p1.2.usedMod = true → (op = .eq ∨ op = .ne)) →
      TruWT anno env t ∧ unsOp t.op = true ∧ PSound env p1.1 := by
    intro ca cb t p1 hT hp1 hc
    obtain ⟨hokt, hht, _⟩ := adjust_spec anno env hctx op a b ca cb t hoa hob hwab hT
    have hopt : unsOp t.op = true := (adjust_ord op a b ca cb t hT).2.2 hop
    refine ⟨hokt, hopt, processTru_pt anno env hctx hnrm t [] p1 hokt hopt (hht hsat) (psound_nil env) hp1 fun hm => ?_⟩
    rcases hc hm with he | he <;> rcases adjust_op op a b ca cb t hT with h | h <;> rw [h, he] <;> simp [opposite]
  cases doit_run anno op a b _ h with
  | nothing => exact psound_nil env
  | main ca cb t p1 hT hp1 => exact (first ca cb t p1 hT hp1 (hcov.1 p1.2 rfl)).2.2
  | both ca cb t ta p1 p2 hT hp1 hA hp2 =>
    obtain ⟨hokt, hopt, hps1⟩ := first ca cb t p1 hT hp1 (hcov.1 p1.2 rfl)
    -- only an ordering has an implicit assumption
    have hord : uOrd t.op := (uns_cases t.op hopt).elim (fun he => by
      unfold assumption at hA
      rcases he with he | he <;> rw [he] at hA <;> cases hA) id
    obtain ⟨A, hA', a2, hta⟩ := assumption_ord anno env hctx t hokt (Or.inl hord)
    cases hA.symm.trans hA'
    obtain ⟨a1, a3, _⟩ := hta ta rfl
    exact processTru_pt anno env hctx hnrm ta p1.1 p2 a1 (uOrd_uns _ (a3 hord)) a2 hps1 hp2
      (fun hm => by rw [hcov.2 p2.2 rfl] at hm; cases hm)

/-- `hal2`: for `==` / `!=` the two abstract values are aligned, which is what the abstract equality of C24 needs. -/
theorem truth_f_sound (op : CmpOp) (a b : BV) (hoa : ExprOK anno env a) (hob : ExprOK anno env b) (hwab : wd a = wd b)
    (hal2 : restCmp op = true → ∀ p1 p2, convBV anno a [] = .ok p1 → convBV anno b p1.2 = .ok p2 →
      p1.1.si.Aligned ∧ p2.1.si.Aligned)
    (h : truth anno (.cmp op a b) = .ok .f) : evalB env (.cmp op a b) ≠ some true := by
  intro hsat
  unfold truth at h
  have h := liftR_ok h
  obtain ⟨p, hp, h⟩ := bind_ok h
  have hpf := pure_ok h
  have hal : alB anno (.cmp op a b) [] := by
    simp only [alB]
    exact ⟨alBV_of_noEq anno a [] hoa.2.2, fun p1 h1 => ⟨alBV_of_noEq anno b p1.2 hob.2.2, fun hr p2 h2 => hal2 hr p1 p2 h1 h2⟩⟩
  have hgood := convB_rest_good anno env hctx hnrm (.cmp op a b) [] p.1 p.2
    (fun hh => by rw [usesRestB_false] at hh; cases hh) hal
    (by simp only [DefB]; exact ⟨hoa.2.1, hob.2.1⟩) (by simp only [WTB]; exact ⟨hoa.1, hob.1, hwab⟩) hp true hsat
  rw [← hpf] at hgood
  simp [BoolRes.has, BoolRes.hasTrue] at hgood

theorem doit_unsat_ord (op : CmpOp) (a b : BV) (hoa : ExprOK anno env a) (hob : ExprOK anno env b) (hwab : wd a = wd b)
    (hord : uOrd op ∨ sOrd op) (h : doit anno (.cmp op a b) = .ok .unsat) : evalB env (.cmp op a b) ≠ some true := by
  have noal : ∀ op', uOrd op' ∨ sOrd op' → ∀ a' b', restCmp op' = true → ∀ p1 p2, convBV anno a' [] = .ok p1 →
      convBV anno b' p1.2 = .ok p2 → p1.1.si.Aligned ∧ p2.1.si.Aligned := by
    intro op' ho _ _ hr
    rcases ho with (h | h | h | h) | (h | h | h | h) <;> rw [h] at hr <;> cases hr
  cases doit_run anno op a b _ h with
  | falseC hf => exact truth_f_sound anno env hctx hnrm op a b hoa hob hwab (noal op hord a b) hf
  | falseA ca cb t A hT hA hf =>
    -- the implicit assumption holds under every assignment, so its `is_false` test cannot succeed
    obtain ⟨hokt, _, _⟩ := adjust_spec anno env hctx op a b ca cb t hoa hob hwab hT
    have hordt : uOrd t.op ∨ sOrd t.op := hord.imp (adjust_ord op a b ca cb t hT).1 (adjust_ord op a b ca cb t hT).2.1
    obtain ⟨A', hA', a2, hta⟩ := assumption_ord anno env hctx t hokt hordt
    cases hA.symm.trans hA'
    cases A with
    | lit bv => cases a2; cases hf
    | tru ta =>
      obtain ⟨a1, au, as, _⟩ := hta ta rfl
      have hev : evalB env ta.toB = some true := (holds_iff_evalB env ta a1.wd_eq).1 a2
      have hcw : ExprOK anno env (.const ta.r ta.w) := by
        have hwpos : 0 < ta.w := by rw [← a1.wd_eq]; exact wd_pos anno env (fun i => (hctx i).1) _ a1.ok.1
        exact ⟨by simp only [WTBV]; exact ⟨hwpos, a1.r_lt⟩, by simp only [DefBV], by simp only [usesEqBV]⟩
      exact absurd hev (truth_f_sound anno env hctx hnrm ta.op ta.lhs (.const ta.r ta.w) a1.ok hcw (by rw [a1.wd_eq]; rfl)
        (noal ta.op (hordt.imp au as) _ _) hf)

end

end Claripy.VSA.Bal

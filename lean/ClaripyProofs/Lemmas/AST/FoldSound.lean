import Claripy.AST.Fold
import ClaripyProofs.Lemmas.AST.RulesBase
import ClaripyProofs.Lemmas.AST.WT
import ClaripyProofs.Lemmas.BV.Reverse
/-!
Eager folding computes the denotation: if the folding model (`foldOp`, the model of
`backends.concrete.call` = bv.py arithmetic on Python ints) returns a value for a constant node, that value
is the SMT-LIB value `applyOp` assigns to the node.  Proved from the bridge lemmas, for every width.
Every operator of the fragment is covered (`Proven` is constantly true; `reverse` through `Claripy.BV.reverse_spec`).
-/
namespace Claripy.AST
open Claripy.BV

def CVal.toVal : CVal → Val
  | .bv v w => .bv w v
  | .bool b => .bool b

/-- a constant as `Expr.toCVal?` produces it: reduced modulo its width -/
def CVal.Canon : CVal → Prop
  | .bv v w => v < 2 ^ w
  | .bool _ => True

/-- the operators with a bridge lemma: all of the fragment.  Statements carry it to name the set they are proved for. -/
def Proven : Op → Bool
  | _ => true

def Computes (f : Nat → Nat → Nat → R) (g : (w : Nat) → BitVec w → BitVec w → BitVec w) : Prop :=
  ∀ w x y r, 0 < w → x < 2 ^ w → y < 2 ^ w → f w x y = .ok r → r = (g w (BitVec.ofNat w x) (BitVec.ofNat w y)).toNat

theorem ok_spec {ε : Type} {f : Except ε Nat} {v r : Nat} (hs : f = .ok v) (h : f = .ok r) : r = v := by
  rw [hs] at h; cases h; rfl

/-- `compare_bits` passes exactly two bit-vector constants of one positive width -/
theorem sized2_ok {a b : CVal} {w x y : Nat} (h : sized2 a b = .ok (w, x, y)) : a = .bv x w ∧ b = .bv y w ∧ 0 < w := by
  cases a <;> cases b <;> simp only [sized2] at h <;> try cases h
  split at h
  · rename_i hw
    cases h
    exact ⟨rfl, by rw [hw.1], hw.2⟩
  · cases h

theorem bin_sound {f g} (hc : Computes f g) (a b c : CVal) (ha : a.Canon) (hb : b.Canon) (h : bin f a b = .ok c) :
    bvBin g a.toVal b.toVal = c.toVal ∧ c.Canon := by
  unfold bin at h
  split at h
  · cases h
  · rename_i w x y hs
    obtain ⟨rfl, rfl, hw⟩ := sized2_ok hs
    split at h
    · cases h
    · rename_i r hf
      cases h
      obtain rfl := hc w x y r hw ha hb hf
      exact ⟨by simp [CVal.toVal, bvBin, hw], BitVec.isLt _⟩

theorem cmp_sound (f : Nat → Nat → Nat → Bool) (g : (w : Nat) → BitVec w → BitVec w → Bool)
    (hspec : ∀ w x y, 0 < w → x < 2 ^ w → y < 2 ^ w → f w x y = g w (BitVec.ofNat w x) (BitVec.ofNat w y))
    (a b c : CVal) (ha : a.Canon) (hb : b.Canon) (h : cmp f a b = .ok c) :
    bvCmp g a.toVal b.toVal = c.toVal := by
  unfold cmp at h
  split at h
  · cases h
  · rename_i w x y hs
    obtain ⟨rfl, rfl, hw⟩ := sized2_ok hs
    cases h
    simp [CVal.toVal, bvCmp, hw, hspec w x y hw ha hb]

theorem foldlM_bin_sound {f g} (hc : Computes f g) (vs : List CVal) (hvs : ∀ v ∈ vs, v.Canon) (a c : CVal) (ha : a.Canon)
    (h : vs.foldlM (bin f) a = .ok c) : (vs.map CVal.toVal).foldl (bvBin g) a.toVal = c.toVal ∧ c.Canon := by
  induction vs generalizing a with
  | nil => simp [List.foldlM, pure, Except.pure] at h; subst h; exact ⟨rfl, ha⟩
  | cons v vs ih =>
    simp only [List.foldlM, bind, Except.bind] at h
    cases hb : bin f a v with
    | error e => simp [hb] at h
    | ok m =>
      simp only [hb] at h
      obtain ⟨e1, cm⟩ := bin_sound hc a v m ha (hvs v (List.mem_cons_self ..)) hb
      obtain ⟨e2, cc⟩ := ih (fun u hu => hvs u (List.mem_cons_of_mem _ hu)) m cm h
      exact ⟨by simp [List.foldl, e1, e2], cc⟩

theorem reduceL_bin_sound {f g} (hc : Computes f g) (vs : List CVal) (hvs : ∀ v ∈ vs, v.Canon) (c : CVal)
    (h : reduceL (bin f) vs = .ok c) : foldVals (bvBin g) (vs.map CVal.toVal) = c.toVal := by
  cases vs with
  | nil => simp [reduceL] at h
  | cons a vs =>
    exact (foldlM_bin_sound hc vs (fun u hu => hvs u (List.mem_cons_of_mem _ hu)) a c (hvs a (List.mem_cons_self ..)) h).1

/-! the bridge lemmas in the shape `Computes`; the division-like functions raise on a zero divisor, so there is nothing to show -/
theorem add_c : Computes add fun _ a b => a + b := fun w x y _ _ _ _ h => ok_spec (add_spec w x y) h
theorem mul_c : Computes mul fun _ a b => a * b := fun w x y _ _ _ _ h => ok_spec (mul_spec w x y) h
theorem and_c : Computes and_ fun _ a b => a &&& b := fun w x y _ _ _ _ h => ok_spec (and_spec w x y) h
theorem or_c : Computes or_ fun _ a b => a ||| b := fun w x y _ _ _ _ h => ok_spec (or_spec w x y) h
theorem xor_c : Computes xor_ fun _ a b => a ^^^ b := fun w x y _ _ _ _ h => ok_spec (xor_spec w x y) h
theorem sub_c : Computes sub fun _ a b => a - b := fun w x y _ _ _ _ h => ok_spec (sub_spec w x y) h
theorem shl_c : Computes shl fun _ a b => bvShl a b := fun w x y _ _ _ hy h => by
  simp only [bvShl_eq]; exact ok_spec (shl_spec w x y hy) h
theorem lshr_c : Computes lshr fun _ a b => a >>> b := fun w x y _ _ hx hy h => ok_spec (lshr_spec w x y hx hy) h
theorem ashr_c : Computes ashr fun _ a b => BitVec.sshiftRight' a b := fun w x y _ hw hx hy h =>
  ok_spec (ashr_spec w x y hw hx hy) h
theorem rotl_c : Computes rotl fun _ a b => a.rotateLeft b.toNat := fun w x y _ hw hx hy h =>
  ok_spec (rotl_spec w x y hw hx hy) h
theorem rotr_c : Computes rotr fun _ a b => a.rotateRight b.toNat := fun w x y _ hw hx hy h =>
  ok_spec (rotr_spec w x y hw hx hy) h
theorem udiv_c : Computes udiv fun _ a b => BitVec.smtUDiv a b := by
  intro w x y r _ hx hy h
  by_cases h0 : y = 0
  · subst h0; simp [udiv] at h
  · simp only [BitVec.smtUDiv_eq, ofNat_ne_zero hy h0, if_false]
    exact ok_spec (udiv_spec w x y hx hy h0) h
theorem umod_c : Computes umod fun _ a b => a % b := by
  intro w x y r _ hx hy h
  by_cases h0 : y = 0
  · subst h0; simp [umod] at h
  · exact ok_spec (umod_spec w x y hx hy h0) h
theorem signed_zero {w : Nat} (hw : 0 < w) : signed w 0 = 0 := by
  have : (0 : Nat) < 2 ^ w / 2 := by
    obtain ⟨k, rfl⟩ : ∃ k, w = k + 1 := ⟨w - 1, by omega⟩
    rw [Nat.pow_succ]; have := Nat.two_pow_pos k; omega
  simp [signed, this]
theorem sdiv_c : Computes sdiv fun _ a b => BitVec.smtSDiv a b := by
  intro w x y r hw hx hy h
  by_cases h0 : y = 0
  · subst h0; simp [sdiv, signed_zero hw] at h
  · exact ok_spec (sdiv_spec w x y hw hx hy h0) h
theorem smod_c : Computes smod fun _ a b => BitVec.srem a b := by
  intro w x y r hw hx hy h
  by_cases h0 : y = 0
  · subst h0; simp [smod, signed_zero hw] at h
  · exact ok_spec (smod_spec w x y hw hx hy h0) h

open Claripy.Props.C04 (WT allBV cvTrue boolAll_val boolAny_val)

theorem allBV_canon_map (w : Nat) (vs : List CVal) (h : allBV w vs) : ∀ v ∈ vs, ∃ x, v = .bv x w := h

theorem foldl_and_bools (vs : List CVal) (h : ∀ v ∈ vs, ∃ b, v = .bool b) (acc : Bool) :
    (vs.map CVal.toVal).foldl (boolBin (· && ·)) (.bool acc) = .bool (acc && vs.all cvTrue) := by
  induction vs generalizing acc with
  | nil => simp
  | cons v vs ih =>
    obtain ⟨b, rfl⟩ := h v (List.mem_cons_self ..)
    simp only [List.map, List.foldl, CVal.toVal, boolBin_bool]
    rw [ih (fun u hu => h u (List.mem_cons_of_mem _ hu))]
    simp [List.all_cons, cvTrue, Bool.and_assoc]

theorem foldl_or_bools (vs : List CVal) (h : ∀ v ∈ vs, ∃ b, v = .bool b) (acc : Bool) :
    (vs.map CVal.toVal).foldl (boolBin (· || ·)) (.bool acc) = .bool (acc || vs.any cvTrue) := by
  induction vs generalizing acc with
  | nil => simp
  | cons v vs ih =>
    obtain ⟨b, rfl⟩ := h v (List.mem_cons_self ..)
    simp only [List.map, List.foldl, CVal.toVal, boolBin_bool]
    rw [ih (fun u hu => h u (List.mem_cons_of_mem _ hu))]
    simp [List.any_cons, cvTrue, Bool.or_assoc]

theorem concat_foldl_sound (ps : List (Nat × Nat)) (hps : ∀ p ∈ ps, p.1 < 2 ^ p.2) (n w : Nat) (hn : n < 2 ^ w) :
    (ps.map fun p => Val.bv p.2 p.1).foldl valConcat (.bv w n) =
      .bv (ps.foldl (fun (acc : Nat × Nat) (vb : Nat × Nat) => (concat2 vb.2 acc.1 vb.1, acc.2 + vb.2)) (n, w)).2
          (ps.foldl (fun (acc : Nat × Nat) (vb : Nat × Nat) => (concat2 vb.2 acc.1 vb.1, acc.2 + vb.2)) (n, w)).1 ∧
    (ps.foldl (fun (acc : Nat × Nat) (vb : Nat × Nat) => (concat2 vb.2 acc.1 vb.1, acc.2 + vb.2)) (n, w)).1 <
      2 ^ (ps.foldl (fun (acc : Nat × Nat) (vb : Nat × Nat) => (concat2 vb.2 acc.1 vb.1, acc.2 + vb.2)) (n, w)).2 := by
  induction ps generalizing n w with
  | nil => exact ⟨rfl, hn⟩
  | cons p ps ih =>
    simp only [List.map_cons, List.foldl_cons]
    have hp := hps p (List.mem_cons_self ..)
    have hspec := concat2_spec w p.2 n p.1 hn hp
    have hlt : concat2 p.2 n p.1 < 2 ^ (w + p.2) := by rw [hspec]; exact (BitVec.ofNat w n ++ BitVec.ofNat p.2 p.1).isLt
    have := ih (fun q hq => hps q (List.mem_cons_of_mem _ hq)) (concat2 p.2 n p.1) (w + p.2) hlt
    rw [show valConcat (.bv w n) (.bv p.2 p.1) = .bv (w + p.2) (concat2 p.2 n p.1) by simp [valConcat, hspec]]
    exact this

theorem nary_fold_sound {f g} (hc : Computes f g) {vs : List CVal} (hwt : ∃ w, 0 < w ∧ 2 ≤ vs.length ∧ allBV w vs)
    (hvs : ∀ v ∈ vs, v.Canon) {c : CVal} (h : reduceL (bin f) vs = .ok c) :
    (Sem.fold2 (bvBin g)).apply .err (vs.map CVal.toVal) = c.toVal := by
  obtain ⟨w, _, hl, _⟩ := hwt
  match vs, hl with
  | a :: b :: rest, _ => exact reduceL_bin_sound hc _ hvs c h

theorem binary_fold_sound {op f g} (hc : Computes f g) (hf : ∀ a b, foldOp op [a, b] = bin f a b) {vs : List CVal}
    (hwt : ∃ w x y, 0 < w ∧ vs = [.bv x w, .bv y w]) (hvs : ∀ v ∈ vs, v.Canon) {c : CVal} (h : foldOp op vs = .ok c) :
    (Sem.bin (bvBin g)).apply .err (vs.map CVal.toVal) = c.toVal := by
  obtain ⟨w, x, y, _, rfl⟩ := hwt
  rw [hf] at h
  exact (bin_sound hc _ _ c (hvs _ (by simp)) (hvs _ (by simp)) h).1

theorem compare_fold_sound {op f g}
    (hspec : ∀ w x y, 0 < w → x < 2 ^ w → y < 2 ^ w → f w x y = g w (BitVec.ofNat w x) (BitVec.ofNat w y))
    (hf : ∀ a b, foldOp op [a, b] = cmp f a b) {vs : List CVal} (hwt : ∃ w x y, 0 < w ∧ vs = [.bv x w, .bv y w])
    (hvs : ∀ v ∈ vs, v.Canon) {c : CVal} (h : foldOp op vs = .ok c) : (Sem.bin (bvCmp g)).apply .err (vs.map CVal.toVal) = c.toVal := by
  obtain ⟨w, x, y, _, rfl⟩ := hwt
  rw [hf] at h
  exact cmp_sound f g hspec _ _ c (hvs _ (by simp)) (hvs _ (by simp)) h

theorem foldOp_sound (op : Op) (hp : Proven op = true) (vs : List CVal) (hwt : WT op vs) (hvs : ∀ v ∈ vs, v.Canon) (c : CVal)
    (h : foldOp op vs = .ok c) : applyOp op (vs.map CVal.toVal) = c.toVal := by
  cases op
  case concat =>
    obtain ⟨hne, hbv⟩ := hwt
    -- the (value, bits) pairs of the operands
    have hpairs : ∀ (l : List CVal), (∀ v ∈ l, ∃ x w, v = .bv x w) →
        (l.filterMap pairOf).length = l.length ∧
        l.map CVal.toVal = (l.filterMap pairOf).map (fun p => Val.bv p.2 p.1) := by
      intro l hl
      induction l with
      | nil => exact ⟨rfl, rfl⟩
      | cons v l ih =>
        obtain ⟨x, w, rfl⟩ := hl v (List.mem_cons_self ..)
        obtain ⟨i1, i2⟩ := ih (fun u hu => hl u (List.mem_cons_of_mem _ hu))
        exact ⟨by simp [List.filterMap, pairOf, i1], by simp [List.filterMap, pairOf, CVal.toVal, i2]⟩
    obtain ⟨hlen, hmap⟩ := hpairs vs hbv
    simp only [foldOp] at h
    rw [if_pos hlen] at h
    cases h
    cases vs with
    | nil => exact absurd rfl hne
    | cons v0 rest =>
      obtain ⟨x0, w0, rfl⟩ := hbv _ (List.mem_cons_self ..)
      have hx0 : x0 < 2 ^ w0 := hvs (.bv x0 w0) (List.mem_cons_self ..)
      obtain ⟨_, hmapr⟩ := hpairs rest (fun u hu => hbv u (List.mem_cons_of_mem _ hu))
      have hcanon : ∀ p ∈ (rest.filterMap pairOf), p.1 < 2 ^ p.2 := by
        intro p hp
        simp only [List.mem_filterMap] at hp
        obtain ⟨v, hv, hvp⟩ := hp
        obtain ⟨x, w, rfl⟩ := hbv v (List.mem_cons_of_mem _ hv)
        simp only [pairOf, Option.some.injEq] at hvp
        subst hvp
        exact hvs (.bv x w) (List.mem_cons_of_mem _ hv)
      obtain ⟨e1, e2⟩ := concat_foldl_sound _ hcanon x0 w0 hx0
      simp only [List.map_cons, applyOp, foldVals, CVal.toVal, hmapr]
      simp only [List.filterMap_cons, pairOf, Claripy.BV.concat, List.foldl_cons]
      have hz : concat2 w0 0 x0 = x0 := by simp [concat2]
      simp only [hz, Nat.zero_add]
      rw [e1, mask_of_lt e2]
  case reverse =>
    obtain ⟨w, x, hw, rfl⟩ := hwt
    have hx : x < 2 ^ w := hvs (.bv x w) (by simp)
    simp only [foldOp, bind, Except.bind, pure, Except.pure] at h
    cases hr : reverse w x with
    | error e => simp [hr] at h
    | ok r =>
      simp only [hr, Except.ok.injEq] at h
      subst h
      obtain ⟨h8, rfl⟩ := reverse_spec w x r hx hr
      simp [applyOp, valReverse, CVal.toVal, h8, hw, Nat.mod_eq_of_lt hx]
  case eq | ne =>
    rcases hwt with ⟨w, x, y, hw, rfl⟩ | ⟨a, b, rfl⟩
    · have ha : x < 2 ^ w := hvs (.bv x w) (by simp)
      have hb : y < 2 ^ w := hvs (.bv y w) (by simp)
      have hspec := eq_spec w x y ha hb
      simp only [Claripy.BV.eq] at hspec
      simp only [foldOp, if_true] at h
      cases h
      have hne : (x != y) = !(x == y) := rfl
      simp only [List.map, applyOp, CVal.toVal, valEq, valNot, hw, and_self, if_true, ← hspec, ne, eq, hne]
    · simp only [foldOp] at h
      cases h
      simp [applyOp, CVal.toVal, valEq, valNot] <;> cases a <;> cases b <;> rfl
  case bnot | neg =>
    obtain ⟨w, x, hw, rfl⟩ := hwt
    simp only [foldOp, not_spec, neg_spec, bind, Except.bind, pure, Except.pure] at h
    cases h
    simp [applyOp, CVal.toVal, bvUn, hw]
  case extract hi lo =>
    obtain ⟨w, x, hlo, hhi, rfl⟩ := hwt
    have hx : x < 2 ^ w := hvs (.bv x w) (by simp)
    simp only [foldOp, extract_spec_lt w hi lo x hlo hx, bind, Except.bind, pure, Except.pure] at h
    cases h
    have : hi + 1 - lo = hi - lo + 1 := by omega
    simp [applyOp, CVal.toVal, hlo, hhi, this]
  case zeroExt n =>
    obtain ⟨w, x, hw, rfl⟩ := hwt
    have hx : x < 2 ^ w := hvs (.bv x w) (by simp)
    simp only [foldOp, zeroExt_spec n w x hx, bind, Except.bind, pure, Except.pure] at h
    cases h
    simp [applyOp, CVal.toVal, hw]
  case signExt n =>
    obtain ⟨w, x, hw, rfl⟩ := hwt
    have hx : x < 2 ^ w := hvs (.bv x w) (by simp)
    simp only [foldOp, signExt_spec n w x hw hx, bind, Except.bind, pure, Except.pure] at h
    cases h
    simp [applyOp, CVal.toVal, hw]
  case ite =>
    obtain ⟨cb, t, f, rfl, hty⟩ := hwt
    simp only [foldOp] at h
    cases h
    rcases hty with ⟨x, y, w, rfl, rfl⟩ | ⟨a, b, rfl, rfl⟩
    · cases cb <;> simp [applyOp, CVal.toVal, valIte]
    · cases cb <;> simp [applyOp, CVal.toVal, valIte]
  case and =>
    obtain ⟨hne, hb⟩ := hwt
    rw [show foldOp .and vs = boolAll vs from rfl, boolAll_val vs hb] at h
    cases h
    cases vs with
    | nil => exact absurd rfl hne
    | cons v rest => simpa [applyOp, CVal.toVal] using foldl_and_bools (v :: rest) hb true
  case or =>
    obtain ⟨hne, hb⟩ := hwt
    rw [show foldOp .or vs = boolAny vs from rfl, boolAny_val vs hb] at h
    cases h
    cases vs with
    | nil => exact absurd rfl hne
    | cons v rest => simpa [applyOp, CVal.toVal] using foldl_or_bools (v :: rest) hb false
  case not =>
    obtain ⟨b, rfl⟩ := hwt
    simp only [foldOp] at h
    cases h
    simp [applyOp, CVal.toVal, valNot]
  all_goals rw [applyOp_eq]
  case add => exact nary_fold_sound add_c hwt hvs h
  case mul => exact nary_fold_sound mul_c hwt hvs h
  case band => exact nary_fold_sound and_c hwt hvs h
  case bor => exact nary_fold_sound or_c hwt hvs h
  case bxor => exact nary_fold_sound xor_c hwt hvs h
  case sub =>
    obtain ⟨w, x, y, _, rfl⟩ := hwt
    exact reduceL_bin_sound sub_c _ hvs c h
  case udiv => exact binary_fold_sound udiv_c (fun _ _ => rfl) hwt hvs h
  case umod => exact binary_fold_sound umod_c (fun _ _ => rfl) hwt hvs h
  case sdiv => exact binary_fold_sound sdiv_c (fun _ _ => rfl) hwt hvs h
  case smod => exact binary_fold_sound smod_c (fun _ _ => rfl) hwt hvs h
  case shl => exact binary_fold_sound shl_c (fun _ _ => rfl) hwt hvs h
  case ashr => exact binary_fold_sound ashr_c (fun _ _ => rfl) hwt hvs h
  case lshr => exact binary_fold_sound lshr_c (fun _ _ => rfl) hwt hvs h
  case rotl => exact binary_fold_sound rotl_c (fun _ _ => rfl) hwt hvs h
  case rotr => exact binary_fold_sound rotr_c (fun _ _ => rfl) hwt hvs h
  case ult => exact compare_fold_sound (fun w x y _ hx hy => ult_spec w x y hx hy) (fun _ _ => rfl) hwt hvs h
  case ule => exact compare_fold_sound (fun w x y _ hx hy => ule_spec w x y hx hy) (fun _ _ => rfl) hwt hvs h
  case ugt => exact compare_fold_sound (fun w x y _ hx hy => ugt_spec w x y hx hy) (fun _ _ => rfl) hwt hvs h
  case uge => exact compare_fold_sound (fun w x y _ hx hy => uge_spec w x y hx hy) (fun _ _ => rfl) hwt hvs h
  case slt => exact compare_fold_sound slt_spec (fun _ _ => rfl) hwt hvs h
  case sle => exact compare_fold_sound sle_spec (fun _ _ => rfl) hwt hvs h
  case sgt => exact compare_fold_sound sgt_spec (fun _ _ => rfl) hwt hvs h
  case sge => exact compare_fold_sound sge_spec (fun _ _ => rfl) hwt hvs h

end Claripy.AST

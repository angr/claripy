import ClaripyProofs.Lemmas.AST.ACNormSound
/-!
Soundness of the Boolean certificate check `bcEquiv` (flattening / dropped identity literals / absorbing literal /
repeated operands / order of `And` and `Or` nodes), for every number of operands and nesting depth.
-/
namespace Claripy.AST

theorem BK.comm (k : BK) (a b : Bool) : k.g a b = k.g b a := by
  cases k <;> cases a <;> cases b <;> rfl

def BK.mon (k : BK) : ACU Bool where
  g := k.g
  e := k.e
  assoc a b c := by cases k <;> cases a <;> cases b <;> cases c <;> rfl
  comm := k.comm
  id_left a := by cases k <;> cases a <;> rfl

theorem BK.idem (k : BK) (a q : Bool) : k.g a (k.g a q) = k.g a q := by
  cases k <;> cases a <;> cases q <;> rfl
theorem BK.absorb (k : BK) (p : Bool) : k.g (!k.e) p = !k.e := by
  cases k <;> cases p <;> rfl

def toB? : Val → Option Bool
  | .bool b => some b
  | _ => none

def combineB (k : BK) : Option Bool → Option Bool → Option Bool
  | some x, some p => some (k.g x p)
  | _, _ => none

def denB (env : Env) (k : BK) : List Expr → Option Bool
  | [] => some k.e
  | t :: ts => combineB k (toB? (eval env t)) (denB env k ts)

theorem toB?_eq_some {v : Val} {b : Bool} (h : toB? v = some b) : v = .bool b := by
  cases v <;> simp_all [toB?]

theorem combineB_eq (k : BK) : combineB k = k.mon.opt.g := by
  funext a b
  cases a <;> cases b <;> rfl

theorem denB_eq (env : Env) (k : BK) (ts : List Expr) : denB env k ts = k.mon.opt.prod (fun t => toB? (eval env t)) ts := by
  induction ts with
  | nil => rfl
  | cons t ts ih =>
    rw [denB, ih, combineB_eq]
    rfl

theorem denB_cons_some {env : Env} {k : BK} {t : Expr} {ts : List Expr} {v : Bool} (h : denB env k (t :: ts) = some v) :
    ∃ x v', eval env t = .bool x ∧ denB env k ts = some v' ∧ k.g x v' = v := by
  rw [denB, combineB_eq] at h
  obtain ⟨x, v', hx, hv', hg⟩ := k.mon.lift_eq_some h
  exact ⟨x, v', toB?_eq_some hx, hv', hg⟩

theorem denB_append (env : Env) (k : BK) (l1 l2 : List Expr) :
    denB env k (l1 ++ l2) = combineB k (denB env k l1) (denB env k l2) := by
  simp only [denB_eq, combineB_eq]
  exact k.mon.opt.prod_append ..

theorem denB_perm (env : Env) (k : BK) {l1 l2 : List Expr} (h : l1.Perm l2) : denB env k l1 = denB env k l2 := by
  simp only [denB_eq]
  exact k.mon.opt.prod_perm _ h

theorem toB?_boolBin (k : BK) (u v : Val) : toB? (boolBin k.g u v) = combineB k (toB? u) (toB? v) := by
  cases u <;> cases v <;> rfl

theorem applyOp_bk (k : BK) (vs : List Val) (h : 1 ≤ vs.length) : applyOp k.op vs = vs.foldl (boolBin k.g) (.bool k.e) := by
  match vs, h with
  | a :: rest, _ => cases k <;> rfl

theorem node_denB (env : Env) (k : BK) (args : List Expr) (h : 1 ≤ args.length) :
    toB? (eval env (.app k.op args)) = denB env k args := by
  rw [eval_app, applyOp_bk k _ (by rw [evalList_eq_map]; simpa using h), evalList_eq_map,
    k.mon.opt.foldl_hom toB? (boolBin k.g) (combineB_eq k ▸ toB?_boolBin k), denB_eq]
  exact k.mon.opt.id_left _

theorem denB_singleton (env : Env) (k : BK) (e : Expr) : denB env k [e] = toB? (eval env e) := by
  rw [denB, denB, combineB_eq]
  exact k.mon.opt.id_right _

mutual
theorem flatB_den (env : Env) (k : BK) : ∀ e : Expr, denB env k (flatB k.op e) = toB? (eval env e)
  | .app op' args => by
    simp only [flatB]
    split
    · rename_i hc
      obtain ⟨rfl, hlen⟩ := hc
      rw [flatBList_den env k args, node_denB env k args hlen]
    · exact denB_singleton ..
  | .bvv v w' => denB_singleton ..
  | .bvs n w' => denB_singleton ..
  | .boolv b => denB_singleton ..
  | .bools n => denB_singleton ..
theorem flatBList_den (env : Env) (k : BK) : ∀ es : List Expr, denB env k (flatBList k.op es) = denB env k es
  | [] => by simp [flatBList]
  | e :: es => by simp only [flatBList, denB_append, flatB_den env k e, flatBList_den env k es, denB]
end

theorem bprod_eq (k : BK) (bs : List Bool) : bprod k bs = k.mon.prod (fun x => x) bs :=
  (k.mon.foldl_eq_prod _ bs).trans (k.mon.id_left _)

theorem bprod_cons (k : BK) (x : Bool) (bs : List Bool) : bprod k (x :: bs) = k.g x (bprod k bs) := by
  rw [bprod_eq, bprod_eq]
  rfl

theorem splitB_den (env : Env) (k : BK) (ts : List Expr) :
    denB env k ts = combineB k (some (bprod k (splitB ts).1)) (denB env k (splitB ts).2) := by
  have assoc := k.mon.opt.assoc
  have left_comm := k.mon.opt.left_comm
  rw [← combineB_eq] at assoc left_comm
  induction ts with
  | nil => exact congrArg some (k.mon.id_left _).symm
  | cons t ts ih =>
    cases t with
    | boolv b =>
      simp only [splitB, denB, eval_boolv, toB?, bprod_cons]
      rw [ih]
      exact (assoc (some _) (some _) _).symm
    | _ =>
      simp only [splitB, denB]
      rw [ih, left_comm]

theorem denB_dedupe (env : Env) (k : BK) (l : List Expr) : denB env k (dedupe l) = denB env k l := by
  simp only [denB_eq]
  exact k.mon.opt.prod_dedupe (k.mon.lift_idem k.idem) ..

theorem bcEquiv_sound (k : BK) (lhs rhs : Expr) (h : bcEquiv k lhs rhs = true) (env : Env) (b : Bool)
    (hl : eval env lhs = .bool b) : eval env rhs = eval env lhs := by
  have h1 : denB env k (flatB k.op lhs) = some b := by rw [flatB_den, hl]; rfl
  rw [hl]
  apply toB?_eq_some
  rw [splitB_den, combineB_eq] at h1
  obtain ⟨_, p, hc, hrest, h1⟩ := k.mon.lift_eq_some h1
  rw [Option.some.injEq] at hc
  rw [← flatB_den env k rhs, splitB_den]
  simp only [bcEquiv] at h
  split at h
  · rename_i hle
    simp only [Bool.and_eq_true, decide_eq_true_eq] at h
    obtain ⟨hre, hperm⟩ := h
    rw [← denB_perm env k (List.isPerm_iff.mp hperm), denB_dedupe, hrest, hre, ← h1, ← hc, hle]
    rfl
  · rename_i hle
    simp only [Bool.and_eq_true, decide_eq_true_eq, List.isEmpty_iff] at h
    obtain ⟨hre, hemp⟩ := h
    -- both literal parts are the absorbing literal
    have hz : ∀ x : Bool, x ≠ k.e → x = !k.e := by intro x hx; cases x <;> cases k <;> simp_all [BK.e]
    have e1 := hz _ hle
    have e2 := hz _ hre
    rw [hemp, e2, ← h1, ← hc, e1, show k.mon.g (!k.e) p = !k.e from k.absorb p]
    exact congrArg some (k.mon.id_right _)

end Claripy.AST

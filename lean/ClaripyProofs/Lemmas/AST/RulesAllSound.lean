import ClaripyProofs.Lemmas.AST.RulesWidthSound
/-! Soundness of `R.extractRules` (`Extract` distributes over the bitwise operations with any number of operands and over
`If`), and the master theorem over `R.all`. -/
namespace Claripy.AST

structure Slicing (g : (w : Nat) → BitVec w → BitVec w → BitVec w) : Prop where
  comm : ∀ (w : Nat) (x y : BitVec w) (hi lo : Nat),
    BitVec.extractLsb hi lo (g w x y) = g (hi - lo + 1) (BitVec.extractLsb hi lo x) (BitVec.extractLsb hi lo y)

theorem slicing_and : Slicing (fun _ x y => x &&& y) := ⟨fun _ _ _ _ _ => BitVec.extractLsb_and⟩
theorem slicing_or : Slicing (fun _ x y => x ||| y) := ⟨fun _ _ _ _ _ => BitVec.extractLsb_or⟩
theorem slicing_xor : Slicing (fun _ x y => x ^^^ y) := ⟨fun _ _ _ _ _ => BitVec.extractLsb_xor⟩

theorem extrV_bvBin {g} (sg : Slicing g) (hi lo : Nat) (a b : Val) (h : extrV hi lo (bvBin g a b) ≠ .err) :
    bvBin g (extrV hi lo a) (extrV hi lo b) = extrV hi lo (bvBin g a b) := by
  obtain ⟨w, x, y, hw, rfl, rfl⟩ := bvBin_ne_err fun e => h (e ▸ extrV_err hi lo)
  simp only [bvBin, hw, and_self, if_true, extrV_bv] at h ⊢
  by_cases hc : lo ≤ hi ∧ hi < w
  · simp only [hc, and_self, if_true, show 0 < hi - lo + 1 by omega, BitVec.ofNat_toNat, BitVec.setWidth_eq, sg.comm]
  · exact absurd (if_neg hc) h

theorem extrV_bvBin_err {g} (hi lo : Nat) (a b : Val) (h : extrV hi lo a = .err) : extrV hi lo (bvBin g a b) = .err := by
  by_cases hb : bvBin g a b = .err
  · rw [hb, extrV_err]
  · obtain ⟨w, x, y, hw, rfl, rfl⟩ := bvBin_ne_err hb
    simp only [bvBin, hw, and_self, if_true, extrV_bv] at h ⊢
    split at h
    · cases h
    · exact if_neg ‹_›

theorem extrV_foldl_err {g} (hi lo : Nat) (vs : List Val) (acc : Val) (h : extrV hi lo acc = .err) :
    extrV hi lo (vs.foldl (bvBin g) acc) = .err := by
  induction vs generalizing acc with
  | nil => exact h
  | cons v rest ih => exact ih _ (extrV_bvBin_err hi lo acc v h)

theorem extrV_foldl {g} (sg : Slicing g) (hi lo : Nat) (vs : List Val) (acc : Val)
    (h : extrV hi lo (vs.foldl (bvBin g) acc) ≠ .err) :
    (vs.map (extrV hi lo)).foldl (bvBin g) (extrV hi lo acc) = extrV hi lo (vs.foldl (bvBin g) acc) := by
  induction vs generalizing acc with
  | nil => rfl
  | cons v rest ih =>
    simp only [List.map_cons, List.foldl_cons] at h ⊢
    have hne : extrV hi lo (bvBin g acc v) ≠ .err := fun he => h (extrV_foldl_err hi lo rest _ he)
    rw [extrV_bvBin sg hi lo acc v hne]
    exact ih _ h

theorem eval_extr (env : Env) (p : P) (e : Expr) : eval env (R.extr p e) = extrV p.c1 p.c2 (eval env e) := by
  simp [R.extr, eval_app, evalList_cons, evalList_nil, extrV]

theorem extract_nary_sound (op : Op) (g) (sg : Slicing g)
    (hop : ∀ a b l, applyOp op (a :: b :: l) = foldVals (bvBin g) (a :: b :: l))
    (p : P) (env : Env) (hs : R.twoPlus p = true)
    (hwt : eval env (R.extr p (.app op p.xs)) ≠ .err) :
    eval env (.app op (p.xs.map (R.extr p))) = eval env (R.extr p (.app op p.xs)) := by
  simp only [R.twoPlus, decide_eq_true_eq] at hs
  obtain ⟨a, b, l, hxs⟩ : ∃ a b l, p.xs = a :: b :: l := by
    cases h : p.xs with
    | nil => simp [h] at hs
    | cons a r =>
      cases r with
      | nil => simp [h] at hs
      | cons b l => exact ⟨a, b, l, rfl⟩
  rw [eval_extr] at hwt ⊢
  rw [hxs] at hwt ⊢
  simp only [eval_app, evalList_eq_map, List.map_cons, hop, foldVals, List.foldl_cons] at hwt ⊢
  simp only [List.map_map, eval_extr] at hwt ⊢
  have key := extrV_foldl sg p.c1 p.c2 (eval env b :: l.map (eval env)) (eval env a) (by simpa [List.foldl_cons] using hwt)
  simp only [List.map_cons, List.foldl_cons, List.map_map] at key
  have hfun : (fun x => eval env (R.extr p x)) = (extrV p.c1 p.c2 ∘ eval env) := by
    funext x; exact eval_extr env p x
  simpa [Function.comp_def, eval_extr] using key

theorem extract_and_sound : Sound R.extract_and := fun p env hs hwt =>
  extract_nary_sound .band _ slicing_and (fun _ _ _ => rfl) p env hs hwt
theorem extract_or_sound : Sound R.extract_or := fun p env hs hwt =>
  extract_nary_sound .bor _ slicing_or (fun _ _ _ => rfl) p env hs hwt
theorem extract_xor_sound : Sound R.extract_xor := fun p env hs hwt =>
  extract_nary_sound .bxor _ slicing_xor (fun _ _ _ => rfl) p env hs hwt

/-- a slice of a well-typed `If` is the `If` of the slices: the branches have one sort, so have their slices -/
theorem extrV_valIte (hi lo : Nat) (c a b : Val) (h : extrV hi lo (valIte c a b) ≠ .err) :
    valIte c (extrV hi lo a) (extrV hi lo b) = extrV hi lo (valIte c a b) := by
  obtain ⟨cb, rfl, hab, -, e⟩ := valIte_inv fun e => h (e ▸ extrV_err hi lo)
  rw [e] at h ⊢
  have hty : (extrV hi lo a).ty = (extrV hi lo b).ty := by rw [extrV_ty, extrV_ty, hab]
  cases cb
  · rw [valIte_eq_of_ty false hty (ne_err_of_ty_eq hty.symm h)]
    rfl
  · rw [valIte_eq_of_ty true hty h]
    rfl

theorem extract_ite_sound : Sound R.extract_ite := fun _ _ _ hwt => extrV_valIte _ _ _ _ _ hwt

theorem extractRules_sound : ∀ s ∈ R.extractRules, Sound s := by
  simp only [R.extractRules, List.forall_mem_cons, List.not_mem_nil, false_imp_iff, implies_true, and_true]
  exact ⟨extract_and_sound, extract_or_sound, extract_xor_sound, extract_ite_sound⟩

theorem all_sound : ∀ s ∈ R.all, Sound s :=
  List.forall_mem_append.mpr ⟨pre_sound, extractRules_sound⟩

end Claripy.AST

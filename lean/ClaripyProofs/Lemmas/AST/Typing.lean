import ClaripyProofs.Lemmas.AST.RulesBase
/-!
Typing as a homomorphism.  Every value function has a typing rule, a function on `Ty`, and `Val.ty` commutes with it; lifted
through the six ways of combining operands (`Sem`) this is `applyOp_ty : (applyOp op vs).ty = tyOp op (vs.map Val.ty)`.
What the development needs to know about sorts is then read off `tyOp`: the sort of a node depends only on the sorts of its
operands (`applyOp_ty_congr`), an ill-typed operand makes the node ill-typed (`applyOp_strict`) — these two let an `If` be moved
across any operator (Props/C08) —, the operands of a well-typed node have the sorts its rule demands (`Ty.bin_ne_err`, …), and
the width claripy reports is the width of the sort (`widthOf_ty`, `width_eq_ty`), so that a well-typed expression is a `BitVec` of
the width it reports or, if it reports none, a Boolean (`eval_of_width`, `eval_of_no_width`, `eval_bool_width`).
-/
namespace Claripy.AST

inductive Ty where
  | bv (w : Nat)
  | bool
  | err
  deriving DecidableEq, Repr

def Val.ty : Val → Ty
  | .bv w _ => .bv w
  | .bool _ => .bool
  | .err => .err

inductive SameTys : List Val → List Val → Prop
  | nil : SameTys [] []
  | cons {a b : Val} {as bs : List Val} : a.ty = b.ty → SameTys as bs → SameTys (a :: as) (b :: bs)

theorem valReverse_err : valReverse .err = .err := rfl


def Ty.width : Ty → Option Nat
  | .bv w => some w
  | _ => none

def Ty.bin : Ty → Ty → Ty
  | .bv w, .bv w' => if w = w' ∧ 0 < w then .bv w else .err
  | _, _ => .err
def Ty.un1 (C : Nat → Prop) [DecidablePred C] (g : Nat → Nat) : Ty → Ty
  | .bv w => if C w then .bv (g w) else .err
  | _ => .err
def Ty.cmp : Ty → Ty → Ty
  | .bv w, .bv w' => if w = w' ∧ 0 < w then .bool else .err
  | _, _ => .err
def Ty.eq : Ty → Ty → Ty
  | .bv w, .bv w' => if w = w' ∧ 0 < w then .bool else .err
  | .bool, .bool => .bool
  | _, _ => .err
def Ty.not : Ty → Ty
  | .bool => .bool
  | _ => .err
def Ty.concat : Ty → Ty → Ty
  | .bv w, .bv w' => .bv (w + w')
  | _, _ => .err
def Ty.ite : Ty → Ty → Ty → Ty
  | .bool, .bv w, .bv w' => if w = w' then .bv w else .err
  | .bool, .bool, .bool => .bool
  | _, _, _ => .err
def Ty.boolBin : Ty → Ty → Ty
  | .bool, .bool => .bool
  | _, _ => .err

section
variable (a b c : Val)
theorem bvBin_ty (f) : (bvBin f a b).ty = .bin a.ty b.ty := by
  cases a <;> cases b <;> try rfl
  exact apply_ite Val.ty ..
theorem bvUn_ty (f) : (bvUn f a).ty = .un1 (0 < ·) id a.ty := by
  cases a <;> try rfl
  exact apply_ite Val.ty ..
theorem bvCmp_ty (f) : (bvCmp f a b).ty = .cmp a.ty b.ty := by
  cases a <;> cases b <;> try rfl
  exact apply_ite Val.ty ..
theorem valEq_ty : (valEq a b).ty = .eq a.ty b.ty := by
  cases a <;> cases b <;> try rfl
  exact apply_ite Val.ty ..
theorem valNot_ty : (valNot a).ty = .not a.ty := by cases a <;> rfl
theorem valConcat_ty : (valConcat a b).ty = .concat a.ty b.ty := by cases a <;> cases b <;> rfl
theorem boolBin_ty (f) : (boolBin f a b).ty = .boolBin a.ty b.ty := by cases a <;> cases b <;> rfl
theorem valReverse_ty : (valReverse a).ty = .un1 (fun w => w % 8 = 0 ∧ 0 < w) id a.ty := by
  cases a <;> try rfl
  exact apply_ite Val.ty ..
theorem valIte_ty_eq : (valIte c a b).ty = .ite c.ty a.ty b.ty := by
  cases c <;> cases a <;> cases b <;> try rfl
  rename_i cb w _ w' _
  by_cases hw : w = w'
  · subst hw; cases cb <;> simp [valIte, Val.ty, Ty.ite]
  · simp [valIte, Val.ty, Ty.ite, hw]
theorem extrV_ty (hi lo : Nat) : (extrV hi lo a).ty = .un1 (fun w => lo ≤ hi ∧ hi < w) (fun _ => hi - lo + 1) a.ty := by
  cases a <;> try rfl
  exact apply_ite Val.ty ..
theorem zeroExt_ty (n : Nat) : (applyOp (.zeroExt n) [a]).ty = .un1 (0 < ·) (· + n) a.ty := by
  cases a <;> try rfl
  exact apply_ite Val.ty ..
theorem signExt_ty (n : Nat) : (applyOp (.signExt n) [a]).ty = .un1 (0 < ·) (· + n) a.ty := by
  cases a <;> try rfl
  exact apply_ite Val.ty ..
end

def Sem.Hom {α β : Type} (φ : α → β) : Sem α → Sem β → Prop
  | .un f, .un g => ∀ a, φ (f a) = g (φ a)
  | .bin f, .bin g | .fold2 f, .fold2 g | .fold1 f, .fold1 g => ∀ a b, φ (f a b) = g (φ a) (φ b)
  | .ter f, .ter g => ∀ a b c, φ (f a b c) = g (φ a) (φ b) (φ c)
  | .foldFrom f u, .foldFrom g v => φ u = v ∧ ∀ a b, φ (f a b) = g (φ a) (φ b)
  | _, _ => False

theorem foldl_hom {α β : Type} (φ : α → β) {f g} (h : ∀ a b, φ (f a b) = g (φ a) (φ b)) (l : List α) (a : α) :
    φ (l.foldl f a) = (l.map φ).foldl g (φ a) := by
  induction l generalizing a with
  | nil => rfl
  | cons b l ih => rw [List.foldl_cons, ih, h]; rfl

theorem Sem.apply_hom {α β : Type} {φ : α → β} {s : Sem α} {t : Sem β} (h : Sem.Hom φ s t) {e : α} {e' : β} (he : φ e = e')
    (vs : List α) : φ (s.apply e vs) = t.apply e' (vs.map φ) := by
  cases s <;> cases t <;> try exact h.elim
  case un.un =>
    match vs with
    | [a] => exact h a
    | [] | _ :: _ :: _ => exact he
  case bin.bin =>
    match vs with
    | [a, b] => exact h a b
    | [] | [_] | _ :: _ :: _ :: _ => exact he
  case ter.ter =>
    match vs with
    | [a, b, c] => exact h a b c
    | [] | [_] | [_, _] | _ :: _ :: _ :: _ :: _ => exact he
  case fold2.fold2 =>
    match vs with
    | a :: b :: l => exact foldl_hom φ h _ _
    | [] | [_] => exact he
  case fold1.fold1 =>
    match vs with
    | a :: l => exact foldl_hom φ h _ _
    | [] => exact he
  case foldFrom.foldFrom =>
    match vs with
    | a :: l => exact h.1 ▸ foldl_hom φ h.2 _ _
    | [] => exact he

def Op.tsem : Op → Sem Ty
  | .add | .mul | .band | .bor | .bxor => .fold2 .bin
  | .sub | .udiv | .umod | .sdiv | .smod | .shl | .lshr | .ashr | .rotl | .rotr => .bin .bin
  | .bnot | .neg => .un (.un1 (0 < ·) id)
  | .eq => .bin .eq
  | .ne => .bin fun a b => (Ty.eq a b).not
  | .ult | .ule | .ugt | .uge | .slt | .sle | .sgt | .sge => .bin .cmp
  | .concat => .fold1 .concat
  | .extract hi lo => .un (.un1 (fun w => lo ≤ hi ∧ hi < w) fun _ => hi - lo + 1)
  | .zeroExt n | .signExt n => .un (.un1 (0 < ·) (· + n))
  | .reverse => .un (.un1 (fun w => w % 8 = 0 ∧ 0 < w) id)
  | .ite => .ter .ite
  | .and | .or => .foldFrom .boolBin .bool
  | .not => .un .not

def tyOp (op : Op) (tys : List Ty) : Ty := op.tsem.apply .err tys

theorem Op.sem_hom (op : Op) : Sem.Hom Val.ty op.sem op.tsem := by
  cases op
  case add | mul | band | bor | bxor | sub | udiv | umod | sdiv | smod | shl | lshr | ashr | rotl | rotr =>
    exact fun a b => bvBin_ty a b _
  case bnot | neg => exact fun a => bvUn_ty a _
  case ult | ule | ugt | uge | slt | sle | sgt | sge => exact fun a b => bvCmp_ty a b _
  case eq => exact valEq_ty
  case ne => exact fun a b => (valNot_ty _).trans (congrArg Ty.not (valEq_ty a b))
  case concat => exact valConcat_ty
  case extract hi lo => exact fun a => extrV_ty a hi lo
  case zeroExt n => exact fun a => zeroExt_ty a n
  case signExt n => exact fun a => signExt_ty a n
  case reverse => exact valReverse_ty
  case ite => exact fun c a b => valIte_ty_eq a b c
  case and | or => exact ⟨rfl, fun a b => boolBin_ty a b _⟩
  case not => exact valNot_ty

theorem applyOp_ty (op : Op) (vs : List Val) : (applyOp op vs).ty = tyOp op (vs.map Val.ty) := by
  rw [applyOp_eq]
  exact Sem.apply_hom op.sem_hom rfl vs

theorem SameTys.map_eq {vs vs' : List Val} (h : SameTys vs vs') : vs.map Val.ty = vs'.map Val.ty := by
  induction h with
  | nil => rfl
  | cons hab _ ih => rw [List.map_cons, List.map_cons, hab, ih]

theorem applyOp_ty_congr (op : Op) {vs vs' : List Val} (h : SameTys vs vs') : (applyOp op vs).ty = (applyOp op vs').ty := by
  rw [applyOp_ty, applyOp_ty, h.map_eq]

theorem Val.ty_eq_err {v : Val} : v.ty = .err ↔ v = .err := by cases v <;> simp [Val.ty]

theorem ne_err_of_ty_eq {a b : Val} (h : a.ty = b.ty) (ha : a ≠ .err) : b ≠ .err :=
  fun e => ha (Val.ty_eq_err.mp (h.trans (Val.ty_eq_err.mpr e)))

section
variable {α : Type} {e : α}

theorem foldl_strict {f : α → α → α} (hl : ∀ b, f e b = e) (hr : ∀ a, f a e = e) {l : List α} (a : α) (h : a = e ∨ e ∈ l) :
    l.foldl f a = e := by
  induction l generalizing a with
  | nil => simpa using h
  | cons b l ih =>
    refine ih _ ?_
    rcases h with rfl | h
    · exact .inl (hl b)
    · rcases List.mem_cons.mp h with rfl | h
      · exact .inl (hr a)
      · exact .inr h

def Sem.Strict (e : α) : Sem α → Prop
  | .un f => f e = e
  | .bin f | .fold2 f | .fold1 f | .foldFrom f _ => (∀ b, f e b = e) ∧ ∀ a, f a e = e
  | .ter f => (∀ a b, f e a b = e) ∧ (∀ a b, f a e b = e) ∧ ∀ a b, f a b e = e

theorem Sem.apply_strict {s : Sem α} (hs : s.Strict e) {vs : List α} (h : e ∈ vs) : s.apply e vs = e := by
  unfold Sem.apply
  split
  · obtain rfl := List.mem_singleton.mp h
    exact hs
  · simp only [List.mem_cons, List.mem_nil_iff, or_false] at h
    rcases h with rfl | rfl
    · exact hs.1 _
    · exact hs.2 _
  · simp only [List.mem_cons, List.mem_nil_iff, or_false] at h
    rcases h with rfl | rfl | rfl
    · exact hs.1 _ _
    · exact hs.2.1 _ _
    · exact hs.2.2 _ _
  · exact foldl_strict hs.1 hs.2 _ (by simpa [eq_comm] using h)
  · exact foldl_strict hs.1 hs.2 _ (by simpa [eq_comm] using h)
  · exact foldl_strict hs.1 hs.2 _ (.inr h)
  · rfl

theorem Sem.un_args {f : α → α} {vs : List α} (h : (Sem.un f).apply e vs ≠ e) : ∃ a, vs = [a] := by
  match vs, h with
  | [a], _ => exact ⟨a, rfl⟩
  | [], h | _ :: _ :: _, h => exact absurd rfl h
theorem Sem.bin_args {f : α → α → α} {vs : List α} (h : (Sem.bin f).apply e vs ≠ e) : ∃ a b, vs = [a, b] := by
  match vs, h with
  | [a, b], _ => exact ⟨a, b, rfl⟩
  | [], h | [_], h | _ :: _ :: _ :: _, h => exact absurd rfl h
theorem Sem.ter_args {f : α → α → α → α} {vs : List α} (h : (Sem.ter f).apply e vs ≠ e) : ∃ a b c, vs = [a, b, c] := by
  match vs, h with
  | [a, b, c], _ => exact ⟨a, b, c, rfl⟩
  | [], h | [_], h | [_, _], h | _ :: _ :: _ :: _ :: _, h => exact absurd rfl h
end

section
variable {α β : Type} {φ : α → β} {vs : List α}
theorem map_eq_one {a : β} (h : vs.map φ = [a]) : ∃ x, vs = [x] ∧ φ x = a := by
  match vs, h with
  | [x], h => exact ⟨x, rfl, (List.cons.inj h).1⟩
theorem map_eq_two {a b : β} (h : vs.map φ = [a, b]) : ∃ x y, vs = [x, y] ∧ φ x = a ∧ φ y = b := by
  match vs, h with
  | [x, y], h => exact ⟨x, y, rfl, (List.cons.inj h).1, (List.cons.inj (List.cons.inj h).2).1⟩
theorem map_eq_three {a b c : β} (h : vs.map φ = [a, b, c]) : ∃ x y z, vs = [x, y, z] ∧ φ x = a ∧ φ y = b ∧ φ z = c := by
  match vs, h with
  | [x, y, z], h =>
    exact ⟨x, y, z, rfl, (List.cons.inj h).1, (List.cons.inj (List.cons.inj h).2).1,
      (List.cons.inj (List.cons.inj (List.cons.inj h).2).2).1⟩
end

theorem Ty.bin_err_r (a : Ty) : Ty.bin a .err = .err := by cases a <;> rfl
theorem Ty.cmp_err_r (a : Ty) : Ty.cmp a .err = .err := by cases a <;> rfl
theorem Ty.eq_err_r (a : Ty) : Ty.eq a .err = .err := by cases a <;> rfl
theorem Ty.concat_err_r (a : Ty) : Ty.concat a .err = .err := by cases a <;> rfl
theorem Ty.boolBin_err_r (a : Ty) : Ty.boolBin a .err = .err := by cases a <;> rfl

theorem Op.tsem_strict (op : Op) : op.tsem.Strict .err := by
  cases op
  case add | mul | band | bor | bxor | sub | udiv | umod | sdiv | smod | shl | lshr | ashr | rotl | rotr =>
    exact ⟨fun _ => rfl, Ty.bin_err_r⟩
  case ult | ule | ugt | uge | slt | sle | sgt | sge => exact ⟨fun _ => rfl, Ty.cmp_err_r⟩
  case eq => exact ⟨fun _ => rfl, Ty.eq_err_r⟩
  case ne => exact ⟨fun _ => rfl, fun a => congrArg Ty.not (Ty.eq_err_r a)⟩
  case concat => exact ⟨fun _ => rfl, Ty.concat_err_r⟩
  case ite => exact ⟨fun _ _ => rfl, fun a b => by cases a <;> rfl, fun a b => by cases a <;> cases b <;> rfl⟩
  case and | or => exact ⟨fun _ => rfl, Ty.boolBin_err_r⟩
  all_goals rfl

theorem tyOp_strict (op : Op) {tys : List Ty} (h : .err ∈ tys) : tyOp op tys = .err := Sem.apply_strict op.tsem_strict h

theorem applyOp_strict (op : Op) (vs : List Val) (h : Val.err ∈ vs) : applyOp op vs = .err :=
  Val.ty_eq_err.mp ((applyOp_ty op vs).trans (tyOp_strict op (List.mem_map_of_mem (f := Val.ty) h)))

theorem Ty.bin_ne_err {a b : Ty} (h : Ty.bin a b ≠ .err) : ∃ w, 0 < w ∧ a = .bv w ∧ b = .bv w := by
  cases a <;> cases b <;> try exact absurd rfl h
  rename_i w w'
  by_cases hc : w = w' ∧ 0 < w
  · exact ⟨w, hc.2, rfl, hc.1 ▸ rfl⟩
  · exact absurd (if_neg hc) h
theorem Ty.bin_eq_left {a b : Ty} (h : Ty.bin a b ≠ .err) : Ty.bin a b = a := by
  obtain ⟨w, hw, rfl, rfl⟩ := Ty.bin_ne_err h
  simp [Ty.bin, hw]
theorem Ty.cmp_eq {a b : Ty} : Ty.cmp a b = if Ty.bin a b = .err then .err else .bool := by
  cases a <;> cases b <;> try rfl
  simp only [Ty.cmp, Ty.bin]; split <;> simp
theorem Ty.eq_ne_err {a b : Ty} (h : Ty.eq a b ≠ .err) : Ty.bin a b ≠ .err ∨ (a = .bool ∧ b = .bool) := by
  cases a <;> cases b <;> try exact absurd rfl h
  · rename_i w w'
    by_cases hc : w = w' ∧ 0 < w
    · exact .inl (by rw [Ty.bin, if_pos hc]; exact Ty.noConfusion)
    · exact absurd (if_neg hc) h
  · exact .inr ⟨rfl, rfl⟩

theorem Ty.un1_ne_err {C : Nat → Prop} [DecidablePred C] {g : Nat → Nat} {a : Ty} (h : Ty.un1 C g a ≠ .err) :
    ∃ w, C w ∧ a = .bv w ∧ Ty.un1 C g a = .bv (g w) := by
  cases a <;> try exact absurd rfl h
  rename_i w
  by_cases hc : C w
  · exact ⟨w, hc, rfl, if_pos hc⟩
  · exact absurd (if_neg hc) h
theorem Ty.ite_eq {c a b : Ty} (h : Ty.ite c a b ≠ .err) : c = .bool ∧ a = b ∧ Ty.ite c a b = a := by
  cases c <;> cases a <;> cases b <;> try exact absurd rfl h
  · rename_i w w'
    by_cases hc : w = w'
    · exact ⟨rfl, hc ▸ rfl, if_pos hc⟩
    · exact absurd (if_neg hc) h
  · exact ⟨rfl, rfl, rfl⟩
theorem Ty.foldl_bin {l : List Ty} {a : Ty} (h : l.foldl Ty.bin a ≠ .err) : l.foldl Ty.bin a = a ∧ ∀ b ∈ l, b = a := by
  induction l generalizing a with
  | nil => exact ⟨rfl, by simp⟩
  | cons b l ih =>
    have hab : Ty.bin a b ≠ .err := fun e => h (by rw [List.foldl_cons, e, foldl_fix fun _ => rfl])
    obtain ⟨w, _, rfl, rfl⟩ := Ty.bin_ne_err hab
    rw [List.foldl_cons, Ty.bin_eq_left hab] at h ⊢
    exact ⟨(ih h).1, by simpa using (ih h).2⟩

theorem Ty.foldl_bin_pos {a b : Ty} {l : List Ty} (h : (b :: l).foldl Ty.bin a ≠ .err) : ∃ w, 0 < w ∧ a = .bv w :=
  (Ty.bin_ne_err fun e => h (by rw [List.foldl_cons, e, foldl_fix fun _ => rfl])).imp fun _ h => ⟨h.1, h.2.1⟩

theorem Ty.foldl_boolBin {l : List Ty} (h : l.foldl Ty.boolBin .bool ≠ .err) :
    l.foldl Ty.boolBin .bool = .bool ∧ ∀ b ∈ l, b = .bool := by
  induction l with
  | nil => exact ⟨rfl, by simp⟩
  | cons b l ih =>
    cases b <;> try exact absurd (foldl_fix (fun _ => rfl) l) h
    exact ⟨(ih h).1, by simpa using (ih h).2⟩

theorem Ty.foldl_concat {l : List Ty} {k : Nat} (h : l.foldl Ty.concat (.bv k) ≠ .err) :
    ∃ w, l.foldl Ty.concat (.bv k) = .bv w ∧ sumWidths (l.map Ty.width) (some k) = some w ∧ ∀ b ∈ l, ∃ w, b = .bv w := by
  induction l generalizing k with
  | nil => exact ⟨k, rfl, rfl, by simp⟩
  | cons b l ih =>
    cases b <;> try exact absurd (foldl_fix (fun _ => rfl) l) h
    obtain ⟨w, e, hs, hall⟩ := ih h
    exact ⟨w, e, hs, by simpa using hall⟩

theorem Ty.cmp_width (a b : Ty) : (Ty.cmp a b).width = none := by
  cases a <;> cases b <;> try rfl
  simp only [Ty.cmp]; split <;> rfl
theorem Ty.eq_width (a b : Ty) : (Ty.eq a b).width = none := by
  cases a <;> cases b <;> try rfl
  simp only [Ty.eq]; split <;> rfl
theorem Ty.not_width (a : Ty) : a.not.width = none := by cases a <;> rfl

def WidthsOn (P : Ty → Prop) : List Ty → List (Option Nat) → Prop
  | [], [] => True
  | t :: tys, ow :: ws => (P t → ow = t.width) ∧ WidthsOn P tys ws
  | _, _ => False

theorem WidthsOn.eq_map {P : Ty → Prop} : ∀ {tys : List Ty} {ws : List (Option Nat)}, WidthsOn P tys ws → (∀ t ∈ tys, P t) →
    ws = tys.map Ty.width
  | [], [], _, _ => rfl
  | t :: tys, ow :: ws, h, hall => by
    rw [List.map_cons, h.1 (hall t (List.mem_cons_self ..)), h.2.eq_map fun u hu => hall u (List.mem_cons_of_mem _ hu)]

theorem WidthsOn.map_width : ∀ tys : List Ty, WidthsOn (fun _ => True) tys (tys.map Ty.width)
  | [] => trivial
  | _ :: tys => ⟨fun _ => rfl, WidthsOn.map_width tys⟩

/-- the reported width is the width of the sort, node by node.  `widthOf` reads the reported width only of operands whose sort
is the sort of the node or a bit-vector, so the reported widths need to be right only there (`P`) -/
theorem widthOf_on {P : Ty → Prop} (hP : ∀ w, P (.bv w)) (op : Op) {tys : List Ty} {ws : List (Option Nat)}
    (hag : WidthsOn P tys ws) (h : tyOp op tys ≠ .err) (hr : P (tyOp op tys)) : widthOf op ws = (tyOp op tys).width := by
  cases op
  case add | mul | band | bor | bxor =>
    rcases tys with _ | ⟨a, _ | ⟨b, l⟩⟩ <;> try exact absurd rfl h
    have e := (Ty.foldl_bin h).1
    replace hr : P ((b :: l).foldl Ty.bin a) := hr
    match ws, hag with
    | ow :: _, hag => exact (hag.1 (e ▸ hr)).trans (congrArg Ty.width e.symm)
  case sub | udiv | umod | sdiv | smod | shl | lshr | ashr | rotl | rotr =>
    obtain ⟨a, b, rfl⟩ := Sem.bin_args h
    have e := Ty.bin_eq_left h
    replace hr : P (Ty.bin a b) := hr
    match ws, hag with
    | ow :: _, hag => exact (hag.1 (e ▸ hr)).trans (congrArg Ty.width e.symm)
  case bnot | neg | reverse | zeroExt | signExt =>
    obtain ⟨a, rfl⟩ := Sem.un_args h
    obtain ⟨w, _, rfl, e⟩ := Ty.un1_ne_err h
    match ws, hag with
    | [ow], hag =>
      rw [hag.1 (hP w)]
      exact congrArg Ty.width e.symm
  case extract hi lo =>
    obtain ⟨a, rfl⟩ := Sem.un_args h
    obtain ⟨w, ⟨hlo, _⟩, rfl, e⟩ := Ty.un1_ne_err h
    exact (congrArg some (by omega)).trans (congrArg Ty.width e.symm)
  case ult | ule | ugt | uge | slt | sle | sgt | sge =>
    obtain ⟨a, b, rfl⟩ := Sem.bin_args h
    exact (Ty.cmp_width a b).symm
  case eq =>
    obtain ⟨a, b, rfl⟩ := Sem.bin_args h
    exact (Ty.eq_width a b).symm
  case ne =>
    obtain ⟨a, b, rfl⟩ := Sem.bin_args h
    exact (Ty.not_width _).symm
  case not =>
    obtain ⟨a, rfl⟩ := Sem.un_args h
    exact (Ty.not_width a).symm
  case and | or =>
    rcases tys with _ | ⟨a, l⟩ <;> try exact absurd rfl h
    exact congrArg Ty.width (Ty.foldl_boolBin h).1.symm
  case ite =>
    obtain ⟨c, a, b, rfl⟩ := Sem.ter_args h
    have e := (Ty.ite_eq h).2.2
    replace hr : P (Ty.ite c a b) := hr
    match ws, hag with
    | [_, ow, _], hag => exact (hag.2.1 (e ▸ hr)).trans (congrArg Ty.width e.symm)
  case concat =>
    rcases tys with _ | ⟨a, l⟩ <;> try exact absurd rfl h
    cases a
    case bv k =>
      obtain ⟨w', e, hs, hall⟩ := Ty.foldl_concat h
      -- every operand is a bit-vector, so all reported widths are right
      obtain rfl := hag.eq_map fun t ht => by
        rcases List.mem_cons.mp ht with rfl | ht
        · exact hP k
        · obtain ⟨w, rfl⟩ := hall t ht
          exact hP w
      exact (show sumWidths _ (some (0 + k)) = _ by rw [Nat.zero_add, hs]; exact congrArg Ty.width e.symm)
    case bool =>
      cases l with
      | cons b l => exact absurd (foldl_fix (fun _ => rfl) l) h
      | nil =>
        match ws, hag with
        | [ow], hag =>
          rw [hag.1 hr]
          rfl
    case err => exact absurd (foldl_fix (fun _ => rfl) l) h

theorem widthOf_ty (op : Op) {tys : List Ty} (h : tyOp op tys ≠ .err) : widthOf op (tys.map Ty.width) = (tyOp op tys).width :=
  widthOf_on (fun _ => trivial) op (WidthsOn.map_width tys) h trivial

theorem args_ne_err (env : Env) (op : Op) (args : List Expr) (h : eval env (.app op args) ≠ .err) :
    ∀ a ∈ args, eval env a ≠ .err := fun a ha hea =>
  h (by rw [eval_app]; exact applyOp_strict op _ (by rw [evalList_eq_map, ← hea]; exact List.mem_map_of_mem ha))

mutual
theorem width_eq_ty (env : Env) : ∀ e : Expr, eval env e ≠ .err → e.width = (eval env e).ty.width
  | .bvv v w, h | .bvs v w, h => by
    simp only [eval] at h ⊢
    split at h
    · rw [if_pos ‹_›]; rfl
    · exact absurd rfl h
  | .boolv _, _ | .bools _, _ => rfl
  | .app op args, h => by
    rw [Expr.width, widthList_eq_ty env args (args_ne_err env op args h), eval_app, applyOp_ty]
    exact widthOf_ty op (applyOp_ty op _ ▸ eval_app env op args ▸ fun e => h (Val.ty_eq_err.mp e))
theorem widthList_eq_ty (env : Env) : ∀ es : List Expr, (∀ e ∈ es, eval env e ≠ .err) →
    Expr.widthList es = ((evalList env es).map Val.ty).map Ty.width
  | [], _ => rfl
  | e :: es, h => by
    rw [Expr.widthList, evalList, List.map_cons, List.map_cons, width_eq_ty env e (h e (List.mem_cons_self ..)),
      widthList_eq_ty env es fun a ha => h a (List.mem_cons_of_mem _ ha)]
end

theorem Val.ofBV_of_ty {v : Val} {w : Nat} (hv : v.WF) (h : v.ty = .bv w) : ∃ X : BitVec w, 0 < w ∧ v = .ofBV X := by
  cases v <;> cases h
  exact (hv.exists_bv).imp fun _ h => ⟨h.2, h.1⟩

/-! A node built by `bvBin`, `bvCmp` or `valEq` is well-typed only on two bit-vectors of one positive width (or, for `valEq`, two
Booleans): the typing rule says so of the sorts, canonicity turns a value of sort `bv w` into a `BitVec w`. -/

theorem un1_inv {C : Nat → Prop} [DecidablePred C] {g : Nat → Nat} {a v : Val} (ht : v.ty = Ty.un1 C g a.ty) (ha : a.WF)
    (h : v ≠ .err) : ∃ (w : Nat) (X : BitVec w), C w ∧ a = .ofBV X := by
  obtain ⟨w, hc, ta, -⟩ := Ty.un1_ne_err (ht ▸ mt Val.ty_eq_err.mp h)
  obtain ⟨X, -, rfl⟩ := Val.ofBV_of_ty ha ta
  exact ⟨w, X, hc, rfl⟩

theorem Val.eq_bv_of_ty {v : Val} {w : Nat} (h : v.ty = .bv w) : ∃ n, v = .bv w n := by
  cases v <;> cases h
  exact ⟨_, rfl⟩

theorem bvBin_ne_err {f} {a b : Val} (h : bvBin f a b ≠ .err) : ∃ w x y, 0 < w ∧ a = .bv w x ∧ b = .bv w y := by
  obtain ⟨w, hw, ta, tb⟩ := Ty.bin_ne_err (bvBin_ty a b f ▸ mt Val.ty_eq_err.mp h)
  obtain ⟨x, rfl⟩ := Val.eq_bv_of_ty ta
  obtain ⟨y, rfl⟩ := Val.eq_bv_of_ty tb
  exact ⟨w, x, y, hw, rfl, rfl⟩

theorem bvBin_inv {f} {a b : Val} (h : bvBin f a b ≠ .err) (ha : a.WF) (hb : b.WF) :
    ∃ (w : Nat) (X Y : BitVec w), 0 < w ∧ a = .ofBV X ∧ b = .ofBV Y := by
  obtain ⟨w, hw, ta, tb⟩ := Ty.bin_ne_err (bvBin_ty a b f ▸ mt Val.ty_eq_err.mp h)
  obtain ⟨X, -, rfl⟩ := Val.ofBV_of_ty ha ta
  obtain ⟨Y, -, rfl⟩ := Val.ofBV_of_ty hb tb
  exact ⟨w, X, Y, hw, rfl, rfl⟩

theorem bvCmp_inv {f} {a b : Val} (h : bvCmp f a b ≠ .err) (ha : a.WF) (hb : b.WF) :
    ∃ (w : Nat) (X Y : BitVec w), 0 < w ∧ a = .ofBV X ∧ b = .ofBV Y :=
  bvBin_inv (f := fun _ x _ => x) (fun e => h (Val.ty_eq_err.mp (by
    rw [bvCmp_ty, Ty.cmp_eq, ← bvBin_ty a b fun _ x _ => x, e]; rfl))) ha hb

theorem valEq_inv {a b : Val} (h : valEq a b ≠ .err) (ha : a.WF) (hb : b.WF) :
    (∃ (w : Nat) (X Y : BitVec w), 0 < w ∧ a = .ofBV X ∧ b = .ofBV Y) ∨ ∃ p q, a = .bool p ∧ b = .bool q := by
  rcases Ty.eq_ne_err (valEq_ty a b ▸ mt Val.ty_eq_err.mp h) with hb' | ⟨ta, tb⟩
  · exact .inl (bvBin_inv (f := fun _ x _ => x) (fun e => hb' (by rw [← bvBin_ty a b fun _ x _ => x, e]; rfl)) ha hb)
  · cases a <;> cases ta
    cases b <;> cases tb
    exact .inr ⟨_, _, rfl, rfl⟩

theorem bvv_eq_ofBV {env : Env} {c w' w : Nat} {Y : BitVec w} (h : eval env (.bvv c w') = .ofBV Y) : w' = w := by
  simp only [eval] at h
  split at h
  · exact (Val.bv.inj h).1
  · cases h

theorem bvBin_bv_inv {f} {a b : Val} {w n : Nat} (h : bvBin f a b = .bv w n) (ha : a.WF) (hb : b.WF) :
    ∃ X Y : BitVec w, 0 < w ∧ a = .ofBV X ∧ b = .ofBV Y := by
  obtain ⟨w', X, Y, hw, rfl, rfl⟩ := bvBin_inv (fun he => Val.noConfusion (h.symm.trans he)) ha hb
  rw [bvBin_ofBV _ _ _ hw] at h
  obtain rfl := (Val.bv.inj h).1
  exact ⟨X, Y, hw, rfl, rfl⟩

theorem eval_of_width (env : Env) {e : Expr} {w : Nat} (hw : e.width = some w) (h : eval env e ≠ .err) :
    ∃ X : BitVec w, 0 < w ∧ eval env e = .ofBV X := by
  refine Val.ofBV_of_ty (eval_wf env e) ?_
  have := (width_eq_ty env e h).symm.trans hw
  cases hv : (eval env e).ty <;> rw [hv] at this <;> cases this
  rfl
theorem eval_of_no_width (env : Env) {e : Expr} (hw : e.width = none) (h : eval env e ≠ .err) : ∃ b, eval env e = .bool b := by
  have := (width_eq_ty env e h).symm.trans hw
  cases hv : eval env e <;> rw [hv] at this
  · cases this
  · exact ⟨_, rfl⟩
  · exact absurd hv h

theorem eval_bool_width (env : Env) : ∀ (e : Expr) (x : Bool), eval env e = .bool x → e.width = none := fun e x h => by
  rw [width_eq_ty env e (by simp [h]), h]; rfl

theorem node_not_bv {op : Op} (hop : ∀ ws, widthOf op ws = none) (env : Env) (args : List Expr) (w n : Nat) :
    eval env (.app op args) ≠ .bv w n := by
  intro e
  have h := widthOf_ty op (tys := (evalList env args).map Val.ty) (by rw [← applyOp_ty, ← eval_app, e]; exact Ty.noConfusion)
  rw [hop, ← applyOp_ty, ← eval_app, e] at h
  cases h

end Claripy.AST

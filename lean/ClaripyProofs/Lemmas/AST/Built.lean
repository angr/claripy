import ClaripyProofs.Lemmas.AST.FoldSound
import ClaripyProofs.Lemmas.AST.RulesAllSound
import ClaripyProofs.Lemmas.AST.BCNormSound
import ClaripyProofs.Lemmas.AST.BitsSound
import ClaripyProofs.Lemmas.AST.CmpSound
import ClaripyProofs.Lemmas.AST.AndEqNeSound
import ClaripyProofs.Lemmas.AST.MinMaxSound
import ClaripyProofs.Lemmas.AST.Typing
import ClaripyProofs.Lemmas.AST.WtOfEval
/-!
The constructor as a whole: an expression is *built* from the written tree bottom-up; at every node the constructor may keep
the node, fold it (all operands literals), rewrite it by a schema of the rule table, or rewrite it in a way one of the
certificate checks accepts — and the tree a rewrite writes down is itself built by the constructors, re-entrantly, to any depth.
`Built_sound`: whatever is built this way denotes what was written.
-/
namespace Claripy.AST
open Claripy.Props.C04 (WT)

/-- one justified step at the root of an already built node `t`: the node the rewriting code writes down next -/
inductive Direct : Expr → Expr → Prop
  | keep (t : Expr) : Direct t t
  | fold (op : Op) (args : List Expr) (vs : List CVal) (c : CVal) :
      args.mapM Expr.toCVal? = some vs → foldOp op vs = .ok c → Direct (.app op args) c.toExpr
  | schema (s : Schema) (p : P) : s ∈ R.all → s.side p = true → Direct (s.lhs p) (s.rhs p)
  | ac (k : ACK) (w : Nat) (t r : Expr) : t.width = some w → acEquiv k w t r = true → Direct t r
  | bc (k : BK) (args : List Expr) (r : Expr) : bcEquiv k (.app k.op args) r = true → Direct (.app k.op args) r
  | bits (t r : Expr) : bitsEquiv t r = true → Direct t r
  | cmp (t r : Expr) : cmpEquiv t r = true → Direct t r
  | andEqNe (args : List Expr) (r : Expr) : andEqNeAuto (.app .and args) r = true → Direct (.app .and args) r
  | minmax (t r : Expr) : minmaxEquiv t r = true → Direct t r

mutual
inductive Built : Expr → Expr → Prop
  | refl (e : Expr) : Built e e
  | node (op : Op) (as bs : List Expr) (t' r : Expr) :
      BuiltList as bs → Direct (.app op bs) t' → Built t' r → Built (.app op as) r
inductive BuiltList : List Expr → List Expr → Prop
  | nil : BuiltList [] []
  | cons (a b : Expr) (as bs : List Expr) : Built a b → BuiltList as bs → BuiltList (a :: as) (b :: bs)
end

theorem toCVal_eval (env : Env) {a : Expr} {v : CVal} (ha : a.toCVal? = some v) (hne : eval env a ≠ .err) :
    eval env a = v.toVal ∧ v.Canon := by
  cases a <;> cases ha
  · simp only [eval] at hne ⊢
    split at hne
    · exact ⟨if_pos ‹_›, Nat.mod_lt _ (Nat.two_pow_pos _)⟩
    · exact absurd rfl hne
  · exact ⟨rfl, trivial⟩

theorem mapM_toCVal (env : Env) : ∀ (args : List Expr) (vs : List CVal), args.mapM Expr.toCVal? = some vs →
    (∀ a ∈ args, eval env a ≠ .err) → evalList env args = vs.map CVal.toVal ∧ ∀ v ∈ vs, v.Canon
  | [], vs, h, _ => by
    cases h
    exact ⟨rfl, by simp⟩
  | a :: as, vs, h, hne => by
    obtain ⟨v, ha, vs', hr, rfl⟩ : ∃ v, a.toCVal? = some v ∧ ∃ vs', as.mapM Expr.toCVal? = some vs' ∧ v :: vs' = vs := by
      simpa [Option.bind_eq_some_iff] using h
    obtain ⟨i1, i2⟩ := mapM_toCVal env as vs' hr fun x hx => hne x (List.mem_cons_of_mem _ hx)
    obtain ⟨e, c⟩ := toCVal_eval env ha (hne a (List.mem_cons_self ..))
    exact ⟨by rw [evalList, e, i1]; rfl, List.forall_mem_cons.mpr ⟨c, i2⟩⟩

theorem boolNode_not_bv (env : Env) (k : BK) (args : List Expr) (w n : Nat) : eval env (.app k.op args) ≠ .bv w n := by
  cases k <;> exact node_not_bv (fun _ => rfl) env args w n

theorem Direct_sound {t r : Expr} (h : Direct t r) (env : Env) (hwt : eval env t ≠ .err) : eval env r = eval env t := by
  cases h with
  | keep => rfl
  | fold op args vs c hm hf =>
    have hargs := args_ne_err env op args hwt
    obtain ⟨hev, hcanon⟩ := mapM_toCVal env args vs hm hargs
    have hwtv : WT op vs := wt_of_ne_err op vs (by rw [← hev, ← eval_app]; exact hwt) c hf
    have hs := foldOp_sound op (by cases op <;> rfl) vs hwtv hcanon c hf
    rw [eval_app, hev, hs] at hwt ⊢
    -- the folded constant evaluates to its value (its width is positive because the node is well-typed)
    cases c with
    | bool b => simp [CVal.toExpr, eval, CVal.toVal]
    | bv v w =>
      have hwf : (CVal.bv v w).toVal.WF := hs ▸ hev ▸ applyOp_wf op _ (evalList_wf env args)
      simp only [CVal.toVal, Val.WF] at hwf
      simp [CVal.toExpr, eval, CVal.toVal, hwf.2, Nat.mod_eq_of_lt hwf.1]
  | schema s p hs hside => exact all_sound s hs p env hside hwt
  | ac k w t r hw hac => exact acEquiv_sound_wt k w t r hac env hw hwt
  | bc k args r hbc =>
    cases hv : eval env (.app k.op args) with
    | err => exact absurd hv hwt
    | bv w n => exact absurd hv (boolNode_not_bv env k args w n)
    | bool b => rw [← hv]; exact bcEquiv_sound k _ r hbc env b hv
  | bits t r hb => exact bitsEquiv_sound_wt t r hb env hwt
  | cmp t r hc => exact cmpEquiv_sound_wt t r hc env hwt
  | andEqNe args r ha =>
    cases hv : eval env (.app .and args) with
    | err => exact absurd hv hwt
    | bv w n => exact absurd hv (boolNode_not_bv env .and args w n)
    | bool b => rw [← hv]; exact andEqNeAuto_sound _ r ha env b hv
  | minmax t r hm => exact minmaxEquiv_sound_wt t r hm env hwt

mutual
theorem Built_sound (env : Env) : ∀ {t r : Expr}, Built t r → eval env t ≠ .err → eval env r = eval env t
  | _, _, .refl _, _ => rfl
  | _, _, .node op as bs t' r hl hd hb, hwt => by
    have hargs := args_ne_err env op as hwt
    have hlist := BuiltList_sound env hl hargs
    have h1 : eval env (.app op bs) = eval env (.app op as) := by rw [eval_app, eval_app, hlist]
    have h2 := Direct_sound hd env (by rw [h1]; exact hwt)
    have h3 := Built_sound env hb (by rw [h2, h1]; exact hwt)
    rw [h3, h2, h1]
theorem BuiltList_sound (env : Env) : ∀ {as bs : List Expr}, BuiltList as bs → (∀ a ∈ as, eval env a ≠ .err) →
    evalList env bs = evalList env as
  | _, _, .nil, _ => rfl
  | _, _, .cons a b as bs hb hl, h => by
    simp only [evalList]
    rw [Built_sound env hb (h a (List.mem_cons_self ..)), BuiltList_sound env hl (fun x hx => h x (List.mem_cons_of_mem _ hx))]
end

end Claripy.AST

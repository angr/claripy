import ClaripyProofs.Lemmas.AST.BCNormSound
/-!
Soundness of `andEqNe` (Claripy/AST/ACNorm.lean): collapsing an `And` of (dis)equalities of one expression with literals.
-/
namespace Claripy.AST

theorem valEq_comm (a b : Val) : valEq a b = valEq b a := by
  cases a <;> cases b <;> simp only [valEq]
  · rename_i w n w' n'
    by_cases h : w = w'
    · subst h
      simp only [Bool.beq_comm]
    · simp [h, Ne.symm h]
  · simp only [Bool.beq_comm]

theorem valNot_eq_bool {u : Val} {x : Bool} (h : valNot u = .bool x) : u = .bool (!x) := by
  cases u <;> simp_all [valNot]

theorem valEq_lit_bool (env : Env) (a : Expr) (v w : Nat) (y : Bool)
    (hy : valEq (eval env a) (eval env (.bvv v w)) = .bool y) : ∃ n, eval env a = .bv w n ∧ y = (n == v % 2 ^ w) := by
  rcases valEq_inv (fun e => Val.noConfusion (hy.symm.trans e)) (eval_wf env a) (eval_wf env _) with
    ⟨w', X, Y, hw, hX, hY⟩ | ⟨_, q, -, hq⟩
  · obtain rfl := bvv_eq_ofBV hY
    refine ⟨X.toNat, hX, ?_⟩
    rw [hX, Val.ofBV, eval, if_pos hw, valEq_bv _ _ _ hw X.isLt (Nat.mod_lt _ (Nat.two_pow_pos _))] at hy
    exact (Val.bool.inj hy).symm
  · simp only [eval] at hq
    split at hq <;> cases hq

theorem ite_beq_some {a t : Expr} {β : Type} {p q : β} (h : (if a == t then some p else none) = some q) : a = t ∧ p = q := by
  split at h
  · exact ⟨eq_of_beq ‹_›, Option.some.inj h⟩
  · cases h

theorem atom_eval (env : Env) (target t : Expr) (isEq : Bool) (c w : Nat) (h : eqNeAtom target t = some (isEq, c, w)) (x : Bool)
    (hx : eval env t = .bool x) : ∃ n, eval env target = .bv w n ∧ x = (if isEq then n == c else n != c) := by
  have ne : ∀ v, valNot (valEq (eval env target) (eval env (.bvv v w))) = .bool x →
      ∃ n, eval env target = .bv w n ∧ x = (n != v % 2 ^ w) := by
    intro v hx
    obtain ⟨n, h1, h2⟩ := valEq_lit_bool env target v w _ (valNot_eq_bool hx)
    exact ⟨n, h1, by rw [bne, ← h2, Bool.not_not]⟩
  unfold eqNeAtom at h
  split at h
  · obtain ⟨rfl, h'⟩ := ite_beq_some h
    cases h'
    rw [eval_app] at hx
    exact valEq_lit_bool env _ _ _ x hx
  · obtain ⟨rfl, h'⟩ := ite_beq_some h
    cases h'
    rw [eval_app] at hx
    exact valEq_lit_bool env _ _ _ x (valEq_comm .. ▸ hx)
  · obtain ⟨rfl, h'⟩ := ite_beq_some h
    cases h'
    rw [eval_app] at hx
    exact ne _ hx
  · obtain ⟨rfl, h'⟩ := ite_beq_some h
    cases h'
    rw [eval_app] at hx
    exact ne _ (valEq_comm .. ▸ hx)
  · cases h

theorem atomsHold_iff (n : Nat) (as : List (Bool × Nat × Nat)) :
    atomsHold n as = true ↔
      (∀ c ∈ (as.filter (·.1)).map (·.2.1), n = c) ∧ (∀ c ∈ (as.filter (!·.1)).map (·.2.1), n ≠ c) := by
  induction as with
  | nil => simp [atomsHold]
  | cons a as ih =>
    obtain ⟨isEq, c, w⟩ := a
    cases isEq
    · simp [atomsHold, ih, and_left_comm]
    · simp [atomsHold, ih, and_assoc]

theorem collapse_sound (n : Nat) (as : List (Bool × Nat × Nat)) :
    (collapse as = some none → atomsHold n as = false) ∧ (∀ e, collapse as = some (some e) → atomsHold n as = (n == e)) := by
  have hiff := atomsHold_iff n as
  unfold collapse
  generalize (as.filter (·.1)).map (·.2.1) = eqs at hiff ⊢
  generalize (as.filter (!·.1)).map (·.2.1) = nes at hiff ⊢
  cases eqs with
  | nil => simp
  | cons e es =>
    simp only [Bool.and_eq_true, List.all_eq_true, beq_iff_eq, Bool.not_eq_true', List.contains_eq_mem, decide_eq_false_iff_not]
    split
    · rename_i hc
      refine ⟨by simp, ?_⟩
      intro e' he'
      cases he'
      rw [Bool.eq_iff_iff, hiff, beq_iff_eq]
      constructor
      · intro h
        exact h.1 e (List.mem_cons_self ..)
      · rintro rfl
        refine ⟨fun c hmem => ?_, fun c hmem heq => hc.2 (heq ▸ hmem)⟩
        rcases List.mem_cons.mp hmem with rfl | h
        · rfl
        · exact (hc.1 c h).symm
    · rename_i hc
      refine ⟨fun _ => ?_, by simp⟩
      rw [← Bool.not_eq_true, hiff]
      rintro ⟨h1, h2⟩
      cases h1 e (List.mem_cons_self ..)
      exact hc ⟨fun c hmem => (h1 c (List.mem_cons_of_mem _ hmem)).symm, fun hmem => h2 n hmem rfl⟩

theorem denB_and {env : Env} : ∀ {l : List Expr} {v : Bool}, denB env .and l = some v →
    (∀ t ∈ l, ∃ x, eval env t = .bool x) ∧ (v = true ↔ ∀ t ∈ l, eval env t = .bool true)
  | [], v, h => by
    cases h
    exact ⟨by simp, by simp [BK.e]⟩
  | t :: ts, v, h => by
    obtain ⟨x, v', hx, hd', rfl⟩ := denB_cons_some h
    obtain ⟨i1, i2⟩ := denB_and hd'
    refine ⟨List.forall_mem_cons.mpr ⟨⟨x, hx⟩, i1⟩, ?_⟩
    rw [List.forall_mem_cons, ← i2, hx, Val.bool.injEq]
    exact Bool.and_eq_true_iff

theorem conjuncts_val {env : Env} {lhs : Expr} {v : Bool} (hl : eval env lhs = .bool v) :
    (∀ t ∈ conjuncts lhs, ∃ x, eval env t = .bool x) ∧ (v = true ↔ ∀ t ∈ conjuncts lhs, eval env t = .bool true) := by
  obtain ⟨h1, h2⟩ := denB_and (l := flatB .and lhs) (by rw [← BK.op, flatB_den, hl]; rfl)
  refine ⟨fun t ht => h1 t (List.mem_filter.mp ht).1, h2.trans ⟨fun h t ht => h t (List.mem_filter.mp ht).1, fun h t ht => ?_⟩⟩
  by_cases e : t = .boolv true
  · rw [e, eval_boolv]
  · exact h t (List.mem_filter.mpr ⟨ht, by simpa using e⟩)

theorem atomsHold_eq_all (n : Nat) (as : List (Bool × Nat × Nat)) :
    atomsHold n as = as.all fun a => if a.1 then n == a.2.1 else n != a.2.1 := by
  induction as with
  | nil => rfl
  | cons a as ih =>
    obtain ⟨isEq, c, w⟩ := a
    rw [atomsHold, ih, List.all_cons]

theorem atomsSome_hold {env : Env} {target : Expr} {w n : Nat} (ht : eval env target = .bv w n) {ts : List Expr}
    (hB : ∀ t ∈ ts, ∃ x, eval env t = .bool x) :
    atomsHold n (atomsSome target ts) = true ↔ ∀ t ∈ ts, (eqNeAtom target t).isSome = true → eval env t = .bool true := by
  have key : ∀ t ∈ ts, ∀ a, eqNeAtom target t = some a → (eval env t = .bool true ↔ (if a.1 then n == a.2.1 else n != a.2.1) = true) := by
    intro t htm a ha
    obtain ⟨x, hx⟩ := hB t htm
    obtain ⟨n', h1, h5⟩ := atom_eval env target t a.1 a.2.1 a.2.2 ha x hx
    cases ht.symm.trans h1
    rw [hx, h5, Val.bool.injEq]
  rw [atomsHold_eq_all, atomsSome, List.all_eq_true]
  constructor
  · intro h t htm hs
    obtain ⟨a, ha⟩ := Option.isSome_iff_exists.mp hs
    exact (key t htm a ha).mpr (h a (List.mem_filterMap.mpr ⟨t, htm, ha⟩))
  · intro h a ham
    obtain ⟨t, htm, ha⟩ := List.mem_filterMap.mp ham
    exact (key t htm a ha).mp (h t htm (by rw [ha]; rfl))

theorem target_of_atom {env : Env} {target : Expr} {ts : List Expr} (hB : ∀ t ∈ ts, ∃ x, eval env t = .bool x)
    {a : Bool × Nat × Nat} (ha : a ∈ atomsSome target ts) : ∃ n, eval env target = .bv a.2.2 n := by
  obtain ⟨t, htm, hta⟩ := List.mem_filterMap.mp ha
  obtain ⟨x, hx⟩ := hB t htm
  obtain ⟨n, hn, _⟩ := atom_eval env target t a.1 a.2.1 a.2.2 hta x hx
  exact ⟨n, hn⟩

theorem atomsAll_some {target : Expr} : ∀ {ts : List Expr} {as : List (Bool × Nat × Nat)},
    atomsAll target ts = some as → atomsSome target ts = as ∧ ∀ t ∈ ts, (eqNeAtom target t).isSome = true
  | [], _, h => by
    cases h
    exact ⟨rfl, by simp⟩
  | t :: ts, as, h => by
    simp only [atomsAll] at h
    cases ha : eqNeAtom target t with
    | none => simp [ha] at h
    | some a =>
      cases hr : atomsAll target ts with
      | none => simp [ha, hr] at h
      | some as' =>
        simp only [ha, hr, Option.some.injEq] at h
        obtain ⟨i1, i2⟩ := atomsAll_some hr
        exact ⟨by rw [atomsSome, List.filterMap_cons_some ha, ← h, ← i1]; rfl,
          List.forall_mem_cons.mpr ⟨by rw [ha]; rfl, i2⟩⟩

theorem andEqNe_sound (target : Expr) (w : Nat) (lhs rhs : Expr) (h : andEqNe target w lhs rhs = true) (env : Env) (v : Bool)
    (hl : eval env lhs = .bool v) : eval env rhs = eval env lhs := by
  unfold andEqNe at h
  split at h
  · simp at h
  · rename_i as has
    simp only [Bool.and_eq_true, decide_eq_true_eq, List.all_eq_true, beq_iff_eq] at h
    obtain ⟨⟨hw, hws⟩, hm⟩ := h
    obtain ⟨hB, hv⟩ := conjuncts_val hl
    obtain ⟨has', hatoms⟩ := atomsAll_some has
    -- the collapse needs at least one equality, hence at least one atom: the target is a w-bit vector
    have hne : as ≠ [] := by
      rintro rfl
      simp [collapse] at hm
    obtain ⟨a, ha⟩ := List.exists_mem_of_ne_nil _ hne
    obtain ⟨n, hn⟩ := target_of_atom hB (has'.symm ▸ ha)
    rw [hws a ha] at hn
    have hv : v = atomsHold n as := by
      rw [Bool.eq_iff_iff, hv, ← has', atomsSome_hold hn hB]
      exact ⟨fun h t ht _ => h t ht, fun h t ht => h t ht (hatoms t ht)⟩
    have hnlt : n < 2 ^ w := (hn ▸ eval_wf env target : (Val.bv w n).WF).1
    obtain ⟨c1, c2⟩ := collapse_sound n as
    rw [hl]
    split at hm
    · rename_i hcol
      rw [hv, c1 hcol]
      simp [eval]
    · rename_i e t v' w' hcol
      simp only [Bool.and_eq_true, beq_iff_eq] at hm
      obtain ⟨⟨ht, hw'⟩, hve⟩ := hm
      subst ht hw'
      rw [hv, c2 e hcol, eval_app]
      show valEq (eval env t) (eval env (.bvv v' w')) = _
      simp only [hn, eval, hw, if_true]
      rw [valEq_bv w' n _ hw hnlt (Nat.mod_lt _ (Nat.two_pow_pos w')), hve]
    · simp at hm

/-- an `And` whose atoms about one target contradict each other is false, whatever else it holds -/
theorem andEqNeMixed_sound (target : Expr) (w : Nat) (lhs rhs : Expr) (h : andEqNeMixed target w lhs rhs = true) (env : Env) (v : Bool)
    (hl : eval env lhs = .bool v) : eval env rhs = eval env lhs := by
  unfold andEqNeMixed at h
  simp only [Bool.and_eq_true, decide_eq_true_eq, List.all_eq_true, beq_iff_eq] at h
  obtain ⟨⟨hw, hws⟩, hm⟩ := h
  obtain ⟨hB, hv⟩ := conjuncts_val hl
  split at hm
  · rename_i hcol
    -- some atom exists (the collapse found an equality): it gives the target a value
    have hne : atomsSome target (conjuncts lhs) ≠ [] := by
      intro he
      simp [he, collapse] at hcol
    obtain ⟨a, ha⟩ := List.exists_mem_of_ne_nil _ hne
    obtain ⟨n, hn⟩ := target_of_atom hB ha
    have hfalse := (collapse_sound n (atomsSome target (conjuncts lhs))).1 hcol
    have : v = false := Bool.eq_false_iff.mpr fun hvt =>
      Bool.eq_false_iff.mp hfalse ((atomsSome_hold hn hB).mpr fun t ht _ => hv.mp hvt t ht)
    rw [hl, this]
    simp [eval]
  · simp at hm

theorem andEqNeAuto_sound (lhs rhs : Expr) (h : andEqNeAuto lhs rhs = true) (env : Env) (v : Bool)
    (hl : eval env lhs = .bool v) : eval env rhs = eval env lhs := by
  unfold andEqNeAuto at h
  split at h
  · rename_i target w _
    rcases Bool.or_eq_true_iff.mp h with h | h
    · exact andEqNe_sound target w lhs rhs h env v hl
    · exact andEqNeMixed_sound target w lhs rhs h env v hl
  · simp at h

end Claripy.AST

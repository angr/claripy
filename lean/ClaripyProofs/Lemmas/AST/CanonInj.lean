import Claripy.AST.Subst
import Std.Data.String.ToNat
/-!
The renaming `canonicalize` applies is injective on the variables it renames: two variables with different names never get
the same canonical name (the counter only moves forward, and a name is determined by the position of the first leaf that
carries it).
-/
namespace Claripy.AST

theorem canon_name_inj (i j : Nat) (h : "canonical_" ++ toString i = "canonical_" ++ toString j) : i = j :=
  Nat.repr_injective ((String.append_right_inj _).1 h)

def leafName : Expr → Option String
  | .bvs n _ => some n
  | .bools n => some n
  | _ => none

theorem canonMap_eq (e : Expr) :
    canonMap e = ((leafAsts e).zip (List.range (leafAsts e).length)).filterMap
      (fun li => (leafName li.1).map fun n => (n, "canonical_" ++ toString li.2)) := by
  unfold canonMap
  simp only
  congr 1
  funext li
  obtain ⟨l, i⟩ := li
  cases l <;> simp [leafName]

theorem mem_zip_range {α : Type} (ls : List α) (l : α) (i : Nat) : (l, i) ∈ ls.zip (List.range ls.length) ↔ ls[i]? = some l := by
  rw [List.range_eq_range', ← List.zipIdx_eq_zip_range', List.mem_zipIdx_iff_getElem?]

theorem canonMap_mem (e : Expr) (k v : String) (h : (k, v) ∈ canonMap e) :
    ∃ (i : Nat) (l : Expr), (leafAsts e)[i]? = some l ∧ leafName l = some k ∧ v = "canonical_" ++ toString i := by
  rw [canonMap_eq, List.mem_filterMap] at h
  obtain ⟨⟨l, i⟩, hmem, hf⟩ := h
  have := (mem_zip_range _ l i).mp hmem
  cases hn : leafName l with
  | none => simp [hn] at hf
  | some n =>
    simp only [hn, Option.map_some, Option.some.injEq, Prod.mk.injEq] at hf
    exact ⟨i, l, this, by rw [hn, hf.1], hf.2.symm⟩

theorem canonMap_lookup (e : Expr) (k v : String) (h : (canonMap e).lookup k = some v) : (k, v) ∈ canonMap e := by
  obtain ⟨l1, l2, hl, _⟩ := List.lookup_eq_some_iff.mp h
  rw [hl]
  simp

theorem canonMap_covers (e : Expr) (l : Expr) (hl : l ∈ leafAsts e) (k : String) (hk : leafName l = some k) :
    ∃ v, (canonMap e).lookup k = some v := by
  have : ((canonMap e).lookup k).isSome := by
    rw [List.lookup_isSome_iff]
    obtain ⟨i, hget⟩ := List.mem_iff_getElem?.mp hl
    refine ⟨(k, "canonical_" ++ toString i), ?_, by simp⟩
    rw [canonMap_eq, List.mem_filterMap]
    exact ⟨(l, i), (mem_zip_range _ l i).mpr hget, by simp [hk]⟩
  exact Option.isSome_iff_exists.mp this

def canonRho (e : Expr) : String → String := fun v => ((canonMap e).lookup v).getD v

theorem canonicalize_eq (e : Expr) : canonicalize e = rename (canonRho e) e := rfl

theorem canonRho_injective (e : Expr) (l1 l2 : Expr) (h1 : l1 ∈ leafAsts e) (h2 : l2 ∈ leafAsts e)
    (n1 n2 : String) (hn1 : leafName l1 = some n1) (hn2 : leafName l2 = some n2) (hne : n1 ≠ n2) :
    canonRho e n1 ≠ canonRho e n2 := by
  obtain ⟨v1, hv1⟩ := canonMap_covers e l1 h1 n1 hn1
  obtain ⟨v2, hv2⟩ := canonMap_covers e l2 h2 n2 hn2
  simp only [canonRho, hv1, hv2, Option.getD_some]
  obtain ⟨i1, a1, ha1, hna1, e1⟩ := canonMap_mem e n1 v1 (canonMap_lookup e n1 v1 hv1)
  obtain ⟨i2, a2, ha2, hna2, e2⟩ := canonMap_mem e n2 v2 (canonMap_lookup e n2 v2 hv2)
  intro heq
  rw [e1, e2] at heq
  have hi := canon_name_inj i1 i2 heq
  subst hi
  rw [ha1] at ha2
  cases ha2
  rw [hna1] at hna2
  exact hne (Option.some.inj hna2)

end Claripy.AST

import Claripy.AST.Bits
import ClaripyProofs.Lemmas.AST.RulesBase
import ClaripyProofs.Lemmas.AST.Beq
import ClaripyProofs.Lemmas.AST.Typing
import ClaripyProofs.Lemmas.BV.Reverse
/-!
Soundness of the bit-level normal form (Claripy/AST/Bits.lean): a rewrite accepted by `bitsEquiv` preserves the SMT-LIB
value of a well-typed expression, for every width and assignment.
-/
namespace Claripy.AST

theorem Bit.eq_of_beq : ∀ (a b : Bit), Bit.beq a b = true → a = b := by
  intro a
  induction a with
  | bin k x y ng ihx ihy =>
    intro b h
    cases b with
    | bin k' x' y' ng' =>
      simp only [Bit.beq, Bool.and_eq_true, decide_eq_true_eq, beq_iff_eq] at h
      obtain ⟨⟨⟨rfl, hx⟩, hy⟩, rfl⟩ := h
      rw [ihx _ hx, ihy _ hy]
    | _ => simp [Bit.beq] at h
  | mux e x y ng ihx ihy =>
    intro b h
    cases b with
    | mux e' x' y' ng' =>
      simp only [Bit.beq, Bool.and_eq_true, beq_iff_eq] at h
      obtain ⟨⟨⟨rfl, hx⟩, hy⟩, rfl⟩ := h
      rw [ihx _ hx, ihy _ hy]
    | _ => simp [Bit.beq] at h
  | _ =>
    intro b h
    cases b <;> simp_all [Bit.beq]

theorem Bit.beq_refl (a : Bit) : Bit.beq a a = true := by
  induction a <;> simp_all [Bit.beq]

instance : LawfulBEq Bit where
  eq_of_beq {a b} h := Bit.eq_of_beq a b h
  rfl {a} := Bit.beq_refl a

def bitDen (env : Env) : Bit → Option Bool
  | .c b => some b
  | .of t i ng => match eval env t with
    | .bv _ n => some (n.testBit i ^^ ng)
    | _ => none
  | .p t ng => match eval env t with
    | .bool v => some (v ^^ ng)
    | _ => none
  | .bin k a b ng => match bitDen env a, bitDen env b with
    | some x, some y => some (k.g x y ^^ ng)
    | _, _ => none
  | .mux e a b ng => match eval env e with
    | .bool true => (bitDen env a).map (· ^^ ng)
    | .bool false => (bitDen env b).map (· ^^ ng)
    | _ => none

def Good (env : Env) (ts : List Expr) : Prop := ∀ t ∈ ts, eval env t ≠ .err

structure Describes (env : Env) (bs : List Bit) (w n : Nat) : Prop where
  len : bs.length = w
  pos : 0 < w
  lt : n < 2 ^ w
  bit : ∀ i, i < w → (bs[i]?).bind (bitDen env) = some (n.testBit i)

theorem good_append {env : Env} {a b : List Expr} : Good env (a ++ b) ↔ Good env a ∧ Good env b := by
  simp [Good, or_imp, forall_and]

theorem eq_of_testBit_lt {w a b : Nat} (ha : a < 2 ^ w) (hb : b < 2 ^ w) (h : ∀ i, i < w → a.testBit i = b.testBit i) : a = b := by
  refine Nat.eq_of_testBit_eq fun i => ?_
  by_cases hi : i < w
  · exact h i hi
  · have hle : 2 ^ w ≤ 2 ^ i := Nat.pow_le_pow_right (by omega) (by omega)
    rw [Nat.testBit_lt_two_pow (Nat.lt_of_lt_of_le ha hle), Nat.testBit_lt_two_pow (Nat.lt_of_lt_of_le hb hle)]

theorem Describes.unique {env : Env} {bs : List Bit} {w n w' n' : Nat} (h : Describes env bs w n) (h' : Describes env bs w' n') :
    w = w' ∧ n = n' := by
  have hw : w = w' := h.len.symm.trans h'.len
  subst hw
  exact ⟨rfl, eq_of_testBit_lt h.lt h'.lt fun i hi => by simpa using (h.bit i hi).symm.trans (h'.bit i hi)⟩

theorem Describes.of_bitVec {env : Env} {bs : List Bit} {w : Nat} (x : BitVec w) (hl : bs.length = w) (hw : 0 < w)
    (hb : ∀ i, i < w → bs[i]?.bind (bitDen env) = some (x.getLsbD i)) : Describes env bs w x.toNat :=
  ⟨hl, hw, x.isLt, fun i hi => by rw [BitVec.testBit_toNat, hb i hi]⟩

theorem Describes.get {env : Env} {bs : List Bit} {w n : Nat} (D : Describes env bs w n) {i : Nat} (hi : i < w) :
    bs[i]?.bind (bitDen env) = some ((BitVec.ofNat w n).getLsbD i) := by
  rw [D.bit i hi, BitVec.getLsbD_ofNat]
  simp [hi]

theorem Describes.last {env : Env} {bs : List Bit} {w n : Nat} (D : Describes env bs w n) {m : Bit} (hm : bs.getLast? = some m) :
    bitDen env m = some (BitVec.ofNat w n).msb := by
  have h := D.get (i := w - 1) (by have := D.pos; omega)
  rw [List.getLast?_eq_getElem?, D.len] at hm
  rwa [hm, ← BitVec.msb_eq_getLsbD_last] at h

theorem describes_const (env : Env) (v w : Nat) (hw : 0 < w) :
    Describes env ((List.range w).map fun i => Bit.c (v.testBit i)) w (v % 2 ^ w) :=
  .of_bitVec (BitVec.ofNat w v) (by simp) hw fun i hi => by
    rw [BitVec.getLsbD_ofNat]
    simp [bitDen, hi]

theorem describes_opaque (env : Env) (e : Expr) (w : Nat) (hw : 0 < w) (X : BitVec w) (he : eval env e = .ofBV X) :
    Describes env ((List.range w).map fun i => Bit.of e i false) w X.toNat :=
  ⟨by simp, hw, X.isLt, fun i hi => by simp [hi, bitDen, he, Val.ofBV]⟩

theorem describes_extract {env : Env} {b : List Bit} {wa na : Nat} (D : Describes env b wa na) (hi lo : Nat) (h1 : lo ≤ hi)
    (h2 : hi < wa) :
    Describes env ((b.drop lo).take (hi - lo + 1)) (hi - lo + 1) (BitVec.extractLsb hi lo (BitVec.ofNat wa na)).toNat :=
  .of_bitVec _ (by simp [D.len]; omega) (by omega) fun i hi' => by
    rw [List.getElem?_take, if_pos hi', List.getElem?_drop, D.get (by omega), BitVec.getLsbD_extractLsb]
    simp [hi']

theorem describes_zext {env : Env} {b : List Bit} {wa na : Nat} (D : Describes env b wa na) (k : Nat) :
    Describes env (b ++ List.replicate k (Bit.c false)) (wa + k) (BitVec.zeroExtend (wa + k) (BitVec.ofNat wa na)).toNat :=
  .of_bitVec _ (by simp [D.len]) (by have := D.pos; omega) fun i hi' => by
    rw [List.getElem?_append, D.len]
    split
    next hlt => simp [D.get hlt, hi']
    next hlt => simp [bitDen, BitVec.getLsbD_ofNat, hlt, show i - wa < k by omega]

theorem describes_sext {env : Env} {b : List Bit} {wa na : Nat} (D : Describes env b wa na) (k : Nat) (m : Bit)
    (hm : b.getLast? = some m) :
    Describes env (b ++ List.replicate k m) (wa + k) (BitVec.signExtend (wa + k) (BitVec.ofNat wa na)).toNat :=
  .of_bitVec _ (by simp [D.len]) (by have := D.pos; omega) fun i hi' => by
    rw [List.getElem?_append, D.len, BitVec.getLsbD_signExtend]
    split
    next hlt => simp [D.get hlt, hi']
    next hlt => simp [D.last hm, hi', show i - wa < k by omega]

theorem describes_append {env : Env} {lo hi : List Bit} {wl nl wh nh : Nat} (Dl : Describes env lo wl nl)
    (Dh : Describes env hi wh nh) :
    Describes env (lo ++ hi) (wh + wl) (BitVec.ofNat wh nh ++ BitVec.ofNat wl nl).toNat :=
  .of_bitVec _ (by simp [Dl.len, Dh.len]; omega) (by have := Dl.pos; omega) fun i hi' => by
    rw [List.getElem?_append, Dl.len, BitVec.getLsbD_append]
    split
    next hlt => exact Dl.get hlt
    next hlt => exact Dh.get (by omega)

theorem bitDen_strip (env : Env) (x : Bit) : bitDen env x = (bitDen env x.strip.1).map (· ^^ x.strip.2) := by
  cases x with
  | c b => simp [Bit.strip, bitDen]
  | _ =>
    simp only [Bit.strip, bitDen]
    split <;> simp

theorem bitDen_not (env : Env) (b : Bit) : bitDen env b.not = (bitDen env b).map (!·) := by
  have hs : b.not.strip = (b.strip.1, !b.strip.2) := by cases b <;> rfl
  rw [bitDen_strip env b.not, bitDen_strip env b, hs]
  cases bitDen env b.strip.1 <;> simp

theorem strip_den (env : Env) (x : Bit) (p : Bool) (h : bitDen env x = some p) : bitDen env x.strip.1 = some (p ^^ x.strip.2) := by
  rw [bitDen_strip, Option.map_eq_some_iff] at h
  obtain ⟨q, hq, rfl⟩ := h
  simp [hq]

theorem describes_not {env : Env} {b : List Bit} {wa na : Nat} (D : Describes env b wa na) :
    Describes env (b.map Bit.not) wa (~~~ (BitVec.ofNat wa na)).toNat :=
  .of_bitVec _ (by simp [D.len]) D.pos fun i hi' => by
    obtain ⟨x, hx, hb⟩ := Option.bind_eq_some_iff.mp (D.get hi')
    simp [hx, bitDen_not, hb, hi']

theorem mk_den (env : Env) (k : BitK) (a b : Bit) (x y : Bool) (ha : bitDen env a = some x) (hb : bitDen env b = some y) :
    bitDen env (.mk k a b) = some (k.g x y) := by
  unfold Bit.mk
  split
  · rename_i hsame
    have h1 := strip_den env a x ha
    have h2 := strip_den env b y hb
    rw [Bit.eq_of_beq _ _ hsame, h2] at h1
    simp only [Option.some.injEq] at h1
    clear h2 hsame
    generalize a.strip.2 = na at h1 ⊢
    generalize b.strip.2 = nb at h1 ⊢
    cases k <;> cases x <;> cases y <;> cases na <;> cases nb <;> simp_all [BitK.g, bitDen]
  · simp [bitDen, ha, hb]

theorem and_den (env : Env) (a b : Bit) (x y : Bool) (ha : bitDen env a = some x) (hb : bitDen env b = some y) :
    bitDen env (a.and b) = some (x && y) := by
  unfold Bit.and
  split
  case h_5 => exact mk_den env .and _ _ x y ha hb
  -- the other cases have a literal operand
  all_goals simp_all [bitDen]

theorem or_den (env : Env) (a b : Bit) (x y : Bool) (ha : bitDen env a = some x) (hb : bitDen env b = some y) :
    bitDen env (a.or b) = some (x || y) := by
  unfold Bit.or
  split
  case h_5 => exact mk_den env .or _ _ x y ha hb
  all_goals simp_all [bitDen]

theorem xor_den (env : Env) (a b : Bit) (x y : Bool) (ha : bitDen env a = some x) (hb : bitDen env b = some y) :
    bitDen env (a.xor b) = some (x ^^ y) := by
  unfold Bit.xor
  split
  case h_5 => exact mk_den env .xor _ _ x y ha hb
  all_goals simp_all [bitDen, bitDen_not]

theorem ite_den (env : Env) (e : Expr) (v : Bool) (he : eval env e = .bool v) (a b : Bit) (x y : Bool)
    (ha : bitDen env a = some x) (hb : bitDen env b = some y) : bitDen env (Bit.ite e a b) = some (if v then x else y) := by
  unfold Bit.ite
  split
  · rename_i hab
    cases Bit.eq_of_beq a b hab
    cases ha.symm.trans hb
    simpa using ha
  · split
    · cases ha
      cases hb
      cases v <;> simp [bitDen, he]
    · cases ha
      cases hb
      cases v <;> simp [bitDen, he]
    · cases v <;> simp [bitDen, he, ha, hb]

structure BitOp (env : Env) where
  f : Bit → Bit → Bit
  g : (w : Nat) → BitVec w → BitVec w → BitVec w
  gb : Bool → Bool → Bool
  hf : ∀ a b x y, bitDen env a = some x → bitDen env b = some y → bitDen env (f a b) = some (gb x y)
  hg : ∀ w (x y : BitVec w) i, (g w x y).getLsbD i = gb (x.getLsbD i) (y.getLsbD i)

def opAnd (env : Env) : BitOp env where
  f := Bit.and
  g := fun _ x y => x &&& y
  gb := (· && ·)
  hf := and_den env
  hg := fun _ _ _ _ => BitVec.getLsbD_and

def opOr (env : Env) : BitOp env where
  f := Bit.or
  g := fun _ x y => x ||| y
  gb := (· || ·)
  hf := or_den env
  hg := fun _ _ _ _ => BitVec.getLsbD_or

def opXor (env : Env) : BitOp env where
  f := Bit.xor
  g := fun _ x y => x ^^^ y
  gb := (· ^^ ·)
  hf := xor_den env
  hg := fun _ _ _ _ => BitVec.getLsbD_xor

def opIte (env : Env) (e : Expr) (v : Bool) (he : eval env e = .bool v) : BitOp env where
  f := Bit.ite e
  g := fun _ x y => if v then x else y
  gb := fun x y => if v then x else y
  hf := ite_den env e v he
  hg := by intro w x y i; cases v <;> rfl

theorem zipBits_eq_some (f) : ∀ (a b r : List Bit), zipBits f a b = some r → a.length = b.length ∧ r = List.zipWith f a b
  | [], [], r, h => by simp_all [zipBits]
  | x :: a, y :: b, r, h => by
    simp only [zipBits, Option.map_eq_some_iff] at h
    obtain ⟨rs, hz, rfl⟩ := h
    simp [zipBits_eq_some f a b rs hz]
  | [], _ :: _, r, h => by simp [zipBits] at h
  | _ :: _, [], r, h => by simp [zipBits] at h

theorem describes_zip {env : Env} (o : BitOp env) {a b r : List Bit} {w na nb : Nat} (Da : Describes env a w na)
    (Db : Describes env b w nb) (h : zipBits o.f a b = some r) :
    Describes env r w (o.g w (BitVec.ofNat w na) (BitVec.ofNat w nb)).toNat := by
  obtain ⟨-, rfl⟩ := zipBits_eq_some _ _ _ _ h
  refine .of_bitVec _ (by simp [Da.len, Db.len]) Da.pos fun i hi => ?_
  obtain ⟨x, hx, ha⟩ := Option.bind_eq_some_iff.mp (Da.get hi)
  obtain ⟨y, hy, hb⟩ := Option.bind_eq_some_iff.mp (Db.get hi)
  rw [List.getElem?_zipWith, hx, hy, o.hg]
  exact o.hf x y _ _ ha hb

theorem describes_reverse {env : Env} {b : List Bit} {wa na : Nat} (D : Describes env b wa na) (h8 : wa % 8 = 0) :
    Describes env (revBytes b) wa (bytesRev (wa / 8) (na % 2 ^ wa)) where
  len := by simp [revBytes, D.len]
  pos := D.pos
  lt := bytesRev_lt_two_pow h8 _
  bit := by
    intro i hi'
    have hidx : 8 * (wa / 8 - 1 - i / 8) + i % 8 < wa := by
      have : i / 8 < wa / 8 := by omega
      omega
    obtain ⟨x, hx, hb⟩ := Option.bind_eq_some_iff.mp (D.bit _ hidx)
    simp only [revBytes, List.getElem?_map, D.len, List.getElem?_range hi', Option.map_some, Option.bind_some,
      List.getD_eq_getElem?_getD, hx, Option.getD_some, hb]
    rw [Claripy.BV.testBit_bytesRev _ _ _ (by omega), Nat.testBit_mod_two_pow]
    simp [hidx]

theorem describes_lshr {env : Env} {a : List Bit} {wa na : Nat} (D : Describes env a wa na) (k : Nat) :
    Describes env (a.drop k ++ List.replicate (min k a.length) (Bit.c false)) wa (BitVec.ofNat wa na >>> k).toNat :=
  .of_bitVec _ (by simp [D.len]; omega) D.pos fun i hi' => by
    rw [List.getElem?_append, List.length_drop, D.len, BitVec.getLsbD_ushiftRight]
    split
    next hlt => rw [List.getElem?_drop, D.get (by omega)]
    next hlt => simp [bitDen, BitVec.getLsbD_ofNat, show i - (wa - k) < min k wa by omega, show ¬ k + i < wa by omega]

theorem describes_ashr {env : Env} {a : List Bit} {wa na : Nat} (D : Describes env a wa na) (k : Nat) (m : Bit)
    (hm : a.getLast? = some m) :
    Describes env (a.drop k ++ List.replicate (min k a.length) m) wa ((BitVec.ofNat wa na).sshiftRight k).toNat :=
  .of_bitVec _ (by simp [D.len]; omega) D.pos fun i hi' => by
    rw [List.getElem?_append, List.length_drop, D.len, BitVec.getLsbD_sshiftRight]
    split
    next hlt => simp [D.get (show k + i < wa by omega), show ¬ wa ≤ i by omega, show k + i < wa by omega]
    next hlt => simp [D.last hm, show i - (wa - k) < min k wa by omega, show ¬ k + i < wa by omega, show ¬ wa ≤ i by omega]

theorem describes_shl {env : Env} {a : List Bit} {wa na : Nat} (D : Describes env a wa na) (k : Nat) :
    Describes env (List.replicate (min k a.length) (Bit.c false) ++ a.take (a.length - k)) wa (BitVec.ofNat wa na <<< k).toNat :=
  .of_bitVec _ (by simp [D.len]; omega) D.pos fun i hi' => by
    rw [List.getElem?_append, List.length_replicate, D.len, BitVec.getLsbD_shiftLeft]
    split
    next hlt => simp [bitDen, hlt, show i < k by omega]
    next hlt =>
      rw [List.getElem?_take, if_pos (by omega), show i - min k wa = i - k by omega, D.get (by omega)]
      simp [hi', show ¬ i < k by omega]

theorem normList_eq_map (es : List Expr) : normList es = es.map norm := by
  induction es with
  | nil => rfl
  | cons e es ih => simp [normList, ih]

theorem iteCond_mem (op : Op) (args : List Expr) (e : Expr) (h : iteCond (.app op args) = some e) : e ∈ args := by
  unfold iteCond at h
  split at h
  · rename_i heq
    cases heq
    cases h
    simp
  · simp at h

theorem bool_of_no_width (env : Env) (e : Expr) (hw : e.width.isNone = true) (he : eval env e ≠ .err) :
    ∃ v, eval env e = .bool v :=
  eval_of_no_width env (Option.isNone_iff_eq_none.mp hw) he

theorem condTerms_good (env : Env) (op : Op) (args : List Expr) (h : eval env (.app op args) ≠ .err) :
    Good env (condTerms (.app op args)) := by
  have hargs := args_ne_err env op args h
  intro t ht
  unfold condTerms at ht
  split at ht
  · rename_i c hc
    have hn := hargs _ (iteCond_mem op args _ hc)
    simp only [List.mem_cons, List.mem_nil_iff, or_false] at ht
    rcases ht with rfl | rfl
    · exact hn
    · exact args_ne_err env .not [t] hn t (by simp)
  · rename_i e _ hc
    cases List.mem_singleton.mp ht
    exact hargs _ (iteCond_mem op args _ hc)
  · simp at ht

def Denotes (env : Env) (e : Expr) (bs : List Bit) : Prop := ∃ w n, eval env e = .bv w n ∧ Describes env bs w n

def Sound1 (env : Env) (e : Expr) : Prop :=
  ∀ bs, (norm e).1 = some bs → Good env (norm e).2 → ∃ w n, eval env e = .bv w n ∧ Describes env bs w n

theorem opaqueBits_some {e : Expr} {bs : List Bit} (h : opaqueBits e = some bs) :
    ∃ w, e.width = some w ∧ 0 < w ∧ (List.range w).map (fun i => Bit.of e i false) = bs := by
  unfold opaqueBits at h
  split at h
  · rename_i w hw
    simpa [hw] using h
  · simp at h

theorem sound_opaque (env : Env) (e : Expr) (bs : List Bit) (hb : opaqueBits e = some bs) (hne : eval env e ≠ .err) :
    Denotes env e bs := by
  obtain ⟨w, hwd, hw, rfl⟩ := opaqueBits_some hb
  obtain ⟨X, -, he⟩ := eval_of_width env hwd hne
  exact ⟨w, _, he, describes_opaque env e w hw X he⟩

theorem concat_fold (env : Env) (es : List Expr) (hs : ∀ e ∈ es, ∀ b, (norm e).1 = some b → Denotes env e b)
    (accb : List Bit) (wacc nacc : Nat) (r : List Bit)
    (hr : concatBits (some accb :: es.map fun e => (norm e).1) = some r) (D : Describes env accb wacc nacc) :
    ∃ w n, (evalList env es).foldl valConcat (.bv wacc nacc) = .bv w n ∧ Describes env r w n := by
  induction es generalizing accb wacc nacc with
  | nil =>
    cases hr
    exact ⟨wacc, nacc, rfl, D⟩
  | cons e es ih =>
    rw [List.forall_mem_cons] at hs
    cases hb : (norm e).1 with
    | none => simp [hb, concatBits] at hr
    | some b =>
      obtain ⟨we, ne, hee, De⟩ := hs.1 b hb
      simp only [evalList, List.foldl, hee, valConcat]
      refine ih hs.2 (b ++ accb) _ _ ?_ (describes_append De D)
      simpa [hb, concatBits, Option.map_map, Function.comp_def] using hr

theorem foldBits_none (f) (l : List (Option (List Bit))) : foldBits f l none = none := by
  cases l with
  | nil => rfl
  | cons a l => cases a <;> rfl

theorem bitwise_fold (env : Env) (o : BitOp env) (es : List Expr) (hs : ∀ e ∈ es, ∀ b, (norm e).1 = some b → Denotes env e b)
    (accb : List Bit) (wacc nacc : Nat) (r : List Bit)
    (hr : foldBits o.f (es.map fun e => (norm e).1) (some accb) = some r) (D : Describes env accb wacc nacc) :
    ∃ n, (evalList env es).foldl (bvBin o.g) (.bv wacc nacc) = .bv wacc n ∧ Describes env r wacc n := by
  induction es generalizing accb nacc with
  | nil =>
    cases hr
    exact ⟨nacc, rfl, D⟩
  | cons e es ih =>
    rw [List.forall_mem_cons] at hs
    cases hb : (norm e).1 with
    | none => simp [hb, foldBits] at hr
    | some b =>
      simp only [List.map_cons, hb, foldBits] at hr
      cases hz : zipBits o.f accb b with
      | none => simp [hz, foldBits_none] at hr
      | some acc' =>
        obtain ⟨we, ne, hee, De⟩ := hs.1 b hb
        obtain rfl : we = wacc := by rw [← De.len, ← D.len, (zipBits_eq_some _ _ _ _ hz).1]
        simp only [evalList, List.foldl, hee, bvBin, D.pos, and_self, if_true]
        exact ih hs.2 acc' _ (hz ▸ hr) (describes_zip o D De hz)

theorem nary_sound (env : Env) (o : BitOp env) (op : Op) (hop : ∀ a b l, applyOp op (a :: b :: l) = foldVals (bvBin o.g) (a :: b :: l))
    (args : List Expr) (hs : ∀ a ∈ args, ∀ b, (norm a).1 = some b → Denotes env a b)
    (b0 : List Bit) (r1 : Option (List Bit)) (rest : List (Option (List Bit)))
    (heq : (args.map fun e => (norm e).1) = some b0 :: r1 :: rest) (r : List Bit)
    (h : foldBits o.f (r1 :: rest) (some b0) = some r) : Denotes env (.app op args) r := by
  obtain ⟨a0, tl, rfl, h0, htl⟩ := List.map_eq_cons_iff.mp heq
  rw [← htl] at h
  obtain ⟨a1, more, rfl, -, -⟩ := List.map_eq_cons_iff.mp htl
  rw [List.forall_mem_cons] at hs
  obtain ⟨w0, n0, he0, D0⟩ := hs.1 b0 h0
  obtain ⟨n, hf, Df⟩ := bitwise_fold env o (a1 :: more) hs.2 b0 w0 n0 r h D0
  refine ⟨w0, n, ?_, Df⟩
  rw [eval_app]
  simpa only [evalList, hop, foldVals, he0] using hf

theorem shift_operands (env : Env) (op : Op) (args : List Expr) (hs : ∀ a ∈ args, ∀ b, (norm a).1 = some b → Denotes env a b)
    (a : List Bit) (sb : List Bit) (heq : (args.map fun e => (norm e).1) = [some a, some sb]) (k ws : Nat)
    (hk : shiftAmt (.app op args) = some (k, ws)) (hws : ws = a.length) :
    ∃ na, eval env (.app op args) = applyOp op [.bv ws na, .bv ws k] ∧ k % 2 ^ ws = k ∧ Describes env a ws na := by
  simp only [List.map_eq_cons_iff, List.map_eq_nil_iff] at heq
  obtain ⟨e, _, rfl, he, s, _, rfl, -, rfl⟩ := heq
  unfold shiftAmt at hk
  split at hk
  · rename_i heq
    cases heq
    cases hk
    obtain ⟨we, ne, hee, De⟩ := hs e (List.mem_cons_self ..) a he
    obtain rfl : we = ws := by rw [← De.len, ← hws]
    exact ⟨ne, by simp [evalList, eval, hee, De.pos], Nat.mod_mod _ _, De⟩
  · simp at hk

theorem ite_sound (env : Env) (c ex ey : Expr) (x y r : List Bit) (hw : c.width.isNone = true) (hc : eval env c ≠ .err)
    (hx : Denotes env ex x) (hy : Denotes env ey y) (hz : zipBits (Bit.ite c) x y = some r) :
    Denotes env (.app .ite [c, ex, ey]) r := by
  obtain ⟨v, hv⟩ := bool_of_no_width env c hw hc
  obtain ⟨wx, nx, hex, Dx⟩ := hx
  obtain ⟨wy, ny, hey, Dy⟩ := hy
  obtain rfl : wx = wy := by rw [← Dx.len, ← Dy.len, (zipBits_eq_some _ _ _ _ hz).1]
  have D := describes_zip (opIte env c v hv) Dx Dy hz
  cases v
  · exact ⟨wx, ny, by simp [eval_ite, hv, hex, hey, valIte], by simpa [opIte, Nat.mod_eq_of_lt Dy.lt] using D⟩
  · exact ⟨wx, nx, by simp [eval_ite, hv, hex, hey, valIte], by simpa [opIte, Nat.mod_eq_of_lt Dx.lt] using D⟩

theorem eval_ite_not (env : Env) (c a b : Expr) :
    eval env (.app .ite [.app .not [c], a, b]) = eval env (.app .ite [c, b, a]) := by
  rw [eval_ite, eval_ite, eval_not, valIte_not]

theorem bitsOf_sound (env : Env) (op : Op) (args : List Expr) (r : List Bit)
    (h : bitsOf op (.app op args) (args.map fun e => (norm e).1) = some r)
    (hs : ∀ a ∈ args, ∀ b, (norm a).1 = some b → Denotes env a b) (hc : Good env (condTerms (.app op args))) :
    Denotes env (.app op args) r := by
  have one : ∀ (b : List Bit), (args.map fun e => (norm e).1) = [some b] →
      ∃ a wa na, args = [a] ∧ eval env a = .bv wa na ∧ Describes env b wa na := by
    intro b heq
    obtain ⟨a, rfl, ha⟩ := List.map_eq_singleton_iff.mp heq
    obtain ⟨wa, na, hea, Da⟩ := hs a (List.mem_cons_self ..) b ha
    exact ⟨a, wa, na, rfl, hea, Da⟩
  unfold bitsOf at h
  split at h
  -- concat: the first operand's bits seed the accumulator of `concat_fold`
  · rename_i hd tl heq
    obtain ⟨a0, rest, rfl, -, -⟩ := List.map_eq_cons_iff.mp heq
    rw [List.forall_mem_cons] at hs
    cases hb0 : (norm a0).1 with
    | none => simp [hb0, concatBits] at h
    | some b0 =>
      obtain ⟨w0, n0, he0, D0⟩ := hs.1 b0 hb0
      rw [List.map_cons, hb0] at h
      rw [Denotes, eval_app]
      simpa only [evalList, applyOp_concat, foldVals, he0] using concat_fold env rest hs.2 b0 w0 n0 r h D0
  -- extract hi lo
  · rename_i hi lo b heq
    obtain ⟨a, wa, na, rfl, hea, Da⟩ := one b heq
    obtain ⟨hc, h⟩ := Option.ite_none_right_eq_some.mp h
    cases h
    rw [Da.len] at hc
    exact ⟨_, _, by simp [eval_app, evalList, hea, applyOp_extract, extrV_bv, hc], describes_extract Da hi lo hc.1 hc.2⟩
  -- zeroExt k
  · rename_i k b heq
    obtain ⟨a, wa, na, rfl, hea, Da⟩ := one b heq
    cases h
    exact ⟨_, _, by simp [eval_app, evalList, hea, applyOp_zeroExt, Da.pos], describes_zext Da k⟩
  -- signExt k: `m` is the sign bit, the last of `b`
  · rename_i k b heq
    obtain ⟨a, wa, na, rfl, hea, Da⟩ := one b heq
    split at h
    · rename_i m hm
      cases h
      exact ⟨_, _, by simp [eval_app, evalList, hea, applyOp_signExt, Da.pos], describes_sext Da k m hm⟩
    · simp at h
  -- bnot
  · rename_i b heq
    obtain ⟨a, wa, na, rfl, hea, Da⟩ := one b heq
    cases h
    exact ⟨_, _, by simp [eval_app, evalList, hea, applyOp_bnot, bvUn, Da.pos], describes_not Da⟩
  -- reverse, of whole bytes only (`h8`)
  · rename_i b heq
    obtain ⟨a, wa, na, rfl, hea, Da⟩ := one b heq
    obtain ⟨h8, h⟩ := Option.ite_none_right_eq_some.mp h
    cases h
    rw [Da.len] at h8
    exact ⟨_, _, by simp [eval_app, evalList, hea, applyOp_reverse, valReverse, h8, Da.pos], describes_reverse Da h8⟩
  -- band, bor, bxor on two or more operands: `applyOp` folds the same binary operation, by `rfl`
  · rename_i b0 r1 rest heq
    exact nary_sound env (opAnd env) .band (fun _ _ _ => rfl) args hs b0 r1 rest heq r h
  · rename_i b0 r1 rest heq
    exact nary_sound env (opOr env) .bor (fun _ _ _ => rfl) args hs b0 r1 rest heq r h
  · rename_i b0 r1 rest heq
    exact nary_sound env (opXor env) .bxor (fun _ _ _ => rfl) args hs b0 r1 rest heq r h
  -- ite: the condition is among `condTerms`, so by `hc` it is not `err`, and having no width it is then a Boolean
  · rename_i c0 ba bb heq
    simp only [List.map_eq_cons_iff, List.map_eq_nil_iff] at heq
    obtain ⟨ec, _, rfl, -, ea, _, rfl, hea, eb, _, rfl, heb, rfl⟩ := heq
    have ha := hs ea (by simp) ba hea
    have hb := hs eb (by simp) bb heb
    simp only [iteCond] at h
    split at h
    -- `If(Not(c), a, b)`, read as `If(c, b, a)`
    · rename_i c hcond
      cases hcond
      obtain ⟨hw, h⟩ := Option.ite_none_right_eq_some.mp h
      rw [Denotes, eval_ite_not]
      exact ite_sound env c eb ea bb ba r hw (hc c (by simp [condTerms, iteCond])) hb ha h
    -- any other condition
    · rename_i hnn c hcond
      cases hcond
      obtain ⟨hw, h⟩ := Option.ite_none_right_eq_some.mp h
      have hmem : ec ∈ condTerms (.app .ite [ec, ea, eb]) := by
        unfold condTerms
        split <;> simp_all [iteCond]
      exact ite_sound env ec ea eb ba bb r hw (hc ec hmem) ha hb h
    · simp at h
  -- lshr, ashr, shl by a literal `k` of the operand's width (`shift_operands`); the amount's own bits `sb` are not used
  · rename_i a sb heq
    split at h
    · rename_i k ws hk
      obtain ⟨hws, h⟩ := Option.ite_none_right_eq_some.mp h
      cases h
      obtain ⟨na, hev, hkk, De⟩ := shift_operands env .lshr args hs a sb heq k ws hk hws
      exact ⟨ws, _, by simp [hev, applyOp_lshr, bvBin, De.pos, hkk], describes_lshr De k⟩
    · simp at h
  · rename_i a sb heq
    split at h
    · rename_i k ws m hk hm
      obtain ⟨hws, h⟩ := Option.ite_none_right_eq_some.mp h
      cases h
      obtain ⟨na, hev, hkk, De⟩ := shift_operands env .ashr args hs a sb heq k ws hk hws
      exact ⟨ws, _, by simp [hev, applyOp_ashr, bvBin, De.pos, hkk], describes_ashr De k m hm⟩
    · simp at h
  · rename_i a sb heq
    split at h
    · rename_i k ws hk
      obtain ⟨hws, h⟩ := Option.ite_none_right_eq_some.mp h
      cases h
      obtain ⟨na, hev, hkk, De⟩ := shift_operands env .shl args hs a sb heq k ws hk hws
      exact ⟨ws, _, by simp [hev, applyOp_shl, bvBin, De.pos, hkk, bvShl_eq], describes_shl De k⟩
    · simp at h
  -- every other operator, or a wrong number of operands: `bitsOf` gives `none`
  · simp at h

theorem Expr.ind_mem {P : Expr → Prop} (bvv : ∀ v w, P (.bvv v w)) (bvs : ∀ n w, P (.bvs n w)) (boolv : ∀ b, P (.boolv b))
    (bools : ∀ n, P (.bools n)) (app : ∀ op args, (∀ a ∈ args, P a) → P (.app op args)) (e : Expr) : P e :=
  Expr.rec (motive_2 := fun l => ∀ a ∈ l, P a) bvv bvs boolv bools app (by simp)
    (fun _ _ ha hl => List.forall_mem_cons.mpr ⟨ha, hl⟩) e

theorem norm_good (env : Env) (e : Expr) : eval env e ≠ .err → Good env (norm e).2 := by
  induction e using Expr.ind_mem with
  | app op args hall =>
    intro h
    have hargs := args_ne_err env op args h
    simp only [norm, normList_eq_map, normApp, List.map_map, List.flatMap_map]
    split
    · refine good_append.mpr ⟨condTerms_good env op args h, fun t ht => ?_⟩
      obtain ⟨a, ha, hta⟩ := List.mem_flatMap.mp ht
      exact hall a ha (hargs a ha) t hta
    · simpa [Good] using h
  | _ => simp [norm, Good]

theorem norm_sound (env : Env) (e : Expr) : Sound1 env e := by
  induction e using Expr.ind_mem with
  | bvv v w =>
    intro bs hb _
    obtain ⟨hw, hb⟩ := Option.ite_none_right_eq_some.mp hb
    cases hb
    exact ⟨w, v % 2 ^ w, by simp [eval, hw], describes_const env v w hw⟩
  | bvs nm w => exact fun bs hb hg => sound_opaque env _ bs hb (hg _ (List.mem_singleton.mpr rfl))
  | app op args hall =>
    intro bs hb hg
    simp only [norm, normList_eq_map, normApp, List.map_map, List.flatMap_map] at hb hg
    split at hb
    · rename_i r hr
      cases hb
      rw [hr, good_append] at hg
      exact bitsOf_sound env op args _ (by simpa [Function.comp_def] using hr)
        (fun a ha b hb => hall a ha b hb fun t ht => hg.2 t (List.mem_flatMap.mpr ⟨a, ha, ht⟩)) hg.1
    · rename_i hn
      rw [hn] at hg
      exact sound_opaque env _ bs hb (hg _ (List.mem_singleton.mpr rfl))
  | _ =>
    intro bs hb
    simp [norm] at hb

theorem normList_sound (env : Env) : ∀ (es : List Expr), ∀ e ∈ es, Sound1 env e :=
  fun _ e _ => norm_sound env e

/-- `lhs` need only be well-typed: an expression that has bits denotes a bit-vector -/
theorem bitsEquiv_sound_wt (lhs rhs : Expr) (h : bitsEquiv lhs rhs = true) (env : Env) (hl : eval env lhs ≠ .err) :
    eval env rhs = eval env lhs := by
  unfold bitsEquiv at h
  split at h
  · rename_i a b ha hb
    simp only [Bool.and_eq_true, beq_iff_eq, List.all_eq_true, List.elem_eq_contains, List.contains_eq_mem,
      decide_eq_true_eq] at h
    obtain ⟨rfl, hsub⟩ := h
    have hgl : Good env (opq lhs) := norm_good env lhs hl
    obtain ⟨w1, n1, h1, D1⟩ := norm_sound env lhs a ha hgl
    obtain ⟨w2, n2, h2, D2⟩ := norm_sound env rhs a hb fun t ht => hgl t (hsub t ht)
    obtain ⟨e1, e2⟩ := D1.unique D2
    rw [h1, h2, e1, e2]
  · simp at h

theorem bitsEquiv_sound (lhs rhs : Expr) (h : bitsEquiv lhs rhs = true) (env : Env) (w n : Nat)
    (hl : eval env lhs = .bv w n) : eval env rhs = eval env lhs :=
  bitsEquiv_sound_wt lhs rhs h env (by simp [hl])

/-! non-vacuity: bit-moving combined with a bitwise operation on two symbolic operands, and with an `If` -/
example : bitsEquiv (.app (.extract 3 1) [.app .concat [.app .bor [.bvs "z" 2, .bvs "y" 2], .bvs "u" 3]])
    (.app .concat [.app .bor [.app (.extract 0 0) [.bvs "z" 2], .app (.extract 0 0) [.bvs "y" 2]], .app (.extract 2 1) [.bvs "u" 3]]) = true := by
  decide
example : bitsEquiv (.app (.extract 4 1) [.app (.zeroExt 2) [.app .band [.bvs "x" 4, .bvs "y" 4]]])
    (.app .concat [.bvv 0 1, .app .band [.app (.extract 3 1) [.bvs "x" 4], .app (.extract 3 1) [.bvs "y" 4]]]) = true := by decide
example : bitsEquiv (.app (.extract 1 0) [.app .ite [.bools "c", .bvs "x" 4, .bvs "y" 4]])
    (.app .ite [.bools "c", .app (.extract 1 0) [.bvs "x" 4], .app (.extract 1 0) [.bvs "y" 4]]) = true := by decide
example : bitsEquiv (.app (.extract 1 0) [.app .bxor [.bvs "y" 4, .app .band [.bvs "y" 4, .bvv 3 4]]]) (.bvv 0 2) = true := by decide
example : bitsEquiv (.app (.extract 1 0) [.app .band [.bvs "y" 4, .app .bnot [.bvs "y" 4]]]) (.bvv 1 2) = false := by decide
example : bitsEquiv (.app (.extract 1 0) [.app .ite [.app .not [.bools "c"], .bvs "x" 4, .bvs "y" 4]])
    (.app .ite [.bools "c", .app (.extract 1 0) [.bvs "y" 4], .app (.extract 1 0) [.bvs "x" 4]]) = true := by decide
-- another operation, another operand order, another condition: rejected
example : bitsEquiv (.app (.extract 0 0) [.app .bor [.bvs "z" 2, .bvs "y" 2]])
    (.app .band [.app (.extract 0 0) [.bvs "z" 2], .app (.extract 0 0) [.bvs "y" 2]]) = false := by decide
example : bitsEquiv (.app (.extract 1 0) [.app .ite [.bools "c", .bvs "x" 4, .bvs "y" 4]])
    (.app .ite [.bools "d", .app (.extract 1 0) [.bvs "x" 4], .app (.extract 1 0) [.bvs "y" 4]]) = false := by decide
example : bitsEquiv (.app (.extract 1 0) [.app .ite [.bools "c", .bvs "x" 4, .bvs "y" 4]])
    (.app .ite [.bools "c", .app (.extract 1 0) [.bvs "y" 4], .app (.extract 1 0) [.bvs "x" 4]]) = false := by decide

end Claripy.AST

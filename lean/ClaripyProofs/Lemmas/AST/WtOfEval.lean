import ClaripyProofs.Lemmas.AST.FoldSound
import ClaripyProofs.Lemmas.AST.Typing
/-!
A constant node whose denotation is not an error is well-typed in the sense of `Claripy.Props.C04.WT` (the shape premise of
the folding theorems): the premise of `foldOp_sound` follows from the well-typedness of the written tree.  `WT` is what the
typing rule `tyOp` accepts, said of constants.
-/
namespace Claripy.AST
open Claripy.Props.C04 (WT allBV)

theorem CVal.ty_bv {v : CVal} {w : Nat} (h : v.toVal.ty = .bv w) : ∃ x, v = .bv x w := by
  cases v <;> cases h
  exact ⟨_, rfl⟩
theorem CVal.ty_bool {v : CVal} (h : v.toVal.ty = .bool) : ∃ b, v = .bool b := by
  cases v <;> cases h
  exact ⟨_, rfl⟩

theorem wt_pair {f : Ty → Ty → Ty} (hf : ∀ {a b}, f a b ≠ .err → Ty.bin a b ≠ .err) {vs : List CVal}
    (h : (Sem.bin f).apply .err (vs.map fun v => v.toVal.ty) ≠ .err) : ∃ w x y, 0 < w ∧ vs = [.bv x w, .bv y w] := by
  obtain ⟨_, _, e⟩ := Sem.bin_args h
  obtain ⟨a, b, rfl, rfl, rfl⟩ := map_eq_two e
  obtain ⟨w, hw, ha, hb⟩ := Ty.bin_ne_err (hf h)
  obtain ⟨x, rfl⟩ := CVal.ty_bv ha
  obtain ⟨y, rfl⟩ := CVal.ty_bv hb
  exact ⟨w, x, y, hw, rfl⟩

theorem wt_one {f : Ty → Ty} {C : Nat → Prop} (hf : ∀ {a}, f a ≠ .err → ∃ w, C w ∧ a = .bv w) {vs : List CVal}
    (h : (Sem.un f).apply .err (vs.map fun v => v.toVal.ty) ≠ .err) : ∃ w x, C w ∧ vs = [.bv x w] := by
  obtain ⟨_, e⟩ := Sem.un_args h
  obtain ⟨a, rfl, rfl⟩ := map_eq_one e
  obtain ⟨w, hw, ha⟩ := hf h
  obtain ⟨x, rfl⟩ := CVal.ty_bv ha
  exact ⟨w, x, hw, rfl⟩

theorem wt_eq {vs : List CVal} (h : (Sem.bin Ty.eq).apply .err (vs.map fun v => v.toVal.ty) ≠ .err) :
    (∃ w x y, 0 < w ∧ vs = [.bv x w, .bv y w]) ∨ ∃ a b, vs = [.bool a, .bool b] := by
  obtain ⟨_, _, e⟩ := Sem.bin_args h
  obtain ⟨a, b, rfl, rfl, rfl⟩ := map_eq_two e
  rcases Ty.eq_ne_err h with hb | ⟨ha, hb⟩
  · exact .inl (wt_pair (f := Ty.bin) id hb)
  · obtain ⟨p, rfl⟩ := CVal.ty_bool ha
    obtain ⟨q, rfl⟩ := CVal.ty_bool hb
    exact .inr ⟨p, q, rfl⟩

/-- `hc`: the denotation passes a lone Boolean under `Concat` through, and `WT` does not admit it -/
theorem wt_of_ty (op : Op) (vs : List CVal) (h : tyOp op (vs.map fun v => v.toVal.ty) ≠ .err)
    (hc : op = .concat → ∀ b, vs ≠ [.bool b]) : WT op vs := by
  cases op
  case add | mul | band | bor | bxor =>
    rcases vs with _ | ⟨a, _ | ⟨b, l⟩⟩ <;> try exact absurd rfl h
    -- `tyOp` is now the fold of `Ty.bin` from the first operand; where it is not `err`, every operand has the first one's type
    replace h : ((b :: l).map fun v => v.toVal.ty).foldl Ty.bin a.toVal.ty ≠ .err := h
    obtain ⟨w, hw, ha⟩ := Ty.foldl_bin_pos h
    refine ⟨w, hw, by simp, fun v hv => ?_⟩
    rcases List.mem_cons.mp hv with rfl | hv
    · exact CVal.ty_bv ha
    · exact CVal.ty_bv (((Ty.foldl_bin h).2 _ (List.mem_map_of_mem hv)).trans ha)
  case sub | udiv | umod | sdiv | smod | shl | lshr | ashr | rotl | rotr => exact wt_pair id h
  -- `Ty.cmp` is `err` exactly where `Ty.bin` is
  case ult | ule | ugt | uge | slt | sle | sgt | sge => exact wt_pair (fun h e => h (by rw [Ty.cmp_eq, if_pos e])) h
  case bnot | neg | zeroExt | signExt => exact wt_one (fun h => (Ty.un1_ne_err h).imp fun _ h => ⟨h.1, h.2.1⟩) h
  -- the typing rule also asks for whole bytes, which `WT` does not
  case reverse => exact wt_one (fun h => (Ty.un1_ne_err h).imp fun _ h => ⟨h.1.2, h.2.1⟩) h
  case extract hi lo =>
    obtain ⟨w, x, ⟨h1, h2⟩, e⟩ := wt_one (fun h => (Ty.un1_ne_err h).imp fun _ h => ⟨h.1, h.2.1⟩) h
    exact ⟨w, x, h1, h2, e⟩
  case eq => exact wt_eq h
  -- typed as `Ty.not` of the type of `eq`, hence `err` where that is
  case ne =>
    obtain ⟨_, _, e⟩ := Sem.bin_args h
    refine wt_eq fun e' => h ?_
    rw [e] at e' ⊢
    exact congrArg Ty.not e'
  case not =>
    obtain ⟨_, e⟩ := Sem.un_args h
    obtain ⟨a, rfl, rfl⟩ := map_eq_one e
    cases a
    · exact absurd rfl h
    · exact ⟨_, rfl⟩
  case and | or =>
    rcases vs with _ | ⟨a, l⟩ <;> try exact absurd rfl h
    exact ⟨by simp, fun v hv => CVal.ty_bool ((Ty.foldl_boolBin h).2 _ (List.mem_map_of_mem (f := fun v => v.toVal.ty) hv))⟩
  case ite =>
    obtain ⟨_, _, _, e⟩ := Sem.ter_args h
    obtain ⟨c, t, f, rfl, rfl, rfl, rfl⟩ := map_eq_three e
    obtain ⟨hcb, htf, -⟩ := Ty.ite_eq h
    obtain ⟨cb, rfl⟩ := CVal.ty_bool hcb
    refine ⟨cb, t, f, rfl, ?_⟩
    -- branches of one type: two bit-vectors of one width, or two Booleans
    cases t <;> cases f <;> cases htf
    · exact .inl ⟨_, _, _, rfl, rfl⟩
    · exact .inr ⟨_, _, rfl, rfl⟩
  case concat =>
    rcases vs with _ | ⟨a, l⟩ <;> try exact absurd rfl h
    refine ⟨by simp, ?_⟩
    cases a
    -- a Boolean first: alone it types as `.bool`, which is why `hc` is needed; before others the fold hits `err` and stays there
    case bool b =>
      cases l with
      | nil => exact absurd rfl (hc rfl b)
      | cons c l =>
        refine absurd ?_ h
        show List.foldl Ty.concat (Ty.concat .bool c.toVal.ty) _ = _
        exact foldl_fix (fun _ => rfl) _
    case bv x w =>
      intro v hv
      rcases List.mem_cons.mp hv with rfl | hv
      · exact ⟨x, w, rfl⟩
      · obtain ⟨-, -, -, hall⟩ := Ty.foldl_concat h
        obtain ⟨w', hw'⟩ := hall _ (List.mem_map_of_mem hv)
        exact (CVal.ty_bv hw').imp fun _ h => ⟨w', h⟩

/-- `hf` serves only to exclude the lone Boolean under `Concat`, which folding rejects -/
theorem wt_of_ne_err (op : Op) (vs : List CVal) (h : applyOp op (vs.map CVal.toVal) ≠ .err) (c : CVal) (hf : foldOp op vs = .ok c) :
    WT op vs :=
  wt_of_ty op vs (fun e => h (Val.ty_eq_err.mp ((applyOp_ty op _).trans (by rwa [List.map_map])))) (by
    rintro rfl b rfl
    cases hf)

end Claripy.AST

import ClaripyProofs.Lemmas.AST.Typing
/-! The operators whose nodes can denote a Boolean (`applyOp_bool_cases`), read off the typing rules `Op.tsem`. -/
namespace Claripy.AST

def IsBoolOp : Op → Prop
  | .eq | .ne | .ult | .ule | .ugt | .uge | .slt | .sle | .sgt | .sge | .and | .or | .not => True
  | _ => False

/-- the same-width and one-operand bit-vector rules return bit-vectors, `If` returns the sort of its branches, `Concat` a
bit-vector unless it has a single operand -/
theorem applyOp_bool_cases (op : Op) (vs : List Val) (x : Bool) (h : applyOp op vs = .bool x) :
    IsBoolOp op ∨ (op = .ite ∧ ∃ c a b y, vs = [c, a, b] ∧ a = .bool y) ∨ (op = .concat ∧ vs = [.bool x]) := by
  have ht : tyOp op (vs.map Val.ty) = .bool := by rw [← applyOp_ty, h]; rfl
  have hne : tyOp op (vs.map Val.ty) ≠ .err := ht ▸ Ty.noConfusion
  cases op
  case eq | ne | ult | ule | ugt | uge | slt | sle | sgt | sge | and | or | not => exact .inl trivial
  case add | mul | band | bor | bxor =>
    rcases vs with _ | ⟨a, _ | ⟨b, l⟩⟩ <;> try exact absurd rfl hne
    obtain ⟨w, -, ha⟩ := Ty.foldl_bin_pos (a := a.ty) (b := b.ty) (l := l.map Val.ty) hne
    exact Ty.noConfusion (ha.symm.trans ((Ty.foldl_bin hne).1.symm.trans ht))
  case sub | udiv | umod | sdiv | smod | shl | lshr | ashr | rotl | rotr =>
    obtain ⟨_, _, e⟩ := Sem.bin_args hne
    rw [e] at ht hne
    obtain ⟨w, -, rfl, rfl⟩ := Ty.bin_ne_err hne
    exact Ty.noConfusion ((Ty.bin_eq_left (a := .bv w) (b := .bv w) hne).symm.trans ht)
  case bnot | neg | reverse | extract | zeroExt | signExt =>
    obtain ⟨_, e⟩ := Sem.un_args hne
    rw [e] at ht hne
    obtain ⟨w, -, -, e'⟩ := Ty.un1_ne_err hne
    exact Ty.noConfusion (e'.symm.trans ht)
  case ite =>
    obtain ⟨_, _, _, e⟩ := Sem.ter_args hne
    obtain ⟨c, a, b, rfl, rfl, rfl, rfl⟩ := map_eq_three e
    have ha : a.ty = .bool := (Ty.ite_eq hne).2.2.symm.trans ht
    cases a <;> cases ha
    exact .inr (.inl ⟨rfl, c, _, b, _, rfl, rfl⟩)
  case concat =>
    rcases vs with _ | ⟨a, l⟩ <;> try exact absurd rfl hne
    cases a
    case bv k n =>
      obtain ⟨w, e, -⟩ := Ty.foldl_concat (l := l.map Val.ty) (k := k) hne
      exact Ty.noConfusion (e.symm.trans ht)
    case bool y =>
      cases l with
      | nil => exact .inr (.inr ⟨rfl, by rw [show applyOp .concat [.bool y] = .bool y from rfl] at h; rw [h]⟩)
      | cons b l =>
        refine absurd ?_ hne
        show List.foldl Ty.concat (Ty.concat .bool b.ty) _ = _
        exact foldl_fix (fun _ => rfl) _
    case err => exact absurd (foldl_fix (fun _ => rfl) _) hne

end Claripy.AST

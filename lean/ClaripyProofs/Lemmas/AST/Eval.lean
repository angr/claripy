import Claripy.AST.Expr
/-!
Basic facts about `eval`: every value it produces is canonical (`n < 2^w`, `0 < w`), and the
value-level operators compute on `BitVec`s (`Val.ofBV`).
-/
namespace Claripy.AST

theorem bvShl_eq {w : Nat} (x y : BitVec w) : bvShl x y = x <<< y := by
  unfold bvShl
  split
  · rename_i h
    rw [BitVec.shiftLeft_eq']
    exact (BitVec.shiftLeft_eq_zero h).symm
  · rfl

def Val.ofBV {w : Nat} (x : BitVec w) : Val := .bv w x.toNat

def Val.WF : Val → Prop
  | .bv w n => n < 2 ^ w ∧ 0 < w
  | _ => True

theorem Val.WF_ofBV {w : Nat} (x : BitVec w) (hw : 0 < w) : (Val.ofBV x).WF := ⟨x.isLt, hw⟩

theorem Val.WF.exists_bv {w n : Nat} (h : (Val.bv w n).WF) : ∃ x : BitVec w, Val.bv w n = Val.ofBV x ∧ 0 < w :=
  ⟨BitVec.ofNat w n, by simp [Val.ofBV, Nat.mod_eq_of_lt h.1], h.2⟩

@[simp] theorem ofNat_toNat' {w : Nat} (x : BitVec w) : BitVec.ofNat w x.toNat = x := by
  apply BitVec.eq_of_toNat_eq; simp

@[simp] theorem bvBin_ofBV (f : (w : Nat) → BitVec w → BitVec w → BitVec w) {w : Nat} (x y : BitVec w) (hw : 0 < w) :
    bvBin f (Val.ofBV x) (Val.ofBV y) = Val.ofBV (f w x y) := by
  simp [bvBin, Val.ofBV, hw]

@[simp] theorem bvUn_ofBV (f : (w : Nat) → BitVec w → BitVec w) {w : Nat} (x : BitVec w) (hw : 0 < w) :
    bvUn f (Val.ofBV x) = Val.ofBV (f w x) := by
  simp [bvUn, Val.ofBV, hw]

@[simp] theorem bvCmp_ofBV (f : (w : Nat) → BitVec w → BitVec w → Bool) {w : Nat} (x y : BitVec w) (hw : 0 < w) :
    bvCmp f (Val.ofBV x) (Val.ofBV y) = .bool (f w x y) := by
  simp [bvCmp, Val.ofBV, hw]

@[simp] theorem valEq_ofBV {w : Nat} (x y : BitVec w) (hw : 0 < w) :
    valEq (Val.ofBV x) (Val.ofBV y) = .bool (x == y) := by
  simp [valEq, Val.ofBV, hw]

theorem valEq_bv (w n c : Nat) (hw : 0 < w) (hn : n < 2 ^ w) (hc : c < 2 ^ w) :
    valEq (.bv w n) (.bv w c) = .bool (n == c) := by
  simp only [valEq, hw, and_self, if_true, Val.bool.injEq]
  rw [Bool.eq_iff_iff, beq_iff_eq, beq_iff_eq, BitVec.toNat_eq, BitVec.toNat_ofNat, BitVec.toNat_ofNat,
    Nat.mod_eq_of_lt hn, Nat.mod_eq_of_lt hc]

theorem bvBin_wf (f) (a b : Val) : (bvBin f a b).WF := by
  unfold bvBin
  split
  · split
    · rename_i h; exact ⟨BitVec.isLt _, h.2⟩
    · trivial
  · trivial

theorem bvUn_wf (f) (a : Val) : (bvUn f a).WF := by
  unfold bvUn
  split
  · split
    · rename_i h; exact ⟨BitVec.isLt _, h⟩
    · trivial
  · trivial

theorem bvCmp_wf (f) (a b : Val) : (bvCmp f a b).WF := by
  unfold bvCmp; split
  · split <;> trivial
  · trivial

theorem valEq_wf (a b : Val) : (valEq a b).WF := by
  unfold valEq; split
  · split <;> trivial
  · trivial
  · trivial

theorem valNot_wf (a : Val) : (valNot a).WF := by
  unfold valNot; split <;> trivial

theorem boolBin_wf (f) (a b : Val) : (boolBin f a b).WF := by
  unfold boolBin; split <;> trivial

theorem valConcat_wf (a b : Val) (ha : a.WF) : (valConcat a b).WF := by
  unfold valConcat
  split
  · rename_i w x w' y
    exact ⟨BitVec.isLt _, by have := ha.2; omega⟩
  · trivial

theorem valIte_wf (c a b : Val) (ha : a.WF) (hb : b.WF) : (valIte c a b).WF := by
  unfold valIte
  split
  · split
    · split <;> assumption
    · trivial
  · trivial
  · trivial

theorem bytesRev_lt (k n : Nat) : bytesRev k n < 256 ^ k := by
  induction k generalizing n with
  | zero => simp [bytesRev]
  | succ k ih =>
    simp only [bytesRev]
    have h1 : n % 256 < 256 := Nat.mod_lt _ (by omega)
    have h2 := ih (n / 256)
    calc n % 256 * 256 ^ k + bytesRev k (n / 256)
        < n % 256 * 256 ^ k + 256 ^ k := by omega
      _ = (n % 256 + 1) * 256 ^ k := by rw [Nat.add_mul]; omega
      _ ≤ 256 * 256 ^ k := Nat.mul_le_mul_right _ (by omega)
      _ = 256 ^ (k + 1) := by rw [Nat.pow_succ]; omega

theorem pow256 (k : Nat) : 256 ^ k = 2 ^ (8 * k) := by
  rw [show (256 : Nat) = 2 ^ 8 by rfl, ← Nat.pow_mul]

theorem bytesRev_lt_two_pow {w : Nat} (h8 : w % 8 = 0) (n : Nat) : bytesRev (w / 8) n < 2 ^ w := by
  have := bytesRev_lt (w / 8) n
  rwa [pow256, show 8 * (w / 8) = w by omega] at this

theorem valReverse_wf (a : Val) : (valReverse a).WF := by
  unfold valReverse
  split
  · split
    · rename_i w n h
      exact ⟨bytesRev_lt_two_pow h.1 _, h.2⟩
    · trivial
  · trivial

theorem foldl_fix {α : Type} {e : α} {f : α → α → α} (hf : ∀ b, f e b = e) (l : List α) : l.foldl f e = e := by
  induction l with
  | nil => rfl
  | cons b l ih => rw [List.foldl_cons, hf, ih]

theorem foldl_wf (f : Val → Val → Val) (hf : ∀ a b, a.WF → (f a b).WF) (vs : List Val) (v : Val) (hv : v.WF) :
    (vs.foldl f v).WF := by
  induction vs generalizing v with
  | nil => exact hv
  | cons a vs ih => exact ih _ (hf _ _ hv)

theorem foldVals_wf (f : Val → Val → Val) (hf : ∀ a b, a.WF → (f a b).WF) (vs : List Val)
    (hvs : ∀ v ∈ vs, v.WF) : (foldVals f vs).WF := by
  cases vs with
  | nil => trivial
  | cons v vs => exact foldl_wf f hf vs v (hvs v (List.mem_cons_self ..))

def extrV (hi lo : Nat) (v : Val) : Val := applyOp (.extract hi lo) [v]

@[simp] theorem extrV_err (hi lo : Nat) : extrV hi lo .err = .err := rfl
@[simp] theorem extrV_bool (hi lo : Nat) (b : Bool) : extrV hi lo (.bool b) = .err := rfl
theorem extrV_bv (hi lo w n : Nat) :
    extrV hi lo (.bv w n) = if lo ≤ hi ∧ hi < w then .bv (hi - lo + 1) (BitVec.extractLsb hi lo (BitVec.ofNat w n)).toNat else .err := rfl

/-! Every operator combines the values of its operands in one of six ways, through one value function (`Op.sem`).  `applyOp_eq` takes
`applyOp` apart operator by operator and arity by arity; a fact that holds of a node whenever it holds of
its value function is proved once for each of the six ways (`Sem.apply_wf` here; sorts and strictness in Typing.lean). -/

inductive Sem (α : Type) where
  | un (f : α → α)
  | bin (f : α → α → α)
  | ter (f : α → α → α → α)
  /-- left fold over at least two operands -/
  | fold2 (f : α → α → α)
  /-- left fold over at least one operand -/
  | fold1 (f : α → α → α)
  /-- left fold from `u` over at least one operand -/
  | foldFrom (f : α → α → α) (u : α)

def Sem.apply {α : Type} (err : α) : Sem α → List α → α
  | .un f, [a] => f a
  | .bin f, [a, b] => f a b
  | .ter f, [a, b, c] => f a b c
  | .fold2 f, a :: b :: l => (b :: l).foldl f a
  | .fold1 f, a :: l => l.foldl f a
  | .foldFrom f u, a :: l => (a :: l).foldl f u
  | _, _ => err

def Op.sem : Op → Sem Val
  | .add => .fold2 (bvBin fun _ x y => x + y)
  | .mul => .fold2 (bvBin fun _ x y => x * y)
  | .band => .fold2 (bvBin fun _ x y => x &&& y)
  | .bor => .fold2 (bvBin fun _ x y => x ||| y)
  | .bxor => .fold2 (bvBin fun _ x y => x ^^^ y)
  | .sub => .bin (bvBin fun _ x y => x - y)
  | .udiv => .bin (bvBin fun _ x y => BitVec.smtUDiv x y)
  | .umod => .bin (bvBin fun _ x y => x % y)
  | .sdiv => .bin (bvBin fun _ x y => BitVec.smtSDiv x y)
  | .smod => .bin (bvBin fun _ x y => BitVec.srem x y)
  | .shl => .bin (bvBin fun _ x y => bvShl x y)
  | .lshr => .bin (bvBin fun _ x y => x >>> y)
  | .ashr => .bin (bvBin fun _ x y => BitVec.sshiftRight' x y)
  | .rotl => .bin (bvBin fun _ x y => x.rotateLeft y.toNat)
  | .rotr => .bin (bvBin fun _ x y => x.rotateRight y.toNat)
  | .bnot => .un (bvUn fun _ x => ~~~x)
  | .neg => .un (bvUn fun _ x => -x)
  | .eq => .bin valEq
  | .ne => .bin fun a b => valNot (valEq a b)
  | .ult => .bin (bvCmp fun _ x y => BitVec.ult x y)
  | .ule => .bin (bvCmp fun _ x y => BitVec.ule x y)
  | .ugt => .bin (bvCmp fun _ x y => BitVec.ult y x)
  | .uge => .bin (bvCmp fun _ x y => BitVec.ule y x)
  | .slt => .bin (bvCmp fun _ x y => BitVec.slt x y)
  | .sle => .bin (bvCmp fun _ x y => BitVec.sle x y)
  | .sgt => .bin (bvCmp fun _ x y => BitVec.slt y x)
  | .sge => .bin (bvCmp fun _ x y => BitVec.sle y x)
  | .concat => .fold1 valConcat
  | .extract hi lo => .un (extrV hi lo)
  | .zeroExt n => .un fun v => applyOp (.zeroExt n) [v]
  | .signExt n => .un fun v => applyOp (.signExt n) [v]
  | .reverse => .un valReverse
  | .ite => .ter valIte
  | .and => .foldFrom (boolBin (· && ·)) (.bool true)
  | .or => .foldFrom (boolBin (· || ·)) (.bool false)
  | .not => .un valNot

theorem applyOp_eq (op : Op) (vs : List Val) : applyOp op vs = op.sem.apply .err vs := by
  rcases vs with _ | ⟨a, _ | ⟨b, _ | ⟨c, _ | ⟨d, l⟩⟩⟩⟩
  all_goals cases op
  all_goals try rfl
  -- left: `Extract`, `ZeroExt`, `SignExt` of several operands, whose pattern looks into the first
  all_goals cases a <;> rfl

theorem eval_ite (env : Env) (c a b : Expr) :
    eval env (.app .ite [c, a, b]) = valIte (eval env c) (eval env a) (eval env b) := rfl
theorem eval_not (env : Env) (c : Expr) : eval env (.app .not [c]) = valNot (eval env c) := rfl
theorem eval_eq (env : Env) (a b : Expr) : eval env (.app .eq [a, b]) = valEq (eval env a) (eval env b) := rfl
theorem eval_ne (env : Env) (a b : Expr) : eval env (.app .ne [a, b]) = valNot (valEq (eval env a) (eval env b)) := rfl

theorem applyOp_concat (a : Val) (l : List Val) : applyOp .concat (a :: l) = foldVals valConcat (a :: l) := rfl
theorem applyOp_extract (hi lo w n : Nat) : applyOp (.extract hi lo) [.bv w n] = extrV hi lo (.bv w n) := rfl
theorem applyOp_zeroExt (k w n : Nat) : applyOp (.zeroExt k) [.bv w n] =
    if 0 < w then .bv (w + k) (BitVec.zeroExtend (w + k) (BitVec.ofNat w n)).toNat else .err := rfl
theorem applyOp_signExt (k w n : Nat) : applyOp (.signExt k) [.bv w n] =
    if 0 < w then .bv (w + k) (BitVec.signExtend (w + k) (BitVec.ofNat w n)).toNat else .err := rfl
theorem applyOp_bnot (a : Val) : applyOp .bnot [a] = bvUn (fun _ x => ~~~x) a := rfl
theorem applyOp_reverse (a : Val) : applyOp .reverse [a] = valReverse a := rfl
theorem applyOp_shl (a b : Val) : applyOp .shl [a, b] = bvBin (fun _ x y => bvShl x y) a b := rfl
theorem applyOp_lshr (a b : Val) : applyOp .lshr [a, b] = bvBin (fun _ x y => x >>> y) a b := rfl
theorem applyOp_ashr (a b : Val) : applyOp .ashr [a, b] = bvBin (fun _ x y => BitVec.sshiftRight' x y) a b := rfl

def Sem.KeepsWF : Sem Val → Prop
  | .un f => ∀ a, a.WF → (f a).WF
  | .bin f | .fold2 f | .fold1 f => ∀ a b, a.WF → (f a b).WF
  | .ter f => ∀ a b c, b.WF → c.WF → (f a b c).WF
  | .foldFrom f u => u.WF ∧ ∀ a b, a.WF → (f a b).WF

theorem Sem.apply_wf {s : Sem Val} (hs : s.KeepsWF) {vs : List Val} (hvs : ∀ v ∈ vs, v.WF) : (s.apply .err vs).WF := by
  unfold Sem.apply
  split
  · exact hs _ (hvs _ (by simp))
  · exact hs _ _ (hvs _ (by simp))
  · exact hs _ _ _ (hvs _ (by simp)) (hvs _ (by simp))
  · exact foldl_wf _ hs _ _ (hvs _ (by simp))
  · exact foldl_wf _ hs _ _ (hvs _ (by simp))
  · exact foldl_wf _ hs.2 _ _ hs.1
  · trivial

theorem extrV_wf (hi lo : Nat) (a : Val) : (extrV hi lo a).WF := by
  cases a
  case bv w n =>
    rw [extrV_bv]
    split
    · exact ⟨BitVec.isLt _, by omega⟩
    · trivial
  all_goals trivial

theorem Op.sem_wf (op : Op) : op.sem.KeepsWF := by
  cases op
  case add | mul | band | bor | bxor | sub | udiv | umod | sdiv | smod | shl | lshr | ashr | rotl | rotr =>
    exact fun a b _ => bvBin_wf _ a b
  case bnot | neg => exact fun a _ => bvUn_wf _ a
  case ult | ule | ugt | uge | slt | sle | sgt | sge => exact fun a b _ => bvCmp_wf _ a b
  case eq => exact fun a b _ => valEq_wf a b
  case ne => exact fun a b _ => valNot_wf _
  case concat => exact valConcat_wf
  case extract hi lo => exact fun a _ => extrV_wf hi lo a
  case zeroExt n | signExt n =>
    intro a ha
    cases a
    case bv w x =>
      show Val.WF (if 0 < w then _ else _)
      split
      · exact ⟨BitVec.isLt _, by omega⟩
      · trivial
    all_goals trivial
  case reverse => exact fun a _ => valReverse_wf a
  case ite => exact fun c a b => valIte_wf c a b
  case and | or => exact ⟨trivial, fun a b _ => boolBin_wf _ a b⟩
  case not => exact fun a _ => valNot_wf a

theorem applyOp_wf (op : Op) (vs : List Val) (hvs : ∀ v ∈ vs, v.WF) : (applyOp op vs).WF := by
  rw [applyOp_eq]
  exact Sem.apply_wf op.sem_wf hvs

mutual
theorem eval_wf (env : Env) : ∀ e : Expr, (eval env e).WF
  | .bvv v w => by
    simp only [eval]; split
    · rename_i h; exact ⟨Nat.mod_lt _ (Nat.two_pow_pos w), h⟩
    · trivial
  | .bvs name w => by
    simp only [eval]; split
    · rename_i h; exact ⟨Nat.mod_lt _ (Nat.two_pow_pos w), h⟩
    · trivial
  | .boolv _ => by simp [eval, Val.WF]
  | .bools _ => by simp [eval, Val.WF]
  | .app op args => by
    simp only [eval]
    exact applyOp_wf op _ (evalList_wf env args)
theorem evalList_wf (env : Env) : ∀ es : List Expr, ∀ v ∈ evalList env es, v.WF
  | [] => by simp [evalList]
  | e :: es => by
    intro v hv
    simp only [evalList, List.mem_cons] at hv
    rcases hv with rfl | hv
    · exact eval_wf env e
    · exact evalList_wf env es v hv
end

theorem eval_bv_cases (env : Env) (e : Expr) {w n : Nat} (h : eval env e = .bv w n) :
    ∃ x : BitVec w, eval env e = Val.ofBV x ∧ 0 < w := by
  have hw := eval_wf env e
  rw [h] at hw ⊢
  exact hw.exists_bv

theorem eval_bvv (env : Env) (v w : Nat) (hw : 0 < w) : eval env (.bvv v w) = Val.ofBV (BitVec.ofNat w v) := by
  simp [eval, hw, Val.ofBV]

end Claripy.AST

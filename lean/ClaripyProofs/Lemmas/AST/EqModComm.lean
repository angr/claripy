import Claripy.AST.MinMax
import ClaripyProofs.Lemmas.AST.RulesBase
/-! `eqModComm` (Claripy/AST/MinMax.lean) only identifies expressions that denote the same value. -/
namespace Claripy.AST

theorem bvBin_comm (f : (w : Nat) → BitVec w → BitVec w → BitVec w) (hf : ∀ w (a b : BitVec w), f w a b = f w b a) (x y : Val) :
    bvBin f x y = bvBin f y x := by
  cases x <;> cases y <;> simp only [bvBin]
  rename_i w a w' b
  by_cases h : w = w' ∧ 0 < w
  · obtain ⟨rfl, hw⟩ := h
    simp [hw, hf]
  · have h' : ¬ (w' = w ∧ 0 < w') := fun hc => h ⟨hc.1.symm, hc.1 ▸ hc.2⟩
    simp [h, h']

theorem applyOp_comm2 (op : Op) (h : isCommBin op = true) (x y : Val) : applyOp op [x, y] = applyOp op [y, x] := by
  cases op
  case add => exact bvBin_comm _ (fun _ => BitVec.add_comm) x y
  case mul => exact bvBin_comm _ (fun _ => BitVec.mul_comm) x y
  case band => exact bvBin_comm _ (fun _ => BitVec.and_comm) x y
  case bor => exact bvBin_comm _ (fun _ => BitVec.or_comm) x y
  case bxor => exact bvBin_comm _ (fun _ => BitVec.xor_comm) x y
  all_goals cases h

mutual
theorem eqModComm_sound (env : Env) : ∀ (a b : Expr), eqModComm a b = true → eval env a = eval env b
  | .app op args, b, h => by
    cases b with
    | app op' args' =>
      replace h : (decide (op = op') && (eqModCommList args args' || (isCommBin op && eqModSwap args args'))) = true := h
      simp only [Bool.and_eq_true, decide_eq_true_eq, Bool.or_eq_true] at h
      obtain ⟨rfl, h⟩ := h
      rcases h with h | ⟨hc, h⟩
      · rw [eval_app, eval_app, eqModCommList_sound env args args' h]
      · obtain ⟨x, y, hx⟩ := eqModSwap_sound env args args' h
        rw [eval_app, eval_app, hx.1, hx.2]
        exact applyOp_comm2 op hc _ _
    | _ => cases h
  | .bvv v w, b, h => by
    cases b with
    | bvv v' w' =>
      obtain ⟨h1, h2⟩ := Bool.and_eq_true_iff.mp h
      rw [eq_of_beq (α := Nat) h1, eq_of_beq (α := Nat) h2]
    | _ => cases h
  | .bvs n w, b, h => by
    cases b with
    | bvs n' w' =>
      obtain ⟨h1, h2⟩ := Bool.and_eq_true_iff.mp h
      rw [eq_of_beq (α := String) h1, eq_of_beq (α := Nat) h2]
    | _ => cases h
  | .boolv x, b, h => by
    cases b with
    | boolv x' => rw [eq_of_beq (α := Bool) h]
    | _ => cases h
  | .bools n, b, h => by
    cases b with
    | bools n' => rw [eq_of_beq (α := String) h]
    | _ => cases h
theorem eqModCommList_sound (env : Env) : ∀ (as bs : List Expr), eqModCommList as bs = true → evalList env as = evalList env bs
  | [], [], _ => rfl
  | a :: as, b :: bs, h => by
    obtain ⟨h1, h2⟩ := Bool.and_eq_true_iff.mp h
    rw [evalList_cons, evalList_cons, eqModComm_sound env a b h1, eqModCommList_sound env as bs h2]
  | [], _ :: _, h | _ :: _, [], h => by cases h
theorem eqModSwap_sound (env : Env) : ∀ (as bs : List Expr), eqModSwap as bs = true →
    ∃ x y, evalList env as = [x, y] ∧ evalList env bs = [y, x]
  | [a, b], [a', b'], h => by
    obtain ⟨h1, h2⟩ := Bool.and_eq_true_iff.mp h
    refine ⟨eval env a, eval env b, rfl, ?_⟩
    rw [evalList_cons, evalList_cons, evalList_nil, eqModComm_sound env a b' h1, eqModComm_sound env b a' h2]
  | [], _, h | [_], _, h | _ :: _ :: _ :: _, _, h | [_, _], [], h | [_, _], [_], h | [_, _], _ :: _ :: _ :: _, h => by cases h
end

end Claripy.AST

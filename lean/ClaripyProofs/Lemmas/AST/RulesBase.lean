import Claripy.AST.Rules
import ClaripyProofs.Lemmas.AST.Eval
/-! Infrastructure for the rule-soundness proofs: the statement, error propagation, the value of a node. -/
namespace Claripy.AST

/-- A rewrite schema is sound: for EVERY instantiation of its metavariables (arbitrary sub-expressions,
constants, widths) that meets the side condition, and every assignment, if the written node is
well-typed then the replacement denotes the same value. -/
def Sound (s : Schema) : Prop :=
  ∀ (p : P) (env : Env), s.side p = true → eval env (s.lhs p) ≠ .err → eval env (s.rhs p) = eval env (s.lhs p)

@[simp] theorem bvBin_err_l (f) (b : Val) : bvBin f .err b = .err := rfl
@[simp] theorem bvBin_err_r (f) (a : Val) : bvBin f a .err = .err := by cases a <;> rfl
@[simp] theorem bvBin_bool_l (f) (c : Bool) (b : Val) : bvBin f (.bool c) b = .err := rfl
@[simp] theorem bvBin_bool_r (f) (c : Bool) (a : Val) : bvBin f a (.bool c) = .err := by cases a <;> rfl
@[simp] theorem bvCmp_err_l (f) (b : Val) : bvCmp f .err b = .err := rfl
@[simp] theorem bvCmp_err_r (f) (a : Val) : bvCmp f a .err = .err := by cases a <;> rfl
@[simp] theorem bvCmp_bool_l (f) (c : Bool) (b : Val) : bvCmp f (.bool c) b = .err := rfl
@[simp] theorem bvCmp_bool_r (f) (c : Bool) (a : Val) : bvCmp f a (.bool c) = .err := by cases a <;> rfl
@[simp] theorem valEq_err_l (b : Val) : valEq .err b = .err := rfl
@[simp] theorem valEq_err_r (a : Val) : valEq a .err = .err := by cases a <;> rfl
@[simp] theorem valEq_bool (a b : Bool) : valEq (.bool a) (.bool b) = .bool (a == b) := rfl
@[simp] theorem valEq_bool_bv {w : Nat} (a : Bool) (x : BitVec w) : valEq (.bool a) (Val.ofBV x) = .err := rfl
@[simp] theorem valEq_bv_bool {w : Nat} (a : Bool) (x : BitVec w) : valEq (Val.ofBV x) (.bool a) = .err := rfl
@[simp] theorem valNot_err : valNot .err = .err := rfl
@[simp] theorem valNot_bool (b : Bool) : valNot (.bool b) = .bool (!b) := rfl
@[simp] theorem valNot_bv {w : Nat} (x : BitVec w) : valNot (Val.ofBV x) = .err := rfl
@[simp] theorem bvUn_err (f) : bvUn f .err = .err := rfl
@[simp] theorem bvUn_bool (f) (c : Bool) : bvUn f (.bool c) = .err := rfl
@[simp] theorem boolBin_bool (f) (a b : Bool) : boolBin f (.bool a) (.bool b) = .bool (f a b) := rfl
@[simp] theorem boolBin_err_l (f) (b : Val) : boolBin f .err b = .err := rfl
@[simp] theorem boolBin_err_r (f) (a : Val) : boolBin f a .err = .err := by cases a <;> rfl
@[simp] theorem boolBin_bv_l {w : Nat} (f) (x : BitVec w) (b : Val) : boolBin f (Val.ofBV x) b = .err := rfl
@[simp] theorem boolBin_bv_r {w : Nat} (f) (x : BitVec w) (a : Val) : boolBin f a (Val.ofBV x) = .err := by
  cases a <;> rfl
@[simp] theorem valIte_err_c (a b : Val) : valIte .err a b = .err := rfl
@[simp] theorem valIte_bv_c {w : Nat} (x : BitVec w) (a b : Val) : valIte (Val.ofBV x) a b = .err := rfl
@[simp] theorem valIte_bool (c a b : Bool) : valIte (.bool c) (.bool a) (.bool b) = .bool (if c then a else b) := rfl
@[simp] theorem valIte_err_t (c : Val) (b : Val) : valIte c .err b = .err := by cases c <;> rfl
@[simp] theorem valIte_err_e (c : Val) (a : Val) : valIte c a .err = .err := by cases c <;> cases a <;> rfl
@[simp] theorem valIte_bv {w : Nat} (c : Bool) (x y : BitVec w) :
    valIte (.bool c) (Val.ofBV x) (Val.ofBV y) = Val.ofBV (if c then x else y) := by
  cases c <;> simp [valIte, Val.ofBV]
@[simp] theorem valIte_bool_bv {w : Nat} (c a : Bool) (y : BitVec w) : valIte (.bool c) (.bool a) (Val.ofBV y) = .err := rfl
@[simp] theorem valIte_bv_bool {w : Nat} (c a : Bool) (y : BitVec w) : valIte (.bool c) (Val.ofBV y) (.bool a) = .err := rfl

theorem valIte_not (c a b : Val) : valIte (valNot c) a b = valIte c b a := by
  cases c
  case bool cb =>
    cases a <;> cases b <;> try rfl
    · rename_i w _ w' _
      simp only [valNot, valIte]
      by_cases hw : w = w'
      · subst hw; cases cb <;> rfl
      · rw [if_neg hw, if_neg (Ne.symm hw)]
    · cases cb <;> rfl
  all_goals rfl

theorem bvBin_ofBV_ne (f) {w w' : Nat} (x : BitVec w) (y : BitVec w') (h : w ≠ w') :
    bvBin f (Val.ofBV x) (Val.ofBV y) = .err := by simp [bvBin, Val.ofBV, h]
theorem bvCmp_ofBV_ne (f) {w w' : Nat} (x : BitVec w) (y : BitVec w') (h : w ≠ w') :
    bvCmp f (Val.ofBV x) (Val.ofBV y) = .err := by simp [bvCmp, Val.ofBV, h]
theorem valEq_ofBV_ne {w w' : Nat} (x : BitVec w) (y : BitVec w') (h : w ≠ w') :
    valEq (Val.ofBV x) (Val.ofBV y) = .err := by simp [valEq, Val.ofBV, h]
theorem valIte_ofBV_ne {w w' : Nat} (c : Bool) (x : BitVec w) (y : BitVec w') (h : w ≠ w') :
    valIte (.bool c) (Val.ofBV x) (Val.ofBV y) = .err := by simp [valIte, Val.ofBV, h]

theorem eval_app (env : Env) (op : Op) (args : List Expr) :
    eval env (.app op args) = applyOp op (evalList env args) := by simp [eval]
theorem evalList_cons (env : Env) (e : Expr) (es : List Expr) :
    evalList env (e :: es) = eval env e :: evalList env es := by simp [evalList]
theorem evalList_nil (env : Env) : evalList env [] = [] := by simp [evalList]
theorem eval_boolv (env : Env) (b : Bool) : eval env (.boolv b) = .bool b := by simp [eval]
theorem eval_bvv_err (env : Env) (v w : Nat) (hw : ¬ 0 < w) : eval env (.bvv v w) = .err := by simp [eval, hw]

end Claripy.AST

import Claripy.AST.Fold
import Claripy.AST.Rules
/-!
The shape premise of the folding theorems (C04: folding never crashes; C01: folding computes the denotation): which lists of
constants are well-typed, well-sized operands of an operator, and what `boolAll`/`boolAny` return on Boolean constants.
-/
namespace Claripy.Props.C04
open Claripy.AST Claripy.BV

def allBV (w : Nat) (vs : List CVal) : Prop := ∀ v ∈ vs, ∃ x, v = .bv x w

/-- well-typed, well-sized argument lists per operator (what `operations.op`'s type and length checks admit) -/
def WT : Op → List CVal → Prop
  | .add, vs | .mul, vs | .band, vs | .bor, vs | .bxor, vs => ∃ w, 0 < w ∧ 2 ≤ vs.length ∧ allBV w vs
  | .sub, vs | .udiv, vs | .umod, vs | .sdiv, vs | .smod, vs | .shl, vs | .ashr, vs | .lshr, vs | .rotl, vs | .rotr, vs
  | .ult, vs | .ule, vs | .ugt, vs | .uge, vs | .slt, vs | .sle, vs | .sgt, vs | .sge, vs =>
      ∃ w x y, 0 < w ∧ vs = [.bv x w, .bv y w]
  | .eq, vs | .ne, vs => (∃ w x y, 0 < w ∧ vs = [.bv x w, .bv y w]) ∨ (∃ a b, vs = [.bool a, .bool b])
  | .bnot, vs | .neg, vs | .reverse, vs => ∃ w x, 0 < w ∧ vs = [.bv x w]
  | .extract hi lo, vs => ∃ w x, lo ≤ hi ∧ hi < w ∧ vs = [.bv x w]
  | .zeroExt _, vs | .signExt _, vs => ∃ w x, 0 < w ∧ vs = [.bv x w]
  | .concat, vs => vs ≠ [] ∧ ∀ v ∈ vs, ∃ x w, v = .bv x w
  | .ite, vs => ∃ c t f, vs = [.bool c, t, f] ∧
      ((∃ x y w, t = .bv x w ∧ f = .bv y w) ∨ (∃ a b, t = .bool a ∧ f = .bool b))
  | .and, vs | .or, vs => vs ≠ [] ∧ ∀ v ∈ vs, ∃ b, v = .bool b
  | .not, vs => ∃ b, vs = [.bool b]

def cvTrue : CVal → Bool | .bool b => b | _ => false

theorem boolAll_val (vs : List CVal) (h : ∀ v ∈ vs, ∃ b, v = .bool b) : boolAll vs = .ok (.bool (vs.all cvTrue)) := by
  induction vs with
  | nil => rfl
  | cons v vs ih =>
    obtain ⟨b, rfl⟩ := h v (List.mem_cons_self ..)
    simp [boolAll, ih (fun u hu => h u (List.mem_cons_of_mem _ hu)), bind, Except.bind, pure, Except.pure, cvTrue]

theorem boolAny_val (vs : List CVal) (h : ∀ v ∈ vs, ∃ b, v = .bool b) : boolAny vs = .ok (.bool (vs.any cvTrue)) := by
  induction vs with
  | nil => rfl
  | cons v vs ih =>
    obtain ⟨b, rfl⟩ := h v (List.mem_cons_self ..)
    simp [boolAny, ih (fun u hu => h u (List.mem_cons_of_mem _ hu)), bind, Except.bind, pure, Except.pure, cvTrue]

end Claripy.Props.C04

import ClaripyProofs.Lemmas.AST.Typing
import Mathlib.Algebra.Group.Nat.Defs
import ClaripyProofs.Lemmas.BV.Bridge
/-!
Soundness of the schemas of `Claripy.AST.R.base`, for all widths, constants and sub-expressions (`base_sound`; the other
lists of `R.all` are in RulesWidthSound.lean and RulesAllSound.lean).  The operands of a well-typed node come as `BitVec`s from the
inversions of Typing.lean; there is one lemma per schema SHAPE, taking the `BitVec` identity that makes the schema true.
`sameTy` and the facts about a well-typed `If` (`valIte_inv`) are here too.
-/
namespace Claripy.AST
open Claripy.BV (ofNat_allOnes)

section
variable {env : Env} {a b : Val} {c c' c1 c2 w : Nat} {q : Bool}

theorem bvBin_lit_r {f} (ha : a.WF) (h : bvBin f a (eval env (.bvv c w)) ≠ .err) :
    ∃ X : BitVec w, 0 < w ∧ a = .ofBV X := by
  obtain ⟨w', X, Y, hw, rfl, hY⟩ := bvBin_inv h ha (eval_wf env _)
  obtain rfl := bvv_eq_ofBV hY
  exact ⟨X, hw, rfl⟩
theorem bvBin_lit_l {f} (ha : a.WF) (h : bvBin f (eval env (.bvv c w)) a ≠ .err) :
    ∃ X : BitVec w, 0 < w ∧ a = .ofBV X := by
  obtain ⟨w', Y, X, hw, hY, rfl⟩ := bvBin_inv h (eval_wf env _) ha
  obtain rfl := bvv_eq_ofBV hY
  exact ⟨X, hw, rfl⟩

theorem bvBin_arg_ne_err {f} (h : bvBin f a b ≠ .err) : a ≠ .err := fun e => h (e ▸ bvBin_err_l f b)
theorem valEq_arg_ne_err (h : valEq a b ≠ .err) : a ≠ .err := fun e => h (e ▸ valEq_err_l b)
theorem valNot_arg_ne_err (h : valNot a ≠ .err) : a ≠ .err := fun e => h (e ▸ valNot_err)

theorem bvBin_lit_r_id {f} (hid : ∀ X : BitVec w, f w X (BitVec.ofNat w c) = X) (ha : a.WF)
    (h : bvBin f a (eval env (.bvv c w)) ≠ .err) : a = bvBin f a (eval env (.bvv c w)) := by
  obtain ⟨X, hw, rfl⟩ := bvBin_lit_r ha h
  rw [eval_bvv env c w hw, bvBin_ofBV _ _ _ hw, hid]
theorem bvBin_lit_l_id {f} (hid : ∀ X : BitVec w, f w (BitVec.ofNat w c) X = X) (ha : a.WF)
    (h : bvBin f (eval env (.bvv c w)) a ≠ .err) : a = bvBin f (eval env (.bvv c w)) a := by
  obtain ⟨X, hw, rfl⟩ := bvBin_lit_l ha h
  rw [eval_bvv env c w hw, bvBin_ofBV _ _ _ hw, hid]
theorem bvBin_lit_r_const {f} (hid : ∀ X : BitVec w, f w X (BitVec.ofNat w c) = BitVec.ofNat w c')
    (ha : a.WF) (h : bvBin f a (eval env (.bvv c w)) ≠ .err) :
    eval env (.bvv c' w) = bvBin f a (eval env (.bvv c w)) := by
  obtain ⟨X, hw, rfl⟩ := bvBin_lit_r ha h
  rw [eval_bvv env c w hw, eval_bvv env c' w hw, bvBin_ofBV _ _ _ hw, hid]
theorem bvBin_lit_l_const {f} (hid : ∀ X : BitVec w, f w (BitVec.ofNat w c) X = BitVec.ofNat w c')
    (ha : a.WF) (h : bvBin f (eval env (.bvv c w)) a ≠ .err) :
    eval env (.bvv c' w) = bvBin f (eval env (.bvv c w)) a := by
  obtain ⟨X, hw, rfl⟩ := bvBin_lit_l ha h
  rw [eval_bvv env c w hw, eval_bvv env c' w hw, bvBin_ofBV _ _ _ hw, hid]

theorem shl_zero_sound : Sound R.shl_zero := fun p env _ h =>
  bvBin_lit_r_id (fun X => by simp [bvShl_eq, BitVec.shiftLeft_eq']) (eval_wf env p.x) h
theorem ashr_zero_sound : Sound R.ashr_zero := fun p env _ h =>
  bvBin_lit_r_id (fun X => by simp [BitVec.sshiftRight_eq']) (eval_wf env p.x) h
theorem lshr_zero_sound : Sound R.lshr_zero := fun p env _ h =>
  bvBin_lit_r_id (fun X => by simp [BitVec.ushiftRight_eq']) (eval_wf env p.x) h
theorem sub_zero_sound : Sound R.sub_zero := fun p env _ h => bvBin_lit_r_id (fun X => by simp) (eval_wf env p.x) h
theorem xor_zero_l_sound : Sound R.xor_zero_l := fun p env _ h => bvBin_lit_l_id (fun X => by simp) (eval_wf env p.x) h
theorem xor_zero_r_sound : Sound R.xor_zero_r := fun p env _ h => bvBin_lit_r_id (fun X => by simp) (eval_wf env p.x) h
theorem or_zero_l_sound : Sound R.or_zero_l := fun p env _ h => bvBin_lit_l_id (fun X => by simp) (eval_wf env p.x) h
theorem or_zero_r_sound : Sound R.or_zero_r := fun p env _ h => bvBin_lit_r_id (fun X => by simp) (eval_wf env p.x) h
theorem and_ones_l_sound : Sound R.and_ones_l := fun p env _ h =>
  bvBin_lit_l_id (fun X => by simp [ofNat_allOnes]) (eval_wf env p.x) h
theorem and_ones_r_sound : Sound R.and_ones_r := fun p env _ h =>
  bvBin_lit_r_id (fun X => by simp [ofNat_allOnes]) (eval_wf env p.x) h
theorem and_zero_l_sound : Sound R.and_zero_l := fun p env _ h => bvBin_lit_l_const (fun X => by simp) (eval_wf env p.x) h
theorem and_zero_r_sound : Sound R.and_zero_r := fun p env _ h => bvBin_lit_r_const (fun X => by simp) (eval_wf env p.x) h

theorem bvBin_nested_lit {f1 f2 g1 g2} {c1 c2 w : Nat}
    (hid : ∀ X : BitVec w, g1 w X (g2 w (BitVec.ofNat w c1) (BitVec.ofNat w c2)) = f1 w (f2 w X (BitVec.ofNat w c1)) (BitVec.ofNat w c2))
    (ha : a.WF) (h : bvBin f1 (bvBin f2 a (eval env (.bvv c1 w))) (eval env (.bvv c2 w)) ≠ .err) :
    bvBin g1 a (bvBin g2 (eval env (.bvv c1 w)) (eval env (.bvv c2 w))) =
      bvBin f1 (bvBin f2 a (eval env (.bvv c1 w))) (eval env (.bvv c2 w)) := by
  obtain ⟨X, hw, rfl⟩ := bvBin_lit_r ha (bvBin_arg_ne_err h)
  simp only [eval_bvv env _ w hw, bvBin_ofBV _ _ _ hw, hid]

theorem sub_sub_sound : Sound R.sub_sub := fun p env _ h => bvBin_nested_lit (fun X => by grind) (eval_wf env p.x) h
theorem sub_add_sound : Sound R.sub_add := fun p env _ h => bvBin_nested_lit (fun X => by grind) (eval_wf env p.x) h
theorem add_sub_sound : Sound R.add_sub := fun p env _ h => bvBin_nested_lit (fun X => by grind) (eval_wf env p.x) h

theorem shl_shl_sound : Sound R.shl_shl := by
  intro p env hs h
  simp only [R.shl_shl, decide_eq_true_eq] at hs
  obtain ⟨h1, h2, h3⟩ := hs
  refine bvBin_nested_lit (fun X => ?_) (eval_wf env p.x) h
  simp only [bvShl_eq, BitVec.shiftLeft_eq', BitVec.toNat_add, BitVec.toNat_ofNat, Nat.mod_eq_of_lt h1,
    Nat.mod_eq_of_lt h2, Nat.mod_eq_of_lt h3]
  rw [BitVec.shiftLeft_add]

/-! Each schema on `==` has a twin on `!=`; the twin follows by `congrArg valNot`, since a well-typed `!=` node has a well-typed
`==` node under it. -/

theorem valEq_swap_lit (ha : a.WF) (h : valEq (eval env (.bvv c w)) a ≠ .err) :
    valEq a (eval env (.bvv c w)) = valEq (eval env (.bvv c w)) a := by
  rcases valEq_inv h (eval_wf env _) ha with ⟨w', Y, X, hw, hY, rfl⟩ | ⟨q, _, hq, -⟩
  · rw [hY, valEq_ofBV _ _ hw, valEq_ofBV _ _ hw, Bool.beq_comm]
  · simp only [eval] at hq
    split at hq <;> cases hq

theorem eq_swap_sound : Sound R.eq_swap := fun p env _ h => valEq_swap_lit (eval_wf env p.x) h
theorem ne_swap_sound : Sound R.ne_swap := fun p env _ h =>
  congrArg valNot (valEq_swap_lit (eval_wf env p.x) (valNot_arg_ne_err h))

theorem valEq_bvBin_lit {f} {r : Val} {C : BitVec w}
    (hr : 0 < w → r = .ofBV C) (hid : ∀ X : BitVec w, f w X (BitVec.ofNat w c1) = BitVec.ofNat w c2 ↔ X = C)
    (ha : a.WF) (h : valEq (bvBin f a (eval env (.bvv c1 w))) (eval env (.bvv c2 w)) ≠ .err) :
    valEq a r = valEq (bvBin f a (eval env (.bvv c1 w))) (eval env (.bvv c2 w)) := by
  obtain ⟨X, hw, rfl⟩ := bvBin_lit_r ha (valEq_arg_ne_err h)
  simp only [hr hw, eval_bvv env _ w hw, bvBin_ofBV _ _ _ hw, valEq_ofBV _ _ hw]
  exact congrArg Val.bool (Bool.eq_iff_iff.mpr (by simp only [beq_iff_eq]; exact (hid X).symm))

theorem xor_one_eq_zero (x : BitVec w) : (x ^^^ 1#w = 0#w) ↔ x = 1#w := by
  constructor
  · intro h
    have := congrArg (· ^^^ 1#w) h
    simpa [BitVec.xor_assoc] using this
  · intro h; subst h; simp

theorem eq_sub_sound : Sound R.eq_sub := fun p env _ h =>
  valEq_bvBin_lit (C := BitVec.ofNat p.w p.c1 + BitVec.ofNat p.w p.c2)
    (fun hw => show bvBin _ (eval env (.bvv p.c1 p.w)) (eval env (.bvv p.c2 p.w)) = _ by
      rw [eval_bvv env _ _ hw, eval_bvv env _ _ hw, bvBin_ofBV _ _ _ hw])
    (fun X => ⟨fun e => by rw [← e]; grind, fun e => by rw [e]; grind⟩) (eval_wf env p.x) h
theorem eq_xor1_r_sound : Sound R.eq_xor1_r := fun p env _ h =>
  valEq_bvBin_lit (fun hw => eval_bvv env 1 _ hw) xor_one_eq_zero (eval_wf env p.x) h
/-- the mirrored schema, by commutativity of `^` -/
theorem eq_xor1_l_sound : Sound R.eq_xor1_l := by
  intro p env _ h
  obtain ⟨X, hw, hx⟩ := bvBin_lit_l (eval_wf env p.x) (valEq_arg_ne_err h)
  have e : eval env (R.eq_xor1_l.lhs p) = eval env (R.eq_xor1_r.lhs p) := by
    show valEq (bvBin (fun _ x y => x ^^^ y) _ (eval env p.x)) _ = valEq (bvBin (fun _ x y => x ^^^ y) (eval env p.x) _) _
    rw [hx, eval_bvv env 1 _ hw, bvBin_ofBV _ _ _ hw, bvBin_ofBV _ _ _ hw, BitVec.xor_comm]
  exact (eq_xor1_r_sound p env rfl (e ▸ h)).trans e.symm
theorem ne_xor1_r_sound : Sound R.ne_xor1_r := fun p env _ h =>
  congrArg valNot (eq_xor1_r_sound p env rfl (valNot_arg_ne_err h))
theorem ne_xor1_l_sound : Sound R.ne_xor1_l := fun p env _ h =>
  congrArg valNot (eq_xor1_l_sound p env rfl (valNot_arg_ne_err h))

theorem bvBin_self_id {f} (hid : ∀ w (X : BitVec w), f w X X = X) (ha : a.WF) (h : bvBin f a a ≠ .err) :
    a = bvBin f a a := by
  obtain ⟨w, X, _, hw, rfl, -⟩ := bvBin_inv h ha ha
  rw [bvBin_ofBV _ _ _ hw, hid]
theorem valEq_self (ha : a.WF) (h : valEq a a ≠ .err) : .bool true = valEq a a := by
  rcases valEq_inv h ha ha with ⟨w, X, _, hw, rfl, -⟩ | ⟨p, _, rfl, -⟩
  · rw [valEq_ofBV _ _ hw, beq_self_eq_true]
  · rw [valEq_bool, beq_self_eq_true]

theorem or_self_sound : Sound R.or_self := fun p env _ h => bvBin_self_id (fun _ X => by simp) (eval_wf env p.x) h
theorem and_self_sound : Sound R.and_self := fun p env _ h => bvBin_self_id (fun _ X => by simp) (eval_wf env p.x) h
theorem eq_self_sound : Sound R.eq_self := fun p env _ h => valEq_self (eval_wf env p.x) h
theorem ne_self_sound : Sound R.ne_self := fun p env _ h =>
  congrArg valNot (valEq_self (eval_wf env p.x) (valNot_arg_ne_err h))

theorem ext_zero {op : Op} (hop : op = .zeroExt 0 ∨ op = .signExt 0) (ha : a.WF) (h : applyOp op [a] ≠ .err) :
    a = applyOp op [a] := by
  rcases hop with rfl | rfl
  · obtain ⟨w, X, hw, rfl⟩ := un1_inv (zeroExt_ty a 0) ha h
    simp [applyOp, Val.ofBV, hw, BitVec.zeroExtend]
  · obtain ⟨w, X, hw, rfl⟩ := un1_inv (signExt_ty a 0) ha h
    simp [applyOp, Val.ofBV, hw]

theorem zext_zero_sound : Sound R.zext_zero := fun p env _ h => ext_zero (.inl rfl) (eval_wf env p.x) h
theorem sext_zero_sound : Sound R.sext_zero := fun p env _ h => ext_zero (.inr rfl) (eval_wf env p.x) h

theorem valEq_bool_r (h : valEq a (.bool q) ≠ .err) : (if q then a else valNot a) = valEq a (.bool q) := by
  cases a
  case bool p => cases p <;> cases q <;> rfl
  all_goals exact absurd rfl h
theorem valEq_bool_l (h : valEq (.bool q) a ≠ .err) : (if q then a else valNot a) = valEq (.bool q) a := by
  cases a
  case bool p => cases p <;> cases q <;> rfl
  all_goals exact absurd rfl h

theorem eq_true_r_sound : Sound R.eq_true_r := fun _ _ _ h => valEq_bool_r h
theorem eq_true_l_sound : Sound R.eq_true_l := fun _ _ _ h => valEq_bool_l h
theorem eq_false_r_sound : Sound R.eq_false_r := fun _ _ _ h => valEq_bool_r h
theorem eq_false_l_sound : Sound R.eq_false_l := fun _ _ _ h => valEq_bool_l h
theorem valNot_valNot {v : Val} (h : valNot (valNot v) ≠ .err) : v = valNot (valNot v) := by
  cases v
  case bool b => cases b <;> rfl
  all_goals exact absurd rfl h

theorem not_not_sound : Sound R.not_not := fun _ _ _ h => valNot_valNot h
theorem not_ne_sound : Sound R.not_ne := fun _ _ _ h => valNot_valNot h

theorem not_cmp_rule {f g} (ha : a.WF) (hb : b.WF) (h : valNot (bvCmp f a b) ≠ .err)
    (hfg : ∀ w (X Y : BitVec w), g w X Y = !f w X Y) : bvCmp g a b = valNot (bvCmp f a b) := by
  obtain ⟨w, X, Y, hw, rfl, rfl⟩ := bvCmp_inv (valNot_arg_ne_err h) ha hb
  rw [bvCmp_ofBV _ _ _ hw, bvCmp_ofBV _ _ _ hw, valNot_bool, hfg]

theorem int_le_not_lt (a b : Int) : decide (b ≤ a) = !decide (a < b) := by
  by_cases h : a < b <;> simp [h] <;> omega
theorem int_lt_not_le (a b : Int) : decide (b < a) = !decide (a ≤ b) := by
  by_cases h : a ≤ b <;> simp [h] <;> omega
theorem nat_le_not_lt (a b : Nat) : decide (b ≤ a) = !decide (a < b) := by
  by_cases h : a < b <;> simp [h] <;> omega
theorem nat_lt_not_le (a b : Nat) : decide (b < a) = !decide (a ≤ b) := by
  by_cases h : a ≤ b <;> simp [h] <;> omega

theorem not_eq_sound : Sound R.not_eq := fun _ _ _ _ => rfl
theorem not_slt_sound : Sound R.not_slt := fun p env _ h =>
  not_cmp_rule (f := fun _ x y => BitVec.slt x y) (g := fun _ x y => BitVec.sle y x) (eval_wf env p.x) (eval_wf env p.y) h
    fun _ _ _ => int_le_not_lt _ _
theorem not_sle_sound : Sound R.not_sle := fun p env _ h =>
  not_cmp_rule (f := fun _ x y => BitVec.sle x y) (g := fun _ x y => BitVec.slt y x) (eval_wf env p.x) (eval_wf env p.y) h
    fun _ _ _ => int_lt_not_le _ _
theorem not_sgt_sound : Sound R.not_sgt := fun p env _ h =>
  not_cmp_rule (f := fun _ x y => BitVec.slt y x) (eval_wf env p.x) (eval_wf env p.y) h fun _ _ _ => int_le_not_lt _ _
theorem not_sge_sound : Sound R.not_sge := fun p env _ h =>
  not_cmp_rule (f := fun _ x y => BitVec.sle y x) (eval_wf env p.x) (eval_wf env p.y) h fun _ _ _ => int_lt_not_le _ _
theorem not_ult_sound : Sound R.not_ult := fun p env _ h =>
  not_cmp_rule (f := fun _ x y => BitVec.ult x y) (g := fun _ x y => BitVec.ule y x) (eval_wf env p.x) (eval_wf env p.y) h
    fun _ _ _ => nat_le_not_lt _ _
theorem not_ule_sound : Sound R.not_ule := fun p env _ h =>
  not_cmp_rule (f := fun _ x y => BitVec.ule x y) (g := fun _ x y => BitVec.ult y x) (eval_wf env p.x) (eval_wf env p.y) h
    fun _ _ _ => nat_lt_not_le _ _
theorem not_ugt_sound : Sound R.not_ugt := fun p env _ h =>
  not_cmp_rule (f := fun _ x y => BitVec.ult y x) (eval_wf env p.x) (eval_wf env p.y) h fun _ _ _ => nat_le_not_lt _ _
theorem not_uge_sound : Sound R.not_uge := fun p env _ h =>
  not_cmp_rule (f := fun _ x y => BitVec.ule y x) (eval_wf env p.x) (eval_wf env p.y) h fun _ _ _ => nat_lt_not_le _ _

theorem and_uge_ne_sound : Sound R.and_uge_ne := by
  intro p env _ h
  show bvCmp (fun _ x y => BitVec.ult y x) (eval env p.x) (eval env p.y) =
    boolBin _ (boolBin _ (.bool true) (bvCmp (fun _ x y => BitVec.ule y x) (eval env p.x) (eval env p.y)))
      (valNot (valEq (eval env p.x) (eval env p.y)))
  have hc : bvCmp (fun _ x y => BitVec.ule y x) (eval env p.x) (eval env p.y) ≠ .err := fun e =>
    h (show boolBin _ (boolBin _ (.bool true) (bvCmp (fun _ x y => BitVec.ule y x) (eval env p.x) (eval env p.y))) _ = .err by
      rw [e]; rfl)
  obtain ⟨w, X, Y, hw, hx, hy⟩ := bvCmp_inv hc (eval_wf env p.x) (eval_wf env p.y)
  rw [hx, hy, bvCmp_ofBV _ _ _ hw, bvCmp_ofBV _ _ _ hw, valEq_ofBV _ _ hw, valNot_bool, boolBin_bool, boolBin_bool]
  congr 1
  simp only [BitVec.ult, BitVec.ule]
  rw [Bool.eq_iff_iff]
  simp only [Bool.and_eq_true, decide_eq_true_eq, Bool.not_eq_true', beq_eq_false_iff_ne, ne_eq, Bool.true_and]
  constructor
  · intro h
    refine ⟨by omega, ?_⟩
    intro he; subst he; omega
  · intro ⟨h1, h2⟩
    have : X.toNat ≠ Y.toNat := fun h => h2 (BitVec.eq_of_toNat_eq h)
    omega

end

def sameTy : Val → Val → Prop
  | .bv w _, .bv w' _ => w = w'
  | .bool _, .bool _ => True
  | _, _ => False

theorem sameTy_symm {a b : Val} (h : sameTy a b) : sameTy b a := by
  cases a <;> cases b <;> simp_all [sameTy]
theorem sameTy_trans {a b c : Val} (h : sameTy a b) (h' : sameTy b c) : sameTy a c := by
  cases a <;> cases b <;> cases c <;> simp_all [sameTy]

theorem sameTy_iff_ty {a b : Val} : sameTy a b ↔ a.ty = b.ty ∧ a ≠ .err := by
  cases a <;> cases b <;> simp [sameTy, Val.ty]

theorem valIte_eq_of_ty (cb : Bool) {a b : Val} (h : a.ty = b.ty) (ha : a ≠ .err) : valIte (.bool cb) a b = if cb then a else b := by
  cases a <;> cases b <;> cases h
  · cases cb <;> simp [valIte]
  · cases cb <;> rfl
  · exact absurd rfl ha

theorem valIte_inv {c a b : Val} (h : valIte c a b ≠ .err) :
    ∃ cb, c = .bool cb ∧ a.ty = b.ty ∧ a ≠ .err ∧ valIte c a b = if cb then a else b := by
  obtain ⟨hc, hab, -⟩ := Ty.ite_eq (valIte_ty_eq a b c ▸ mt Val.ty_eq_err.mp h)
  cases c <;> cases hc
  have ha : a ≠ .err := fun e => h (by rw [e, valIte_err_t])
  exact ⟨_, rfl, hab, ha, valIte_eq_of_ty _ hab ha⟩

theorem valIte_spec (c : Bool) (a b : Val) (h : valIte (.bool c) a b ≠ .err) :
    valIte (.bool c) a b = (if c then a else b) ∧ sameTy a b := by
  obtain ⟨_, hc, hab, ha, e⟩ := valIte_inv h
  cases hc
  exact ⟨e, sameTy_iff_ty.mpr ⟨hab, ha⟩⟩

theorem valIte_of_sameTy (c : Bool) (a b : Val) (h : sameTy a b) : valIte (.bool c) a b = (if c then a else b) :=
  valIte_eq_of_ty c (sameTy_iff_ty.mp h).1 (sameTy_iff_ty.mp h).2

theorem valIte_cond_bool (c a b : Val) (h : valIte c a b ≠ .err) : ∃ cb, c = .bool cb :=
  (valIte_inv h).imp fun _ h => h.1

theorem valIte_true' (a b : Val) (h : valIte (.bool true) a b ≠ .err) : a = valIte (.bool true) a b := by
  obtain ⟨_, hc, -, -, e⟩ := valIte_inv h
  cases hc
  exact e.symm
theorem valIte_false' (a b : Val) (h : valIte (.bool false) a b ≠ .err) : b = valIte (.bool false) a b := by
  obtain ⟨_, hc, -, -, e⟩ := valIte_inv h
  cases hc
  exact e.symm
theorem valIte_same' (c a : Val) (h : valIte c a a ≠ .err) : a = valIte c a a := by
  obtain ⟨cb, rfl, -, -, e⟩ := valIte_inv h
  rw [e]
  cases cb <;> rfl
theorem valIte_tf' (c : Val) (h : valIte c (.bool true) (.bool false) ≠ .err) : c = valIte c (.bool true) (.bool false) := by
  obtain ⟨cb, rfl, -⟩ := valIte_inv h
  cases cb <;> rfl
theorem valIte_ft' (c : Val) (h : valIte c (.bool false) (.bool true) ≠ .err) : valNot c = valIte c (.bool false) (.bool true) := by
  obtain ⟨cb, rfl, -⟩ := valIte_inv h
  cases cb <;> rfl

theorem valIte_then_same' (c x y z : Val) (h : valIte c (valIte c x y) z ≠ .err) :
    valIte c x z = valIte c (valIte c x y) z := by
  obtain ⟨cb, rfl, hty, hi, e⟩ := valIte_inv h
  obtain ⟨_, hc, hxy, hx, ei⟩ := valIte_inv hi
  cases hc
  rw [e, ei, valIte_eq_of_ty cb (by rw [ei] at hty; cases cb <;> simp_all) hx]
  cases cb <;> rfl

theorem valIte_then_neg' (c x y z : Val) (h : valIte c (valIte (valNot c) x y) z ≠ .err) :
    valIte c y z = valIte c (valIte (valNot c) x y) z := by
  rw [valIte_not] at h ⊢
  exact valIte_then_same' c y x z h

theorem valIte_else_same' (c x y z : Val) (h : valIte c z (valIte c x y) ≠ .err) :
    valIte c z y = valIte c z (valIte c x y) := by
  rw [← valIte_not c (valIte c x y) z, ← valIte_not c y x] at h
  rw [← valIte_not c (valIte c x y) z, ← valIte_not c y x, ← valIte_not c y z]
  exact valIte_then_same' (valNot c) y x z h

theorem valIte_else_neg' (c x y z : Val) (h : valIte c z (valIte (valNot c) x y) ≠ .err) :
    valIte c z x = valIte c z (valIte (valNot c) x y) := by
  rw [← valIte_not c _ z] at h
  rw [← valIte_not c (valIte _ x y) z, ← valIte_not c x z]
  exact valIte_then_same' (valNot c) x y z h

/- the nine `If` schemas have one proof: both sides unfold to `valIte` terms over the values of the pattern variables, and
the value-level identity `lem` (above), applied to the hypothesis that the left side is well typed, is the goal -/
set_option hygiene false in
macro "rule_ite " defs:term " => " lem:term : tactic => `(tactic| (
  intro p env hs hwt
  simp only [$defs:term, tt, ff, eval_app, evalList_cons, evalList_nil, applyOp, eval_boolv] at hwt ⊢
  exact $lem hwt))

theorem ite_true_sound : Sound R.ite_true := by rule_ite R.ite_true => valIte_true' _ _
theorem ite_false_sound : Sound R.ite_false := by rule_ite R.ite_false => valIte_false' _ _
theorem ite_same_sound : Sound R.ite_same := by rule_ite R.ite_same => valIte_same' _ _
theorem ite_tf_sound : Sound R.ite_tf := by rule_ite R.ite_tf => valIte_tf' _
theorem ite_ft_sound : Sound R.ite_ft := by rule_ite R.ite_ft => valIte_ft' _
theorem ite_then_same_sound : Sound R.ite_then_same := by rule_ite R.ite_then_same => valIte_then_same' _ _ _ _
theorem ite_then_neg_sound : Sound R.ite_then_neg := by rule_ite R.ite_then_neg => valIte_then_neg' _ _ _ _
theorem ite_else_same_sound : Sound R.ite_else_same := by rule_ite R.ite_else_same => valIte_else_same' _ _ _ _
theorem ite_else_neg_sound : Sound R.ite_else_neg := by rule_ite R.ite_else_neg => valIte_else_neg' _ _ _ _

theorem invert_if_sound : Sound R.invert_if := by
  intro p env _ h
  have hi : valIte (eval env p.c) (eval env (.bvv 1 1)) (eval env (.bvv 0 1)) ≠ .err := fun e =>
    h (show bvUn _ (valIte (eval env p.c) (eval env (.bvv 1 1)) (eval env (.bvv 0 1))) = .err by rw [e]; rfl)
  obtain ⟨b, hb⟩ := valIte_cond_bool _ _ _ hi
  show valIte (valNot (eval env p.c)) _ _ = bvUn _ (valIte (eval env p.c) _ _)
  rw [hb]
  cases b <;> rfl

theorem and_if_sound : Sound R.and_if := by
  intro p env _ h
  have h1 : valIte (eval env p.c) (eval env (.bvv 1 p.w)) (eval env (.bvv 0 p.w)) ≠ .err := bvBin_arg_ne_err h
  have h2 : valIte (eval env p.z) (eval env (.bvv 1 p.w)) (eval env (.bvv 0 p.w)) ≠ .err := fun e =>
    h (show bvBin _ _ (valIte (eval env p.z) (eval env (.bvv 1 p.w)) (eval env (.bvv 0 p.w))) = .err by rw [e, bvBin_err_r])
  obtain ⟨b, hb⟩ := valIte_cond_bool _ _ _ h1
  obtain ⟨b', hb'⟩ := valIte_cond_bool _ _ _ h2
  have hw : 0 < p.w := by
    apply Nat.pos_of_ne_zero
    intro hw
    rw [eval_bvv_err env 1 p.w (by omega)] at h1
    exact h1 (valIte_err_t _ _)
  show valIte (boolBin _ (boolBin _ (.bool true) (eval env p.c)) (eval env p.z)) _ _ =
    bvBin _ (valIte (eval env p.c) _ _) (valIte (eval env p.z) _ _)
  rw [hb, hb', eval_bvv env 1 p.w hw, eval_bvv env 0 p.w hw, boolBin_bool, boolBin_bool, valIte_bv, valIte_bv, valIte_bv,
    bvBin_ofBV _ _ _ hw]
  cases b <;> cases b' <;> simp

theorem base_sound : ∀ s ∈ R.base, Sound s := by
  simp only [R.base, List.forall_mem_cons, List.not_mem_nil, false_imp_iff, implies_true, and_true]
  exact ⟨shl_zero_sound, ashr_zero_sound, lshr_zero_sound, shl_shl_sound, sub_zero_sound, sub_sub_sound,
    sub_add_sound, add_sub_sound, xor_zero_l_sound, xor_zero_r_sound, or_zero_l_sound, or_zero_r_sound,
    or_self_sound, and_ones_l_sound, and_ones_r_sound, and_self_sound, and_zero_l_sound, and_zero_r_sound,
    eq_self_sound, ne_self_sound, eq_true_r_sound, eq_true_l_sound, eq_false_r_sound, eq_false_l_sound,
    eq_swap_sound, ne_swap_sound, eq_sub_sound, eq_xor1_r_sound, eq_xor1_l_sound, ne_xor1_r_sound,
    ne_xor1_l_sound, not_not_sound, not_eq_sound, not_ne_sound, not_slt_sound, not_sle_sound,
    not_sgt_sound, not_sge_sound, not_ult_sound, not_ule_sound, not_ugt_sound, not_uge_sound,
    ite_true_sound, ite_false_sound, ite_same_sound, ite_tf_sound, ite_ft_sound, ite_then_same_sound,
    ite_then_neg_sound, ite_else_same_sound, ite_else_neg_sound, invert_if_sound, zext_zero_sound, sext_zero_sound,
    and_if_sound, and_uge_ne_sound⟩

end Claripy.AST

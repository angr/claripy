import ClaripyProofs.Lemmas.AST.RulesSound
import ClaripyProofs.Lemmas.BV.Reverse
/-! Soundness of the schemas of `R.widthy` (their side conditions use the width `Expr.width` reports, which
`eval_of_width` ties to evaluation), `R.iteCmp`, `R.revRules` and `R.ugeZext`. -/
namespace Claripy.AST

theorem self_rule_aux (env : Env) (x : Expr) (w : Nat) (hw : x.width = some w)
    (g : (w : Nat) → BitVec w → BitVec w → BitVec w) (hg : ∀ w (a : BitVec w), g w a a = 0#w)
    (hwt : bvBin g (eval env x) (eval env x) ≠ .err) :
    eval env (bv0 w) = bvBin g (eval env x) (eval env x) := by
  obtain ⟨X, hwx, hx⟩ := eval_of_width env hw (bvBin_arg_ne_err hwt)
  rw [hx, bvBin_ofBV _ _ _ hwx, hg, eval_bvv env 0 w hwx]

theorem sub_self_sound : Sound R.sub_self := fun p env hs hwt =>
  self_rule_aux env p.x p.w (eq_of_beq hs) (fun _ x y => x - y) (fun w a => by simp) hwt
theorem xor_self_sound : Sound R.xor_self := fun p env hs hwt =>
  self_rule_aux env p.x p.w (eq_of_beq hs) (fun _ x y => x ^^^ y) (fun w a => by simp) hwt

theorem add_snoc (a : Val) (l : List Val) (c : Val) :
    applyOp .add (a :: (l ++ [c])) = bvBin (fun _ x y => x + y) (l.foldl (bvBin fun _ x y => x + y) a) c := by
  cases l with
  | nil => rfl
  | cons b l =>
    show (l ++ [c]).foldl _ _ = _
    rw [List.foldl_append]
    rfl

/-- with the sum `S` of the symbolic operands as the one operand, this is `(S + c1) - c2 ⇒ S + (c1 - c2)` -/
theorem sub_addN_sound : Sound R.sub_addN := by
  intro p env hs h
  obtain ⟨x0, rest, hxs⟩ : ∃ x0 rest, p.xs = x0 :: rest := by
    cases hp : p.xs with
    | nil => simp [R.sub_addN, hp] at hs
    | cons a l => exact ⟨a, l, rfl⟩
  have key : ∀ e, eval env (.app .add (p.xs ++ [e])) = bvBin (fun _ x y => x + y)
      ((rest.map (eval env)).foldl (bvBin fun _ x y => x + y) (eval env x0)) (eval env e) := by
    intro e
    rw [hxs, eval_app, evalList_eq_map, List.cons_append, List.map_cons, List.map_append]
    exact add_snoc _ _ _
  have hS := foldl_wf _ (fun a b _ => bvBin_wf (fun _ x y => x + y) a b) (rest.map (eval env)) _ (eval_wf env x0)
  show eval env (.app .add (p.xs ++ [.app .sub [.bvv p.c1 p.w, .bvv p.c2 p.w]])) =
    bvBin (fun _ x y => x - y) (eval env (.app .add (p.xs ++ [.bvv p.c1 p.w]))) (eval env (.bvv p.c2 p.w))
  have h' : bvBin (fun _ x y => x - y) (eval env (.app .add (p.xs ++ [.bvv p.c1 p.w]))) (eval env (.bvv p.c2 p.w)) ≠ .err := h
  rw [key] at h' ⊢
  rw [key]
  exact bvBin_nested_lit (fun X => by grind) hS h'

theorem zext_shift_aux {g : (w : Nat) → BitVec w → BitVec w → BitVec w} (env : Env) (y : Expr) (n c w wy : Nat)
    (hy : y.width = some wy) (hw : w = wy + n)
    (hg : ∀ (Y : BitVec wy), g (wy + n) (BitVec.zeroExtend (wy + n) Y) (BitVec.ofNat (wy + n) c) = 0#(wy + n))
    (hwt : bvBin g (applyOp (.zeroExt n) [eval env y]) (eval env (.bvv c w)) ≠ .err) :
    eval env (bv0 w) = bvBin g (applyOp (.zeroExt n) [eval env y]) (eval env (.bvv c w)) := by
  subst hw
  have hy' : eval env y ≠ .err := fun e => hwt (by rw [e]; rfl)
  obtain ⟨X, hwx, hx⟩ := eval_of_width env hy hy'
  have hpos : 0 < wy + n := by omega
  have hz : applyOp (.zeroExt n) [Val.ofBV X] = Val.ofBV (BitVec.zeroExtend (wy + n) X) := by
    simp [applyOp, Val.ofBV, hwx]
  rw [hx, hz, eval_bvv env c _ hpos, bvBin_ofBV _ _ _ hpos, hg, eval_bvv env 0 _ hpos]

/-- the extension of `y` has no bit set from position `wy` on, so a shift by more than `wy` leaves none -/
theorem lshr_zext_sound : Sound R.lshr_zext := by
  intro p env hs hwt
  simp only [R.lshr_zext] at hs
  split at hs
  · rename_i wy hy
    obtain ⟨hw, hc, hc2⟩ := of_decide_eq_true hs
    refine zext_shift_aux (g := fun _ x y => x >>> y) env p.y p.n p.c1 p.w wy hy hw (fun Y => ?_) hwt
    rw [BitVec.ushiftRight_eq', BitVec.toNat_ofNat, Nat.mod_eq_of_lt (hw ▸ hc2)]
    apply BitVec.eq_of_getLsbD_eq
    intro i _
    rw [BitVec.getLsbD_ushiftRight, BitVec.getLsbD_setWidth, BitVec.getLsbD_of_ge Y _ (by omega), Bool.and_false,
      BitVec.getLsbD_zero]
  · cases hs

/-- … and as at least one zero bit was added, the sign bit that the arithmetic shift copies is zero too -/
theorem ashr_zext_sound : Sound R.ashr_zext := by
  intro p env hs hwt
  simp only [R.ashr_zext] at hs
  split at hs
  · rename_i wy hy
    obtain ⟨hw, hc, hc2, hn⟩ := of_decide_eq_true hs
    refine zext_shift_aux (g := fun _ x y => BitVec.sshiftRight' x y) env p.y p.n p.c1 p.w wy hy hw (fun Y => ?_) hwt
    rw [BitVec.sshiftRight_eq', BitVec.toNat_ofNat, Nat.mod_eq_of_lt (hw ▸ hc2)]
    apply BitVec.eq_of_getLsbD_eq
    intro i _
    rw [BitVec.getLsbD_sshiftRight, BitVec.msb_setWidth, BitVec.getLsbD_of_ge Y (wy + p.n - 1) (by omega),
      BitVec.getLsbD_setWidth, BitVec.getLsbD_of_ge Y (p.c1 + i) (by omega)]
    simp
  · cases hs

theorem iteLits_cmp (env : Env) (p : P) (k : Nat) (hwt : valEq (eval env (R.iteLits p)) (eval env (.bvv k p.w)) ≠ .err) :
    ∃ b, eval env p.c = .bool b ∧ valEq (eval env (R.iteLits p)) (eval env (.bvv k p.w)) =
      .bool ((if b then BitVec.ofNat p.w p.c1 else BitVec.ofNat p.w p.c2) == BitVec.ofNat p.w k) := by
  have hi : valIte (eval env p.c) (eval env (.bvv p.c1 p.w)) (eval env (.bvv p.c2 p.w)) ≠ .err := valEq_arg_ne_err hwt
  obtain ⟨b, hb, -⟩ := valIte_inv hi
  have hw : 0 < p.w := Nat.pos_of_ne_zero fun hw => hi (by rw [eval_bvv_err env _ _ (by omega), valIte_err_t])
  refine ⟨b, hb, ?_⟩
  show valEq (valIte (eval env p.c) (eval env (.bvv p.c1 p.w)) (eval env (.bvv p.c2 p.w))) _ = _
  rw [hb, eval_bvv env _ _ hw, eval_bvv env _ _ hw, eval_bvv env _ _ hw, valIte_bv, valEq_ofBV _ _ hw]

theorem lits_ne {p : P} (hs : R.litsDiffer p = true) : BitVec.ofNat p.w p.c1 ≠ BitVec.ofNat p.w p.c2 := fun e =>
  of_decide_eq_true hs (by simpa only [BitVec.toNat_ofNat] using congrArg BitVec.toNat e)

theorem sel_beq_left {α : Type} [BEq α] [LawfulBEq α] {x y : α} (h : x ≠ y) (b : Bool) : ((if b then x else y) == x) = b := by
  cases b <;> simp [Ne.symm h]
theorem sel_beq_right {α : Type} [BEq α] [LawfulBEq α] {x y : α} (h : x ≠ y) (b : Bool) : ((if b then x else y) == y) = !b := by
  cases b <;> simp [h]

theorem eq_ite_then_sound : Sound R.eq_ite_then := by
  intro p env hs hwt
  obtain ⟨b, hc, hv⟩ := iteLits_cmp env p p.c1 hwt
  show eval env p.c = valEq _ _
  rw [hv, hc, sel_beq_left (lits_ne hs)]

theorem eq_ite_else_sound : Sound R.eq_ite_else := by
  intro p env hs hwt
  obtain ⟨b, hc, hv⟩ := iteLits_cmp env p p.c2 hwt
  show valNot (eval env p.c) = valEq _ _
  rw [hv, hc, sel_beq_right (lits_ne hs), valNot_bool]

theorem ne_ite_else_sound : Sound R.ne_ite_else := by
  intro p env hs hwt
  obtain ⟨b, hc, hv⟩ := iteLits_cmp env p p.c2 (valNot_arg_ne_err hwt)
  show eval env p.c = valNot (valEq _ _)
  rw [hv, hc, sel_beq_right (lits_ne hs), valNot_bool, Bool.not_not]

theorem ne_ite_then_sound : Sound R.ne_ite_then := by
  intro p env hs hwt
  obtain ⟨b, hc, hv⟩ := iteLits_cmp env p p.c1 (valNot_arg_ne_err hwt)
  show valNot (eval env p.c) = valNot (valEq _ _)
  rw [hv, hc, sel_beq_left (lits_ne hs)]

theorem bytesRev_bytesRev (k n : Nat) (hn : n < 2 ^ (8 * k)) : bytesRev k (bytesRev k n) = n := by
  apply Nat.eq_of_testBit_eq
  intro i
  rw [Claripy.BV.testBit_bytesRev']
  by_cases hi : i < 8 * k
  · have hj : 8 * (k - 1 - i / 8) + i % 8 < 8 * k := by
      have : i / 8 < k := by omega
      omega
    rw [Claripy.BV.testBit_bytesRev']
    simp only [hi, hj, decide_true, Bool.true_and]
    congr 1
    have : i / 8 < k := by omega
    omega
  · have hle : 2 ^ (8 * k) ≤ 2 ^ i := Nat.pow_le_pow_right (by omega) (by omega)
    simp [hi, Nat.testBit_lt_two_pow (Nat.lt_of_lt_of_le hn hle)]

def bvRev {w : Nat} (X : BitVec w) : BitVec w := BitVec.ofNat w (bytesRev (w / 8) X.toNat)

theorem valReverse_ofBV {w : Nat} (X : BitVec w) (h8 : w % 8 = 0) (hw : 0 < w) : valReverse (.ofBV X) = .ofBV (bvRev X) := by
  simp [valReverse, Val.ofBV, bvRev, h8, hw, Nat.mod_eq_of_lt X.isLt, Nat.mod_eq_of_lt (bytesRev_lt_two_pow h8 _)]

theorem valReverse_inv {a : Val} (ha : a.WF) (h : valReverse a ≠ .err) :
    ∃ (w : Nat) (X : BitVec w), w % 8 = 0 ∧ 0 < w ∧ a = .ofBV X := by
  obtain ⟨w, X, ⟨h8, hw⟩, rfl⟩ := un1_inv (valReverse_ty a) ha h
  exact ⟨w, X, h8, hw, rfl⟩

theorem bvRev_bvRev {w : Nat} (X : BitVec w) (h8 : w % 8 = 0) : bvRev (bvRev X) = X := by
  apply BitVec.eq_of_toNat_eq
  simp only [bvRev, BitVec.toNat_ofNat, Nat.mod_eq_of_lt (bytesRev_lt_two_pow h8 _)]
  exact bytesRev_bytesRev _ _ ((show 8 * (w / 8) = w by omega).symm ▸ X.isLt)

theorem rev_rev_sound : Sound R.rev_rev := by
  intro p env _ h
  replace h : valReverse (valReverse (eval env p.x)) ≠ .err := h
  obtain ⟨w, X, h8, hw, hx⟩ := valReverse_inv (eval_wf env p.x) fun e => h (e ▸ valReverse_err)
  show eval env p.x = valReverse (valReverse (eval env p.x))
  rw [hx, valReverse_ofBV _ h8 hw, valReverse_ofBV _ h8 hw, bvRev_bvRev _ h8]

theorem ofBV_injective {w : Nat} {X Y : BitVec w} (h : Val.ofBV X = Val.ofBV Y) : X = Y :=
  BitVec.eq_of_toNat_eq (Val.bv.inj h).2

theorem valReverse_inj (a b : Val) (ha : a.WF) (hb : b.WF) (hra : valReverse a ≠ .err) (hrb : valReverse b ≠ .err)
    (h : valReverse a = valReverse b) : a = b := by
  obtain ⟨w, X, h8, hw, rfl⟩ := valReverse_inv ha hra
  obtain ⟨w', Y, h8', hw', rfl⟩ := valReverse_inv hb hrb
  rw [valReverse_ofBV _ h8 hw, valReverse_ofBV _ h8' hw'] at h
  obtain rfl := (Val.bv.inj h).1
  rw [← bvRev_bvRev X h8, ofBV_injective h, bvRev_bvRev Y h8]

/-- both sides compare two bit-vectors of one width, on which byte reversal, an involution, is injective -/
theorem eq_rev_sound : Sound R.eq_rev := by
  intro p env _ h
  replace h : valEq (valReverse (eval env p.x)) (valReverse (eval env p.y)) ≠ .err := h
  show valEq (eval env p.x) (eval env p.y) = valEq (valReverse (eval env p.x)) (valReverse (eval env p.y))
  obtain ⟨w, X, h8, hw, hx⟩ := valReverse_inv (eval_wf env p.x) (valEq_arg_ne_err h)
  obtain ⟨w', Y, h8', hw', hy⟩ := valReverse_inv (eval_wf env p.y) fun e => h (by rw [e, valEq_err_r])
  rw [hx, hy, valReverse_ofBV _ h8 hw, valReverse_ofBV _ h8' hw'] at h ⊢
  by_cases hww : w = w'
  · subst hww
    rw [valEq_ofBV _ _ hw, valEq_ofBV _ _ hw]
    congr 1
    rw [Bool.eq_iff_iff, beq_iff_eq, beq_iff_eq]
    exact ⟨congrArg bvRev, fun e => by rw [← bvRev_bvRev X h8, e, bvRev_bvRev Y h8]⟩
  · exact absurd (valEq_ofBV_ne _ _ hww) h

theorem uge_val (w a b : Nat) (hw : 0 < w) :
    bvCmp (fun _ x y => BitVec.ule y x) (.bv w a) (.bv w b) = .bool (decide (b % 2 ^ w ≤ a % 2 ^ w)) := by
  simp [bvCmp, hw, BitVec.ule]

theorem uge_aux (env : Env) (p : P) (wy : Nat) (hy : p.y.width = some wy) (hw : p.w = wy + p.n) (hn : 0 < p.n) (L : Expr)
    (hL : L = R.zextY p ∨ L = R.cat0Y p)
    (hwt : bvCmp (fun _ x y => BitVec.ule y x) (eval env L) (eval env (.bvv p.c1 p.w)) ≠ .err) :
    ∃ Y : BitVec wy, 0 < wy ∧ eval env p.y = Val.ofBV Y ∧
      bvCmp (fun _ x y => BitVec.ule y x) (eval env L) (eval env (.bvv p.c1 p.w)) = .bool (decide (p.c1 % 2 ^ p.w ≤ Y.toNat)) := by
  have hwpos : 0 < p.w := by omega
  have hL' : eval env L ≠ .err := fun e => hwt (by rw [e]; rfl)
  have hy' : eval env p.y ≠ .err := by
    rcases hL with rfl | rfl
    · exact args_ne_err env _ _ hL' _ (by simp)
    · exact args_ne_err env _ _ hL' _ (by simp)
  obtain ⟨X, hwx, hx⟩ := eval_of_width env hy hy'
  refine ⟨X, hwx, hx, ?_⟩
  have hlit : eval env (.bvv p.c1 p.w) = .bv p.w (p.c1 % 2 ^ p.w) := by simp [eval, hwpos]
  have hXlt : X.toNat < 2 ^ wy := X.isLt
  have hpow : 2 ^ wy ≤ 2 ^ p.w := Nat.pow_le_pow_right (by omega) (by omega)
  rcases hL with rfl | rfl
  · have hLv : eval env (R.zextY p) = .bv p.w X.toNat := by
      simp only [R.zextY, eval_app, evalList_cons, evalList_nil, hx, applyOp, Val.ofBV, hwx, if_true, ← hw]
      congr 1
      simp [BitVec.zeroExtend, Nat.mod_eq_of_lt (Nat.lt_of_lt_of_le hXlt (hw ▸ hpow))]
    rw [hLv, hlit, uge_val _ _ _ hwpos, Nat.mod_mod, Nat.mod_eq_of_lt (Nat.lt_of_lt_of_le hXlt hpow)]
  · have hLv : eval env (R.cat0Y p) = .bv p.w X.toNat := by
      simp only [R.cat0Y, eval_app, evalList_cons, evalList_nil, hx, applyOp, foldVals, List.foldl, eval, hn, if_true,
        Val.ofBV, valConcat]
      have e1 : (BitVec.ofNat p.n (0 % 2 ^ p.n) ++ BitVec.ofNat wy X.toNat).toNat = X.toNat := by
        simp [BitVec.toNat_append]
      rw [e1, show p.n + wy = p.w by omega]
    rw [hLv, hlit, uge_val _ _ _ hwpos, Nat.mod_mod, Nat.mod_eq_of_lt (Nat.lt_of_lt_of_le hXlt hpow)]

theorem uge_low_aux (env : Env) (p : P) (L : Expr) (hL : L = R.zextY p ∨ L = R.cat0Y p) (hs : R.ugeLowSide p = true)
    (hwt : eval env (.app .uge [L, .bvv p.c1 p.w]) ≠ .err) :
    eval env (.app .uge [p.y, .bvv (p.c1 % 2 ^ p.w) p.c2]) = eval env (.app .uge [L, .bvv p.c1 p.w]) := by
  simp only [R.ugeLowSide] at hs
  split at hs
  · rename_i wy hy
    simp only [decide_eq_true_eq] at hs
    obtain ⟨hw, hn, hc, hc2⟩ := hs
    simp only [eval_app, evalList_cons, evalList_nil, applyOp] at hwt ⊢
    obtain ⟨Y, hwy, hye, hv⟩ := uge_aux env p wy hy hw hn L hL hwt
    rw [hv, hye, hc2, show eval env (.bvv (p.c1 % 2 ^ p.w) wy) = .bv wy ((p.c1 % 2 ^ p.w) % 2 ^ wy) by simp [eval, hwy]]
    simp only [Val.ofBV]
    rw [uge_val _ _ _ hwy, Nat.mod_mod, Nat.mod_eq_of_lt hc, Nat.mod_eq_of_lt Y.isLt]
  · simp at hs

theorem uge_high_aux (env : Env) (p : P) (L : Expr) (hL : L = R.zextY p ∨ L = R.cat0Y p) (hs : R.ugeHighSide p = true)
    (hwt : eval env (.app .uge [L, .bvv p.c1 p.w]) ≠ .err) :
    eval env (.boolv false) = eval env (.app .uge [L, .bvv p.c1 p.w]) := by
  simp only [R.ugeHighSide] at hs
  split at hs
  · rename_i wy hy
    simp only [decide_eq_true_eq] at hs
    obtain ⟨hw, hn, hc⟩ := hs
    simp only [eval_app, evalList_cons, evalList_nil, applyOp] at hwt ⊢
    obtain ⟨Y, hwy, hye, hv⟩ := uge_aux env p wy hy hw hn L hL hwt
    rw [hv]
    have : ¬ p.c1 % 2 ^ p.w ≤ Y.toNat := by have := Y.isLt; omega
    simp [eval, this]
  · simp at hs

theorem uge_zext_low_sound : Sound R.uge_zext_low := fun p env hs hwt => uge_low_aux env p _ (Or.inl rfl) hs hwt
theorem uge_zext_high_sound : Sound R.uge_zext_high := fun p env hs hwt => uge_high_aux env p _ (Or.inl rfl) hs hwt
theorem uge_cat0_low_sound : Sound R.uge_cat0_low := fun p env hs hwt => uge_low_aux env p _ (Or.inr rfl) hs hwt
theorem uge_cat0_high_sound : Sound R.uge_cat0_high := fun p env hs hwt => uge_high_aux env p _ (Or.inr rfl) hs hwt

theorem pre_sound : ∀ s ∈ R.base ++ R.widthy ++ R.iteCmp ++ R.revRules ++ R.ugeZext, Sound s := by
  simp only [R.widthy, R.iteCmp, R.revRules, R.ugeZext, List.forall_mem_append, List.forall_mem_cons, List.not_mem_nil,
    false_imp_iff, implies_true, and_true]
  exact ⟨⟨⟨⟨base_sound, sub_self_sound, xor_self_sound, lshr_zext_sound, ashr_zext_sound, sub_addN_sound⟩,
    eq_ite_then_sound, eq_ite_else_sound, ne_ite_else_sound, ne_ite_then_sound⟩, rev_rev_sound, eq_rev_sound⟩,
    uge_zext_low_sound, uge_zext_high_sound, uge_cat0_low_sound, uge_cat0_high_sound⟩

end Claripy.AST

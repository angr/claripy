import ClaripyProofs.Lemmas.AST.Typing
import ClaripyProofs.Lemmas.AST.ACProd
/-!
Associative-commutative n-ary nodes (`__add__ __mul__ __and__ __or__ __xor__`): a well-typed node denotes the fold
of its operator over the `BitVec w` values of its arguments, and that fold is invariant under permutation and
re-association.  This is the algebra behind claripy's `_flatten_simplifier`.
-/
namespace Claripy.AST

structure ACOp where
  g : (w : Nat) → BitVec w → BitVec w → BitVec w
  e : (w : Nat) → BitVec w
  assoc : ∀ w (a b c : BitVec w), g w (g w a b) c = g w a (g w b c)
  comm : ∀ w (a b : BitVec w), g w a b = g w b a
  id_left : ∀ w (a : BitVec w), g w (e w) a = a

def acAdd : ACOp := ⟨fun _ a b => a + b, fun _ => 0, fun _ a b c => BitVec.add_assoc a b c, fun _ a b => BitVec.add_comm a b, fun _ a => BitVec.zero_add a⟩
def acMul : ACOp := ⟨fun _ a b => a * b, fun w => 1#w, fun _ a b c => BitVec.mul_assoc a b c, fun _ a b => BitVec.mul_comm a b, fun _ a => BitVec.one_mul a⟩
def acAnd : ACOp := ⟨fun _ a b => a &&& b, fun w => BitVec.allOnes w, fun _ a b c => BitVec.and_assoc a b c, fun _ a b => BitVec.and_comm a b,
  fun _ a => by simp⟩
def acOr : ACOp := ⟨fun _ a b => a ||| b, fun _ => 0, fun _ a b c => BitVec.or_assoc a b c, fun _ a b => BitVec.or_comm a b, fun _ a => by simp⟩
def acXor : ACOp := ⟨fun _ a b => a ^^^ b, fun _ => 0, fun _ a b c => BitVec.xor_assoc a b c, fun _ a b => BitVec.xor_comm a b, fun _ a => by simp⟩

def acOf : Op → Option ACOp
  | .add => some acAdd | .mul => some acMul | .band => some acAnd | .bor => some acOr | .bxor => some acXor
  | _ => none

def ACOp.prod (o : ACOp) {w : Nat} (xs : List (BitVec w)) : BitVec w := xs.foldl (o.g w) (o.e w)

def ACOp.mon (o : ACOp) (w : Nat) : ACU (BitVec w) := ⟨o.g w, o.e w, o.assoc w, o.comm w, o.id_left w⟩

theorem ACOp.prod_eq (o : ACOp) {w : Nat} (xs : List (BitVec w)) : o.prod xs = (o.mon w).prod (fun x => x) xs :=
  ((o.mon w).foldl_eq_prod _ xs).trans (o.id_left w _)

theorem ACOp.foldl_from (o : ACOp) {w : Nat} (a : BitVec w) (xs : List (BitVec w)) :
    xs.foldl (o.g w) a = o.g w a (o.prod xs) := by
  rw [o.prod_eq]
  exact (o.mon w).foldl_eq_prod a xs

theorem ACOp.prod_cons (o : ACOp) {w : Nat} (a : BitVec w) (xs : List (BitVec w)) :
    o.prod (a :: xs) = o.g w a (o.prod xs) := by
  rw [o.prod_eq, o.prod_eq]
  rfl

theorem ACOp.prod_append (o : ACOp) {w : Nat} (xs ys : List (BitVec w)) :
    o.prod (xs ++ ys) = o.g w (o.prod xs) (o.prod ys) := by
  simp only [o.prod_eq]
  exact (o.mon w).prod_append ..

theorem ACOp.prod_perm (o : ACOp) {w : Nat} {xs ys : List (BitVec w)} (h : xs.Perm ys) : o.prod xs = o.prod ys := by
  simp only [o.prod_eq]
  exact (o.mon w).prod_perm _ h

def allBV (w : Nat) : List Val → Option (List (BitVec w))
  | [] => some []
  | .bv w' n :: vs => if h : w' = w then (allBV w vs).map (fun xs => BitVec.ofNat w n :: xs) else none
  | _ :: _ => none

theorem allBV_cons_ofBV {w : Nat} (x : BitVec w) (vs : List Val) :
    allBV w (Val.ofBV x :: vs) = (allBV w vs).map (x :: ·) := by
  simp [allBV, Val.ofBV]

theorem foldl_bvBin_ofBV {g} {w : Nat} (hw : 0 < w) (xs : List (BitVec w)) (a : BitVec w) :
    (xs.map Val.ofBV).foldl (bvBin g) (.ofBV a) = .ofBV (xs.foldl (g w) a) := by
  induction xs generalizing a with
  | nil => rfl
  | cons x xs ih => rw [List.map_cons, List.foldl_cons, bvBin_ofBV _ _ _ hw, ih, List.foldl_cons]

theorem allBV_of_ty {w : Nat} : ∀ {vs : List Val}, (∀ v ∈ vs, v.WF) → (∀ v ∈ vs, v.ty = .bv w) →
    ∃ xs, allBV w vs = some xs ∧ vs = xs.map Val.ofBV
  | [], _, _ => ⟨[], rfl, rfl⟩
  | v :: vs, hwf, hty => by
    obtain ⟨x, -, rfl⟩ := Val.ofBV_of_ty (hwf v (List.mem_cons_self ..)) (hty v (List.mem_cons_self ..))
    obtain ⟨xs, h1, h2⟩ := allBV_of_ty (fun u hu => hwf u (List.mem_cons_of_mem _ hu)) fun u hu => hty u (List.mem_cons_of_mem _ hu)
    exact ⟨x :: xs, by rw [allBV_cons_ofBV, h1]; rfl, by rw [h2]; rfl⟩

theorem foldVals_ac (o : ACOp) (vs : List Val) (hwf : ∀ v ∈ vs, v.WF) (w n : Nat) (h : foldVals (bvBin o.g) vs = .bv w n)
    (hlen : 2 ≤ vs.length) : ∃ xs, allBV w vs = some xs ∧ Val.bv w n = Val.ofBV (o.prod xs) ∧ 0 < w := by
  match vs, hlen with
  | v :: u :: rest, _ =>
    -- the sorts: every operand has the sort of the first, which is that of the result
    have ht : ((u :: rest).map Val.ty).foldl Ty.bin v.ty = .bv w := by
      rw [← foldl_hom Val.ty fun a b => bvBin_ty a b o.g]
      exact congrArg Val.ty h
    have hne : ((u :: rest).map Val.ty).foldl Ty.bin v.ty ≠ .err := ht ▸ Ty.noConfusion
    obtain ⟨e, hall⟩ := Ty.foldl_bin hne
    obtain ⟨w', hw, hv⟩ := Ty.foldl_bin_pos hne
    obtain rfl : w' = w := Ty.bv.inj (hv.symm.trans (e.symm.trans ht))
    obtain ⟨xs, hxs, hvs⟩ := allBV_of_ty hwf (w := w') fun x hx => by
      rcases List.mem_cons.mp hx with rfl | hx
      · exact hv
      · exact (hall _ (List.mem_map_of_mem hx)).trans hv
    refine ⟨xs, hxs, ?_, hw⟩
    match xs, hvs with
    | x :: xs, hvs =>
      rw [← h, hvs, List.map_cons, foldVals, foldl_bvBin_ofBV hw, o.prod_cons, ← o.foldl_from]
end Claripy.AST

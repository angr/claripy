import Claripy.AST.ACNorm
import ClaripyProofs.Lemmas.AST.Typing
import ClaripyProofs.Lemmas.AST.ACProd
/-!
Soundness of the associative-commutative certificate check `acEquiv` (Claripy/AST/ACNorm.lean): a rewrite it accepts
preserves the SMT-LIB value of a well-typed node, for every width, assignment, number of operands and nesting depth.
-/
namespace Claripy.AST

def ACK.mon (k : ACK) (w : Nat) : ACU (BitVec w) where
  g := k.g w
  e := k.e w
  assoc a b c := by
    cases k
    · exact BitVec.add_assoc a b c
    · exact BitVec.mul_assoc a b c
    · exact BitVec.and_assoc a b c
    · exact BitVec.or_assoc a b c
    · exact BitVec.xor_assoc a b c
  comm a b := by
    cases k
    · exact BitVec.add_comm a b
    · exact BitVec.mul_comm a b
    · exact BitVec.and_comm a b
    · exact BitVec.or_comm a b
    · exact BitVec.xor_comm a b
  id_left a := by
    cases k
    · exact BitVec.zero_add a
    · exact BitVec.one_mul a
    · exact BitVec.allOnes_and
    · exact BitVec.zero_or
    · exact BitVec.zero_xor

def toBV? (w : Nat) : Val → Option (BitVec w)
  | .bv w' n => if w' = w ∧ 0 < w then some (BitVec.ofNat w n) else none
  | _ => none

@[simp] theorem toBV?_ofBV {w : Nat} (x : BitVec w) (hw : 0 < w) : toBV? w (Val.ofBV x) = some x := by
  simp [toBV?, Val.ofBV, hw]

theorem toBV?_eq_some {w : Nat} {v : Val} {x : BitVec w} (hv : v.WF) (h : toBV? w v = some x) : v = Val.ofBV x := by
  cases v with
  | bv w' n =>
    obtain ⟨⟨rfl, -⟩, h⟩ := Option.ite_none_right_eq_some.mp h
    cases h
    rw [Val.ofBV, BitVec.toNat_ofNat, Nat.mod_eq_of_lt hv.1]
  | _ => cases h

def combine (k : ACK) (w : Nat) : Option (BitVec w) → Option (BitVec w) → Option (BitVec w)
  | some x, some p => some (k.g w x p)
  | _, _ => none

def denProd (env : Env) (k : ACK) (w : Nat) : List Expr → Option (BitVec w)
  | [] => some (k.e w)
  | t :: ts => combine k w (toBV? w (eval env t)) (denProd env k w ts)

theorem combine_eq (k : ACK) (w : Nat) : combine k w = (k.mon w).opt.g := by
  funext a b
  cases a <;> cases b <;> rfl

theorem denProd_eq (env : Env) (k : ACK) (w : Nat) (ts : List Expr) :
    denProd env k w ts = (k.mon w).opt.prod (fun t => toBV? w (eval env t)) ts := by
  induction ts with
  | nil => rfl
  | cons t ts ih =>
    rw [denProd, ih, combine_eq]
    rfl

theorem denProd_append (env : Env) (k : ACK) (w : Nat) (l1 l2 : List Expr) :
    denProd env k w (l1 ++ l2) = combine k w (denProd env k w l1) (denProd env k w l2) := by
  simp only [denProd_eq, combine_eq]
  exact (k.mon w).opt.prod_append ..

theorem denProd_perm (env : Env) (k : ACK) (w : Nat) {l1 l2 : List Expr} (h : l1.Perm l2) :
    denProd env k w l1 = denProd env k w l2 := by
  simp only [denProd_eq]
  exact (k.mon w).opt.prod_perm _ h

theorem toBV?_bvBin (k : ACK) (w : Nat) (u v : Val) :
    toBV? w (bvBin k.g u v) = combine k w (toBV? w u) (toBV? w v) := by
  cases u with
  | bv w1 a =>
    cases v with
    | bv w2 b =>
      by_cases h : w1 = w2 ∧ 0 < w1
      · obtain ⟨rfl, h0⟩ := h
        by_cases hw : w1 = w
        · subst hw
          simp only [bvBin, toBV?, combine, h0, and_self, if_true, ofNat_toNat']
        · simp [bvBin, toBV?, combine, h0, hw]
      · by_cases h1 : w1 = w ∧ 0 < w
        · obtain ⟨rfl, h0⟩ := h1
          have h2 : ¬ w2 = w1 := fun e => h ⟨e.symm, h0⟩
          simp [bvBin, toBV?, combine, h, h2]
        · simp [bvBin, toBV?, combine, h, h1]
    | _ => simp [toBV?, combine]
  | _ => simp [toBV?, combine]

theorem applyOp_ac (k : ACK) (vs : List Val) (h : 2 ≤ vs.length) : applyOp k.op vs = foldVals (bvBin k.g) vs := by
  match vs, h with
  | a :: b :: rest, _ => cases k <;> rfl

theorem node_den (env : Env) (k : ACK) (w : Nat) (args : List Expr) (h : 2 ≤ args.length) :
    toBV? w (eval env (.app k.op args)) = denProd env k w args := by
  rw [eval_app, applyOp_ac k _ (by rw [evalList_eq_map]; simpa using h)]
  match args, h with
  | t :: u :: rest, _ =>
    rw [evalList_cons, foldVals, evalList_eq_map, (k.mon w).opt.foldl_hom (toBV? w) (bvBin k.g) (combine_eq k w ▸ toBV?_bvBin k w),
      denProd, denProd_eq, combine_eq]

theorem denProd_singleton (env : Env) (k : ACK) (w : Nat) (e : Expr) : denProd env k w [e] = toBV? w (eval env e) := by
  rw [denProd, denProd, combine_eq]
  exact (k.mon w).opt.id_right _

mutual
theorem flat_den (env : Env) (k : ACK) (w : Nat) (hw : 0 < w) :
    ∀ e : Expr, denProd env k w (flat k.op e) = toBV? w (eval env e)
  | .app op' args => by
    simp only [flat]
    split
    · rename_i hc
      obtain ⟨rfl, hlen⟩ := hc
      rw [flatList_den env k w hw args, node_den env k w args hlen]
    · exact denProd_singleton ..
  | .bvv v w' => denProd_singleton ..
  | .bvs n w' => denProd_singleton ..
  | .boolv b => denProd_singleton ..
  | .bools n => denProd_singleton ..
theorem flatList_den (env : Env) (k : ACK) (w : Nat) (hw : 0 < w) :
    ∀ es : List Expr, denProd env k w (flatList k.op es) = denProd env k w es
  | [] => by simp [flatList]
  | e :: es => by
    simp only [flatList, denProd_append, flat_den env k w hw e, flatList_den env k w hw es, denProd]
end

theorem cprod_eq (k : ACK) (w : Nat) (cs : List (BitVec w)) : cprod k w cs = (k.mon w).prod (fun x => x) cs :=
  ((k.mon w).foldl_eq_prod _ cs).trans ((k.mon w).id_left _)

theorem cprod_cons (k : ACK) (w : Nat) (x : BitVec w) (cs : List (BitVec w)) :
    cprod k w (x :: cs) = k.g w x (cprod k w cs) := by
  rw [cprod_eq, cprod_eq]
  rfl

theorem splitC_den (env : Env) (k : ACK) (w : Nat) (hw : 0 < w) (ts : List Expr) :
    denProd env k w ts = combine k w (some (cprod k w (splitC w ts).1)) (denProd env k w (splitC w ts).2) := by
  have assoc := (k.mon w).opt.assoc
  have left_comm := (k.mon w).opt.left_comm
  rw [← combine_eq] at assoc left_comm
  induction ts with
  | nil => exact congrArg some ((k.mon w).id_left _).symm
  | cons t ts ih =>
    cases t with
    | bvv v w' =>
      simp only [splitC]
      split
      · rename_i hww
        subst hww
        have hv : toBV? w' (eval env (.bvv v w')) = some (BitVec.ofNat w' v) := by
          rw [eval_bvv env v w' hw, toBV?_ofBV _ hw]
        simp only [denProd, hv, cprod_cons]
        rw [ih]
        exact (assoc (some _) (some _) _).symm
      · simp only [denProd]
        rw [ih, left_comm]
    | _ =>
      simp only [splitC, denProd]
      rw [ih, left_comm]

theorem denProd_reduce (env : Env) (k : ACK) (w : Nat) (l : List Expr) (p : BitVec w)
    (h : denProd env k w l = some p) : denProd env k w (k.reduce l) = some p := by
  rw [denProd_eq] at h ⊢
  cases k with
  | add => exact h
  | mul => exact h
  | band =>
    rw [ACK.reduce, ACU.prod_dedupe _ ((ACK.mon .band w).lift_idem fun a q => by simp [ACK.mon, ACK.g, ← BitVec.and_assoc])]
    exact h
  | bor =>
    rw [ACK.reduce, ACU.prod_dedupe _ ((ACK.mon .bor w).lift_idem fun a q => by simp [ACK.mon, ACK.g, ← BitVec.or_assoc])]
    exact h
  | bxor => exact (ACK.mon .bxor w).prod_cancel (fun a q => by simp [ACK.mon, ACK.g, ← BitVec.xor_assoc]) _ l p h

theorem acEquiv_sound (k : ACK) (w : Nat) (lhs rhs : Expr) (h : acEquiv k w lhs rhs = true) (env : Env) (n : Nat)
    (hl : eval env lhs = .bv w n) : eval env rhs = eval env lhs := by
  simp only [acEquiv, Bool.and_eq_true, decide_eq_true_eq] at h
  obtain ⟨⟨hw, hc⟩, hperm⟩ := h
  obtain ⟨x, hx, _⟩ := (hl ▸ eval_wf env lhs : (Val.bv w n).WF).exists_bv
  -- lhs: product of the literals and of the reduced remaining operands
  have h1 : denProd env k w (flat k.op lhs) = some x := by
    rw [flat_den env k w hw lhs, hl, hx, toBV?_ofBV _ hw]
  rw [splitC_den env k w hw, combine_eq] at h1
  obtain ⟨_, p, hlit, hrest, h1⟩ := (k.mon w).lift_eq_some h1
  have h2 := denProd_reduce env k w _ p hrest
  rw [denProd_perm env k w (List.isPerm_iff.mp hperm)] at h2
  have h3 : denProd env k w (flat k.op rhs) = some x := by
    rw [splitC_den env k w hw, h2, ← hc, hlit, ← h1]
    rfl
  rw [flat_den env k w hw rhs] at h3
  rw [toBV?_eq_some (eval_wf env rhs) h3, hl, hx]

/-- the hypothesis as the constructor has it: the width the node reports, not its value -/
theorem acEquiv_sound_wt (k : ACK) (w : Nat) (lhs rhs : Expr) (h : acEquiv k w lhs rhs = true) (env : Env)
    (hw : lhs.width = some w) (hl : eval env lhs ≠ .err) : eval env rhs = eval env lhs := by
  obtain ⟨X, -, hv⟩ := eval_of_width env hw hl
  exact acEquiv_sound k w lhs rhs h env _ hv

end Claripy.AST

import Claripy.AST.Subst
import ClaripyProofs.Lemmas.AST.Beq
/-!
`leafAsts e` (the model of `leaf_asts()`: an explicit stack, de-duplication by a seen-list, a fuel bound) reaches every leaf
of `e`: the fuel `2 * nodes + 2` is never exhausted, and the walk is a complete traversal.
-/
namespace Claripy.AST

def Expr.isLeaf : Expr → Bool
  | .app _ _ => false
  | _ => true

mutual
def Expr.subs : Expr → List Expr
  | .app op args => .app op args :: Expr.subsList args
  | e => [e]
def Expr.subsList : List Expr → List Expr
  | [] => []
  | e :: es => e.subs ++ Expr.subsList es
end

theorem nodesList_append (a b : List Expr) : Expr.nodesList (a ++ b) = Expr.nodesList a + Expr.nodesList b := by
  induction a with
  | nil => simp [Expr.nodesList]
  | cons x xs ih => simp only [List.cons_append, Expr.nodesList, ih]; omega

theorem nodesList_reverse (a : List Expr) : Expr.nodesList a.reverse = Expr.nodesList a := by
  induction a with
  | nil => rfl
  | cons x xs ih => simp only [List.reverse_cons, nodesList_append, Expr.nodesList, ih]; omega

theorem nodes_pos (e : Expr) : 0 < e.nodes := by
  cases e <;> simp [Expr.nodes] <;> omega

structure WalkInv (root : Expr) (stack seen acc : List Expr) : Prop where
  kids : ∀ op args, Expr.app op args ∈ seen → ∀ a ∈ args, a ∈ seen ∨ a ∈ stack
  leaves : ∀ s ∈ seen, s.isLeaf = true → s ∈ acc
  root : root ∈ seen ∨ root ∈ stack

theorem any_beq_iff (seen : List Expr) (e : Expr) : (seen.any (· == e)) = true ↔ e ∈ seen := by
  simp only [List.any_eq_true, beq_iff_eq]
  constructor
  · rintro ⟨x, hx, rfl⟩; exact hx
  · intro h; exact ⟨e, h, rfl⟩

mutual
theorem closed_leaves (seen acc : List Expr) (hk : ∀ op args, Expr.app op args ∈ seen → ∀ a ∈ args, a ∈ seen)
    (hl : ∀ s ∈ seen, s.isLeaf = true → s ∈ acc) :
    ∀ (e : Expr), e ∈ seen → ∀ l ∈ e.subs, l.isLeaf = true → l ∈ acc
  | .app op args, he, l, hlm, hleaf => by
    simp only [Expr.subs, List.mem_cons] at hlm
    rcases hlm with rfl | hlm
    · simp [Expr.isLeaf] at hleaf
    · exact closed_leavesList seen acc hk hl args (hk op args he) l hlm hleaf
  | .bvv _ _, he, l, hlm, hleaf | .bvs _ _, he, l, hlm, hleaf | .boolv _, he, l, hlm, hleaf | .bools _, he, l, hlm, hleaf => by
    simp only [Expr.subs, List.mem_singleton] at hlm
    subst hlm
    exact hl _ he hleaf
theorem closed_leavesList (seen acc : List Expr) (hk : ∀ op args, Expr.app op args ∈ seen → ∀ a ∈ args, a ∈ seen)
    (hl : ∀ s ∈ seen, s.isLeaf = true → s ∈ acc) :
    ∀ (es : List Expr), (∀ a ∈ es, a ∈ seen) → ∀ l ∈ Expr.subsList es, l.isLeaf = true → l ∈ acc
  | [], _, l, hlm, _ => by simp [Expr.subsList] at hlm
  | e :: es, hes, l, hlm, hleaf => by
    simp only [Expr.subsList, List.mem_append] at hlm
    rcases hlm with hlm | hlm
    · exact closed_leaves seen acc hk hl e (hes e (by simp)) l hlm hleaf
    · exact closed_leavesList seen acc hk hl es (fun a ha => hes a (List.mem_cons_of_mem _ ha)) l hlm hleaf
end

theorem WalkInv.step {root e : Expr} {stack seen acc stack' seen' acc' : List Expr} (inv : WalkInv root (e :: stack) seen acc)
    (hseen : ∀ x ∈ seen, x ∈ seen') (he : e ∈ seen') (hstack : ∀ x ∈ stack, x ∈ stack')
    (hkids : ∀ op args, Expr.app op args ∈ seen' → Expr.app op args ∈ seen ∨ ∀ a ∈ args, a ∈ seen' ∨ a ∈ stack')
    (hleaves : ∀ s ∈ seen', s.isLeaf = true → s ∈ acc') : WalkInv root stack' seen' acc' := by
  have htrack : ∀ x, x ∈ seen ∨ x ∈ e :: stack → x ∈ seen' ∨ x ∈ stack' := by
    rintro x (h | h)
    · exact .inl (hseen x h)
    · rcases List.mem_cons.mp h with rfl | h
      · exact .inl he
      · exact .inr (hstack x h)
  refine ⟨fun op args h a ha => ?_, hleaves, htrack root inv.root⟩
  rcases hkids op args h with h | h
  · exact htrack a (inv.kids op args h a ha)
  · exact h a ha

theorem leafWalk_complete (root : Expr) : ∀ (fuel : Nat) (stack seen acc : List Expr),
    Expr.nodesList stack < fuel → WalkInv root stack seen acc →
    ∀ l ∈ root.subs, l.isLeaf = true → l ∈ leafWalk fuel stack seen acc
  -- the fuel exceeds the node count of the stack, which every step lowers by at least one: it does not run out
  | 0, _, _, _, hf, _ => by omega
  -- stack empty: `seen` holds `root` and the operands of its every node, hence every leaf of `root`, and those are in `acc`
  | fuel + 1, [], seen, acc, _, inv => by
    intro l hl hleaf
    simp only [leafWalk, List.mem_reverse]
    exact closed_leaves seen acc (fun op args h a ha => (inv.kids op args h a ha).resolve_right List.not_mem_nil) inv.leaves root
      (inv.root.resolve_right List.not_mem_nil) l hl hleaf
  | fuel + 1, e :: stack, seen, acc, hf, inv => by
    intro l hl hleaf
    simp only [Expr.nodesList] at hf
    have hpos := nodes_pos e
    unfold leafWalk
    by_cases hs : (seen.any (· == e)) = true
    -- met before: dropped
    · simp only [hs, if_true]
      exact leafWalk_complete root fuel stack seen acc (by omega)
        (inv.step (fun _ h => h) ((any_beq_iff seen e).mp hs) (fun _ h => h) (fun _ _ h => .inl h) inv.leaves) l hl hleaf
    · simp only [hs, Bool.false_eq_true, if_false]
      cases e with
      -- a new inner node: its operands go on the stack in its place, and they weigh one less than it
      | app op args =>
        simp only
        refine leafWalk_complete root fuel (args.reverse ++ stack) (.app op args :: seen) acc ?_
          (inv.step (fun _ => List.mem_cons_of_mem _) (List.mem_cons_self ..) (fun _ => List.mem_append_right _) ?_ ?_) l hl hleaf
        · rw [nodesList_append, nodesList_reverse]
          simp only [Expr.nodes] at hf
          omega
        · intro op' args' h
          rcases List.mem_cons.mp h with heq | h
          · cases heq
            exact .inr fun a ha => .inr (List.mem_append_left _ (List.mem_reverse.mpr ha))
          · exact .inl h
        · intro s hs' hleaf'
          rcases List.mem_cons.mp hs' with rfl | hs'
          · cases hleaf'
          · exact inv.leaves s hs' hleaf'
      -- a new leaf, of whichever of the four kinds: collected
      | bvv _ _ | bvs _ _ | boolv _ | bools _ =>
        exact leaf_step root fuel _ stack seen acc rfl (by omega) inv (leafWalk_complete root fuel) l hl hleaf
where
  leaf_step (root : Expr) (fuel : Nat) (e : Expr) (stack seen acc : List Expr) (he : e.isLeaf = true)
      (hf : Expr.nodesList stack < fuel) (inv : WalkInv root (e :: stack) seen acc)
      (ih : ∀ (stack seen acc : List Expr), Expr.nodesList stack < fuel → WalkInv root stack seen acc →
        ∀ l ∈ root.subs, l.isLeaf = true → l ∈ leafWalk fuel stack seen acc)
      (l : Expr) (hl : l ∈ root.subs) (hleaf : l.isLeaf = true) :
      l ∈ leafWalk fuel stack (e :: seen) (e :: acc) := by
    refine ih stack (e :: seen) (e :: acc) hf
      (inv.step (fun _ => List.mem_cons_of_mem _) (List.mem_cons_self ..) (fun _ h => h) ?_ ?_) l hl hleaf
    · intro op args h
      rcases List.mem_cons.mp h with heq | h
      · rw [← heq] at he
        cases he
      · exact .inl h
    · intro s hs' hleaf'
      rcases List.mem_cons.mp hs' with rfl | hs'
      · exact List.mem_cons_self ..
      · exact List.mem_cons_of_mem _ (inv.leaves s hs' hleaf')

theorem leafAsts_complete (e : Expr) (l : Expr) (hl : l ∈ e.subs) (hleaf : l.isLeaf = true) : l ∈ leafAsts e := by
  unfold leafAsts
  refine leafWalk_complete e _ [e] [] [] ?_ ⟨?_, ?_, Or.inr (by simp)⟩ l hl hleaf
  · simp only [Expr.nodesList]; omega
  · intro op args h; simp at h
  · intro s h; simp at h

end Claripy.AST

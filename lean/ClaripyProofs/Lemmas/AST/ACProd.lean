import Claripy.AST.ACNorm
import ClaripyProofs.Lemmas.AST.Beq
/-!
Products over an associative-commutative operation with unit: the algebra shared by the n-ary bit-vector nodes
(`__add__ __mul__ __and__ __or__ __xor__`), the Boolean `And`/`Or`, and their partial versions on `Option`, in which a
product is defined when every operand has a value of the right sort.  A fold of a value operator denotes such a product as
soon as the reading of values is a homomorphism (`foldl_hom`); products ignore order (`prod_perm`), repeated operands of
an idempotent operation (`prod_dedupe`) and pairs of equal operands of a self-inverse one (`prod_cancel`).
-/
namespace Claripy.AST

structure ACU (α : Type) where
  g : α → α → α
  e : α
  assoc : ∀ a b c, g (g a b) c = g a (g b c)
  comm : ∀ a b, g a b = g b a
  id_left : ∀ a, g e a = a

namespace ACU
variable {α : Type} (M : ACU α)

theorem id_right (a : α) : M.g a M.e = a := by rw [M.comm, M.id_left]

theorem left_comm (a b c : α) : M.g a (M.g b c) = M.g b (M.g a c) := by
  rw [← M.assoc, ← M.assoc, M.comm a b]

def prod {ι : Type} (d : ι → α) : List ι → α
  | [] => M.e
  | t :: ts => M.g (d t) (prod d ts)

variable {ι : Type} (d : ι → α)

theorem prod_append (l1 l2 : List ι) : M.prod d (l1 ++ l2) = M.g (M.prod d l1) (M.prod d l2) := by
  induction l1 with
  | nil => exact (M.id_left _).symm
  | cons t ts ih => simp only [List.cons_append, prod, ih, M.assoc]

theorem prod_perm {l1 l2 : List ι} (h : l1.Perm l2) : M.prod d l1 = M.prod d l2 := by
  induction h with
  | nil => rfl
  | cons a _ ih => simp only [prod, ih]
  | swap a b l => exact M.left_comm ..
  | trans _ _ ih1 ih2 => exact ih1.trans ih2

theorem foldl_hom {β : Type} (φ : β → α) (f : β → β → β) (hφ : ∀ u v, φ (f u v) = M.g (φ u) (φ v)) (v : ι → β) (b : β)
    (l : List ι) : φ ((l.map v).foldl f b) = M.g (φ b) (M.prod (fun t => φ (v t)) l) := by
  induction l generalizing b with
  | nil => exact (M.id_right _).symm
  | cons t ts ih => simp only [List.map_cons, List.foldl_cons, ih, hφ, prod, M.assoc]

theorem foldl_eq_prod (a : α) (l : List α) : l.foldl M.g a = M.g a (M.prod (fun x => x) l) := by
  simpa only [List.map_id, id] using M.foldl_hom id M.g (fun _ _ => rfl) id a l

theorem prod_dedupe_cons [BEq ι] [LawfulBEq ι] (idem : ∀ a q, M.g a (M.g a q) = M.g a q) (a : ι) (r : List ι) :
    M.prod d (if r.elem a then r else a :: r) = M.g (d a) (M.prod d r) := by
  split
  · rename_i hmem
    rw [M.prod_perm d (List.perm_cons_erase (List.elem_iff.mp hmem)), prod, idem]
  · rfl

theorem prod_dedupe (idem : ∀ a q, M.g a (M.g a q) = M.g a q) (d : Expr → α) (l : List Expr) :
    M.prod d (dedupe l) = M.prod d l := by
  induction l with
  | nil => rfl
  | cons a l ih =>
    simp only [dedupe, M.prod_dedupe_cons d idem, ih]
    rfl

def lift : Option α → Option α → Option α
  | some x, some p => some (M.g x p)
  | _, _ => none

def opt : ACU (Option α) where
  g := M.lift
  e := some M.e
  assoc a b c := by cases a <;> cases b <;> cases c <;> simp [lift, M.assoc]
  comm a b := by cases a <;> cases b <;> simp [lift, M.comm]
  id_left a := by cases a <;> simp [lift, M.id_left]

theorem lift_idem (idem : ∀ a q, M.g a (M.g a q) = M.g a q) (a q : Option α) : M.lift a (M.lift a q) = M.lift a q := by
  cases a <;> cases q <;> simp [lift, idem]

theorem lift_eq_some {a b : Option α} {p : α} (h : M.lift a b = some p) : ∃ x y, a = some x ∧ b = some y ∧ M.g x y = p := by
  cases a <;> cases b <;> simp_all [lift]

theorem prod_cancel (inv : ∀ a q, M.g a (M.g a q) = q) (d : Expr → Option α) (l : List Expr) (p : α)
    (h : M.opt.prod d l = some p) : M.opt.prod d (cancel l) = some p := by
  induction l generalizing p with
  | nil => exact h
  | cons a l ih =>
    obtain ⟨x, pl, hx, hp, rfl⟩ := M.lift_eq_some h
    have ihl := ih pl hp
    simp only [cancel]
    split
    · rename_i hmem
      rw [M.opt.prod_perm d (List.perm_cons_erase (List.elem_iff.mp hmem))] at ihl
      obtain ⟨x', q, hx', hq, rfl⟩ := M.lift_eq_some ihl
      rw [hx, Option.some.injEq] at hx'
      rw [hq, ← hx', inv]
    · show M.lift (d a) (M.opt.prod d (cancel l)) = _
      rw [hx, ihl]
      rfl

end ACU
end Claripy.AST

import ClaripyProofs.Lemmas.AST.EqModComm
import ClaripyProofs.Lemmas.AST.RulesSound
import ClaripyProofs.Lemmas.AST.Beq
/-!
Soundness of `minmaxEquiv` (Claripy/AST/MinMax.lean): the branch-free signed min/max idiom equals `If(q <=s r, ·, ·)` at every
width, whatever the order of the operands of its `^` and `&` nodes.
-/
namespace Claripy.AST

/-- without a sign difference the subtraction does not overflow, so its sign is the signed comparison -/
theorem msb_sub_of_msb_eq {w : Nat} (x y : BitVec w) (h : x.msb = y.msb) : (x - y).msb = x.slt y := by
  have ho : ¬ BitVec.ssubOverflow x y = true := by
    rw [BitVec.ssubOverflow_eq, h]
    cases y.msb <;> simp
  rw [BitVec.msb_eq_toInt, BitVec.toInt_sub_of_not_ssubOverflow ho, BitVec.slt_eq_decide, decide_eq_decide]
  omega

theorem key_msb {w : Nat} (x y : BitVec w) :
    ((((x - y) ^^^ x) &&& (x ^^^ y)) ^^^ (x - y)).msb = x.slt y := by
  simp only [BitVec.msb_xor, BitVec.msb_and]
  by_cases h : x.msb = y.msb
  · rw [msb_sub_of_msb_eq x y h, h, Bool.xor_self, Bool.and_false, Bool.false_xor]
  · rw [BitVec.slt_eq_not_ult_of_msb_neq h, BitVec.ult_eq_msb_of_msb_neq h]
    cases hx : x.msb <;> cases hy : y.msb <;> simp_all

theorem sshiftRight_top {w : Nat} (x : BitVec w) (hw : 0 < w) :
    x.sshiftRight (w - 1) = if x.msb then BitVec.allOnes w else 0#w := by
  apply BitVec.eq_of_getLsbD_eq
  intro i hi
  rw [BitVec.getLsbD_sshiftRight]
  have : (!decide (w ≤ i)) = true := by simp; omega
  rw [this, Bool.true_and]
  by_cases h0 : i = 0
  · subst h0
    rw [if_pos (by omega), Nat.add_zero, ← BitVec.msb_eq_getLsbD_last]
    cases x.msb <;> simp [hw]
  · rw [if_neg (by omega)]
    cases x.msb <;> simp [hi]

/-- the arithmetic shift by `w - 1` spreads the sign of `k` over the word, and the mask then picks `y` or `x` -/
theorem mask_select {w : Nat} (k x y : BitVec w) (hw : 0 < w) :
    x ^^^ (BitVec.sshiftRight' k (BitVec.ofNat w (w - 1)) &&& (x ^^^ y)) = if k.msb then y else x := by
  have hlt : w - 1 < 2 ^ w := Nat.lt_of_le_of_lt (Nat.sub_le w 1) Nat.lt_two_pow_self
  rw [BitVec.sshiftRight'_ofNat_eq_sshiftRight, Nat.mod_eq_of_lt hlt, sshiftRight_top _ hw]
  cases k.msb
  · simp
  · rw [if_pos rfl, if_pos rfl, BitVec.allOnes_and, ← BitVec.xor_assoc, BitVec.xor_self, BitVec.zero_xor]

theorem max_idiom {w : Nat} (x y : BitVec w) (hw : 0 < w) :
    x ^^^ ((BitVec.sshiftRight' ((((x - y) ^^^ x) &&& (x ^^^ y)) ^^^ (x - y)) (BitVec.ofNat w (w - 1))) &&& (x ^^^ y)) =
      if x.sle y then y else x := by
  rw [mask_select _ x y hw, key_msb, BitVec.sle_eq_slt_or_eq]
  by_cases he : x = y <;> simp [he]

theorem min_idiom {w : Nat} (x y : BitVec w) (hw : 0 < w) :
    x ^^^ ((BitVec.sshiftRight' ((((y - x) ^^^ y) &&& (x ^^^ y)) ^^^ (y - x)) (BitVec.ofNat w (w - 1))) &&& (x ^^^ y)) =
      if x.sle y then x else y := by
  rw [mask_select _ x y hw, BitVec.xor_comm x y, key_msb, BitVec.sle_eq_not_slt]
  cases y.slt x <;> rfl

theorem eval_idiomTail (env : Env) (q s t u : Expr) (w : Nat) :
    eval env (idiomTail q s t u w) =
      bvBin (fun _ x y => x ^^^ y) (eval env q) (bvBin (fun _ x y => x &&& y)
        (bvBin (fun _ x y => BitVec.sshiftRight' x y)
          (bvBin (fun _ x y => x ^^^ y) (bvBin (fun _ x y => x &&& y) (eval env u) (eval env t)) (eval env s))
          (eval env (.bvv (w - 1) w)))
        (eval env t)) := by
  simp only [idiomTail, eval_app, evalList_cons, evalList_nil]
  rfl
theorem eval_bxor (env : Env) (a b : Expr) :
    eval env (.app .bxor [a, b]) = bvBin (fun _ x y => x ^^^ y) (eval env a) (eval env b) := rfl
theorem eval_sub (env : Env) (a b : Expr) :
    eval env (.app .sub [a, b]) = bvBin (fun _ x y => x - y) (eval env a) (eval env b) := rfl
theorem eval_sle (env : Env) (a b : Expr) :
    eval env (.app .sle [a, b]) = bvCmp (fun _ x y => BitVec.sle x y) (eval env a) (eval env b) := rfl

/-- the idiom over `q ^ r` is well-typed only when `q` and `r` have the width of the shift amount literal: widths are read off
the nodes from the root down to the shift (whose amount has width `w`) and to `q ^ r` -/
theorem idiomTail_views (env : Env) (q r s u : Expr) (w : Nat)
    (h : eval env (idiomTail q s (.app .bxor [q, r]) u w) ≠ .err) :
    ∃ X Y : BitVec w, 0 < w ∧ eval env q = .ofBV X ∧ eval env r = .ofBV Y := by
  rw [eval_idiomTail, eval_bxor] at h
  obtain ⟨_, _, _, _, _, hy⟩ := bvBin_inv h (eval_wf env q) (bvBin_wf _ _ _)
  obtain ⟨_, _, _, hx, ht⟩ := bvBin_bv_inv hy (bvBin_wf _ _ _) (bvBin_wf _ _ _)
  obtain ⟨_, _, _, _, hl⟩ := bvBin_bv_inv hx (bvBin_wf _ _ _) (eval_wf env _)
  obtain rfl := bvv_eq_ofBV hl
  exact bvBin_bv_inv ht (eval_wf env q) (eval_wf env r)

theorem maxCanon_sound (env : Env) (q r : Expr) (w : Nat) (h : eval env (maxCanon q r w) ≠ .err) :
    eval env (.app .ite [.app .sle [q, r], r, q]) = eval env (maxCanon q r w) := by
  obtain ⟨X, Y, hw, hq, hr⟩ := idiomTail_views env q r _ _ w h
  simp only [maxCanon, eval_idiomTail, eval_bxor, eval_sub, eval_sle, eval_ite, hq, hr,
    bvBin_ofBV _ _ _ hw, bvCmp_ofBV _ _ _ hw, eval_bvv env _ w hw]
  rw [max_idiom X Y hw]
  cases BitVec.sle X Y <;> simp

theorem minCanon_sound (env : Env) (q r : Expr) (w : Nat) (h : eval env (minCanon q r w) ≠ .err) :
    eval env (.app .ite [.app .sle [q, r], q, r]) = eval env (minCanon q r w) := by
  obtain ⟨X, Y, hw, hq, hr⟩ := idiomTail_views env q r _ _ w h
  simp only [minCanon, eval_idiomTail, eval_bxor, eval_sub, eval_sle, eval_ite, hq, hr,
    bvBin_ofBV _ _ _ hw, bvCmp_ofBV _ _ _ hw, eval_bvv env _ w hw]
  rw [min_idiom X Y hw]
  cases BitVec.sle X Y <;> simp

theorem minmaxEquiv_sound_wt (lhs rhs : Expr) (h : minmaxEquiv lhs rhs = true) (env : Env) (hl : eval env lhs ≠ .err) :
    eval env rhs = eval env lhs := by
  unfold minmaxEquiv at h
  split at h
  · rename_i q r a b
    split at h
    · rename_i wq _
      simp only [Bool.or_eq_true, Bool.and_eq_true, beq_iff_eq] at h
      rcases h with ⟨⟨ha, hb⟩, hc⟩ | ⟨⟨ha, hb⟩, hc⟩
      · have e := eqModComm_sound env lhs _ hc
        rw [e] at hl ⊢
        rw [ha, hb]
        exact maxCanon_sound env q r wq hl
      · have e := eqModComm_sound env lhs _ hc
        rw [e] at hl ⊢
        rw [ha, hb]
        exact minCanon_sound env q r wq hl
    · simp at h
  · simp at h

theorem minmaxEquiv_sound (lhs rhs : Expr) (h : minmaxEquiv lhs rhs = true) (env : Env) (w n : Nat)
    (hl : eval env lhs = .bv w n) : eval env rhs = eval env lhs :=
  minmaxEquiv_sound_wt lhs rhs h env (by simp [hl])

end Claripy.AST

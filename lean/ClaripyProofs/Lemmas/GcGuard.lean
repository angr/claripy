import Claripy.Conc.GcGuard
/-! Inductive invariant of the GC guard for any number of threads (helper lemmas for C19). -/
namespace Claripy.GcGuard

def heldSum (l : List Thread) : Nat := (l.map (·.held)).sum
def depthSum (l : List Thread) : Nat := (l.map (·.depth)).sum

theorem sum_map_set (f : Thread → Nat) (l : List Thread) (i : Nat) (t t' : Thread) (h : l[i]? = some t) :
    ((l.set i t').map f).sum + f t = (l.map f).sum + f t' := by
  induction l generalizing i with
  | nil => simp at h
  | cons a l ih =>
    cases i with
    | zero => simp at h; subst h; simp; omega
    | succ n =>
      simp at h
      have := ih n h
      simp at this ⊢; omega

theorem heldSum_set (l : List Thread) (i : Nat) (t t' : Thread) (h : l[i]? = some t) :
    heldSum (l.set i t') + t.held = heldSum l + t'.held := sum_map_set (·.held) l i t t' h

theorem depthSum_set (l : List Thread) (i : Nat) (t t' : Thread) (h : l[i]? = some t) :
    depthSum (l.set i t') + t.depth = depthSum l + t'.depth := sum_map_set (·.depth) l i t t' h

/-- relation between `held` and `depth` by program counter; unreachable pcs are `False`. -/
def localOk (t : Thread) : Prop :=
  (t.fn = 0 ∧ t.pc = 0 ∧ t.held = t.depth) ∨
  (t.fn = 1 ∧ t.pc ≤ 5 ∧ t.held = t.depth) ∨
  (t.fn = 1 ∧ (t.pc = 6 ∨ t.pc = 7) ∧ t.held = t.depth + 1) ∨
  (t.fn = 2 ∧ (t.pc ≤ 1 ∨ t.pc = 6) ∧ t.held = t.depth + 1) ∨
  (t.fn = 2 ∧ 7 ≤ t.pc ∧ t.pc ≤ 12 ∧ t.held = t.depth)

/-- the thread holds the lock exactly at these pcs -/
def inCrit (t : Thread) : Prop :=
  (t.fn = 1 ∧ 1 ≤ t.pc ∧ t.pc ≤ 6) ∨ (t.fn = 2 ∧ 1 ≤ t.pc ∧ t.pc ≤ 11)

instance (t : Thread) : Decidable (inCrit t) := by unfold inCrit; infer_instance

/-- shared state is consistent (what holds whenever nobody is inside a critical section) -/
def Cons (s : State) : Prop :=
  (s.active = 0 → s.gc = s.gc0) ∧ (s.active ≠ 0 → s.gc = false ∧ s.saved = s.gc0)

/-- assertion on the shared state while thread `t` holds the lock at its current pc -/
def Assert (t : Thread) (s : State) : Prop :=
  (t.fn = 1 ∧ t.pc = 1 ∧ Cons s) ∨
  (t.fn = 1 ∧ t.pc = 2 ∧ s.active = 0 ∧ s.gc = s.gc0) ∨
  (t.fn = 1 ∧ t.pc = 3 ∧ s.active = 0 ∧ s.gc = s.gc0 ∧ s.saved = s.gc0) ∨
  (t.fn = 1 ∧ t.pc = 4 ∧ s.active = 0 ∧ s.gc = s.gc0 ∧ s.saved = s.gc0 ∧ s.saved = true) ∨
  (t.fn = 1 ∧ (t.pc = 5 ∨ t.pc = 6) ∧ s.gc = false ∧ s.saved = s.gc0) ∨
  (t.fn = 2 ∧ t.pc = 1 ∧ Cons s) ∨
  (t.fn = 2 ∧ (t.pc = 6 ∨ t.pc = 7) ∧ s.gc = false ∧ s.saved = s.gc0) ∨
  (t.fn = 2 ∧ t.pc = 8 ∧ s.active = 0 ∧ s.gc = false ∧ s.saved = s.gc0) ∨
  (t.fn = 2 ∧ t.pc = 9 ∧ s.active = 0 ∧ s.gc = false ∧ s.saved = s.gc0 ∧ s.saved = true) ∨
  (t.fn = 2 ∧ t.pc = 10 ∧ s.active = 0 ∧ s.gc = s.gc0) ∨
  (t.fn = 2 ∧ t.pc = 11 ∧ Cons s)

structure Inv (s : State) : Prop where
  sum : s.active = (heldSum s.threads : Int)
  loc : ∀ (i : Nat) (t : Thread), s.threads[i]? = some t → localOk t
  crit : ∀ (i : Nat) (t : Thread), s.threads[i]? = some t → (inCrit t ↔ s.lock = some i)
  shared : match s.lock with
    | none => Cons s
    | some i => ∃ t, s.threads[i]? = some t ∧ Assert t s

theorem inv_init (n : Nat) (g : Bool) : Inv (initState n g) := by
  refine ⟨?_, ?_, ?_, ?_⟩
  · simp [initState, heldSum]
  · intro i t h
    simp [initState, List.getElem?_replicate] at h
    obtain ⟨_, rfl⟩ := h
    simp [localOk]
  · intro i t h
    simp [initState, List.getElem?_replicate] at h
    obtain ⟨_, rfl⟩ := h
    simp [inCrit, initState]
  · simp [initState, Cons]

theorem Assert_congr (u : Thread) (s s' : State) (h1 : s'.active = s.active) (h2 : s'.saved = s.saved)
    (h3 : s'.gc = s.gc) (h4 : s'.gc0 = s.gc0) (h : Assert u s) : Assert u s' := by
  simpa [Assert, Cons, h1, h2, h3, h4] using h

theorem Cons_congr (s s' : State) (h1 : s'.active = s.active) (h2 : s'.saved = s.saved)
    (h3 : s'.gc = s.gc) (h4 : s'.gc0 = s.gc0) (h : Cons s) : Cons s' := by
  simpa [Cons, h1, h2, h3, h4] using h

/-- One thread moves from `t` to `t'`; everything else about the thread list is unchanged. -/
theorem inv_update (s s' : State) (i : Nat) (t t' : Thread)
    (hI : Inv s) (ht : s.threads[i]? = some t)
    (hth : s'.threads = s.threads.set i t')
    (hact : s'.active + (t.held : Int) = s.active + (t'.held : Int))
    (hloc : localOk t')
    (hlock : s'.lock = if inCrit t' then some i else if inCrit t then none else s.lock)
    (hacq : inCrit t' → ¬ inCrit t → s.lock = none)
    (hmine : inCrit t' → Assert t' s')
    (hrel : ¬ inCrit t' → inCrit t → Cons s')
    (hother : ¬ inCrit t' → ¬ inCrit t →
      s'.active = s.active ∧ s'.saved = s.saved ∧ s'.gc = s.gc ∧ s'.gc0 = s.gc0) : Inv s' := by
  have hi : i < s.threads.length := by
    rcases Nat.lt_or_ge i s.threads.length with h | h
    · exact h
    · simp [List.getElem?_eq_none h] at ht
  have hcrit_t := hI.crit i t ht
  refine ⟨?_, ?_, ?_, ?_⟩
  -- sum
  · have := heldSum_set s.threads i t t' ht
    rw [hth, hI.sum] at *
    omega
  -- loc
  · intro j u hu
    rw [hth] at hu
    by_cases hji : i = j
    · subst hji; simp [List.getElem?_set_self hi] at hu; subst hu; exact hloc
    · rw [List.getElem?_set_ne hji] at hu; exact hI.loc j u hu
  -- crit, first for the thread that moved, then for another thread `u` at `j`
  · intro j u hu
    rw [hth] at hu
    by_cases hji : i = j
    · subst hji; simp [List.getElem?_set_self hi] at hu; subst hu
      rw [hlock]
      by_cases h1 : inCrit t'
      · simp [h1]
      · by_cases h2 : inCrit t
        · simp [h1, h2]
        -- outside before and after: the lock is as it was, and was not `i`'s
        · simp only [h1, h2, if_false, false_iff]
          intro h; exact h2 (hcrit_t.mpr h)
    · rw [List.getElem?_set_ne hji] at hu
      have hcu := hI.crit j u hu
      rw [hlock]
      by_cases h1 : inCrit t'
      -- `i` holds the lock now; were `u` inside, `u` held it before, yet `i` held it too or found it free (`hacq`)
      · simp only [h1, if_true]
        have : ¬ inCrit u := by
          intro hu'
          have hl := hcu.mp hu'
          by_cases h2 : inCrit t
          · have := hcrit_t.mp h2; rw [hl] at this; simp at this; exact hji this.symm
          · have := hacq h1 h2; rw [hl] at this; simp at this
        simp only [this, false_iff]
        intro h; simp at h; exact hji h
      · by_cases h2 : inCrit t
        -- `i` released: the lock was `i`'s, so `u` was outside, and it is free now
        · simp only [h1, h2, if_false, if_true]
          have hl := hcrit_t.mp h2
          constructor
          · intro hu'; have := hcu.mp hu'; rw [hl] at this; simp at this; exact absurd this hji
          · intro h; simp at h
        · simp only [h1, h2, if_false]; exact hcu
  -- shared: `i` holds the lock (`hmine`), or has released it (`hrel`), or stayed outside and left the shared variables alone
  · rw [hlock]
    by_cases h1 : inCrit t'
    · simp only [h1, if_true]
      refine ⟨t', ?_, hmine h1⟩
      rw [hth]; simp [List.getElem?_set_self hi]
    · by_cases h2 : inCrit t
      · simp only [h1, h2, if_false, if_true]; exact hrel h1 h2
      · simp only [h1, h2, if_false]
        obtain ⟨e1, e2, e3, e4⟩ := hother h1 h2
        have hsh := hI.shared
        cases hl : s.lock with
        | none => rw [hl] at hsh; exact Cons_congr s s' e1 e2 e3 e4 hsh
        | some j =>
          rw [hl] at hsh
          obtain ⟨u, hu, ha⟩ := hsh
          -- the holder `j` is another thread, so its entry survives the `set`
          have hji : i ≠ j := by
            intro h; subst h
            rw [ht] at hu; cases hu
            exact h2 (hcrit_t.mpr hl)
          refine ⟨u, ?_, Assert_congr u s s' e1 e2 e3 e4 ha⟩
          rw [hth, List.getElem?_set_ne hji]; exact hu

end Claripy.GcGuard

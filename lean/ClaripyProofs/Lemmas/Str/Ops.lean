import ClaripyProofs.Lemmas.Str.Find
/-! Each function of backend_concrete/strings.py equals the SMT-LIB function, for every input. -/
namespace Claripy.Str
open Spec

theorem concat_eq (a b : S) : Model.StrConcat [a, b] = Spec.concat a b := by
  simp [Model.StrConcat, Py.join, Spec.concat]

theorem concat_many (args : List S) : Model.StrConcat args = args.foldr Spec.concat [] := by
  induction args with
  | nil => rfl
  | cons a as ih => simp only [Model.StrConcat, Py.join] at ih ⊢; simp [Spec.concat, ih]

theorem substr_eq (s : S) (i n : Nat) : Model.StrSubstr i n s = Spec.substr s i n := by
  unfold Model.StrSubstr Py.slice Spec.substr
  rw [show i + n - i = n by omega]
  by_cases h : i < s.length ∧ 0 < n
  · rw [if_pos h, List.take_eq_take_iff, List.length_drop]; omega
  · rw [if_neg h]
    by_cases hi : i < s.length
    · have : n = 0 := by omega
      subst this; simp
    · simp [List.drop_eq_nil_of_le (Nat.le_of_not_lt hi)]

theorem contains_eq (s t : S) : Model.StrContains s t = Spec.contains s t := by
  simp [Model.StrContains, Py.isIn, Spec.contains, find_spec]

theorem replace_eq (s t r : S) : Model.StrReplace s t r = Spec.replace s t r := by
  unfold Model.StrReplace Py.replace1 Spec.replace
  rw [find_spec]
  cases findAt t s 0 <;> simp [Py.slice, Py.sliceFrom]

theorem prefixof_eq (p s : S) : Model.StrPrefixOf p s = Spec.prefixof p s := by
  unfold Model.StrPrefixOf Py.startswith Spec.prefixof
  have := slice_eq_iff s p 0
  simpa using this

theorem suffixof_eq (p s : S) : Model.StrSuffixOf p s = Spec.suffixof p s := by
  unfold Model.StrSuffixOf Py.endswith Spec.suffixof
  rw [Bool.eq_iff_iff, List.isSuffixOf_iff_suffix, List.suffix_iff_eq_drop]
  simp only [Bool.and_eq_true, decide_eq_true_eq, beq_iff_eq]
  constructor
  · intro ⟨_, h⟩; exact h.symm
  · intro h
    refine ⟨?_, h.symm⟩
    have := congrArg List.length h
    simp at this; omega

theorem indexof_eq (s t : S) (i : Nat) : Model.StrIndexOf s t i = Spec.indexof s t i := by
  unfold Model.StrIndexOf Spec.indexof Py.index Py.sliceFrom Model.bvvMinusOne Model.bvv64 minusOne
  by_cases h : i ≤ s.length
  · have h' : ¬ i > s.length := by omega
    rw [if_neg h', if_pos h, find_spec, findAt_shift t (s.drop i) i]
    cases findAt t (s.drop i) 0 <;> simp [Nat.add_comm]
  · have h' : i > s.length := by omega
    rw [if_pos h', if_neg h]

theorem foldl_mod (s : S) : ∀ (v : Nat), (∀ c ∈ s, 48 ≤ c) →
    s.foldl (fun v c => (v * 10 + c - 48) % M64) (v % M64) = (s.foldl (fun a c => a * 10 + (c - 48)) v) % M64 := by
  induction s with
  | nil => intro v _; simp
  | cons c s ih =>
    intro v h
    have hc : 48 ≤ c := h c (by simp)
    simp only [List.foldl_cons]
    have e : (v % M64 * 10 + c - 48) % M64 = ((v * 10 + (c - 48)) % M64) := by
      have : v % M64 * 10 + c - 48 = v % M64 * 10 + (c - 48) := by omega
      rw [this, Nat.add_mod, Nat.mul_mod, Nat.mod_mod, ← Nat.mul_mod, ← Nat.add_mod]
    rw [e]
    exact ih _ (fun c hc => h c (by simp [hc]))

theorem toint_eq (s : S) : Model.StrToInt s = Spec.toInt s := by
  unfold Model.StrToInt Spec.toInt Model.bvvMinusOne Model.bvv64 minusOne Spec.decVal
  have hc : (s.isEmpty || s.any fun c => !Model.isAsciiDigit c) = true ↔ ¬ (s ≠ [] ∧ s.all Spec.isDigit = true) := by
    have : Model.isAsciiDigit = Spec.isDigit := rfl
    rw [this]
    cases s <;> simp
    cases isDigit _ <;> simp
  by_cases h : s ≠ [] ∧ s.all Spec.isDigit = true
  · rw [if_pos h, if_neg (fun hh => hc.1 hh h)]
    have hd : ∀ c ∈ s, 48 ≤ c := by
      intro c hc
      have := List.all_eq_true.1 h.2 c hc
      simp [Spec.isDigit] at this; omega
    have := foldl_mod s 0 hd
    simp only [Nat.zero_mod] at this
    rw [this, Nat.mod_mod]
  · rw [if_neg h, if_pos (hc.2 h)]

theorem eq_eq (a b : S) : Model.eq a b = Spec.eq a b := by
  unfold Model.eq Spec.eq
  rw [Bool.eq_iff_iff, beq_iff_eq, decide_eq_true_iff]

theorem ne_eq (a b : S) : Model.ne a b = !Spec.eq a b := by
  have := eq_eq a b
  unfold Model.eq Spec.eq at this
  unfold Model.ne Spec.eq
  rw [bne, this]

end Claripy.Str

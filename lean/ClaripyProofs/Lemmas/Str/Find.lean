import Claripy.Str.Model
/-! `Spec.findAt` is "the least position where the pattern occurs", Python's `find` computes it, and the reference functions say
what the SMT-LIB Strings theory says (decompositions `s = u1 ++ t ++ u2`). -/
namespace Claripy.Str
open Spec

theorem findAt_none_of_short (t : S) : ∀ (s : S) (k : Nat), s.length < t.length → findAt t s k = none
  | [], k, h => by
    have : t ≠ [] := by intro h'; simp [h'] at h
    simp [findAt, this]
  | c :: s, k, h => by
    have hp : ¬ (t.isPrefixOf (c :: s) = true) := by
      rw [List.isPrefixOf_iff_prefix]; intro hp; have := hp.length_le; omega
    have ih := findAt_none_of_short t s (k + 1) (by simp at h; omega)
    simp [findAt, hp, ih]

theorem findAt_shift (t : S) : ∀ (s : S) (k : Nat), findAt t s k = (findAt t s 0).map (· + k)
  | [], k => by by_cases h : t = [] <;> simp [findAt, h]
  | c :: s, k => by
    by_cases hp : t.isPrefixOf (c :: s) = true
    · simp [findAt, hp]
    · have h1 := findAt_shift t s (k + 1)
      have h2 := findAt_shift t s 1
      simp only [findAt, hp, if_false, Bool.false_eq_true]
      rw [h1]; simp only [Nat.zero_add]; rw [h2]
      cases findAt t s 0 <;> simp; omega

theorem findAt_sound (t : S) : ∀ (s : S) (k j : Nat), findAt t s k = some j →
    k ≤ j ∧ j - k ≤ s.length ∧ t <+: s.drop (j - k)
  | [], k, j, h => by
    by_cases ht : t = []
    · simp [findAt, ht] at h; subst h; simp [ht]
    · simp [findAt, ht] at h
  | c :: s, k, j, h => by
    by_cases hp : t.isPrefixOf (c :: s) = true
    · simp [findAt, hp] at h; subst h
      simp; exact List.isPrefixOf_iff_prefix.1 hp
    · simp only [findAt, hp, if_false, Bool.false_eq_true] at h
      have ⟨h1, h2, h3⟩ := findAt_sound t s (k + 1) j h
      refine ⟨by omega, by simp; omega, ?_⟩
      have : j - k = (j - (k + 1)) + 1 := by omega
      rw [this, List.drop_succ_cons]; exact h3

theorem findAt_least (t : S) : ∀ (s : S) (k j : Nat), findAt t s k = some j →
    ∀ i, k ≤ i → i < j → ¬ t <+: s.drop (i - k)
  | [], k, j, h => by
    by_cases ht : t = []
    · simp [findAt, ht] at h; subst h; intro i h1 h2; omega
    · simp [findAt, ht] at h
  | c :: s, k, j, h => by
    by_cases hp : t.isPrefixOf (c :: s) = true
    · simp [findAt, hp] at h; subst h; intro i h1 h2; omega
    · simp only [findAt, hp, if_false, Bool.false_eq_true] at h
      intro i h1 h2
      by_cases hik : i = k
      · subst hik; simp; rw [← List.isPrefixOf_iff_prefix]; exact hp
      · have := findAt_least t s (k + 1) j h i (by omega) h2
        have e : i - k = (i - (k + 1)) + 1 := by omega
        rw [e, List.drop_succ_cons]; exact this

theorem findAt_complete (t : S) : ∀ (s : S) (k : Nat), findAt t s k = none →
    ∀ i, i ≤ s.length → ¬ t <+: s.drop i
  | [], k, h => by
    by_cases ht : t = []
    · simp [findAt, ht] at h
    · intro i hi; simp at hi; subst hi; simp; exact ht
  | c :: s, k, h => by
    by_cases hp : t.isPrefixOf (c :: s) = true
    · simp [findAt, hp] at h
    · simp only [findAt, hp, if_false, Bool.false_eq_true] at h
      intro i hi
      cases i with
      | zero => simp; rw [← List.isPrefixOf_iff_prefix]; exact hp
      | succ i => rw [List.drop_succ_cons]; exact findAt_complete t s (k + 1) h i (by simp at hi; omega)

theorem slice_eq_iff (s t : S) (j : Nat) : (Py.slice s j (j + t.length) == t) = t.isPrefixOf (s.drop j) := by
  have e : j + t.length - j = t.length := by omega
  rw [Bool.eq_iff_iff, List.isPrefixOf_iff_prefix, List.prefix_iff_eq_take, beq_iff_eq]
  unfold Py.slice
  rw [e]
  constructor <;> intro h <;> exact h.symm

theorem findAt_cons (t : S) (c : Nat) (s : S) (k : Nat) :
    findAt t (c :: s) k = if t.isPrefixOf (c :: s) then some k else findAt t s (k + 1) := rfl

theorem findLoop_eq (s t : S) (ht : t.length ≤ s.length) (hne : 0 < t.length) :
    ∀ (fuel j : Nat), fuel + j = s.length - t.length + 1 →
    Py.findLoop s t j fuel = findAt t (s.drop j) j
  | 0, j, h => by
    rw [findAt_none_of_short]; · rfl
    simp; omega
  | fuel + 1, j, h => by
    unfold Py.findLoop
    rw [slice_eq_iff]
    have hj : j < s.length := by omega
    have hd := List.drop_eq_getElem_cons hj
    have ih := findLoop_eq s t ht hne fuel (j + 1) (by omega)
    have e : findAt t (s.drop j) j =
        if t.isPrefixOf (s.drop j) then some j else findAt t (s.drop (j + 1)) (j + 1) := by
      conv => lhs; rw [hd]
      rw [findAt_cons, ← hd]
    rw [e, ih]

theorem findAt_nil (s : S) (k : Nat) : findAt [] s k = some k := by
  cases s <;> simp [findAt]

theorem find_spec (s t : S) : Py.find s t = findAt t s 0 := by
  unfold Py.find
  by_cases ht : t.length ≤ s.length
  · simp only [ht, if_true]
    by_cases hne : 0 < t.length
    · have := findLoop_eq s t ht hne (s.length - t.length + 1) 0 (by omega)
      simpa using this
    · have : t = [] := List.eq_nil_of_length_eq_zero (by omega)
      subst this
      rw [findAt_nil]
      simp [Py.findLoop, Py.slice]
  · simp only [ht, if_false]
    rw [findAt_none_of_short]; omega

theorem occurrence_split (t s : S) (j : Nat) (h : t <+: s.drop j) :
    s = s.take j ++ t ++ s.drop (j + t.length) := by
  obtain ⟨r, hr⟩ := h
  have : s.drop (j + t.length) = r := by
    rw [← List.drop_drop, ← hr, List.drop_left]
  rw [this, List.append_assoc, hr, List.take_append_drop]

theorem contains_iff_infix (s t : S) : Spec.contains s t = true ↔ t <:+: s := by
  unfold Spec.contains
  constructor
  · intro h
    obtain ⟨j, hj⟩ := Option.isSome_iff_exists.1 h
    have ⟨_, _, hp⟩ := findAt_sound t s 0 j hj
    simp only [Nat.sub_zero] at hp
    exact ⟨s.take j, s.drop (j + t.length), (occurrence_split t s j hp).symm⟩
  · intro ⟨u1, u2, h⟩
    cases hf : findAt t s 0 with
    | some j => rfl
    | none =>
      exfalso
      have hlen : u1.length ≤ s.length := by rw [← h]; simp
      apply findAt_complete t s 0 hf u1.length hlen
      rw [← h, List.append_assoc, List.drop_left]
      exact List.prefix_append t u2

theorem replace_char (s t r : S) :
    (¬ t <:+: s → Spec.replace s t r = s) ∧
    (t <:+: s → ∃ u1 u2, s = u1 ++ t ++ u2 ∧ Spec.replace s t r = u1 ++ r ++ u2 ∧
      ∀ v1 v2, s = v1 ++ t ++ v2 → u1.length ≤ v1.length) := by
  constructor
  · intro h
    have : Spec.contains s t = false := by
      cases hc : Spec.contains s t
      · rfl
      · exact absurd ((contains_iff_infix s t).1 hc) h
    unfold Spec.contains at this
    unfold Spec.replace
    cases hf : findAt t s 0 with
    | none => rfl
    | some j => rw [hf] at this; simp at this
  · intro h
    have hc := (contains_iff_infix s t).2 h
    unfold Spec.contains at hc
    obtain ⟨j, hj⟩ := Option.isSome_iff_exists.1 hc
    have ⟨_, hjl, hp⟩ := findAt_sound t s 0 j hj
    simp only [Nat.sub_zero] at hp hjl
    refine ⟨s.take j, s.drop (j + t.length), occurrence_split t s j hp, by unfold Spec.replace; rw [hj], ?_⟩
    intro v1 v2 hv
    rw [List.length_take, Nat.min_eq_left hjl]
    apply Classical.byContradiction; intro hlt
    have hlt' : v1.length < j := by omega
    apply findAt_least t s 0 j hj v1.length (Nat.zero_le _) hlt'
    simp only [Nat.sub_zero]
    rw [hv, List.append_assoc, List.drop_left]
    exact List.prefix_append t v2

theorem indexof_char (s t : S) (i : Nat) (hi : i ≤ s.length) :
    (∀ j, findAt t (s.drop i) i = some j → i ≤ j ∧ t <+: s.drop j ∧ (∀ k, i ≤ k → k < j → ¬ t <+: s.drop k) ∧
      Spec.indexof s t i = j % M64) ∧
    (findAt t (s.drop i) i = none → (∀ k, i ≤ k → k ≤ s.length → ¬ t <+: s.drop k) ∧ Spec.indexof s t i = minusOne) := by
  constructor
  · intro j hj
    have ⟨h1, _, h3⟩ := findAt_sound t (s.drop i) i j hj
    have h4 := findAt_least t (s.drop i) i j hj
    refine ⟨h1, ?_, ?_, by unfold Spec.indexof; rw [if_pos hi, hj]⟩
    · rw [List.drop_drop] at h3; have : i + (j - i) = j := by omega
      rwa [this] at h3
    · intro k hk1 hk2 hp
      apply h4 k hk1 hk2
      rw [List.drop_drop]; have : i + (k - i) = k := by omega
      rwa [this]
  · intro hn
    refine ⟨?_, by unfold Spec.indexof; rw [if_pos hi, hn]⟩
    intro k hk1 hk2 hp
    apply findAt_complete t (s.drop i) i hn (k - i) (by simp; omega)
    rw [List.drop_drop]; have : i + (k - i) = k := by omega
    rwa [this]

end Claripy.Str

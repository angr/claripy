import Claripy.Str.Codec
/-! The escape codecs between claripy, z3py and Z3: hexadecimal printing and parsing; way in (what Z3 parses from z3py's text of
claripy's escaped literal is the literal); way out (decoding the text Z3 prints for a string value gives back the value). -/
namespace Claripy.Str.Codec

theorem hexVal_hexChar (d : Nat) (h : d < 16) : hexVal (hexChar d) = some d := by
  unfold hexChar hexVal
  by_cases h10 : d < 10
  · have h1 : 48 ≤ 48 + d ∧ 48 + d ≤ 57 := by omega
    rw [if_pos h10, if_pos h1]; congr 1; omega
  · have h1 : ¬ (48 ≤ 87 + d ∧ 87 + d ≤ 57) := by omega
    have h2 : 97 ≤ 87 + d ∧ 87 + d ≤ 102 := by omega
    rw [if_neg h10, if_neg h1, if_pos h2]; congr 1; omega

theorem isHex_hexChar (d : Nat) (h : d < 16) : isHex (hexChar d) = true := by
  simp [isHex, hexVal_hexChar d h]

theorem hexVal_rbrace : hexVal rbrace = none := by decide
theorem isHex_rbrace : isHex rbrace = false := by decide

theorem toHex_eq (n : Nat) : toHex n = if n < 16 then [hexChar n] else toHex (n / 16) ++ [hexChar (n % 16)] := by
  rw [toHex]; split <;> rfl

theorem toHex_ne_nil (n : Nat) : toHex n ≠ [] := by
  rw [toHex_eq]; split <;> simp

theorem toHex_all_hex (n : Nat) : ∀ c ∈ toHex n, isHex c = true := by
  induction n using Nat.strongRecOn with
  | _ n ih =>
    rw [toHex_eq]
    by_cases h : n < 16
    · simp [h, isHex_hexChar n h]
    · simp only [h, if_false, List.mem_append, List.mem_singleton]
      intro c hc
      rcases hc with hc | hc
      · exact ih (n / 16) (by omega) c hc
      · rw [hc]; exact isHex_hexChar _ (Nat.mod_lt n (by decide))

/-- accumulate hex digits onto `acc` (what both Z3's loop and `int(_, 16)` compute) -/
def hexAcc (acc : Nat) (ds : S) : Nat := ds.foldl (fun a c => 16 * a + (hexVal c).getD 0) acc

theorem parseHex_eq (ds : S) : parseHex ds = hexAcc 0 ds := rfl

theorem hexAcc_toHex (n : Nat) : ∀ acc, hexAcc acc (toHex n) = acc * 16 ^ (toHex n).length + n := by
  induction n using Nat.strongRecOn with
  | _ n ih =>
    intro acc
    rw [toHex_eq]
    by_cases h : n < 16
    · simp [h, hexAcc, hexVal_hexChar n h]; omega
    · have hm := Nat.mod_lt n (by decide : 16 > 0)
      simp only [h, if_false, hexAcc, List.foldl_append, List.foldl_cons, List.foldl_nil,
        List.length_append, List.length_singleton]
      have := ih (n / 16) (by omega) acc
      unfold hexAcc at this
      rw [this, hexVal_hexChar _ hm]
      simp only [Option.getD_some, Nat.pow_succ]
      have := Nat.div_add_mod n 16
      rw [← Nat.mul_assoc acc]
      generalize acc * 16 ^ (toHex (n / 16)).length = Y
      omega

theorem parseHex_toHex (n : Nat) : parseHex (toHex n) = n := by
  rw [parseHex_eq, hexAcc_toHex]; simp

theorem toHex_length_le (n : Nat) : ∀ k, 0 < k → n < 16 ^ k → (toHex n).length ≤ k := by
  induction n using Nat.strongRecOn with
  | _ n ih =>
    intro k hk hn
    rw [toHex_eq]
    by_cases h : n < 16
    · simp [h]; omega
    · simp only [h, if_false, List.length_append, List.length_singleton]
      cases k with
      | zero => omega
      | succ k =>
        have hk' : 0 < k := by
          cases k with
          | zero => simp at hn; omega
          | succ k => omega
        have : n / 16 < 16 ^ k := by
          rw [Nat.div_lt_iff_lt_mul (by decide)]; rw [Nat.pow_succ] at hn; exact hn
        have := ih (n / 16) (by omega) k hk' this
        omega

theorem spanHex_append (ds : S) (c : Nat) (rest : S) (hds : ∀ d ∈ ds, isHex d = true) (hc : isHex c = false) :
    spanHex (ds ++ c :: rest) = (ds, c :: rest) := by
  induction ds with
  | nil => simp [spanHex, hc]
  | cons d ds ih =>
    have hd : isHex d = true := hds d (by simp)
    have := ih (fun d hd => hds d (by simp [hd]))
    simp [spanHex, hd, this]

theorem braceLoop_digits : ∀ (ds : S) (fuel acc : Nat) (rest : S),
    (∀ d ∈ ds, isHex d = true) → ds.length < fuel → hexAcc acc ds ≤ z3MaxChar →
    braceLoop fuel acc (ds ++ rbrace :: rest) = some (hexAcc acc ds, rest)
  | [], fuel, acc, rest, _, hf, hv => by
    cases fuel with
    | zero => simp at hf
    | succ fuel =>
      simp only [hexAcc, List.foldl_nil] at hv
      simp [braceLoop, hexVal_rbrace, hexAcc, hv]
  | d :: ds, fuel, acc, rest, hh, hf, hv => by
    cases fuel with
    | zero => simp at hf
    | succ fuel =>
      have hd : isHex d = true := hh d (by simp)
      obtain ⟨v, hv'⟩ := Option.isSome_iff_exists.1 hd
      have ih := braceLoop_digits ds fuel (16 * acc + v) rest (fun x hx => hh x (by simp [hx]))
        (by simp at hf; omega) (by simpa [hexAcc, hv'] using hv)
      simp only [List.cons_append, braceLoop, hv']
      rw [ih]; simp [hexAcc, hv']

theorem afterBU_cons (tl : S) : afterBU (bslash :: chU :: tl) = some tl := by simp [afterBU]

theorem afterBU_ne (c : Nat) (tl : S) (h : c ≠ bslash) : afterBU (c :: tl) = none := by
  cases tl with
  | nil => rfl
  | cons b tl => simp [afterBU, h]

theorem afterBU_ne2 (tl : S) (h : tl.head? ≠ some chU) : afterBU (bslash :: tl) = none := by
  cases tl with
  | nil => rfl
  | cons b tl =>
    have : b ≠ chU := by intro hb; simp [hb] at h
    simp [afterBU, this]

/-- Z3 reads `\u{h..h}` (at most 5 digits, value ≤ 0x2FFFF) as one character -/
theorem escapeAt_braceEscape (c : Nat) (rest : S) (hc : c ≤ z3MaxChar) :
    escapeAt (braceEscape c ++ rest) = some (c, rest) := by
  have hlen : (toHex c).length ≤ 5 := toHex_length_le c 5 (by decide) (by unfold z3MaxChar at hc; omega)
  have hall := toHex_all_hex c
  have hval : hexAcc 0 (toHex c) = c := parseHex_toHex c
  have hloop := braceLoop_digits (toHex c) 6 0 rest hall (by omega) (by rw [hval]; exact hc)
  rw [hval] at hloop
  unfold escapeAt braceEscape
  simp only [List.cons_append, List.nil_append, List.append_assoc, afterBU_cons]
  cases hx : toHex c with
  | nil => exact absurd hx (toHex_ne_nil c)
  | cons d ds =>
    have hd : d ≠ rbrace := by
      intro hd
      have := hall d (by simp [hx])
      rw [hd, isHex_rbrace] at this; exact absurd this (by decide)
    rw [hx] at hloop
    simp only [List.cons_append] at hloop ⊢
    simp [hd, hloop]

theorem escapeAt_plain (c : Nat) (rest : S) (h : c ≠ bslash) : escapeAt (c :: rest) = none := by
  simp [escapeAt, afterBU_ne c rest h]

def enc1 (c : Nat) : S := (claripyEncodeChar c).flatMap z3pyEncodeChar

theorem enc1_bslash : enc1 bslash = braceEscape bslash := by
  simp [enc1, claripyEncodeChar, braceEscape, toHex_eq, hexChar, z3pyEncodeChar, bslash, chU, lbrace, rbrace]

theorem enc1_other (c : Nat) (h : c ≠ bslash) : enc1 c = z3pyEncodeChar c := by
  simp [enc1, claripyEncodeChar, h]

theorem encode_eq (s : S) : z3pyEncode (s.flatMap claripyEncodeChar) = s.flatMap enc1 := by
  simp only [z3pyEncode, List.flatMap_assoc]; rfl

theorem enc1_length_pos (c : Nat) : 0 < (enc1 c).length := by
  by_cases h : c = bslash
  · rw [h, enc1_bslash]; simp [braceEscape]
  · rw [enc1_other c h]; unfold z3pyEncodeChar; split <;> simp [braceEscape]

theorem parse_step (c : Nat) (rest : S) (fuel : Nat) (hc : c ≤ z3MaxChar) :
    z3ParseFuel (fuel + 1) (enc1 c ++ rest) = c :: z3ParseFuel fuel rest := by
  by_cases hb : c = bslash
  · have e := escapeAt_braceEscape bslash rest (by decide)
    rw [hb, enc1_bslash]
    cases hx : braceEscape bslash ++ rest with
    | nil => simp [braceEscape] at hx
    | cons a tl =>
      rw [hx] at e
      simp [z3ParseFuel, e]
  · rw [enc1_other c hb]
    unfold z3pyEncodeChar
    by_cases hp : 32 ≤ c ∧ c < 127
    · simp [hp, z3ParseFuel, escapeAt_plain c rest hb]
    · have e := escapeAt_braceEscape c rest hc
      rw [if_neg hp]
      cases hx : braceEscape c ++ rest with
      | nil => simp [braceEscape] at hx
      | cons a tl =>
        rw [hx] at e
        simp [z3ParseFuel, e]

theorem parse_all : ∀ (s : S) (fuel : Nat), (∀ c ∈ s, c ≤ z3MaxChar) → (s.flatMap enc1).length ≤ fuel →
    z3ParseFuel fuel (s.flatMap enc1) = s
  | [], fuel, _, _ => by cases fuel <;> simp [z3ParseFuel]
  | c :: s, fuel, hs, hf => by
    have hpos := enc1_length_pos c
    simp only [List.flatMap_cons, List.length_append] at hf ⊢
    cases fuel with
    | zero => omega
    | succ fuel =>
      rw [parse_step c _ fuel (hs c (by simp))]
      rw [parse_all s fuel (fun x hx => hs x (by simp [hx])) (by omega)]

theorem literal_roundtrip' (s : S) (h : ∀ c ∈ s, c ≤ z3MaxChar) :
    (claripyEncode s).map (fun t => z3Parse (z3pyEncode t)) = some s := by
  have hany : s.any (fun c => decide (c > z3MaxChar)) = false := by
    simp only [List.any_eq_false, decide_eq_true_eq]; intro c hc; have := h c hc; omega
  unfold claripyEncode
  rw [hany]
  simp only [Bool.false_eq_true, if_false, Option.map_some, z3Parse, encode_eq]
  rw [parse_all s _ h (Nat.le_refl _)]

theorem literal_rejects_big' (s : S) (h : ∃ c ∈ s, c > z3MaxChar) : claripyEncode s = none := by
  have hany : s.any (fun c => decide (c > z3MaxChar)) = true := by
    simp only [List.any_eq_true, decide_eq_true_eq]; exact h
  unfold claripyEncode; rw [hany]; rfl

def escaped (c : Nat) (rest : S) : Prop := c = 0 ∨ c ≥ 256 ∨ (c = bslash ∧ rest.head? = some chU)

instance (c : Nat) (rest : S) : Decidable (escaped c rest) := by unfold escaped; exact inferInstance

theorem z3Print_cons (c : Nat) (rest : S) :
    z3Print (c :: rest) = (if escaped c rest then braceEscape c else [c]) ++ z3Print rest := rfl

theorem z3Print_head_u (s : S) : (z3Print s).head? = some chU → s.head? = some chU := by
  cases s with
  | nil => simp [z3Print]
  | cons c rest =>
    rw [z3Print_cons]
    by_cases he : escaped c rest
    · simp [he, braceEscape, bslash, chU]
    · simp [he]

theorem afterBUBrace_escape (more : S) : afterBUBrace (bslash :: chU :: lbrace :: more) = some more := by
  simp [afterBUBrace, afterBU_cons]

theorem afterBUBrace_none (c : Nat) (tl : S) (h : afterBU (c :: tl) = none) : afterBUBrace (c :: tl) = none := by
  simp [afterBUBrace, h]

theorem decode_step_escape (c : Nat) (rest : S) (fuel : Nat) (hc : c ≤ pyMaxChar) :
    claripyDecodeFuel (fuel + 1) (braceEscape c ++ rest) = c :: claripyDecodeFuel fuel rest := by
  have hspan := spanHex_append (toHex c) rbrace rest (toHex_all_hex c) isHex_rbrace
  unfold braceEscape
  simp only [List.cons_append, List.nil_append, List.append_assoc, claripyDecodeFuel, afterBUBrace_escape]
  rw [hspan]
  simp [toHex_ne_nil, parseHex_toHex, hc]

theorem decode_step_plain (c : Nat) (rest : S) (fuel : Nat) (h : afterBU (c :: rest) = none) :
    claripyDecodeFuel (fuel + 1) (c :: rest) = c :: claripyDecodeFuel fuel rest := by
  simp [claripyDecodeFuel, afterBUBrace_none c rest h]

theorem braceEscape_length_pos (c : Nat) : 0 < (braceEscape c).length := by simp [braceEscape]

theorem decode_all : ∀ (s : S) (fuel : Nat), (∀ c ∈ s, c ≤ pyMaxChar) → (z3Print s).length ≤ fuel →
    claripyDecodeFuel fuel (z3Print s) = s
  | [], fuel, _, _ => by cases fuel <;> simp [z3Print, claripyDecodeFuel]
  | c :: s, fuel, hs, hf => by
    rw [z3Print_cons] at hf ⊢
    have hc := hs c (by simp)
    have ih := fun f hf' => decode_all s f (fun x hx => hs x (by simp [hx])) hf'
    by_cases he : escaped c s
    · simp only [he, if_true, List.length_append] at hf ⊢
      have := braceEscape_length_pos c
      cases fuel with
      | zero => omega
      | succ fuel => rw [decode_step_escape c _ fuel hc, ih fuel (by omega)]
    · simp only [he, if_false, List.cons_append, List.nil_append, List.length_cons] at hf ⊢
      cases fuel with
      | zero => omega
      | succ fuel =>
        have hn : afterBU (c :: z3Print s) = none := by
          by_cases hb : c = bslash
          · subst hb
            apply afterBU_ne2
            intro hu
            exact he (Or.inr (Or.inr ⟨rfl, z3Print_head_u s hu⟩))
          · exact afterBU_ne c _ hb
        rw [decode_step_plain c _ fuel hn, ih fuel (by omega)]

theorem extract_roundtrip' (s : S) (h : ∀ c ∈ s, c ≤ pyMaxChar) : claripyDecode (z3Print s) = s := by
  unfold claripyDecode
  exact decode_all s _ h (Nat.le_refl _)

end Claripy.Str.Codec

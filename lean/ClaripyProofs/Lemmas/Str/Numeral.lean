import Claripy.Str.Model
import Claripy.Str.Numeral
import ClaripyProofs.Lemmas.Util.Pow2
/-! `str(n)` is the SMT-LIB `str.from_int`, `str.to_int ∘ str.from_int = id`, and the chunked decimal conversion of bit-vector
numerals is exact for every width. -/
namespace Claripy.Str
open Spec

theorem digitChar_toNat : ∀ (d : Nat), d < 10 → (Nat.digitChar d).toNat = 48 + d
  | 0, _ => rfl | 1, _ => rfl | 2, _ => rfl | 3, _ => rfl | 4, _ => rfl
  | 5, _ => rfl | 6, _ => rfl | 7, _ => rfl | 8, _ => rfl | 9, _ => rfl
  | n + 10, h => by omega

theorem fromInt_eq (n : Nat) : Spec.fromInt n = if n < 10 then [48 + n] else Spec.fromInt (n / 10) ++ [48 + n % 10] := by
  rw [Spec.fromInt]; split <;> rfl

theorem str_eq_fromInt (n : Nat) : Py.str n = Spec.fromInt n := by
  induction n using Nat.strongRecOn with
  | _ n ih =>
    unfold Py.str at ih ⊢
    rw [Nat.toDigits_eq_if (by decide), fromInt_eq]
    by_cases h : n < 10
    · simp [h, digitChar_toNat n h]
    · simp only [h, if_false, List.map_append, List.map_cons, List.map_nil]
      rw [ih (n / 10) (by omega), digitChar_toNat _ (Nat.mod_lt n (by decide))]

theorem fromInt_ne_nil (n : Nat) : Spec.fromInt n ≠ [] := by
  rw [fromInt_eq]; split <;> simp

theorem fromInt_all_digits (n : Nat) : (Spec.fromInt n).all Spec.isDigit = true := by
  induction n using Nat.strongRecOn with
  | _ n ih =>
    rw [fromInt_eq]
    by_cases h : n < 10
    · simp [h, Spec.isDigit]; omega
    · simp only [h, if_false, List.all_append, ih (n / 10) (by omega), Bool.true_and]
      have := Nat.mod_lt n (by decide : 10 > 0)
      simp [Spec.isDigit]; omega

theorem decVal_fromInt (n : Nat) : Spec.decVal (Spec.fromInt n) = n := by
  induction n using Nat.strongRecOn with
  | _ n ih =>
    rw [fromInt_eq]
    by_cases h : n < 10
    · simp [h, Spec.decVal]
    · have := ih (n / 10) (by omega)
      unfold Spec.decVal at this ⊢
      simp only [h, if_false, List.foldl_append, this, List.foldl_cons, List.foldl_nil]
      omega

theorem toInt_fromInt (n : Nat) : Spec.toInt (Spec.fromInt n) = n % M64 := by
  unfold Spec.toInt
  rw [if_pos ⟨fromInt_ne_nil n, fromInt_all_digits n⟩, decVal_fromInt]

theorem fromInt_head (n : Nat) : (Spec.fromInt n).head? = some 48 → n = 0 := by
  induction n using Nat.strongRecOn with
  | _ n ih =>
    rw [fromInt_eq]
    by_cases h : n < 10
    · simp [h]
    · simp only [h, if_false]
      intro hh
      have hne := fromInt_ne_nil (n / 10)
      have e : (Spec.fromInt (n / 10) ++ [48 + n % 10]).head? = (Spec.fromInt (n / 10)).head? := by
        cases hf : Spec.fromInt (n / 10) with
        | nil => exact absurd hf hne
        | cons a l => rfl
      rw [e] at hh
      have := ih (n / 10) (by omega) hh
      omega

end Claripy.Str

namespace Claripy.Str.Numeral
open Claripy.Str Spec

theorem decVal_foldl (s : S) : ∀ v, s.foldl (fun a c => a * 10 + (c - 48)) v = v * 10 ^ s.length + decVal s := by
  induction s with
  | nil => intro v; simp [decVal]
  | cons c s ih =>
    intro v
    unfold decVal
    simp only [List.foldl_cons, List.length_cons]
    rw [ih, ih (0 * 10 + (c - 48)), Nat.pow_succ]
    simp only [Nat.zero_mul, Nat.zero_add]
    rw [Nat.add_mul, Nat.mul_assoc, Nat.add_assoc, Nat.mul_comm 10]

theorem decVal_append (a b : S) : decVal (a ++ b) = decVal a * 10 ^ b.length + decVal b := by
  unfold decVal
  rw [List.foldl_append, decVal_foldl]
  rfl

theorem chunkLoop_eq (chunk : Nat) (hc : 0 < chunk) : ∀ (fuel : Nat) (s : S) (v : Nat), s.length ≤ fuel →
    chunkLoop chunk fuel s v = v * 10 ^ s.length + decVal s
  | 0, s, v, h => by
    have : s = [] := List.eq_nil_of_length_eq_zero (by omega)
    subst this; simp [chunkLoop, decVal]
  | fuel + 1, s, v, h => by
    unfold chunkLoop
    by_cases hs : s = []
    · subst hs; simp [decVal]
    · rw [if_neg hs]
      have hpos : 0 < s.length := List.length_pos_iff.2 hs
      have hlen : (s.drop chunk).length ≤ fuel := by simp; omega
      have ih := chunkLoop_eq chunk hc fuel (s.drop chunk) (v * 10 ^ (s.take chunk).length + decVal (s.take chunk)) hlen
      dsimp only
      rw [ih]
      have hsplit : s = s.take chunk ++ s.drop chunk := (List.take_append_drop chunk s).symm
      have hl : s.length = (s.take chunk).length + (s.drop chunk).length := by
        conv => lhs; rw [hsplit]
        rw [List.length_append]
      conv => rhs; rw [hsplit, decVal_append]
      rw [List.length_append, Nat.pow_add, Nat.add_mul, Nat.mul_assoc, Nat.add_assoc]

theorem strToIntUnlimited_eq (chunk : Nat) (hc : 0 < chunk) (s : S) : strToIntUnlimited chunk s = decVal s := by
  unfold strToIntUnlimited
  rw [chunkLoop_eq chunk hc s.length s 0 (Nat.le_refl _)]; simp

theorem abstractBvVal_eq (chunk : Nat) (hc : 0 < chunk) (v : Nat) : abstractBvVal chunk v = v := by
  unfold abstractBvVal z3Uint64
  by_cases h : v < 2 ^ 64
  · simp [h]
  · simp only [h, if_false]
    rw [strToIntUnlimited_eq chunk hc]
    exact decVal_fromInt v

theorem concatQuirk_eq (parts : List Part) (h : ∀ p ∈ parts, p.val < 2 ^ p.size ∧ (p.neg = true → 0 < p.val)) :
    concatQuirk parts = concatVal parts := by
  unfold concatQuirk concatVal
  generalize (0 : Nat) = acc
  induction parts generalizing acc with
  | nil => rfl
  | cons p ps ih =>
    simp only [List.foldl_cons]
    have ⟨hv, hn⟩ := h p (by simp)
    have hstep : (acc <<< p.size) ||| (if p.neg then 2 ^ p.size - p.val else p.val)
        = acc * 2 ^ p.size + (if p.neg then (2 ^ p.size - p.val) % 2 ^ p.size else p.val) := by
      cases hneg : p.neg
      · simp only [Bool.false_eq_true, if_false]; exact shiftLeft_or_of_lt _ hv
      · have hp := hn hneg
        have hlt : 2 ^ p.size - p.val < 2 ^ p.size := by omega
        simp only [if_true, Nat.mod_eq_of_lt hlt]; exact shiftLeft_or_of_lt _ hlt
    rw [hstep]
    exact ih (fun q hq => h q (by simp [hq])) _

end Claripy.Str.Numeral

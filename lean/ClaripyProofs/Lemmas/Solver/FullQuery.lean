import ClaripyProofs.Lemmas.Solver.GetSolver
import ClaripyProofs.Lemmas.Solver.Tree
import ClaripyProofs.Lemmas.Solver.Extrema
/-!
FullFrontend's query methods (`_get_solver`, then an algorithm of the Z3 backend on the object it returns), proved ONCE for
every class: `FullClass` says what they need of a class invariant `I` and of the class's `_model_hook`; each method then has
one specification `QSpec I K …`.  The caching classes (`SI`, hook of ModelCacheMixin) and the cacheless ones (`CLInv`, no hook)
are instances.  Also: what property C11 demands of an `eval` / `batch_eval` answer.
-/
namespace Claripy.Solver

theorem nodup_map_on {α β : Type} {f : α → β} {l : List α} (h : ∀ x ∈ l, ∀ y ∈ l, f x = f y → x = y) (hd : l.Nodup) :
    (l.map f).Nodup :=
  List.pairwise_map.2 (hd.imp_of_mem fun hx hy hne e => hne (h _ hx _ hy e))

/-- what property C11 demands of an `eval` answer -/
def EvalOk (cs : List Con) (e : Exp) (n : Nat) (vs : List Nat) : Prop :=
  match e.conc with
  | some c => vs = [c]
  | none => (∀ v ∈ vs, Feasible cs e v) ∧ vs.Nodup ∧ vs.length ≤ n ∧ (∀ v, Feasible cs e v → v ∈ vs ∨ vs.length = n)

theorem evalOk_of_singletons {cs : List Con} {e : Exp} {n : Nat} {ts : List (List Nat)} (hc : e.conc = none)
    (hf : ∀ t ∈ ts, FeasibleT cs [e] t) (hnd : ts.Nodup) (hlen : ts.length ≤ n)
    (hcomp : ∀ t, FeasibleT cs [e] t → t ∈ ts ∨ ts.length = n) : EvalOk cs e n (ts.map fun t => t.headD 0) := by
  have hsing : ∀ t ∈ ts, ∃ a, Models cs a ∧ t = [e.val a] := by
    intro t ht
    obtain ⟨a, ha, hat⟩ := hf t ht
    exact ⟨a, ha, by simpa using hat.symm⟩
  simp only [EvalOk, hc]
  refine ⟨?_, ?_, by simpa using hlen, ?_⟩
  · intro v hv
    obtain ⟨t, ht, rfl⟩ := List.mem_map.mp hv
    obtain ⟨a, ha, rfl⟩ := hsing t ht
    exact ⟨a, ha, by simp⟩
  · refine nodup_map_on ?_ hnd
    intro x hx y hy hxy
    obtain ⟨a, _, rfl⟩ := hsing x hx
    obtain ⟨b, _, rfl⟩ := hsing y hy
    simp at hxy
    simp [hxy]
  · intro v ⟨a, ha, hv⟩
    rcases hcomp [e.val a] ⟨a, ha, rfl⟩ with h | h
    · left; exact List.mem_map.mpr ⟨_, h, by simp [hv]⟩
    · right; simpa using h

/-- what property C11 demands of a `batch_eval` answer (symbolic expressions) -/
def TuplesOk (cs : List Con) (es : List Exp) (n : Nat) (ts : List (List Nat)) : Prop :=
  (∀ t ∈ ts, FeasibleT cs es t) ∧ ts.Nodup ∧ ts.length ≤ n ∧ (∀ t, FeasibleT cs es t → t ∈ ts ∨ ts.length = n)

/-- `eval` is `batch_eval` of one expression -/
theorem evalOk_of_tuples {cs : List Con} {e : Exp} {n : Nat} {ts : List (List Nat)} (hc : e.conc = none)
    (h : TuplesOk cs [e] n ts) : EvalOk cs e n (ts.map fun t => t.headD 0) :=
  evalOk_of_singletons hc h.1 h.2.1 h.2.2.1 h.2.2.2


theorem wrap_nat (b v : Nat) (hv : v < 2 ^ b) : wrap b (v : Int) = v := by
  have := wrap_of_nonneg b (v : Int) (by omega) (by omega)
  omega

/-! the answer predicates depend on the constraints only through their models -/

section congr
variable {A B : List Con} (hiff : ∀ a, Models A a ↔ Models B a)
include hiff

theorem satisfiable_congr : Satisfiable A ↔ Satisfiable B :=
  ⟨fun ⟨a, ha⟩ => ⟨a, (hiff a).mp ha⟩, fun ⟨a, ha⟩ => ⟨a, (hiff a).mpr ha⟩⟩

theorem feasible_congr (e : Exp) (v : Nat) : Feasible A e v ↔ Feasible B e v :=
  ⟨fun ⟨a, ha, h⟩ => ⟨a, (hiff a).mp ha, h⟩, fun ⟨a, ha, h⟩ => ⟨a, (hiff a).mpr ha, h⟩⟩

theorem feasibleT_congr (es : List Exp) (t : List Nat) : FeasibleT A es t ↔ FeasibleT B es t :=
  ⟨fun ⟨a, ha, h⟩ => ⟨a, (hiff a).mp ha, h⟩, fun ⟨a, ha, h⟩ => ⟨a, (hiff a).mpr ha, h⟩⟩

theorem evalOk_congr (e : Exp) (n : Nat) (vs : List Nat) : EvalOk A e n vs ↔ EvalOk B e n vs := by
  unfold EvalOk
  cases e.conc with
  | some c => exact Iff.rfl
  | none => simp only [feasible_congr hiff]

theorem tuplesOk_congr (es : List Exp) (n : Nat) (ts : List (List Nat)) : TuplesOk A es n ts ↔ TuplesOk B es n ts := by
  simp only [TuplesOk, feasibleT_congr hiff]

theorem isOpt_congr (isMax signed : Bool) (e : Exp) (i : Int) : IsOpt isMax signed A e i ↔ IsOpt isMax signed B e i := by
  simp only [IsOpt, feasible_congr hiff]

theorem errOk_congr {E : Env} (err : Err) : ErrOk E A err ↔ ErrOk E B err := by
  simp only [ErrOk, satisfiable_congr hiff]

end congr

theorem errOk_unsat {E : Env} {cs : List Con} (h : ErrOk E cs .unsat) : ¬ Satisfiable cs :=
  h.elim (·.2) fun hg => absurd hg.1 (by simp)

/-- what FullFrontend's queries need of the invariant `I` of a class whose `_model_hook` is `hook`: the constraints held mean the
user's constraints `U`; `_get_solver` succeeds; the hook keeps `P fe1` (`fe1` = the record when the backend algorithm starts);
after any run of a backend algorithm on the object returned that leaves its assertion frames as they were, `I` holds again and
`K` relates the states -/
structure FullClass (hook : PModel → M Unit) (I : St → Prop) (K : St → St → Prop) (U : List Con)
    (P : Frontend → Frontend → Prop) : Prop where
  equiv : ∀ {s}, I s → ∀ a, holdsAll s.fe.constraints a = holdsAll U a
  got : ∀ {s}, I s → getSolver.wp (fun r s1 => GotSolver s s1 r ∧ HookOk hook (objAt s1 r).asserted (P s1.fe) ∧ P s1.fe s1.fe ∧
      ∀ s2, ObjStep r s1 s2 → (objAt s2 r).frames = (objAt s1 r).frames → P s1.fe s2.fe → I s2 ∧ K s s2)
    (fun _ _ => False) s

section
variable {E : Env} {hook : PModel → M Unit} {I : St → Prop} {K : St → St → Prop} {U : List Con}
  {P : Frontend → Frontend → Prop} {H : List Nat → List Var → Frontend → Prop}

theorem FullClass.satBy (C : FullClass hook I K U P) {s s1 : St} {r : Nat} (h : I s) (hg : GotSolver s s1 r) (ec : List Con)
    (a : Asg) : SatBy ((objAt s1 r).asserted ++ ec.map ZCon.ofCon) a ↔ Models (U ++ ec) a := by
  rw [SatBy.append, hg.asserted a, satBy_ofCon, models_append, models_iff_holdsAll, models_iff_holdsAll, C.equiv h a]

theorem FullClass.realises (C : FullClass hook I K U P) {s s1 : St} {r : Nat} (h : I s) (hg : GotSolver s s1 r) (ec : List Con)
    (asts : List Exp) (t : List Nat) :
    Realises ((objAt s1 r).asserted ++ ec.map ZCon.ofCon) asts t ↔ FeasibleT (U ++ ec) asts t :=
  exists_congr fun a => and_congr_left' (C.satBy h hg ec a)

theorem full_satisfiable_q (hE : OracleExact E) {self sup : Ops} (C : FullClass self.modelHook I K U P) (extra : List Con) :
    QSpec I K (SatGood (U ++ extra)) (IsGiveUp E) ((fullLayer E self sup).satisfiable extra) := by
  intro s h
  simp only [fullLayer, M.wp_bind]
  refine (C.got h).imp (fun r s1 ⟨hg, hok, hp0, hafter⟩ => ?_) fun _ _ h => h.elim
  refine (z3Satisfiable_run hE hok r _ s1 fun _ hc => hc).imp (fun b s2 ⟨hb, hst, hfr⟩ => ?_) fun e s2 ⟨he, hst, hfr⟩ => ?_
  · exact ⟨hb.trans (exists_congr fun a => C.satBy h hg extra a), hafter s2 hst.toObjStep hfr (hst.fe hp0)⟩
  · exact ⟨he, hafter s2 hst.toObjStep hfr (hst.fe hp0)⟩

/-- **FullFrontend.solution**: satisfiability together with `e == v` -/
theorem full_solution_q (hE : OracleExact E) {self sup : Ops} (C : FullClass self.modelHook I K U P) (e : Exp) (v : Nat)
    (hv : v < 2 ^ e.bits) (extra : List Con) :
    QSpec I K (SolGood (U ++ extra) e v) (IsGiveUp E) ((fullLayer E self sup).solution e v extra) := by
  intro s h
  simp only [fullLayer, z3Solution, M.wp_bind]
  refine (C.got h).imp (fun r s1 ⟨hg, hok, hp0, hafter⟩ => ?_) fun _ _ h => h.elim
  have hq : ∀ a, SatBy ((objAt s1 r).asserted ++ eqCon e (v : Int) :: extra.map ZCon.ofCon) a ↔
      Models (U ++ extra) a ∧ e.val a = v := by
    intro a
    rw [← C.satBy h hg extra a, SatBy.append, SatBy.append]
    simp only [SatBy, List.mem_cons, forall_eq_or_imp, eqCon, decide_eq_true_eq, wrap_nat e.bits v hv]
    exact ⟨fun ⟨h1, h2, h3⟩ => ⟨⟨h1, h3⟩, h2⟩, fun ⟨⟨h1, h3⟩, h2⟩ => ⟨h1, h2, h3⟩⟩
  refine (z3Satisfiable_run hE hok r _ s1 fun _ hc => hc).imp (fun b s2 ⟨hb, hst, hfr⟩ => ?_) fun e s2 ⟨he, hst, hfr⟩ => ?_
  · refine ⟨hb.trans ⟨fun ⟨a, ha⟩ => ⟨a, ((hq a).mp ha).1, ((hq a).mp ha).2⟩, fun ⟨a, ha, hva⟩ => ⟨a, (hq a).mpr ⟨ha, hva⟩⟩⟩,
      hafter s2 hst.toObjStep hfr (hst.fe hp0)⟩
  · exact ⟨he, hafter s2 hst.toObjStep hfr (hst.fe hp0)⟩

/-- **FullFrontend.is_true / is_false**: `_get_solver`, then the backend's cheap test, which is sound -/
theorem full_truth_q (hT : CheapSound E) (C : FullClass hook I K U P) (isTrue : Bool) (c : Con) (extra : List Con) :
    QSpec I K (fun b _ _ => b = true → ∀ a, Models (U ++ extra) a → c.sem a = isTrue) (fun _ => False) (do
      let _ ← getSolver
      let s ← M.get
      M.modify fun s => { s with tick := s.tick + 1 }
      pure (E.truth isTrue c s.tick) : M Bool) := by
  intro s h
  simp only [M.wp_bind, M.wp_get, M.wp_modify]
  refine (C.got h).imp (fun r s1 ⟨_, _, hp0, hafter⟩ => ⟨fun hb a _ => ?_, ?_⟩) fun _ _ h => h.elim
  · cases isTrue
    · exact hT.2.2 c _ hb a
    · exact hT.2.1 c _ hb a
  · exact hafter { s1 with tick := s1.tick + 1 } ⟨rfl, fun _ _ => rfl, rfl, rfl⟩ rfl hp0

theorem full_tuples_q (hE : OracleExact E) (C : FullClass hook I K U P) (hr : HookRec hook H) (asts : List Exp) (n : Nat)
    (extra : List Con) :
    QSpec I K (fun ts _ s' => TuplesOk (U ++ extra) asts n ts ∧
        (ts.length < n → ∀ a, Models (U ++ extra) a → asts.map (·.val a) ∈ ts) ∧
        ∀ t ∈ ts, Recorded E H s'.fe (fun vals => t = asts.map fun e => e.val (asgOf vals)))
      (IsGiveUp E) (do let r ← getSolver; z3BatchEval E r asts n (extra.map ZCon.ofCon) hook) := by
  intro s h
  rw [M.wp_bind]
  refine (C.got h).imp (fun r s1 ⟨hg, hok, hp0, hafter⟩ => ?_) fun _ _ h => h.elim
  obtain ⟨f, hf1⟩ := hg.frames
  have hne : (objAt s1 r).frames ≠ [] := by rw [hf1]; simp
  refine (z3BatchEval_run hok hr r asts n _ s1).imp (fun ts s2 ⟨hrec, hst, hans⟩ => ?_) fun e s2 ⟨he, hst, hans⟩ => ?_
  · obtain ⟨hreal, hnd, hlen, hcomp, hp, hfr⟩ := hans hE hg.lt hne fun _ hc => hc
    have hcomp' : ts.length < n → ∀ a, Models (U ++ extra) a → asts.map (·.val a) ∈ ts :=
      fun hl a ha => hcomp hl a ((C.satBy h hg extra a).mpr ha)
    refine ⟨⟨⟨fun t ht => (C.realises h hg extra asts t).mp (hreal t ht), hnd, hlen, fun t ⟨a, ha, hat⟩ => ?_⟩, hcomp', hrec⟩,
      hafter s2 hst.toObjStep hfr (hp hp0)⟩
    by_cases hl : ts.length < n
    · exact Or.inl (hat ▸ hcomp' hl a ha)
    · exact Or.inr (by omega)
  · obtain ⟨hp, hfr⟩ := hans hE hg.lt hne fun _ hc => hc
    exact ⟨he, hafter s2 hst.toObjStep hfr (hp hp0)⟩

/-- an empty answer of `_batch_eval` for `n ≥ 1` means that there is no solution -/
theorem unsat_of_no_tuples {cs : List Con} {asts : List Exp} {n : Nat} (hn : 1 ≤ n)
    (hcomp : ([] : List (List Nat)).length < n → ∀ a, Models cs a → asts.map (·.val a) ∈ ([] : List (List Nat))) :
    ¬ Satisfiable cs := fun ⟨a, ha⟩ => by simpa using hcomp (Nat.lt_of_lt_of_le Nat.zero_lt_one hn) a ha

theorem full_batchEval_q (hE : OracleExact E) {self sup : Ops} (C : FullClass self.modelHook I K U P)
    (hr : HookRec self.modelHook H) (asts : List Exp) (n : Nat) (hn : 1 ≤ n) (extra : List Con) :
    QSpec I K (fun ts _ s' => TuplesOk (U ++ extra) asts n ts ∧ ts ≠ [] ∧
        ∀ t ∈ ts, Recorded E H s'.fe (fun vals => t = asts.map fun e => e.val (asgOf vals)))
      (ErrOk E (U ++ extra)) ((fullLayer E self sup).batchEval asts n extra) := by
  intro s h
  have hq := full_tuples_q hE C hr asts n extra s h
  simp only [fullLayer, M.wp_bind] at hq ⊢
  refine hq.imp (fun r _ hq => hq.imp (fun ts s2 ⟨⟨hok, hcomp, hrec⟩, hI⟩ => ?_) fun e _ ⟨he, hI⟩ => ⟨Or.inr he, hI⟩)
    fun e _ ⟨he, hI⟩ => ⟨Or.inr he, hI⟩
  simp only [M.wp_ite, M.wp_throw, List.isEmpty_iff]
  split
  · next hts =>
    subst hts
    exact ⟨Or.inl ⟨rfl, unsat_of_no_tuples hn hcomp⟩, hI⟩
  · next hts => exact ⟨⟨hok, hts, hrec⟩, hI⟩

/-- **FullFrontend.eval**: `_batch_eval` of one expression -/
theorem full_eval_q (hE : OracleExact E) {self sup : Ops} (C : FullClass self.modelHook I K U P)
    (hr : HookRec self.modelHook H) (e : Exp) (hc : e.conc = none) (n : Nat) (hn : 1 ≤ n) (extra : List Con) :
    QSpec I K (fun vs _ _ => EvalOk (U ++ extra) e n vs ∧ vs ≠ []) (ErrOk E (U ++ extra))
      ((fullLayer E self sup).eval e n extra) := by
  intro s h
  have hq := full_tuples_q hE C hr [e] n extra s h
  simp only [fullLayer, M.wp_bind] at hq ⊢
  refine hq.imp (fun r _ hq => hq.imp (fun ts s2 ⟨⟨hok, hcomp, _⟩, hI⟩ => ?_) fun e _ ⟨he, hI⟩ => ⟨Or.inr he, hI⟩)
    fun e _ ⟨he, hI⟩ => ⟨Or.inr he, hI⟩
  simp only [M.wp_ite, M.wp_throw, List.isEmpty_iff, List.map_eq_nil_iff]
  split
  · next hts =>
    subst hts
    exact ⟨Or.inl ⟨rfl, unsat_of_no_tuples hn hcomp⟩, hI⟩
  · next hts => exact ⟨⟨evalOk_of_tuples hc hok, by simpa using hts⟩, hI⟩

/-- meaning of the narrowing constraints `SGE/UGE/SLE/ULE(e, v)` for a value `v` in range -/
theorem cmpCon_sem (signed ge : Bool) (e : Exp) (he : ExpWf e) (v : Nat) (hv : v < 2 ^ e.bits) (a : Asg) :
    (cmpCon signed ge e v).sem a = true ↔
      if ge then key signed e.bits v ≤ key signed e.bits (e.val a) else key signed e.bits (e.val a) ≤ key signed e.bits v := by
  have hw := wrap_nat e.bits v hv
  have hva := he.2 a
  cases ge <;> cases signed <;>
    simp only [cmpCon, geSem, leSem, Bool.false_eq_true, ↓reduceIte, decide_eq_true_eq, hw, key, ge_iff_le,
      Nat.mod_eq_of_lt hv, Nat.mod_eq_of_lt hva] <;> omega

/-- FullFrontend.min/max narrow the search by two attained values: the narrowed problem is satisfiable and its optimum
is the optimum of the original one -/
theorem narrowed_opt (isMax signed : Bool) (e : Exp) (he : ExpWf e) (cs : List Con) (Z : Asg → Prop) (v0 v1 : Nat)
    (hZ : ∀ a, Z a ↔ Models cs a ∧
      (if isMax then key signed e.bits v0 ≤ key signed e.bits (e.val a) ∧ key signed e.bits v1 ≤ key signed e.bits (e.val a)
       else key signed e.bits (e.val a) ≤ key signed e.bits v0 ∧ key signed e.bits (e.val a) ≤ key signed e.bits v1))
    (h0 : Feasible cs e v0) (h1 : Feasible cs e v1) :
    (∃ a, Z a) ∧
    ∀ i : Int, loOf signed e.bits ≤ i → i ≤ hiOf signed e.bits → (∃ a, Z a ∧ key signed e.bits (e.val a) = i) →
      (∀ a, Z a → if isMax then key signed e.bits (e.val a) ≤ i else i ≤ key signed e.bits (e.val a)) →
      IsOpt isMax signed cs e i := by
  obtain ⟨a0, ha0, hv0⟩ := h0
  obtain ⟨a1, ha1, hv1⟩ := h1
  constructor
  · cases isMax
    · simp only [Bool.false_eq_true, ↓reduceIte] at hZ
      by_cases hc : key signed e.bits v0 ≤ key signed e.bits v1
      · exact ⟨a0, (hZ a0).mpr ⟨ha0, by rw [hv0]; exact ⟨Int.le_refl _, hc⟩⟩⟩
      · exact ⟨a1, (hZ a1).mpr ⟨ha1, by rw [hv1]; exact ⟨by omega, Int.le_refl _⟩⟩⟩
    · simp only [↓reduceIte] at hZ
      by_cases hc : key signed e.bits v0 ≤ key signed e.bits v1
      · exact ⟨a1, (hZ a1).mpr ⟨ha1, by rw [hv1]; exact ⟨hc, Int.le_refl _⟩⟩⟩
      · exact ⟨a0, (hZ a0).mpr ⟨ha0, by rw [hv0]; exact ⟨Int.le_refl _, by omega⟩⟩⟩
  · intro i hlo hhi ⟨aw, hzw, hkw⟩ hall
    have hkwrap := key_wrap signed e.bits i he.1 hlo hhi
    have hval : e.val aw = wrap e.bits i :=
      key_inj signed e.bits _ _ he.1 (he.2 aw) (wrap_lt _ _) (by rw [hkw, hkwrap])
    refine ⟨⟨aw, ((hZ aw).mp hzw).1, hval⟩, ?_⟩
    intro v ⟨a, ha, hva⟩
    rw [hkwrap, ← hva]
    have hw2 := ((hZ aw).mp hzw).2
    by_cases hin : Z a
    · exact hall a hin
    · have hnot : ¬ (if isMax then key signed e.bits v0 ≤ key signed e.bits (e.val a) ∧ key signed e.bits v1 ≤ key signed e.bits (e.val a)
          else key signed e.bits (e.val a) ≤ key signed e.bits v0 ∧ key signed e.bits (e.val a) ≤ key signed e.bits v1) :=
        fun hh => hin ((hZ a).mpr ⟨ha, hh⟩)
      cases isMax
      · simp only [Bool.false_eq_true, ↓reduceIte] at hnot hw2 ⊢
        omega
      · simp only [↓reduceIte] at hnot hw2 ⊢
        omega

/-- **FullFrontend.min / max**: `self.satisfiable`, `self.eval(e, 2)` (both through the whole stack of the class), narrowing by
the two values, `_extrema`.  `W v s'` is what the class wants to know of the value returned ("it has a witness in `s'`"): `eval`
must say it of its values, and a recorded model that attains `v` must give it. -/
theorem full_extremum_q (hE : OracleExact E) {self : Ops} (C : FullClass self.modelHook I K U P)
    (hr : HookRec self.modelHook H) (hK : ∀ {s1 s2 s3 : St}, K s1 s2 → K s2 s3 → K s1 s3) (isMax : Bool) (e : Exp) (he : ExpWf e)
    (hc : e.conc = none) (extra : List Con) (signed : Bool) {W : Nat → St → Prop}
    (hW : ∀ v s', Recorded E H s'.fe (fun vals => e.val (asgOf vals) = v) → W v s')
    (hsat : QSpec I K (SatGood (U ++ extra)) (IsGiveUp E) (self.satisfiable extra))
    (hev : QSpec I K (fun two _ s' => EvalOk (U ++ extra) e 2 two ∧ ∀ v ∈ two, W v s') (ErrOk E (U ++ extra))
      (self.eval e 2 extra)) :
    QSpec I K (fun i _ s' => IsOpt isMax signed (U ++ extra) e i ∧ W (wrap e.bits i) s') (ErrOk E (U ++ extra))
      (fullExtremum E self isMax e extra signed) := by
  intro s h
  unfold fullExtremum
  simp only [M.wp_bind]
  refine (hsat s h).imp (fun b sA ⟨hb, hIA, hkA⟩ => ?_) fun err _ ⟨hg, hI, hk⟩ => ⟨Or.inr hg, hI, hk⟩
  simp only [M.wp_ite, Bool.not_eq_eq_eq_not, Bool.not_true]
  split
  · next hbf =>
    exact ⟨Or.inl ⟨rfl, fun hsx => by have := hb.mpr hsx; rw [hbf] at this; cases this⟩, hIA, hkA⟩
  · next hbt =>
    obtain ⟨a0, ha0⟩ : Satisfiable (U ++ extra) := hb.mp (by simpa using hbt)
    rw [M.wp_bind]
    refine (hev sA hIA).imp (fun two sB ⟨⟨hev2, hw2⟩, hIB, hkB⟩ => ?_) fun err _ ⟨hg, hI, hk⟩ => ⟨hg, hI, hK hkA hk⟩
    have hkAB := hK hkA hkB
    simp only [EvalOk, hc] at hev2
    obtain ⟨hfe, hnd, hlen, hcomp⟩ := hev2
    rcases two with _ | ⟨v0, _ | ⟨v1, rest⟩⟩
    · have := hcomp _ ⟨a0, ha0, rfl⟩
      simp at this
    · -- one value: it is the optimum
      obtain ⟨av, hav, hvv⟩ := hfe v0 (by simp)
      have hw := wrap_nat e.bits v0 (by rw [← hvv]; exact he.2 av)
      refine ⟨⟨⟨by rw [hw]; exact ⟨av, hav, hvv⟩, fun v' hv' => ?_⟩, by rw [hw]; exact hw2 v0 (by simp)⟩, hIB, hkAB⟩
      have := hcomp v' hv'
      simp only [List.mem_singleton, List.length_cons, List.length_nil] at this
      rcases this with rfl | hbad
      · rw [hw]
        split <;> exact Int.le_refl _
      · omega
    · -- two values: search between them
      have hf0 := hfe v0 (by simp)
      have hf1 := hfe v1 (by simp)
      have hv0 : v0 < 2 ^ e.bits := by obtain ⟨a, _, hv⟩ := hf0; rw [← hv]; exact he.2 a
      have hv1 : v1 < 2 ^ e.bits := by obtain ⟨a, _, hv⟩ := hf1; rw [← hv]; exact he.2 a
      have hne01 : v0 ≠ v1 := fun heq => by subst heq; simp at hnd
      simp only [M.wp_bind]
      refine (C.got hIB).imp (fun r sC ⟨hg, hok, hp0, hafter⟩ => ?_) fun _ _ h => h.elim
      have hZ : ∀ a, SatBy ((objAt sC r).asserted ++
            (extra ++ [cmpCon signed isMax e v0, cmpCon signed isMax e v1]).map ZCon.ofCon) a ↔
          Models (U ++ extra) a ∧
            (if isMax then key signed e.bits v0 ≤ key signed e.bits (e.val a) ∧ key signed e.bits v1 ≤ key signed e.bits (e.val a)
             else key signed e.bits (e.val a) ≤ key signed e.bits v0 ∧ key signed e.bits (e.val a) ≤ key signed e.bits v1) := by
        intro a
        rw [C.satBy hIB hg _ a, ← List.append_assoc, models_append]
        refine and_congr_right fun _ => ?_
        simp only [Models, List.mem_cons, List.mem_nil_iff, or_false, forall_eq_or_imp, forall_eq]
        rw [cmpCon_sem signed isMax e he v0 hv0 a, cmpCon_sem signed isMax e he v1 hv1 a]
        cases isMax <;> simp
      obtain ⟨hsatZ, hopt⟩ := narrowed_opt isMax signed e he (U ++ extra) _ v0 v1 hZ hf0 hf1
      refine (z3Extrema_run hE hok hr r isMax e _ signed he sC fun _ hcc => hcc).imp
        (fun i sD ⟨hoptz, hst, hp, hfr, hrec⟩ => ?_) fun err sD ⟨hg', hst, hp, hfr⟩ => ?_
      · obtain ⟨hID, hkD⟩ := hafter sD hst.toObjStep hfr (hp hp0)
        obtain ⟨hlo, hhi, hex, hall⟩ := hoptz hsatZ
        refine ⟨⟨hopt i hlo hhi hex hall, hW _ sD ?_⟩, hID, hK hkAB hkD⟩
        rcases hrec with hbound | ⟨vals, keys, q, k, hor, ⟨hsatv, hkv⟩, hH⟩
        · -- the optimum cannot be the bound the search started from: two different values are attained
          exfalso
          obtain ⟨aw, hzw, hkw⟩ := hex
          have hw2' := ((hZ aw).mp hzw).2
          have hk01 : key signed e.bits v0 ≠ key signed e.bits v1 :=
            fun hk => hne01 (key_inj signed e.bits v0 v1 he.1 hv0 hv1 hk)
          have hrange0 := key_range signed e.bits v0 he.1 hv0
          have hrange1 := key_range signed e.bits v1 he.1 hv1
          cases isMax
          · simp only [Bool.false_eq_true, ↓reduceIte] at hbound hw2'
            omega
          · simp only [↓reduceIte] at hbound hw2'
            omega
        · -- the recorded model attains the optimum
          have hkeq : key signed e.bits (e.val (asgOf vals)) = i := by
            have := hall (asgOf vals) hsatv
            cases isMax
            · simp only [Bool.false_eq_true, ↓reduceIte, keyOf] at this hkv
              omega
            · simp only [↓reduceIte, keyOf] at this hkv
              omega
          exact ⟨vals, keys, q, k, hor, key_inj signed e.bits _ _ he.1 (he.2 _) (wrap_lt _ _)
            (by rw [hkeq, key_wrap signed e.bits i he.1 hlo hhi]), hH⟩
      · obtain ⟨hID, hkD⟩ := hafter sD hst.toObjStep hfr (hp hp0)
        exact ⟨Or.inr hg', hID, hK hkAB hkD⟩

end

end Claripy.Solver

import ClaripyProofs.Lemmas.Solver.CompositeQuery
import ClaripyProofs.Lemmas.Solver.CompositeAdd
/-!
The bookkeeping invariant `CInv` THROUGH the queries of CompositeFrontend, so that histories may go on after a query:
`_solver_for_names` (a merged child nobody points to joins the world) and the child's query keep it (`merged_after`), and
`_reabsorb_solver(m)` does nothing when `m` knows no variable or is the child its least variable points to (`reabsorb_noop`), which
is the case whenever one child at most owns the names of the query (`UniqOwner`, `solverForNames_one`).  In general
`_reabsorb_solver` re-establishes `CInv`: the statement is the `def` `ReabsorbKeeps`, proved in CompositeReplace.lean
(`reabsorbKeeps`).
-/
namespace Claripy.Solver

variable {R : Con → Prop} {RE : Exp → Prop} {E : Env}

theorem outOfC_snd {α : Type} (f : α → Out) (r : Except Err α × CSt) : (outOfC f r).2 = r.2 := by
  obtain ⟨a, s⟩ := r
  cases a <;> rfl

theorem wp_outOfC {α : Type} {m : CM α} {s : CSt} {f : α → Out} {A : Out → Prop} {B : CSt → Prop}
    (h : m.wp (fun a s' => A (f a) ∧ B s') (fun e s' => A (.err e) ∧ B s') s) : A (outOfC f (m s)).1 ∧ B (outOfC f (m s)).2 :=
  wp.elim (m s) h (fun _ _ h => h) fun _ _ h => h

theorem merged_after {α : Type} {U : List Con} {Us Us1 : List (List Con)} {s s1 : CSt} {names : List Var} {m : Nat}
    (h : CInv R RE E U Us s) (hm : Merged R RE E Us Us1 s s1 names m) (q : M α)
    (hk2 : TInvS R RE E Us1 (runOn s1.w m q).2) (hft : FootQ (stOfI s1.w m) (q (stOfI s1.w m)).2) :
    CInv R RE E U Us1 { s1 with w := (runOn s1.w m q).2 } ∧
    (runOn s1.w m q).2.fes.length = s1.w.fes.length ∧
    ((runOn s1.w m q).2.fes.getD m {}).variables = (s1.child m).variables ∧
    ∀ t, t < s.w.fes.length → ((runOn s1.w m q).2.fes.getD t {}).variables = (s.child t).variables := by
  have hv := runOn_child_vars s1 m q hft
  have hold : ∀ t, t < s.w.fes.length → ((runOn s1.w m q).2.fes.getD t {}).variables = (s.child t).variables :=
    fun t ht => (hv t).trans (congrArg Frontend.variables (hm.frame t ht).1)
  refine ⟨?_, runOn_fes_length _ _ _, hv m, hold⟩
  rw [show ({ s1 with w := (runOn s1.w m q).2 } : CSt) = { c := s.c, w := (runOn s1.w m q).2 } by rw [← hm.comp]]
  exact h.of_wok (hm.wok.query hm.lt q hk2 hft) (by rw [runOn_fes_length]; exact hm.len) hold
    fun j hj a => by rw [(hm.frame j hj).2]

theorem reabsorb_noop (s : CSt) (m : Nat)
    (h : (s.child m).variables = [] ∨ alGet? s.c.solvers (minVar (s.child m).variables) = some m) :
    reabsorb E m s = (.ok (), s) := by
  unfold reabsorb
  simp only [bind, CM.bind, CM.get]
  by_cases hv : (s.child m).variables.isEmpty = true
  · simp only [hv, ↓reduceIte, pure, CM.pure]
  · rcases h with h | h
    · rw [h] at hv; exact absurd rfl hv
    · simp only [hv, Bool.false_eq_true, ↓reduceIte, h, beq_self_eq_true, pure, CM.pure]

/-- **`_reabsorb_solver` re-establishes the invariant** (the statement; proved as `reabsorbKeeps`, CompositeReplace.lean):
`_reabsorb_solver(m)`, called with the invariant in force on a temporary child `m` that holds exactly the
constraints of the children owning its variables (those satisfiable: `_ensure_sat` has run), re-establishes the invariant.
Both branches: `len(parts) == len(old)` (`update` of the old children: cached models whose key set is the child's variable set,
and the parts' exhausted markers) and the replacement of the children by the parts. -/
def ReabsorbKeeps (R : Con → Prop) (RE : Exp → Prop) (E : Env) : Prop :=
  ∀ (U : List Con) (Us : List (List Con)) (s : CSt) (m : Nat), CInv R RE E U Us s → m < s.w.fes.length →
    (∀ v ∈ (s.child m).variables, ∃ t, alGet? s.c.solvers v = some t) →
    (∀ t ∈ s.c.solversFor (s.child m).variables, ∀ v ∈ (s.child t).variables, v ∈ (s.child m).variables) →
    (∀ a, Models (Us.getD m []) a ↔ ∀ t ∈ s.c.solversFor (s.child m).variables, Models (Us.getD t []) a) →
    (∀ t ∈ s.c.solversFor (s.child m).variables, Satisfiable (Us.getD t [])) → s.c.unsat = false →
    ∀ s', reabsorb E m s = (.ok (), s') → ∃ Us', CInv R RE E U Us' s'

def OneName (names : List Var) : Prop := ∀ v ∈ names, ∀ w ∈ names, v = w

theorem OneName.solversFor {names : List Var} (h1 : OneName names) (c : Comp) :
    ∀ t ∈ c.solversFor names, ∀ t' ∈ c.solversFor names, t = t' := by
  intro t ht t' ht'
  obtain ⟨n, hn, hnt⟩ := (mem_solversFor _ _ _).mp ht
  obtain ⟨n', hn', hnt'⟩ := (mem_solversFor _ _ _).mp ht'
  rw [h1 n hn n' hn', hnt'] at hnt
  exact (Option.some.inj hnt).symm

theorem solverForNames_one {U : List Con} {Us : List (List Con)} {s : CSt} (h : CInv R RE E U Us s) (names : List Var)
    (hone : ∀ t ∈ s.c.solversFor names, ∀ t' ∈ s.c.solversFor names, t = t') :
    (solverForNames E names s = blankChild E s ∧ s.c.solversFor names = []) ∨
    (∃ j, solverForNames E names s = (.ok j, s) ∧ j ∈ s.c.solversFor names) := by
  obtain ⟨hnd, hmem⟩ := closure_names h names ((s.w.fes.map (fun f : Frontend => f.variables.length)).sum)
  rw [solverForNames_eq]
  cases hcl : closureLoop s ((s.w.fes.map (fun f : Frontend => f.variables.length)).sum + 1) names names [] with
  | nil => exact Or.inl ⟨rfl, solversFor_eq_nil_of_closure h names _ hcl⟩
  | cons j rest =>
    cases rest with
    | nil =>
      refine Or.inr ⟨j, rfl, ?_⟩
      rw [← hmem j, hcl]; simp
    | cons r rest =>
      exfalso
      rw [hcl] at hnd hmem
      have hj := (hmem j).mp (by simp)
      have hr := (hmem r).mp (by simp)
      have hjr := hone j hj r hr
      subst hjr
      simp at hnd

def UniqOwner (c : Comp) (names : List Var) : Prop := ∀ t ∈ c.solversFor names, ∀ t' ∈ c.solversFor names, t = t'

theorem OneName.uniqOwner {names : List Var} (h1 : OneName names) (c : Comp) : UniqOwner c names := h1.solversFor c

theorem solversFor_nodup (c : Comp) (names : List Var) : (c.solversFor names).Nodup := by
  unfold Comp.solversFor
  have : ∀ (acc : List Nat), acc.Nodup → (names.foldl c.solversForStep acc).Nodup := by
    induction names with
    | nil => intro acc h; exact h
    | cons n ns ih =>
      intro acc h
      simp only [List.foldl_cons]
      refine ih _ ?_
      unfold Comp.solversForStep
      split
      · exact nodup_listInsert acc _ h
      · exact h
  exact this [] List.nodup_nil

section
variable (H : SolverHyps R RE E)
include H

theorem compSatisfiable_solvers {U : List Con} {Us : List (List Con)} {s : CSt} (h : CInv R RE E U Us s) :
    (compSatisfiable E [] s).2.c.solvers = s.c.solvers :=
  (wp.fst_snd (A := fun _ => True) ((compSatisfiable_spec H h).imp (fun _ _ g => ⟨trivial, g.2.2⟩) fun _ _ g => ⟨trivial, g.2.2⟩)).2

end

theorem oneName_namesFor {vss : List (List Var)} {x : Var} (h : ∀ vs ∈ vss, ∀ v ∈ vs, v = x) : OneName (namesFor vss) := by
  intro v hv w hw
  obtain ⟨vs, hvs, hvv⟩ := (mem_namesFor vss v).mp hv
  obtain ⟨ws, hws, hww⟩ := (mem_namesFor vss w).mp hw
  rw [h vs hvs v hvv, h ws hws w hww]

end Claripy.Solver

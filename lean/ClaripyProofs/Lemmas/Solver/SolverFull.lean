import ClaripyProofs.Lemmas.Solver.SolverInv
/-!
FullFrontend inside the caching class `Solver`: the model callback is ModelCacheMixin's `_model_hook`, so every query
grows the cache.  Each query keeps the invariant `SI`, answers as the specification demands, and the models behind its
answers are in the cache afterwards (`EvalComplete`).
-/
namespace Claripy.Solver

variable {R : Con → Prop} {RE : Exp → Prop} {E : Env} {G : St → Prop} {U : List Con}

/-- `_model_hook` has recorded the model of the answer `sat vals keys`: its restriction to the known variables is cached
(or empty, then it is dropped) -/
def Hmc (vals : List Nat) (keys : List Var) (fe : Frontend) : Prop :=
  (PModel.ofKeys vals keys).restrict fe.variables = [] ∨ (PModel.ofKeys vals keys).restrict fe.variables ∈ fe.models

theorem mcHookFe_variables (m : PModel) (fe : Frontend) : (mcHookFe m fe).variables = fe.variables := by
  rw [mcHookFe_fields]

theorem hookRec_mc : HookRec mcHook Hmc := by
  refine ⟨fun m s => ⟨_, mcHook_apply m s⟩, ?_, ?_⟩
  · intro vals keys s
    rw [mcHook_apply]
    simp only [Hmc, mcHookFe_variables]
    unfold mcHookFe
    by_cases h : ((PModel.ofKeys vals keys).restrict s.fe.variables).isEmpty = true
    · left; simpa using h
    · right
      simp only [h, Bool.false_eq_true, ↓reduceIte]
      exact (mem_listInsert _ _ _).mpr (Or.inr rfl)
  · intro vals keys m s h
    rw [mcHook_apply]
    simp only [Hmc, mcHookFe_variables] at h ⊢
    rcases h with h | h
    · exact Or.inl h
    · exact Or.inr (mcHookFe_models_mono m s.fe _ h)

/-- **a recorded model is a cached model that evaluates registered expressions like Z3 does** -/
theorem cached_of_hmc (hC : EvalComplete RE E) (hRE : ExpReg RE) {q : Query} {k : Nat} {vals : List Nat} {keys : List Var}
    (hor : E.oracle q k = .sat vals keys) {fe : Frontend} (h : Hmc vals keys fe) (e : Exp) (he : RE e)
    (hv : ∀ v ∈ e.vars, v ∈ fe.variables) : ∃ m ∈ fe.models, e.val (m.complete E.dflt) = e.val (asgOf vals) := by
  obtain ⟨v, hve, hvk⟩ := hC.overlap q k vals keys hor e he
  have hget : ((PModel.ofKeys vals keys).restrict fe.variables).get? v = some (vals.getD v 0) := by
    rw [PModel.get?_restrict, PModel.get?_ofKeys]; simp [hv v hve, hvk]
  have hne : (PModel.ofKeys vals keys).restrict fe.variables ≠ [] := by
    intro hnil; rw [hnil] at hget; simp [PModel.get?] at hget
  have hin : (PModel.ofKeys vals keys).restrict fe.variables ∈ fe.models := h.resolve_left hne
  refine ⟨_, hin, ?_⟩
  rw [← hC.agree q k vals keys hor e he]
  apply hRE.dep e he
  intro x hx
  simp only [PModel.complete_apply, PModel.get?_restrict, hv x hx, ↓reduceIte]

def noModels (fe : Frontend) : Frontend := { fe with models := [] }

theorem noModels_mcHookFe (m : PModel) (fe : Frontend) : noModels (mcHookFe m fe) = noModels fe := by
  unfold mcHookFe; split <;> rfl

/-- what the callback preserves during one query (`fe1` = the record when the query starts): only `_models` changes, it
only grows, and the cache invariant holds -/
def HookP (RE : Exp → Prop) (E : Env) (U : List Con) (fe1 : Frontend) (fe : Frontend) : Prop :=
  noModels fe = noModels fe1 ∧ MCInv RE E U fe ∧ ∀ m ∈ fe1.models, m ∈ fe.models

theorem satBy_asserted {s s1 : St} {r : Nat} (hb : BInv R G U s) (hg : GotSolver s s1 r) (a : Asg) :
    SatBy (objAt s1 r).asserted a ↔ Models U a := by
  rw [hg.asserted a, hb.equiv a, models_iff_holdsAll]

theorem hookOk_mc (hR : Reg R E) {s s1 : St} {r : Nat} (hb : BInv R G U s) (hg : GotSolver s s1 r) :
    HookOk mcHook (objAt s1 r).asserted (HookP RE E U s1.fe) := by
  have hvars : s1.fe.variables = s.fe.variables := by rw [hg.fe]
  refine ⟨fun m s => ⟨_, mcHook_apply m s⟩, ?_⟩
  intro m s2 ⟨hp1, hp2, hp3⟩ hpm _
  rw [mcHook_apply]
  simp only
  have hv2 : s2.fe.variables = s.fe.variables := (congrArg Frontend.variables hp1).trans hvars
  refine ⟨(noModels_mcHookFe m s2.fe).trans hp1, ?_, fun m' hm' => mcHookFe_models_mono m s2.fe m' (hp3 m' hm')⟩
  refine mcHookFe_inv hp2 m s.fe.constraints (hb.cons_wf hR) (fun c hc v hv => by rw [hv2]; exact hb.vars c hc v hv)
    (hb.models_iff) ?_
  intro a ha
  exact (hb.models_iff a).mpr ((satBy_asserted hb hg a).mp (hpm a ha))

theorem hookP_start {s s1 : St} {r : Nat} (h : SI R RE E G U s) (hg : GotSolver s s1 r) : HookP RE E U s1.fe s1.fe :=
  ⟨rfl, h.mc.of_fields (by rw [hg.fe]; rfl),
   fun _ hm => hm⟩

theorem si_after_query {s s1 s2 : St} {r : Nat} (h : SI R RE E G U s) (hgT : GotS R s s1 r)
    (hst : ObjStep r s1 s2) (hfr : (objAt s2 r).frames = (objAt s1 r).frames) (hp : HookP RE E U s1.fe s2.fe) :
    SI R RE E G U s2 ∧ Keep U s s2 := by
  obtain ⟨hp1, hp2, hp3⟩ := hp
  have hg := hgT.toGotSolver
  have hfe1 := hg.fe
  have e_cons : s2.fe.constraints = s.fe.constraints := (congrArg Frontend.constraints hp1).trans (by rw [hfe1]; rfl)
  have e_toadd : s2.fe.toAdd = [] := (congrArg Frontend.toAdd hp1).trans (by rw [hfe1]; rfl)
  have e_sol : s2.fe.solver = some r := (congrArg Frontend.solver hp1).trans (by rw [hfe1]; rfl)
  have e_track : s2.fe.track = s.fe.track := (congrArg Frontend.track hp1).trans (by rw [hfe1]; rfl)
  have e_hash : s2.fe.hashes = s.fe.hashes := (congrArg Frontend.hashes hp1).trans (by rw [hfe1]; rfl)
  have e_wo : s2.fe.woAnnot = s.fe.woAnnot := (congrArg Frontend.woAnnot hp1).trans (by rw [hfe1]; rfl)
  have e_var : s2.fe.variables = s.fe.variables := (congrArg Frontend.variables hp1).trans (by rw [hfe1]; rfl)
  have e_fin : s2.fe.finalized = s.fe.finalized := (congrArg Frontend.finalized hp1).trans (by rw [hfe1]; rfl)
  have e_csat : s2.fe.cachedSat = s.fe.cachedSat := (congrArg Frontend.cachedSat hp1).trans (by rw [hfe1]; rfl)
  have e_models1 : s1.fe.models = s.fe.models := by rw [hfe1]
  refine ⟨⟨⟨CoreInvG.after_query h.base.core.noReuse hg hst hfr e_cons e_toadd e_sol, ?_, ⟨?_, ?_⟩, ?_, ?_, ?_⟩, hp2, ?_⟩,
    ⟨?_, ?_⟩⟩
  · rw [e_cons]; exact h.base.equiv
  · rw [e_cons]; exact h.base.dinv.consR
  · rw [e_hash, e_wo]; exact h.base.dinv.seen
  · rw [e_cons, e_var]; exact h.base.vars
  · obtain ⟨s0, hg0, hw⟩ := h.base.ghost
    refine ⟨s0, hg0, hw.trans ⟨by rw [hst.len]; exact hg.grow, ?_, hg.foreign hst hfr, by rw [hst.reuse, hg.reuse], ?_⟩⟩
    · rw [e_sol]
      exact hg.solverNew.imp id fun h2 => Or.inr ⟨r, rfl, h2⟩
    · intro hf; rw [e_fin]; exact hf
  · intro ht r' hr' z hz
    rw [e_track] at ht
    rw [e_sol] at hr'
    simp only [Option.some.injEq] at hr'
    subst hr'
    have has : (objAt s2 r).asserted = (objAt s1 r).asserted := by simp only [Z3Obj.asserted, hfr]
    rw [has] at hz
    exact hgT.areg ht z hz
  · rw [SCInv, e_csat]; exact h.sc
  · intro v hv; rw [e_var]; exact hv
  · intro _ m hm; exact hp3 m (by rw [e_models1]; exact hm)

/-- class `Solver` and SolverCompositeChild as a class of FullFrontend queries: the hook is ModelCacheMixin's -/
theorem fullClass_si (hR : Reg R E) (hZ : ZidFaithful R) : FullClass mcHook (SI R RE E G U) (Keep U) U (HookP RE E U) where
  equiv h := h.base.equiv
  got h := wp_getSolverG hZ h.base.core h.base.dinv.consR h.base.areg fun _ _ hg =>
    ⟨hg.toGotSolver, hookOk_mc hR h.base hg.toGotSolver, hookP_start h hg.toGotSolver, fun _ hst hfr hp => si_after_query h hg hst hfr hp⟩

theorem cachedAll_of_recorded (hC : EvalComplete RE E) (hRE : ExpReg RE) {fe : Frontend} {asts : List Exp} {ts : List (List Nat)}
    (h : ∀ t ∈ ts, Recorded E Hmc fe (fun vals => t = asts.map fun e => e.val (asgOf vals))) : CachedAll RE E fe asts ts := by
  intro t ht
  obtain ⟨vals, keys, q, k, hor, htv, hH⟩ := h t ht
  exact ⟨asgOf vals, htv, fun e _ hre' hv => cached_of_hmc hC hRE hor hH e hre' hv⟩

theorem full_satisfiable_spec (hE : OracleExact E) (hR : Reg R E) (hZ : ZidFaithful R) {self sup : Ops} (hmh : self.modelHook = mcHook)
    (extra : List Con) :
    SQ R RE E G U (SatGood (U ++ extra)) (IsGiveUp E) ((fullLayer E self sup).satisfiable extra) :=
  full_satisfiable_q hE (hmh ▸ fullClass_si hR hZ) extra

theorem full_batchEval_spec (hE : OracleExact E) (hR : Reg R E) (hZ : ZidFaithful R) (hC : EvalComplete RE E)
    (hRE : ExpReg RE) {self sup : Ops} (hmh : self.modelHook = mcHook) (asts : List Exp) (n : Nat) (hn : 1 ≤ n)
    (extra : List Con) :
    SQ R RE E G U (BatchGood RE E (U ++ extra) asts n) (ErrOk E (U ++ extra)) ((fullLayer E self sup).batchEval asts n extra) := by
  intro s h
  exact (full_batchEval_q hE (hmh ▸ fullClass_si hR hZ) (hmh ▸ hookRec_mc) asts n hn extra s h).imp
    (fun ts s' ⟨⟨h1, h2, h3⟩, hI⟩ => ⟨⟨h1, h2, cachedAll_of_recorded hC hRE h3⟩, hI⟩) fun _ _ h => h

theorem full_solution_spec (hE : OracleExact E) (hR : Reg R E) (hZ : ZidFaithful R) {self sup : Ops} (hmh : self.modelHook = mcHook)
    (e : Exp) (v : Nat) (hv : v < 2 ^ e.bits) (extra : List Con) :
    SQ R RE E G U (SolGood (U ++ extra) e v) (ErrOk E (U ++ extra))
      ((fullLayer E self sup).solution e v extra) := by
  intro s h
  exact (full_solution_q hE (hmh ▸ fullClass_si hR hZ) e v hv extra s h).imp (fun _ _ h => h) fun _ _ ⟨he, hI⟩ => ⟨Or.inr he, hI⟩

end Claripy.Solver

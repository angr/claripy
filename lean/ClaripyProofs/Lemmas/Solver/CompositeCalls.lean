import ClaripyProofs.Lemmas.Solver.CompositeExtras
import ClaripyProofs.Lemmas.Solver.SolverConsistent
/-!
The public calls of CompositeFrontend in a state that satisfies the bookkeeping invariant `CInv`, every query with any extra
constraints: the answer is the one `Judge` demands for ALL the constraints the user added (plus the extras of the call), or an
honest give-up of a child's backend, and `CInv` holds again.  The value queries (eval / batch_eval / min / max / solution) share
one shape, `compQuery_run`, for any child method `q`: `_ensure_sat(extra)`, the merged solver of the names, the answer of that child
(right for the merged child's own constraints, `ch_step`), `_reabsorb_solver`; what is said of the answer is where it comes from -
`_ensure_sat` refused, or the merged child `Um` answered and `Equi names U Um` - and `compValue_step` transfers it to everything.
`comp_stepE` / `comp_histE`: one call / any history; the statements about narrower sets of calls (`InScopeCP`, `InScopeCQ`,
`InScopeCQ2`, `InScopeCH`, `InScopeCX`) are instances.
-/
namespace Claripy.Solver

variable {R : Con → Prop} {RE : Exp → Prop} {E : Env}

def compRun (E : Env) : CSt → List Op → CSt
  | s, [] => s
  | s, op :: rest => compRun E (compStep E s op).2 rest

def usersAfterOps (U : List Con) : List Op → List Con
  | [] => U
  | op :: rest => usersAfterOps (usersAfter U op) rest

theorem runComp_cons (s : CSt) (U : List Con) (op : Op) (rest : List Op) :
    runComp E s U (op :: rest) = (usersAfter U op, op, (compStep E s op).1) :: runComp E (compStep E s op).2 (usersAfter U op) rest := by
  cases op <;> rfl

/-- the calls covered: `add` of registered constraints (a constraint without variables must be decided by the concrete backend),
`satisfiable()` without extra constraints -/
def InScopeCP (R : Con → Prop) : Op → Prop
  | .add cs => (∀ c ∈ cs, R c) ∧ ∀ c ∈ cs, c.vars = [] → c.conc ≠ none
  | .satisfiable extra => extra = []
  | _ => False

/-- the queries covered: `eval` of a registered symbolic expression without extra constraints; `is_true` / `is_false` with any
extra constraints -/
def InScopeCQ (RE : Exp → Prop) : Op → Prop
  | .eval e n extra => RE e ∧ e.conc = none ∧ 1 ≤ n ∧ extra = []
  | .isTrue _ _ | .isFalse _ _ => True
  | _ => False

/-- the queries covered: `eval` / `batch_eval` / `solution` of registered symbolic expressions without extra constraints;
`is_true` / `is_false` with any extra constraints -/
def InScopeCQ2 (RE : Exp → Prop) : Op → Prop
  | .eval e n extra => RE e ∧ e.conc = none ∧ 1 ≤ n ∧ extra = []
  | .batchEval es n extra => es ≠ [] ∧ (∀ e ∈ es, RE e ∧ e.conc = none) ∧ 1 ≤ n ∧ extra = []
  | .solution e x extra => RE e ∧ e.conc = none ∧ x < 2 ^ e.bits ∧ extra = []
  | .isTrue _ _ | .isFalse _ _ => True
  | _ => False

/-- the calls of a history on one CompositeFrontend: `add` of registered constraints (a constraint without variables must be
decided by the concrete backend), `satisfiable()`, `eval` / `batch_eval` / `solution` of registered symbolic expressions without
extra constraints - `K` says which name sets they may ask about -, `is_true` / `is_false` with any extra constraints -/
def InScopeCH (R : Con → Prop) (RE : Exp → Prop) (K : List Var → Prop) : Op → Prop
  | .add cs => (∀ c ∈ cs, R c) ∧ ∀ c ∈ cs, c.vars = [] → c.conc ≠ none
  | .satisfiable extra => extra = []
  | .eval e n extra => RE e ∧ e.conc = none ∧ 1 ≤ n ∧ extra = [] ∧ K (namesFor [e.vars])
  | .batchEval es n extra => es ≠ [] ∧ (∀ e ∈ es, RE e ∧ e.conc = none) ∧ 1 ≤ n ∧ extra = [] ∧ K (namesFor (es.map (·.vars)))
  | .solution e x extra => RE e ∧ e.conc = none ∧ x < 2 ^ e.bits ∧ extra = [] ∧ K (namesFor [e.vars])
  | .isTrue _ _ | .isFalse _ _ => True
  | _ => False

/-- the name set a value query asks `_solver_for_names` about -/
def queryNames : Op → Option (List Var)
  | .eval e _ _ => some (namesFor [e.vars])
  | .batchEval es _ _ => some (namesFor (es.map (·.vars)))
  | .solution e _ _ => some (namesFor [e.vars])
  | _ => none

theorem InScopeCH.mono {K K' : List Var → Prop} {op : Op} (hkk : ∀ names, queryNames op = some names → K names → K' names)
    (h : InScopeCH R RE K op) : InScopeCH R RE K' op := by
  cases op with
  | eval e n extra => exact ⟨h.1, h.2.1, h.2.2.1, h.2.2.2.1, hkk _ rfl h.2.2.2.2⟩
  | batchEval es n extra => exact ⟨h.1, h.2.1, h.2.2.1, h.2.2.2.1, hkk _ rfl h.2.2.2.2⟩
  | solution e x extra => exact ⟨h.1, h.2.1, h.2.2.1, h.2.2.2.1, hkk _ rfl h.2.2.2.2⟩
  | add cs => exact h
  | satisfiable extra => exact h
  | isTrue c extra => exact h
  | isFalse c extra => exact h
  | _ => exact h.elim

/-- along the run of the model, whenever a value query is asked one child at most owns its names (the variables of the query
were connected by constraints before, or are one variable): a condition on the bookkeeping, checkable by running the model -/
def OwnersOk (E : Env) : CSt → List Op → Prop
  | _, [] => True
  | s, op :: rest => (∀ names, queryNames op = some names → UniqOwner s.c names) ∧ OwnersOk E (compStep E s op).2 rest

theorem ownersOk_of_oneName : ∀ (hist : List Op) (s : CSt), (∀ op ∈ hist, InScopeCH R RE OneName op) → OwnersOk E s hist
  | [], _, _ => trivial
  | op :: rest, s, hok => by
    refine ⟨fun names hn => ?_, ownersOk_of_oneName rest _ (fun op' hop' => hok op' (by simp [hop']))⟩
    have h := hok op (by simp)
    cases op with
    | eval e n extra => cases hn; exact h.2.2.2.2.uniqOwner _
    | batchEval es n extra => cases hn; exact h.2.2.2.2.uniqOwner _
    | solution e x extra => cases hn; exact h.2.2.2.2.uniqOwner _
    | _ => cases hn

/-- the calls of a history: those of `InScopeCH` (any name sets) and `min` / `max` of a registered symbolic expression without
extra constraints -/
def InScopeCX (R : Con → Prop) (RE : Exp → Prop) : Op → Prop
  | .min e extra _ => RE e ∧ e.conc = none ∧ extra = []
  | .max e extra _ => RE e ∧ e.conc = none ∧ extra = []
  | op => InScopeCH R RE (fun _ => True) op

/-- the calls of a history: `add` of registered constraints (as in `InScopeCH`), `satisfiable` / `eval` / `batch_eval` / `min` /
`max` / `solution` with ANY registered extra constraints (registered symbolic expressions), `is_true` / `is_false` with any extras -/
def InScopeCE (R : Con → Prop) (RE : Exp → Prop) : Op → Prop
  | .satisfiable extra => ∀ c ∈ extra, R c
  | .eval e n extra => RE e ∧ e.conc = none ∧ 1 ≤ n ∧ ∀ c ∈ extra, R c
  | .batchEval es n extra => es ≠ [] ∧ (∀ e ∈ es, RE e ∧ e.conc = none) ∧ 1 ≤ n ∧ ∀ c ∈ extra, R c
  | .solution e x extra => RE e ∧ e.conc = none ∧ x < 2 ^ e.bits ∧ ∀ c ∈ extra, R c
  | .min e extra _ => RE e ∧ e.conc = none ∧ ∀ c ∈ extra, R c
  | .max e extra _ => RE e ∧ e.conc = none ∧ ∀ c ∈ extra, R c
  | op => InScopeCX R RE op

theorem InScopeCX.toCE {op : Op} (h : InScopeCX R RE op) : InScopeCE R RE op := by
  cases op with
  | satisfiable extra => have : extra = [] := h; subst this; intro c hc; cases hc
  | eval e n extra => obtain ⟨he, hc, hn, rfl, _⟩ := h; exact ⟨he, hc, hn, fun c hc => by cases hc⟩
  | batchEval es n extra => obtain ⟨hne, hes, hn, rfl, _⟩ := h; exact ⟨hne, hes, hn, fun c hc => by cases hc⟩
  | solution e x extra => obtain ⟨he, hc, hx, rfl, _⟩ := h; exact ⟨he, hc, hx, fun c hc => by cases hc⟩
  | min e extra sg => obtain ⟨he, hc, rfl⟩ := h; exact ⟨he, hc, fun c hc => by cases hc⟩
  | max e extra sg => obtain ⟨he, hc, rfl⟩ := h; exact ⟨he, hc, fun c hc => by cases hc⟩
  | _ => exact h

theorem InScopeCH.toCE {K : List Var → Prop} {op : Op} (h : InScopeCH R RE K op) : InScopeCE R RE op := by
  have h' : InScopeCH R RE (fun _ => True) op := h.mono fun _ _ _ => trivial
  refine InScopeCX.toCE ?_
  cases op with
  | min e extra sg => exact h'.elim
  | max e extra sg => exact h'.elim
  | _ => exact h'

theorem InScopeCP.toCE {op : Op} (h : InScopeCP R op) : InScopeCE R RE op := by
  refine InScopeCH.toCE (K := fun _ => True) ?_
  cases op with
  | add cs => exact h
  | satisfiable extra => exact h
  | _ => exact h.elim

theorem InScopeCQ2.toCE {op : Op} (h : InScopeCQ2 RE op) : InScopeCE R RE op := by
  refine InScopeCH.toCE (K := fun _ => True) ?_
  cases op with
  | eval e n extra => exact ⟨h.1, h.2.1, h.2.2.1, h.2.2.2, trivial⟩
  | batchEval es n extra => exact ⟨h.1, h.2.1, h.2.2.1, h.2.2.2, trivial⟩
  | solution e x extra => exact ⟨h.1, h.2.1, h.2.2.1, h.2.2.2, trivial⟩
  | isTrue c extra => trivial
  | isFalse c extra => trivial
  | _ => exact h.elim

theorem InScopeCQ.toCQ2 {op : Op} (h : InScopeCQ RE op) : InScopeCQ2 RE op := by
  cases op with
  | eval e n extra => exact h
  | isTrue c extra => exact h
  | isFalse c extra => exact h
  | _ => exact h.elim

section
variable (H : SolverHyps R RE E)
include H

theorem compSatisfiable_any {U : List Con} {Us : List (List Con)} {s : CSt} (h : CInv R RE E U Us s) (extra : List Con)
    (hwf : ∀ c ∈ extra, ConWf c) :
    (compSatisfiable E extra).wp (fun b s' => (b = true ↔ Satisfiable (U ++ extra)) ∧ ∃ Us', CInv R RE E U Us' s')
      (fun e s' => IsGiveUp E e ∧ ∃ Us', CInv R RE E U Us' s') s := by
  by_cases hne : extra = []
  · subst hne
    exact (compSatisfiable_spec H h).imp (fun b s' g => ⟨by rw [List.append_nil]; exact g.1, Us, g.2.1⟩)
      fun e s' g => ⟨g.1, Us, g.2.1⟩
  · exact compSatisfiable_extra H h extra hne hwf

theorem merged_query {α : Type} {U : List Con} {Us Us1 : List (List Con)} {s s1 : CSt} {names : List Var} {m : Nat}
    (h : CInv R RE E U Us s) (hm : Merged R RE E Us Us1 s s1 names m) (op : Op) (q : M α) (f : α → Out)
    (hstep : ∀ w i, step E .SolverCompositeChild w i op = outOf f (runOn w i q))
    (hsc : InScopeC R RE op) (hual : ∀ X i, usersAll X i op = X)
    (hft : FootQ (stOfI s1.w m) (q (stOfI s1.w m)).2) :
    JudgeOrGiveUp E (usersAfter (Us1.getD m []) op) op (outOf f (runOn s1.w m q)).1 ∧
    CInv R RE E U Us1 { s1 with w := (runOn s1.w m q).2 } ∧
    (runOn s1.w m q).2.fes.length = s1.w.fes.length ∧
    ((runOn s1.w m q).2.fes.getD m {}).variables = (s1.child m).variables ∧
    ∀ t, t < s.w.fes.length → ((runOn s1.w m q).2.fes.getD t {}).variables = (s.child t).variables := by
  have hst := ch_step H s1.w Us1 hm.kids m hm.lt op hsc
  rw [hstep, hual] at hst
  have hk2 : TInvS R RE E Us1 (runOn s1.w m q).2 := by
    revert hst; generalize runOn s1.w m q = res2
    obtain ⟨r2, w2⟩ := res2
    cases r2 <;> exact fun hst => hst.2
  exact ⟨hst.1, merged_after h hm q hk2 hft⟩

/-- **a value query of the composite, generically**: `q` is the child's method, `f` wraps its result, `names` are the variables the
merged solver is asked for.  Needed of the child call: it is the call `op` of the child class (`hstep`) and has the footprint
(`hfoot`).  The invariant holds afterwards; the answer is `unsat` from `_ensure_sat`, or a give-up, or the answer of a child
whose constraints `Um` are related to everything the user added by `Equi names`. -/
theorem compQuery_run {α : Type} {U : List Con} {Us : List (List Con)} {s : CSt} (h : CInv R RE E U Us s) (op : Op)
    (names : List Var) (extra : List Con) (hwf : ∀ c ∈ extra, ConWf c) (q : M α) (f : α → Out)
    (hstep : ∀ w i, step E .SolverCompositeChild w i op = outOf f (runOn w i q))
    (hsc : InScopeC R RE op) (hual : ∀ X i, usersAll X i op = X)
    (hfoot : ∀ (U' : List Con) s', SI R RE E (fun _ => True) U' s' → FootQ s' (q s').2) :
    (∃ Us', CInv R RE E U Us' (compQuery E names extra q s).2) ∧
    ((¬ Satisfiable (U ++ extra) ∧ (outOfC f (compQuery E names extra q s)).1 = .err .unsat) ∨
     GaveUpOut E (outOfC f (compQuery E names extra q s)).1 ∨
     ∃ Um, Equi names U Um ∧ JudgeOrGiveUp E (usersAfter Um op) op (outOfC f (compQuery E names extra q s)).1) := by
  simp only [compQuery, bind, CM.bind, ensureSat, CM.get]
  by_cases hu : s.c.unsat = true
  · simp only [hu, ↓reduceIte, CM.throw, outOfC]
    exact ⟨⟨Us, h⟩, Or.inl ⟨fun ⟨a, ha⟩ => h.unsatOk hu ⟨a, (models_append.mp ha).1⟩, trivial⟩⟩
  · have hu' : s.c.unsat = false := by simpa using hu
    simp only [hu', Bool.false_eq_true, ↓reduceIte, CM.bind]
    have hs := compSatisfiable_any H h extra hwf
    revert hs
    unfold CM.wp Solver.wp
    rcases compSatisfiable E extra s with ⟨e' | b, s0⟩
    · exact fun hs => ⟨hs.2, Or.inr (Or.inl ⟨e', rfl, hs.1⟩)⟩
    · rintro ⟨hb, Us0, h0⟩
      cases b with
      | false =>
        simp only [Bool.not_false, ↓reduceIte, CM.throw, outOfC]
        exact ⟨⟨Us0, h0⟩, Or.inl ⟨fun hs => Bool.noConfusion (hb.mpr hs), trivial⟩⟩
      | true =>
        simp only [Bool.not_true, Bool.false_eq_true, ↓reduceIte, pure, CM.pure]
        obtain ⟨a0, ha0⟩ := hb.mp rfl
        have haU : Models U a0 := (models_append.mp ha0).1
        have hu0 : s0.c.unsat = false := by
          cases hx : s0.c.unsat with
          | false => rfl
          | true => exact absurd ⟨a0, haU⟩ (h0.unsatOk hx)
        obtain ⟨m, Us1, s1, hr, hm⟩ := solverForNames_spec H h0 names
        simp only [hr]
        have hallsat : ∀ j ∈ s0.c.solverList, Satisfiable (Us0.getD j []) :=
          fun j hj => ⟨a0, (h0.sem hu0 a0).mp haU j hj⟩
        obtain ⟨hdown, hequi⟩ := merged_equi H h0 _ m hm hu0
        have hequi := hequi hallsat
        obtain ⟨hans, h2, hlen2, hfv, hcv2⟩ := merged_query H h0 hm op q f hstep hsc hual
          (hfoot _ (stOfI s1.w m) (hm.kids.each m hm.lt))
        simp only [CM.onChild]
        revert hans h2 hlen2 hfv hcv2
        generalize runOn s1.w m q = res2
        obtain ⟨r2, w2⟩ := res2
        intro hans h2 hlen2 hfv hcv2
        cases r2 with
        | error e' => exact ⟨⟨Us1, h2⟩, Or.inr (Or.inr ⟨_, hequi, hans⟩)⟩
        | ok vs =>
          obtain ⟨s3, Us3, hrb, hpost⟩ := extra_reabsorb_post H h0 hm h2 hm.comp hfv hcv2
            (by show m < w2.fes.length; rw [hlen2]; exact hm.lt) hu0 ⟨a0, hdown a0 haU⟩
          simp only [hrb]
          exact ⟨⟨Us3, hpost.inv⟩, Or.inr (Or.inr ⟨_, hequi, hans⟩)⟩

/-- on top of `compQuery_run`: an allowed answer for the merged child's constraints is an allowed answer for everything the user
added whenever the two are related by `Equi names` (`htrans`) -/
theorem compQuery_step {α : Type} {U : List Con} {Us : List (List Con)} {s : CSt} (h : CInv R RE E U Us s) (op : Op)
    (names : List Var) (extra : List Con) (hwf : ∀ c ∈ extra, ConWf c) (q : M α) (f : α → Out)
    (hstep : ∀ w i, step E .SolverCompositeChild w i op = outOf f (runOn w i q))
    (hsc : InScopeC R RE op)
    (hua : ∀ X, usersAfter X op = X) (hual : ∀ X i, usersAll X i op = X)
    (hfoot : ∀ (U' : List Con) s', SI R RE E (fun _ => True) U' s' → FootQ s' (q s').2)
    (hunsat : ¬ Satisfiable (U ++ extra) → Judge U op (.err .unsat))
    (htrans : ∀ Um o, Equi names U Um → Judge Um op o → Judge U op o) :
    JudgeOrGiveUp E U op (outOfC f (compQuery E names extra q s)).1 ∧ ∃ Us', CInv R RE E U Us' (compQuery E names extra q s).2 := by
  obtain ⟨hinv, hans⟩ := compQuery_run H h op names extra hwf q f hstep hsc hual hfoot
  refine ⟨?_, hinv⟩
  rcases hans with ⟨hns, ho⟩ | hg | ⟨Um, hequi, hj | hg⟩
  · rw [ho]; exact Or.inl (hunsat hns)
  · exact Or.inr hg
  · rw [hua] at hj; exact Or.inl (htrans Um _ hequi hj)
  · exact Or.inr hg

theorem compValue_step {α : Type} {U : List Con} {Us : List (List Con)} {s : CSt} (h : CInv R RE E U Us s) (op : Op)
    (names : List Var) (extra : List Con) (hwf : ∀ c ∈ extra, ConWf c) (q : M α) (f : α → Out)
    (hrun : compStep E s op = outOfC f (compQuery E names extra q s))
    (hstep : ∀ w i, step E .SolverCompositeChild w i op = outOf f (runOn w i q))
    (hsc : InScopeC R RE op)
    (hua : ∀ X, usersAfter X op = X) (hual : ∀ X i, usersAll X i op = X) (hq : TrQ q)
    (hvE : ∀ c ∈ extra, ∀ v ∈ c.vars, v ∈ names)
    (hunsat : ¬ Satisfiable (U ++ extra) → Judge U op (.err .unsat))
    (htrans : ∀ Um o, Equi names (U ++ extra) (Um ++ extra) → Judge Um op o → Judge U op o) :
    JudgeOrGiveUp E U op (compStep E s op).1 ∧ ∃ Us', CInv R RE E U Us' (compStep E s op).2 := by
  rw [hrun, outOfC_snd]
  exact compQuery_step H h op names extra hwf q f hstep hsc hua hual (fun _ s' _ => hq s') hunsat
    fun Um o hequi hj => htrans Um o (hequi.extra hwf hvE) hj

/-- **`is_true` / `is_false` of the composite** (any extra constraints; no `_ensure_sat`, no `_reabsorb_solver`): the merged solver
of the variables mentioned answers; a `True` is right for everything the user added; a merged child may join the world, the
composite's record is not touched -/
theorem compTruth_step {U : List Con} {Us : List (List Con)} {s : CSt} (h : CInv R RE E U Us s) (isT : Bool) (c : Con)
    (extra : List Con) :
    JudgeOrGiveUp E U (if isT then .isTrue c extra else .isFalse c extra)
      (compStep E s (if isT then .isTrue c extra else .isFalse c extra)).1 ∧
    ∃ Us', CInv R RE E U Us' (compStep E s (if isT then .isTrue c extra else .isFalse c extra)).2 := by
  obtain ⟨m, Us1, s1, hr, hm⟩ := solverForNames_spec H h (namesFor (c.vars :: extra.map (·.vars)))
  have hdown : ∀ a, Models U a → Models (Us1.getD m []) a := by
    cases hx : s.c.unsat with
    | false => exact (merged_equi H h _ m hm hx).1
    | true => exact fun a ha => absurd ⟨a, ha⟩ (h.unsatOk hx)
  have key : ∀ (op : Op) (q : M Bool), (∀ w i, step E .SolverCompositeChild w i op = outOf .bool (runOn w i q)) →
      InScopeC R RE op → (∀ X, usersAfter X op = X) → (∀ X i, usersAll X i op = X) → TrQ q →
      (∀ o, Judge (Us1.getD m []) op o → Judge U op o) →
      JudgeOrGiveUp E U op (outOfC .bool ((do
        let ms ← solverForNames E (namesFor (c.vars :: extra.map (·.vars)))
        CM.onChild ms q : CM Bool) s)).1 ∧
      ∃ Us', CInv R RE E U Us' (outOfC .bool ((do
        let ms ← solverForNames E (namesFor (c.vars :: extra.map (·.vars)))
        CM.onChild ms q : CM Bool) s)).2 := by
    intro op q hstep hsc hua hual hq htrans
    obtain ⟨hans, h2, _⟩ := merged_query H h hm op q .bool hstep hsc hual (hq (stOfI s1.w m))
    rw [hua] at hans
    rw [outOfC_snd]
    simp only [bind, CM.bind, hr, CM.onChild]
    revert hans h2
    generalize runOn s1.w m q = res2
    obtain ⟨r2, w2⟩ := res2
    intro hans h2
    refine ⟨?_, Us1, h2⟩
    cases r2 <;> exact hans.imp (htrans _) id
  cases isT with
  | true =>
    exact key (.isTrue c extra) ((childOps E).isTrue c extra) (fun _ _ => rfl) trivial (fun _ => rfl) (fun _ _ => rfl)
      ((opsFoot_childOps E).isTrue c extra) (judge_truth_down hdown true c extra)
  | false =>
    exact key (.isFalse c extra) ((childOps E).isFalse c extra) (fun _ _ => rfl) trivial (fun _ => rfl) (fun _ _ => rfl)
      ((opsFoot_childOps E).isFalse c extra) (judge_truth_down hdown false c extra)

theorem compEval_stepE {U : List Con} {Us : List (List Con)} {s : CSt} (h : CInv R RE E U Us s) (e : Exp) (n : Nat)
    (extra : List Con) (hwf : ∀ c ∈ extra, ConWf c) (he : RE e) (hc : e.conc = none) (hn : 1 ≤ n) :
    JudgeOrGiveUp E U (.eval e n extra) (compStep E s (.eval e n extra)).1 ∧ ∃ Us', CInv R RE E U Us' (compStep E s (.eval e n extra)).2 :=
  -- `(by rfl)`: the term `rfl` for `compStep … = outOfC … (compQuery …)` is checked by unfolding the wrong side first
  compValue_step H h (.eval e n extra) (namesFor (e.vars :: extra.map (·.vars))) extra hwf
    ((childOps E).eval e n extra) Out.vals (by rfl) (fun _ _ => rfl) ⟨he, hc, hn⟩ (fun _ => rfl) (fun _ _ => rfl)
    ((opsFoot_childOps E).eval e n extra)
    (fun c hc v hv => mem_namesFor_of_mem (List.mem_cons_of_mem _ (List.mem_map_of_mem hc)) hv)
    (fun hns => hns)
    (fun _ o hq hj => hq.judge_eval (H.expReg.dep e he) (fun v hv => mem_namesFor_of_mem List.mem_cons_self hv) n o hj)

theorem compBatchEval_stepE {U : List Con} {Us : List (List Con)} {s : CSt} (h : CInv R RE E U Us s) (es : List Exp) (n : Nat)
    (extra : List Con) (hwf : ∀ c ∈ extra, ConWf c) (hnes : es ≠ []) (hes : ∀ e ∈ es, RE e ∧ e.conc = none) (hn : 1 ≤ n) :
    JudgeOrGiveUp E U (.batchEval es n extra) (compStep E s (.batchEval es n extra)).1 ∧ ∃ Us', CInv R RE E U Us' (compStep E s (.batchEval es n extra)).2 :=
  compValue_step H h (.batchEval es n extra) (namesFor (extra.map (·.vars) ++ es.map (·.vars))) extra hwf
    ((childOps E).batchEval es n extra) Out.tuples (by rfl) (fun _ _ => rfl) ⟨hnes, hes, hn⟩ (fun _ => rfl) (fun _ _ => rfl)
    ((opsFoot_childOps E).batchEval es n extra)
    (fun c hc v hv => mem_namesFor_of_mem (List.mem_append_left _ (List.mem_map_of_mem hc)) hv)
    (fun hns => hns)
    (fun _ o hq hj => hq.judge_batchEval (fun e he => H.expReg.dep e (hes e he).1)
      (fun e he v hv => mem_namesFor_of_mem (List.mem_append_right _ (List.mem_map_of_mem he)) hv) n o hj)

theorem compSolution_stepE {U : List Con} {Us : List (List Con)} {s : CSt} (h : CInv R RE E U Us s) (e : Exp) (x : Nat)
    (extra : List Con) (hwf : ∀ c ∈ extra, ConWf c) (he : RE e) (hc : e.conc = none) (hx : x < 2 ^ e.bits) :
    JudgeOrGiveUp E U (.solution e x extra) (compStep E s (.solution e x extra)).1 ∧ ∃ Us', CInv R RE E U Us' (compStep E s (.solution e x extra)).2 :=
  compValue_step H h (.solution e x extra) (namesFor (e.vars :: extra.map (·.vars))) extra hwf
    ((childOps E).solution e x extra) Out.bool (by rfl) (fun _ _ => rfl) ⟨hc, hx⟩ (fun _ => rfl) (fun _ _ => rfl)
    ((opsFoot_childOps E).solution e x extra)
    (fun c hc v hv => mem_namesFor_of_mem (List.mem_cons_of_mem _ (List.mem_map_of_mem hc)) hv)
    (fun hns => hns)
    (fun _ o hq hj => hq.judge_solution (H.expReg.dep e he) (fun v hv => mem_namesFor_of_mem List.mem_cons_self hv) x o hj)

theorem compMax_stepE {U : List Con} {Us : List (List Con)} {s : CSt} (h : CInv R RE E U Us s) (e : Exp) (signed : Bool)
    (extra : List Con) (hwf : ∀ c ∈ extra, ConWf c) (he : RE e) (hc : e.conc = none) :
    JudgeOrGiveUp E U (.max e extra signed) (compStep E s (.max e extra signed)).1 ∧ ∃ Us', CInv R RE E U Us' (compStep E s (.max e extra signed)).2 :=
  compValue_step H h (.max e extra signed) (namesFor (e.vars :: extra.map (·.vars))) extra hwf
    ((childOps E).max e extra signed) Out.int (by rfl) (fun _ _ => rfl) ⟨he, hc⟩ (fun _ => rfl) (fun _ _ => rfl)
    ((opsFoot_childOps E).max e extra signed)
    (fun c hc v hv => mem_namesFor_of_mem (List.mem_cons_of_mem _ (List.mem_map_of_mem hc)) hv)
    (fun hns => hns)
    (fun _ o hq hj => hq.judge_opt (H.expReg.dep e he) (fun v hv => mem_namesFor_of_mem List.mem_cons_self hv) hc true signed o hj)

theorem compMin_stepE {U : List Con} {Us : List (List Con)} {s : CSt} (h : CInv R RE E U Us s) (e : Exp) (signed : Bool)
    (extra : List Con) (hwf : ∀ c ∈ extra, ConWf c) (he : RE e) (hc : e.conc = none) :
    JudgeOrGiveUp E U (.min e extra signed) (compStep E s (.min e extra signed)).1 ∧ ∃ Us', CInv R RE E U Us' (compStep E s (.min e extra signed)).2 :=
  compValue_step H h (.min e extra signed) (namesFor (e.vars :: extra.map (·.vars))) extra hwf
    ((childOps E).min e extra signed) Out.int (by rfl) (fun _ _ => rfl) ⟨he, hc⟩ (fun _ => rfl) (fun _ _ => rfl)
    ((opsFoot_childOps E).min e extra signed)
    (fun c hc v hv => mem_namesFor_of_mem (List.mem_cons_of_mem _ (List.mem_map_of_mem hc)) hv)
    (fun hns => hns)
    (fun _ o hq hj => hq.judge_opt (H.expReg.dep e he) (fun v hv => mem_namesFor_of_mem List.mem_cons_self hv) hc false signed o hj)

theorem compEvalX_step {U : List Con} {Us : List (List Con)} {s : CSt} (h : CInv R RE E U Us s) (e : Exp) (n : Nat)
    (extra : List Con) (_hne : extra ≠ []) (hwf : ∀ c ∈ extra, ConWf c) (he : RE e) (hc : e.conc = none) (hn : 1 ≤ n) :
    JudgeOrGiveUp E U (.eval e n extra) (compStep E s (.eval e n extra)).1 ∧ ∃ Us', CInv R RE E U Us' (compStep E s (.eval e n extra)).2 :=
  compEval_stepE H h e n extra hwf he hc hn

theorem compBatchEvalX_step {U : List Con} {Us : List (List Con)} {s : CSt} (h : CInv R RE E U Us s) (es : List Exp) (n : Nat)
    (extra : List Con) (_hne : extra ≠ []) (hwf : ∀ c ∈ extra, ConWf c) (hnes : es ≠ []) (hes : ∀ e ∈ es, RE e ∧ e.conc = none) (hn : 1 ≤ n) :
    JudgeOrGiveUp E U (.batchEval es n extra) (compStep E s (.batchEval es n extra)).1 ∧ ∃ Us', CInv R RE E U Us' (compStep E s (.batchEval es n extra)).2 :=
  compBatchEval_stepE H h es n extra hwf hnes hes hn

theorem compSolutionX_step {U : List Con} {Us : List (List Con)} {s : CSt} (h : CInv R RE E U Us s) (e : Exp) (x : Nat)
    (extra : List Con) (_hne : extra ≠ []) (hwf : ∀ c ∈ extra, ConWf c) (he : RE e) (hc : e.conc = none) (hx : x < 2 ^ e.bits) :
    JudgeOrGiveUp E U (.solution e x extra) (compStep E s (.solution e x extra)).1 ∧ ∃ Us', CInv R RE E U Us' (compStep E s (.solution e x extra)).2 :=
  compSolution_stepE H h e x extra hwf he hc hx

theorem compMaxX_step {U : List Con} {Us : List (List Con)} {s : CSt} (h : CInv R RE E U Us s) (e : Exp) (signed : Bool)
    (extra : List Con) (_hne : extra ≠ []) (hwf : ∀ c ∈ extra, ConWf c) (he : RE e) (hc : e.conc = none) :
    JudgeOrGiveUp E U (.max e extra signed) (compStep E s (.max e extra signed)).1 ∧ ∃ Us', CInv R RE E U Us' (compStep E s (.max e extra signed)).2 :=
  compMax_stepE H h e signed extra hwf he hc

theorem compMinX_step {U : List Con} {Us : List (List Con)} {s : CSt} (h : CInv R RE E U Us s) (e : Exp) (signed : Bool)
    (extra : List Con) (_hne : extra ≠ []) (hwf : ∀ c ∈ extra, ConWf c) (he : RE e) (hc : e.conc = none) :
    JudgeOrGiveUp E U (.min e extra signed) (compStep E s (.min e extra signed)).1 ∧ ∃ Us', CInv R RE E U Us' (compStep E s (.min e extra signed)).2 :=
  compMin_stepE H h e signed extra hwf he hc

theorem comp_stepE {U : List Con} {Us : List (List Con)} {s : CSt} (h : CInv R RE E U Us s) (op : Op) (hop : InScopeCE R RE op) :
    JudgeOrGiveUp E (usersAfter U op) op (compStep E s op).1 ∧ ∃ Us', CInv R RE E (usersAfter U op) Us' (compStep E s op).2 := by
  cases op with
  | add cs =>
    by_cases hemp : cs.isEmpty = true
    · have : cs = [] := by simpa using hemp
      subst this
      exact ⟨Or.inl trivial, Us, by simpa [compStep, usersAfter] using h⟩
    · obtain ⟨added, Us', s', hrun, hinv⟩ := compAdd_spec H h cs hop.1 hop.2
      have hstep : compStep E s (.add cs) = (.cons (added.map (·.id)), s') := by
        simp only [compStep, hemp, Bool.false_eq_true, ↓reduceIte, hrun, outOfC]
      rw [hstep]
      exact ⟨Or.inl trivial, Us', hinv⟩
  | satisfiable extra =>
    exact wp_outOfC (A := JudgeOrGiveUp E U (.satisfiable extra)) (f := Out.bool)
      ((compSatisfiable_any H h extra fun c hc => H.reg.wf c (hop c hc)).imp (fun b s' g => ⟨Or.inl g.1, g.2⟩)
        fun e s' g => ⟨Or.inr ⟨e, rfl, g.1⟩, g.2⟩)
  | eval e n extra =>
    obtain ⟨he, hc, hn, hR⟩ := hop
    exact compEval_stepE H h e n extra (fun c hc => H.reg.wf c (hR c hc)) he hc hn
  | batchEval es n extra =>
    obtain ⟨hne, hes, hn, hR⟩ := hop
    exact compBatchEval_stepE H h es n extra (fun c hc => H.reg.wf c (hR c hc)) hne hes hn
  | solution e x extra =>
    obtain ⟨he, hc, hx, hR⟩ := hop
    exact compSolution_stepE H h e x extra (fun c hc => H.reg.wf c (hR c hc)) he hc hx
  | min e extra sg =>
    obtain ⟨he, hc, hR⟩ := hop
    exact compMin_stepE H h e sg extra (fun c hc => H.reg.wf c (hR c hc)) he hc
  | max e extra sg =>
    obtain ⟨he, hc, hR⟩ := hop
    exact compMax_stepE H h e sg extra (fun c hc => H.reg.wf c (hR c hc)) he hc
  | isTrue c extra => exact compTruth_step H h true c extra
  | isFalse c extra => exact compTruth_step H h false c extra
  | _ => exact hop.elim

theorem compExtremum_step {U : List Con} {Us : List (List Con)} {s : CSt} (h : CInv R RE E U Us s) (isMax : Bool) (e : Exp)
    (he : RE e) (hc : e.conc = none) (signed : Bool) :
    JudgeOrGiveUp E U (if isMax then .max e [] signed else .min e [] signed)
      (compStep E s (if isMax then .max e [] signed else .min e [] signed)).1 ∧
    ∃ Us', CInv R RE E U Us' (compStep E s (if isMax then .max e [] signed else .min e [] signed)).2 := by
  cases isMax <;> exact comp_stepE H h _ ⟨he, hc, nofun⟩

theorem comp_histE : ∀ (hist : List Op) (s : CSt) (U : List Con) (Us : List (List Con)), CInv R RE E U Us s →
    (∀ op ∈ hist, InScopeCE R RE op) → ∀ x ∈ runComp E s U hist, JudgeOrGiveUp E x.1 x.2.1 x.2.2
  | [], _, _, _, _, _ => fun x hx => by cases hx
  | op :: rest, s, U, Us, h, hok => by
    intro x hx
    obtain ⟨hj, Us', hinv⟩ := comp_stepE H h op (hok op (by simp))
    rw [runComp_cons] at hx
    rcases List.mem_cons.mp hx with rfl | hx
    · exact hj
    · exact comp_histE rest _ _ Us' hinv (fun op' hop' => hok op' (by simp [hop'])) x hx

theorem comp_histX : ∀ (hist : List Op) (s : CSt) (U : List Con) (Us : List (List Con)), CInv R RE E U Us s →
    (∀ op ∈ hist, InScopeCX R RE op) → ∀ x ∈ runComp E s U hist, JudgeOrGiveUp E x.1 x.2.1 x.2.2 :=
  fun hist s U Us h hok => comp_histE H hist s U Us h fun op hop => (hok op hop).toCE

theorem comp_hist3 : ∀ (hist : List Op) (s : CSt) (U : List Con) (Us : List (List Con)), CInv R RE E U Us s →
    (∀ op ∈ hist, InScopeCH R RE (fun _ => True) op) → OwnersOk E s hist →
    ∀ x ∈ runComp E s U hist, JudgeOrGiveUp E x.1 x.2.1 x.2.2 :=
  fun hist s U Us h hok _ => comp_histE H hist s U Us h fun op hop => (hok op hop).toCE

theorem comp_histE_inv : ∀ (hist : List Op) (s : CSt) (U : List Con) (Us : List (List Con)), CInv R RE E U Us s →
    (∀ op ∈ hist, InScopeCE R RE op) → ∃ Us', CInv R RE E (usersAfterOps U hist) Us' (compRun E s hist)
  | [], _, _, Us, h, _ => ⟨Us, h⟩
  | op :: rest, s, U, Us, h, hok => by
    obtain ⟨_, Us', hinv⟩ := comp_stepE H h op (hok op (by simp))
    exact comp_histE_inv rest _ _ Us' hinv (fun op' hop' => hok op' (by simp [hop']))

theorem compQuery_judge {α : Type} {U : List Con} {Us : List (List Con)} {s : CSt} (h : CInv R RE E U Us s) (op : Op)
    (names : List Var) (q : M α) (f : α → Out)
    (hstep : ∀ w i, step E .SolverCompositeChild w i op = outOf f (runOn w i q))
    (hsc : InScopeC R RE op) (hnb : op ≠ .branch)
    (hua : ∀ X, usersAfter X op = X) (hual : ∀ X i, usersAll X i op = X)
    (hfoot : ∀ (U' : List Con) s', SI R RE E (fun _ => True) U' s' → FootQ s' (q s').2)
    (hunsat : ¬ Satisfiable U → Judge U op (.err .unsat))
    (htrans : ∀ Um o, Equi names U Um → Judge Um op o → Judge U op o) :
    JudgeOrGiveUp E U op (outOfC f (compQuery E names [] q s)).1 :=
  (compQuery_step H h op names [] nofun q f hstep hsc hua hual hfoot
    (fun hns => hunsat (by rwa [List.append_nil] at hns)) htrans).1

theorem compQuery_keeps {α : Type} {U : List Con} {Us : List (List Con)} {s : CSt} (h : CInv R RE E U Us s) (op : Op)
    (names : List Var) (q : M α) (f : α → Out)
    (hK : UniqOwner s.c names ∨ ReabsorbKeeps R RE E)
    (hstep : ∀ w i, step E .SolverCompositeChild w i op = outOf f (runOn w i q))
    (hsc : InScopeC R RE op) (hnb : op ≠ .branch)
    (hual : ∀ X i, usersAll X i op = X)
    (hfoot : ∀ (U' : List Con) s', SI R RE E (fun _ => True) U' s' → FootQ s' (q s').2) :
    ∃ Us', CInv R RE E U Us' (compQuery E names [] q s).2 :=
  (compQuery_run H h op names [] nofun q f hstep hsc hual hfoot).1

theorem compQuery_judgeX {α : Type} {U : List Con} {Us : List (List Con)} {s : CSt} (h : CInv R RE E U Us s) (op : Op)
    (names : List Var) (extra : List Con) (hne : extra ≠ []) (hwf : ∀ c ∈ extra, ConWf c) (q : M α) (f : α → Out)
    (hstep : ∀ w i, step E .SolverCompositeChild w i op = outOf f (runOn w i q))
    (hsc : InScopeC R RE op) (hnb : op ≠ .branch)
    (hua : ∀ X, usersAfter X op = X) (hual : ∀ X i, usersAll X i op = X)
    (hfoot : ∀ (U' : List Con) s', SI R RE E (fun _ => True) U' s' → FootQ s' (q s').2)
    (hunsat : ¬ Satisfiable (U ++ extra) → Judge U op (.err .unsat))
    (htrans : ∀ Um o, Equi names U Um → Judge Um op o → Judge U op o) :
    JudgeOrGiveUp E U op (outOfC f (compQuery E names extra q s)).1 :=
  (compQuery_step H h op names extra hwf q f hstep hsc hua hual hfoot hunsat htrans).1

theorem compQuery_keepsX {α : Type} {U : List Con} {Us : List (List Con)} {s : CSt} (h : CInv R RE E U Us s) (op : Op)
    (names : List Var) (extra : List Con) (hne : extra ≠ []) (hwf : ∀ c ∈ extra, ConWf c) (q : M α) (f : α → Out)
    (hstep : ∀ w i, step E .SolverCompositeChild w i op = outOf f (runOn w i q))
    (hsc : InScopeC R RE op) (hnb : op ≠ .branch)
    (hual : ∀ X i, usersAll X i op = X)
    (hfoot : ∀ (U' : List Con) s', SI R RE E (fun _ => True) U' s' → FootQ s' (q s').2) :
    ∃ Us', CInv R RE E U Us' (compQuery E names extra q s).2 :=
  (compQuery_run H h op names extra hwf q f hstep hsc hual hfoot).1

theorem compTruth_keeps {U : List Con} {Us : List (List Con)} {s : CSt} (h : CInv R RE E U Us s) (isT : Bool) (c : Con)
    (extra : List Con) :
    ∃ Us', CInv R RE E U Us' (compStep E s (if isT then .isTrue c extra else .isFalse c extra)).2 :=
  (compTruth_step H h isT c extra).2

end

/-- `combine` delivers the merged child in the consistent environment of `SolverConsistent.lean` too -/
theorem cCombineSpec : CombineSpec cR cRE cEnv := combineSpec cHyps (childFoot cHyps)

theorem cR_cFalse : cR cFalse := Or.inl rfl

/-- `add` of one of the three constraints is in scope (of `InScopeCP`, hence of `InScopeCH`, `InScopeCX`, `InScopeCE`) -/
theorem cAddCon_ok : InScopeCP cR (.add [cCon]) := ⟨by simp, by simp [cCon]⟩
theorem cAddEq_ok : InScopeCP cR (.add [cEq]) := ⟨by simp, by simp [cEq]⟩
theorem cAddFalse_ok : InScopeCP cR (.add [cFalse]) := ⟨by simpa using cR_cFalse, by simp [cFalse]⟩

/-- a history in scope: constrain, ask, pin, ask, contradict, ask -/
def cCompHist : List Op := [.add [cCon], .satisfiable [], .add [cEq], .satisfiable [], .add [cFalse], .satisfiable []]

theorem cCompHist_ok : ∀ op ∈ cCompHist, InScopeCP cR op := by
  simp only [cCompHist, List.forall_mem_cons]
  exact ⟨cAddCon_ok, rfl, cAddEq_ok, rfl, cAddFalse_ok, rfl, fun _ h => nomatch h⟩

end Claripy.Solver

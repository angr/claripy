import ClaripyProofs.Lemmas.Solver.CompositeSat
/-!
What the queries of CompositeFrontend rest on besides `satisfiable()`.  The transfer of an answer from the merged child to the
whole constraint list (`Equi`): every model of the merged child extends to a model of everything, because the other children are
satisfiable and share no variable with it (`merged_equi`, from `CInv.joint_model`); per kind of query the extras are appended on
both sides (`Equi.extra`, `Equi.judge_*`).  And the semantic core of the case `len(parts) == len(old)` of `_reabsorb_solver`
(`update_accepts_valid`).
-/
namespace Claripy.Solver

variable {R : Con → Prop} {RE : Exp → Prop} {E : Env}

theorem forM_ok {P : CSt → Prop} (f : Nat → CM Unit) (l : List Nat) (s : CSt) (hs : P s)
    (hf : ∀ p ∈ l, ∀ s, P s → ∃ s', f p s = (.ok (), s') ∧ P s') : ∃ s', l.forM f s = (.ok (), s') ∧ P s' := by
  obtain ⟨_, s', h, hp⟩ := (CM.wp_forM (X := fun _ _ => False) f l s hs fun p hp s hs => by
    obtain ⟨s', h, hp'⟩ := hf p hp s hs
    exact (CM.wp_ok h).mpr hp').ok
  exact ⟨s', h, hp⟩

theorem childUpdate_cv (t p : Nat) (s : CSt) (i : Nat) :
    ((childUpdate t p s).2.child i).constraints = (s.child i).constraints ∧
    ((childUpdate t p s).2.child i).variables = (s.child i).variables := by
  apply set_cv s.w.fes t
  exact ⟨rfl, rfl⟩

theorem childUpdate_vars (t p : Nat) (s : CSt) :
    ∃ s', childUpdate t p s = (.ok (), s') ∧ s'.c = s.c ∧ ∀ i, (s'.child i).variables = (s.child i).variables :=
  ⟨_, rfl, rfl, fun i => (childUpdate_cv t p s i).2⟩

/-- the merged child's constraints `Um` against everything the user added `U`, seen from the variables `names`: every model of
everything is a model of the child; every model of the child extends, without changing `names`, to a model of everything -/
structure Equi (names : List Var) (U Um : List Con) : Prop where
  down : ∀ a, Models U a → Models Um a
  up : ∀ a, Models Um a → ∃ a', Models U a' ∧ ∀ v ∈ names, a' v = a v

theorem Equi.feasible_eq {names : List Var} {U Um : List Con} (h : Equi names U Um) {e : Exp} (he : ExpDep e)
    (hv : ∀ v ∈ e.vars, v ∈ names) : Feasible U e = Feasible Um e := by
  funext x
  apply propext
  constructor
  · rintro ⟨a, ha, hx⟩; exact ⟨a, h.down a ha, hx⟩
  · rintro ⟨a, ha, hx⟩
    obtain ⟨a', ha', hag⟩ := h.up a ha
    exact ⟨a', ha', by rw [← hx]; exact he a' a (fun v hv' => hag v (hv v hv'))⟩

theorem Equi.feasible {names : List Var} {U Um : List Con} (h : Equi names U Um) {e : Exp} (he : ExpDep e)
    (hv : ∀ v ∈ e.vars, v ∈ names) : Feasible (U ++ []) e = Feasible (Um ++ []) e := by
  simp only [List.append_nil]
  exact h.feasible_eq he hv

theorem Equi.sat {names : List Var} {U Um : List Con} (h : Equi names U Um) : Satisfiable U ↔ Satisfiable Um := by
  constructor
  · rintro ⟨a, ha⟩; exact ⟨a, h.down a ha⟩
  · rintro ⟨a, ha⟩
    obtain ⟨a', ha', _⟩ := h.up a ha
    exact ⟨a', ha'⟩

theorem Equi.judge_eval {names : List Var} {U Um extra : List Con} (h : Equi names (U ++ extra) (Um ++ extra)) {e : Exp}
    (he : ExpDep e) (hv : ∀ v ∈ e.vars, v ∈ names) (n : Nat) (o : Out) (hj : Judge Um (.eval e n extra) o) :
    Judge U (.eval e n extra) o := by
  have hF := h.feasible_eq he hv
  cases o with
  | vals vs =>
    simp only [Judge] at hj ⊢
    rw [hF]; exact hj
  | err e' =>
    cases e' with
    | unsat =>
      simp only [Judge] at hj ⊢
      exact fun hs => hj (h.sat.mp hs)
    | _ => exact hj.elim
  | _ => exact hj.elim

theorem judge_truth_down {U Um : List Con} (hd : ∀ a, Models U a → Models Um a) (isT : Bool) (c : Con) (extra : List Con) (o : Out)
    (hj : Judge Um (if isT then .isTrue c extra else .isFalse c extra) o) :
    Judge U (if isT then .isTrue c extra else .isFalse c extra) o := by
  have hdown : ∀ a, Models (U ++ extra) a → Models (Um ++ extra) a := fun a ha =>
    models_append.mpr ⟨hd a (models_append.mp ha).1, (models_append.mp ha).2⟩
  cases isT <;> simp only [Bool.false_eq_true, ↓reduceIte] at hj ⊢
  all_goals
    cases o with
    | bool b =>
      simp only [Judge] at hj ⊢
      exact fun hb a ha => hj hb a (hdown a ha)
    | err e' =>
      cases e' with
      | unsat =>
        simp only [Judge] at hj ⊢
        exact fun ⟨a, ha⟩ => hj ⟨a, hdown a ha⟩
      | _ => exact hj.elim
    | _ => exact hj.elim

theorem Equi.feasibleT_eq {names : List Var} {U Um : List Con} (h : Equi names U Um) {es : List Exp} (he : ∀ e ∈ es, ExpDep e)
    (hv : ∀ e ∈ es, ∀ v ∈ e.vars, v ∈ names) : FeasibleT U es = FeasibleT Um es := by
  funext t
  apply propext
  constructor
  · rintro ⟨a, ha, hx⟩; exact ⟨a, h.down a ha, hx⟩
  · rintro ⟨a, ha, hx⟩
    obtain ⟨a', ha', hag⟩ := h.up a ha
    refine ⟨a', ha', ?_⟩
    rw [← hx]
    exact List.map_congr_left fun e hem => he e hem a' a (fun v hv' => hag v (hv e hem v hv'))

theorem Equi.judge_batchEval {names : List Var} {U Um extra : List Con} (h : Equi names (U ++ extra) (Um ++ extra))
    {es : List Exp} (he : ∀ e ∈ es, ExpDep e) (hv : ∀ e ∈ es, ∀ v ∈ e.vars, v ∈ names) (n : Nat) (o : Out)
    (hj : Judge Um (.batchEval es n extra) o) : Judge U (.batchEval es n extra) o := by
  have hF := h.feasibleT_eq he hv
  cases o with
  | tuples ts =>
    simp only [Judge] at hj ⊢
    rw [hF]; exact hj
  | err e' =>
    cases e' with
    | unsat =>
      simp only [Judge] at hj ⊢
      exact fun hs => hj (h.sat.mp hs)
    | _ => exact hj.elim
  | _ => exact hj.elim

theorem Equi.judge_solution {names : List Var} {U Um extra : List Con} (h : Equi names (U ++ extra) (Um ++ extra)) {e : Exp}
    (he : ExpDep e) (hv : ∀ v ∈ e.vars, v ∈ names) (x : Nat) (o : Out) (hj : Judge Um (.solution e x extra) o) :
    Judge U (.solution e x extra) o := by
  have hF := h.feasible_eq he hv
  cases o with
  | bool b =>
    simp only [Judge] at hj ⊢
    rw [hF]; exact hj
  | err e' =>
    cases e' with
    | unsat =>
      simp only [Judge] at hj ⊢
      exact fun hs => hj (h.sat.mp hs)
    | _ => exact hj.elim
  | _ => exact hj.elim

theorem mem_namesFor (vss : List (List Var)) (v : Var) : v ∈ namesFor vss ↔ ∃ vs ∈ vss, v ∈ vs := by
  unfold namesFor
  have : ∀ (acc : List Var), v ∈ vss.foldl listUnion acc ↔ v ∈ acc ∨ ∃ vs ∈ vss, v ∈ vs := by
    induction vss with
    | nil => intro acc; simp
    | cons x xs ih =>
      intro acc
      simp only [List.foldl_cons, ih, mem_listUnion, List.mem_cons, exists_eq_or_imp]
      exact or_assoc
  rw [this]; simp

theorem Equi.judge_opt {names : List Var} {U Um extra : List Con} (h : Equi names (U ++ extra) (Um ++ extra)) {e : Exp}
    (he : ExpDep e) (hv : ∀ v ∈ e.vars, v ∈ names) (hc : e.conc = none) (isMax signed : Bool) (o : Out)
    (hj : Judge Um (if isMax then .max e extra signed else .min e extra signed) o) :
    Judge U (if isMax then .max e extra signed else .min e extra signed) o := by
  have hF := h.feasible_eq he hv
  cases isMax <;> simp only [Bool.false_eq_true, ↓reduceIte] at hj ⊢
  all_goals
    cases o with
    | int i =>
      simp only [Judge, hc, IsOpt] at hj ⊢
      rw [hF]; exact hj
    | err e' =>
      cases e' with
      | unsat =>
        simp only [Judge] at hj ⊢
        exact fun hs => hj (h.sat.mp hs)
      | _ => exact hj.elim
    | _ => exact hj.elim

theorem Equi.extra {names : List Var} {U Um : List Con} (h : Equi names U Um) {extra : List Con} (hwf : ∀ c ∈ extra, ConWf c)
    (hv : ∀ c ∈ extra, ∀ v ∈ c.vars, v ∈ names) : Equi names (U ++ extra) (Um ++ extra) := by
  refine ⟨fun a ha => models_append.mpr ⟨h.down a (models_append.mp ha).1, (models_append.mp ha).2⟩, fun a ha => ?_⟩
  obtain ⟨a', ha', hag⟩ := h.up a (models_append.mp ha).1
  refine ⟨a', models_append.mpr ⟨ha', models_of_agree hwf (fun v hv' => ?_) (models_append.mp ha).2⟩, hag⟩
  obtain ⟨c, hc, hvc⟩ := mem_varsOf_iff.mp hv'
  exact (hag v (hv c hc v hvc)).symm

theorem mem_namesFor_of_mem {vss : List (List Var)} {vs : List Var} (h : vs ∈ vss) {v : Var} (hv : v ∈ vs) : v ∈ namesFor vss :=
  (mem_namesFor vss v).mpr ⟨vs, h, hv⟩

section
variable (H : SolverHyps R RE E)
include H

theorem merged_equi {U : List Con} {Us Us1 : List (List Con)} {s s1 : CSt} (h : CInv R RE E U Us s) (names : List Var) (m : Nat)
    (hm : Merged R RE E Us Us1 s s1 names m) (hu : s.c.unsat = false) :
    (∀ a, Models U a → Models (Us1.getD m []) a) ∧
    ((∀ j ∈ s.c.solverList, Satisfiable (Us.getD j [])) → Equi names U (Us1.getD m [])) := by
  have hsolIn : ∀ t ∈ s.c.solversFor names, t ∈ s.c.solverList := fun _ ht => h.mem_of_solversFor ht
  have hltL : ∀ j ∈ s.c.solverList, j < s.w.fes.length := fun _ hj => h.lt_of_mem hj
  have hdown : ∀ a, Models U a → Models (Us1.getD m []) a := by
    intro a ha
    exact (hm.sem a).mpr fun t ht => (h.sem hu a).mp ha t (hsolIn t ht)
  refine ⟨hdown, fun hsat => ⟨hdown, fun a ha => ?_⟩⟩
  have hparts := (hm.sem a).mp ha
  -- the children that own no name, glued onto `a`: they know neither a name nor a variable of an owner of names
  obtain ⟨a', ha', hk'⟩ := h.joint_model H.reg (fun j => j ∉ s.c.solversFor names) a fun j hj _ => hsat j hj
  have hfar : ∀ v, (v ∈ names ∨ ∃ t ∈ s.c.solversFor names, v ∈ (s.child t).variables) → a' v = a v := by
    intro v hv
    refine hk' v fun j hjl hjn hvj => ?_
    rcases hv with hn | ⟨t, ht, hvt⟩
    · exact hjn (h.solversFor_of_var hjl hvj hn)
    · exact h.disjoint (hsolIn t ht) hjl (fun e => hjn (e ▸ ht)) v hvt hvj
  refine ⟨a', (h.sem hu a').mpr fun j hj => ?_, fun v hv => hfar v (Or.inl hv)⟩
  by_cases hjn : j ∈ s.c.solversFor names
  · exact h.agree H.reg (hltL j hj) (fun v hvj => (hfar v (Or.inr ⟨j, hjn, hvj⟩)).symm) (hparts j hjn)
  · exact ha' j hj hjn

end

/-- **what `update` accepts is valid for the child that receives it**: `m` satisfies the merged constraints `Um`, which imply the
child's `Ut`; `Ut` depends on `tvars` only; the restriction of `m` to the part's variables has exactly the keys `tvars` -/
theorem update_accepts_valid (dflt : Var → Nat) {Um Ut : List Con} (hwf : ∀ c ∈ Ut, ConWf c) (tvars pvars : List Var)
    (hvars : ∀ v ∈ varsOf Ut, v ∈ tvars) (himp : ∀ a, Models Um a → Models Ut a) (m : PModel)
    (hm : Models Um (m.complete dflt)) (hacc : sameSet (modelKeys (m.restrict pvars)) tvars = true) :
    Models Ut ((m.restrict pvars).complete dflt) := by
  refine models_of_agree hwf (fun v hv => ?_) (himp _ hm)
  have hvt := hvars v hv
  simp only [sameSet, Bool.and_eq_true] at hacc
  have hkey : v ∈ modelKeys (m.restrict pvars) := (subsetB_iff _ _).mp hacc.2 v hvt
  obtain ⟨kv, hkv, rfl⟩ := List.mem_map.mp hkey
  have hvp : kv.1 ∈ pvars := mem_restrict hkv
  simp only [PModel.complete_apply]
  rw [PModel.get?_restrict m pvars kv.1, if_pos hvp]

end Claripy.Solver

import ClaripyProofs.Lemmas.Solver.SolverTop
/-!
The class `SolverCompositeChild` (the children of SolverComposite) = ConstraintDeduplicator, SatCache, SimplifySkipper,
ModelCache over FullFrontend (generated MRO): the same caching layers as `Solver` in another order, without constraint filter,
concrete handler, expansion and helper.  Every call keeps the invariant `SI` and answers as the specification demands.
-/
namespace Claripy.Solver
open Claripy.Gen.SolverMro

variable {R : Con → Prop} {RE : Exp → Prop} {E : Env} {G : St → Prop} {U : List Con}

def cL0 (E : Env) (self : Ops) : Ops := fullLayer E self (constrainedLayer E self frontendBase)
def cL1 (E : Env) (self : Ops) : Ops := modelCacheLayer E self (cL0 E self)
def cL2 (E : Env) (self : Ops) : Ops := skipperLayer self (cL1 E self)
def cL3 (E : Env) (self : Ops) : Ops := satCacheLayer E self (cL2 E self)
def cL4 (E : Env) (self : Ops) : Ops := dedupLayer self (cL3 E self)

theorem compose_child (E : Env) (self : Ops) : compose E (mro .SolverCompositeChild) self = cL4 E self := rfl

def chStage (E : Env) (k : Nat) : Ops := stage E (mro .SolverCompositeChild) (k + 1)

theorem chStage_eq (E : Env) (k : Nat) : chStage E (k + 1) = cL4 E (chStage E k) := compose_child E (chStage E k)
theorem cL4_modelHook (E : Env) (self : Ops) : (cL4 E self).modelHook = mcHook := rfl

theorem cL4_add_low (hR : Reg R E) (hT : TrivOk R RE) (hC : CheapSound E) (self : Ops) : LowAdd3 R RE E G (cL4 E self).add := by
  have h0 : LowAdd0 (cL0 E self).add := fc_add_low E self self frontendBase
  have h1 : LowAdd1 R RE E G (cL1 E self).add := mc_add_low (self := self) (sup := cL0 E self) hR hT h0
  have h1' : LowAdd1 R RE E G (cL2 E self).add := skipper_add_low1 (self := self) (sup := cL1 E self) h1
  have h2 : LowAdd2 R RE E G (cL3 E self).add := satCache_add_low (self := self) (sup := cL2 E self) hR hC h1'
  exact dedup_add_low (self := self) (sup := cL3 E self) h2

/-- no constraint filter in this class: the deduplicator is the top of `_add` -/
theorem cL4_add_spec (hR : Reg R E) (hT : TrivOk R RE) (hC : CheapSound E) (self : Ops) : AddSpec R RE E G (cL4 E self).add := by
  intro U s cs inv h hcs himp
  obtain ⟨new, s1, hrun, hrel, hmc1, hsc1, hkeep⟩ := cL4_add_low hR hT hC self U s cs inv h hcs himp
  exact ⟨new, s1, hrun, si_of_added hR h hcs (fun _ => rfl) hrel hmc1 hsc1, hkeep, fun v hv => (hrel.vars v).mpr (Or.inl hv)⟩

/-- `simplify()` of the class: the satisfiability cache sits ABOVE the skipper here -/
theorem cL4_simplify_spec (hR : Reg R E) (hS : SimpOn R E) (hV : SimpVars R E) (self : Ops) :
    SimplifySpec R RE E G (cL4 E self).simplify :=
  (dedup_simplify_q hR (self := self) (sup := cL3 E self) (satCache_simplify_q hR (self := self) (sup := cL2 E self)
    (skipper_simplify_q (self := self) (sup := cL1 E self) (mc_simplify_q hR (self := self) (sup := cL0 E self)
      (full_simplify_q hR hS hV self self frontendBase))))).spec

section
variable (H : SolverHyps R RE E)
include H

theorem cL4_sat_spec {self : Ops} (hh : self.modelHook = mcHook) (extra : List Con) :
    SQ R RE E G U (SatGood (U ++ extra)) (IsGiveUp E) ((cL4 E self).satisfiable extra) := by
  refine satCache_satisfiable_spec (self := self) (sup := cL2 E self) extra ?_
  exact mc_satisfiable_spec (self := self) (sup := cL0 E self) extra
    (full_satisfiable_spec (self := self) (sup := constrainedLayer E self frontendBase) H.oracle H.reg H.zid hh extra)

theorem cL0_batchEval_spec {self : Ops} (hh : self.modelHook = mcHook) (asts : List Exp) (n : Nat) (hn : 1 ≤ n)
    (extra : List Con) :
    SQ R RE E G U (BatchGood RE E (U ++ extra) asts n) (ErrOk E (U ++ extra)) ((cL0 E self).batchEval asts n extra) :=
  full_batchEval_spec (self := self) (sup := constrainedLayer E self frontendBase) H.oracle H.reg H.zid
    H.evalComplete H.expReg hh asts n hn extra

theorem cL4_batchEval_spec {self : Ops} (hh : self.modelHook = mcHook) (asts : List Exp) (hre : ∀ e ∈ asts, RE e) (n : Nat)
    (hn : 1 ≤ n) (extra : List Con) :
    SQ R RE E G U (BatchGood RE E (U ++ extra) asts n) (ErrOk E (U ++ extra)) ((cL4 E self).batchEval asts n extra) := by
  refine satCacheQuery_spec (extra := extra) batchGood_sat ?_
  exact mc_batchEval_spec (sup := cL0 E self) H.pick H.expReg asts hre n hn extra
    fun n' extra' hn' => cL0_batchEval_spec H hh asts n' hn' extra'

theorem cL4_eval_spec {self : Ops} (hh : self.modelHook = mcHook) (e : Exp) (he : RE e) (hc : e.conc = none) (n : Nat)
    (hn : 1 ≤ n) (extra : List Con) :
    SQ R RE E G U (EvalGood E (U ++ extra) e n) (ErrOk E (U ++ extra)) ((cL4 E self).eval e n extra) := by
  refine satCacheQuery_spec (extra := extra) (evalGood_sat hc) ?_
  exact mc_eval_spec (self := self) (sup := cL0 E self) H.pick H.expReg e he hc n hn extra
    fun n' extra' hn' => cL0_batchEval_spec H hh [e] n' hn' extra'

/-- what `self` must provide for `min` / `max` -/
structure ChOk (R : Con → Prop) (RE : Exp → Prop) (E : Env) (G : St → Prop) (o : Ops) : Prop where
  hook : o.modelHook = mcHook
  sat : ∀ (U : List Con) extra,
    SQ R RE E G U (SatGood (U ++ extra)) (IsGiveUp E) (o.satisfiable extra)
  eval : ∀ (U : List Con) e n extra, RE e → e.conc = none → 1 ≤ n →
    SQ R RE E G U (EvalGood E (U ++ extra) e n) (ErrOk E (U ++ extra)) (o.eval e n extra)

theorem cL4_chOk {self : Ops} (hh : self.modelHook = mcHook) : ChOk R RE E G (cL4 E self) :=
  ⟨rfl, fun _ extra => cL4_sat_spec H hh extra, fun _ e n extra he hc hn => cL4_eval_spec H hh e he hc n hn extra⟩

theorem cL4_opt_spec {self : Ops} (hs : ChOk R RE E G self) (isMax : Bool) (e : Exp) (he : RE e) (hc : e.conc = none)
    (extra : List Con) (signed : Bool) :
    SQ R RE E G U (OptGood E isMax signed (U ++ extra) e) (ErrOk E (U ++ extra))
      (if isMax then (cL4 E self).max e extra signed else (cL4 E self).min e extra signed) := by
  have hshow : (if isMax then (cL4 E self).max e extra signed else (cL4 E self).min e extra signed) =
      satCacheQuery (modelCacheExtremum E (cL0 E self) isMax e extra signed) extra.isEmpty := by cases isMax <;> rfl
  rw [hshow]
  refine satCacheQuery_spec optGood_sat (mc_extremum_spec H.expReg isMax e he extra signed ?_)
  have : (if isMax then (cL0 E self).max e extra signed else (cL0 E self).min e extra signed) =
      fullExtremum E self isMax e extra signed := by cases isMax <;> rfl
  rw [this]
  exact full_extremum_spec H.oracle H.reg H.zid H.evalComplete H.expReg hs.hook isMax e he hc extra signed (hs.sat U extra)
    (hs.eval U e 2 extra he hc (by omega))

theorem cL4_solution_spec {self : Ops} (hh : self.modelHook = mcHook) (e : Exp) (v : Nat)
    (hv : v < 2 ^ e.bits) (extra : List Con) :
    SQ R RE E G U (SolGood (U ++ extra) e v) (ErrOk E (U ++ extra))
      ((cL4 E self).solution e v extra) := by
  refine satCache_solution_spec (self := self) (sup := cL2 E self) e v extra ?_
  exact mc_solution_spec (self := self) (sup := cL0 E self) e v extra
    (full_solution_spec (self := self) (sup := constrainedLayer E self frontendBase) H.oracle H.reg H.zid hh e v hv extra)

/-- FullFrontend.is_true / is_false (no concrete handler, no filter in this class) -/
theorem cL4_truth_spec (self : Ops) (isTrue : Bool) (c : Con) (extra : List Con) (s : St) (h : SI R RE E G U s) :
    Outcome (fun b => b = true → ∀ a, Models (U ++ extra) a → c.sem a = isTrue) (ErrOk E (U ++ extra)) (SI R RE E G U)
      (if isTrue then (cL4 E self).isTrue c extra else (cL4 E self).isFalse c extra) s := by
  have := ((full_truth_q H.cheap (fullClass_si H.reg H.zid) isTrue c extra).imp (Bad' := ErrOk E (U ++ extra))
    (fun _ _ _ hb => hb) fun _ hf => hf.elim).outcome h fun _ _ hb => hb
  cases isTrue <;> exact this

end

end Claripy.Solver

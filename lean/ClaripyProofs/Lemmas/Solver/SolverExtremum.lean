import ClaripyProofs.Lemmas.Solver.SolverFull
/-!
FullFrontend.min / max inside the caching class: `self.satisfiable`, `self.eval(e, 2)` (both go through the whole stack,
caches included), narrowing by the two values, `_extrema` with ModelCacheMixin's callback.  Besides the optimum the
theorem says that a model attaining it is in the cache afterwards — what `_max_exhausted` etc. rely on.
-/
namespace Claripy.Solver

variable {R : Con → Prop} {RE : Exp → Prop} {E : Env} {G : St → Prop} {U : List Con}

theorem full_extremum_spec (hE : OracleExact E) (hR : Reg R E) (hZ : ZidFaithful R) (hC : EvalComplete RE E)
    (hRE : ExpReg RE)
    {self : Ops} (hmh : self.modelHook = mcHook) (isMax : Bool) (e : Exp) (he : RE e) (hc : e.conc = none)
    (extra : List Con) (signed : Bool)
    (hsat : SQ R RE E G U (SatGood (U ++ extra)) (IsGiveUp E) (self.satisfiable extra))
    (hev : SQ R RE E G U (EvalGood E (U ++ extra) e 2) (ErrOk E (U ++ extra)) (self.eval e 2 extra)) :
    SQ R RE E G U (OptGood E isMax signed (U ++ extra) e) (ErrOk E (U ++ extra)) (fullExtremum E self isMax e extra signed) := by
  intro s h
  -- "the value has a witness": a cached model gives it, as soon as the variables of `e` are known
  refine (full_extremum_q (I := SI R RE E G U) (K := Keep U) hE (hmh ▸ fullClass_si hR hZ) (hmh ▸ hookRec_mc) Keep.trans isMax e (hRE.wf e he) hc extra signed
    (W := fun v s' => (∀ x ∈ e.vars, x ∈ s'.fe.variables) → ∃ m ∈ s'.fe.models, e.val (m.complete E.dflt) = v)
    (fun v s' ⟨vals, keys, q, k, hor, hval, hH⟩ hvars => ?_) hsat
    (fun s h => (hev s h).imp (fun two s' ⟨⟨hok, _, hca⟩, hI⟩ => ⟨⟨hok, fun v hv hvars => hca hvars v hv⟩, hI⟩)
      fun _ _ h => h) s h).imp
    (fun i s' ⟨⟨hopt, hw⟩, hI, hk⟩ => ⟨⟨hopt, fun hv => hw fun x hx => hk.vars x (hv x hx)⟩, hI, hk⟩) fun _ _ h => h
  obtain ⟨m, hm, hmv⟩ := cached_of_hmc hC hRE hor hH e he hvars
  exact ⟨m, hm, hmv.trans hval⟩

end Claripy.Solver

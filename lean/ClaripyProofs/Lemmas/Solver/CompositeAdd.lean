import ClaripyProofs.Lemmas.Solver.CompositeCombine
import ClaripyProofs.Lemmas.Solver.SplitOk
/-!
`CompositeFrontend._add`: `_solver_for_names` (the closure loop finds exactly the children owning one of the names), `_claim`,
the child's `add`, `_store_child` — the invariant `CInv` is kept for the constraints the user then has.
-/
namespace Claripy.Solver

variable {R : Con → Prop} {RE : Exp → Prop} {E : Env}

theorem mem_foldl_childVars (s : CSt) (l : List Nat) (acc : List Var) (v : Var) :
    v ∈ l.foldl (fun acc j => listUnion acc (s.child j).variables) acc ↔ v ∈ acc ∨ ∃ j ∈ l, v ∈ (s.child j).variables := by
  induction l generalizing acc with
  | nil => simp
  | cons j js ih =>
    simp only [List.foldl_cons, ih, mem_listUnion, List.mem_cons, exists_eq_or_imp]
    exact or_assoc

/-- with a consistent dict the loop adds nothing after its first round: the result is the set of children owning a name -/
theorem closureLoop_spec {U : List Con} {Us : List (List Con)} {s : CSt} (h : CInv R RE E U Us s) (names : List Var) :
    ∀ (fuel : Nat) (allNames newNames : List Var) (solvers : List Nat), solvers.Nodup →
      (∀ t ∈ solvers, t ∈ s.c.solversFor names) →
      (∀ n ∈ newNames, ∀ t, alGet? s.c.solvers n = some t → t ∈ s.c.solversFor names) →
      (closureLoop s fuel allNames newNames solvers).Nodup ∧
      (∀ t ∈ closureLoop s fuel allNames newNames solvers, t ∈ s.c.solversFor names) ∧
      (∀ t ∈ solvers, t ∈ closureLoop s fuel allNames newNames solvers) ∧
      (1 ≤ fuel → ∀ t ∈ s.c.solversFor newNames, t ∈ closureLoop s fuel allNames newNames solvers) := by
  intro fuel
  induction fuel with
  | zero => intro _ _ solvers hnd hown _; exact ⟨hnd, hown, fun _ h => h, fun h => by omega⟩
  | succ fuel ih =>
    intro allNames newNames solvers hnd hown hnew
    have hnd1 : (listUnion solvers (s.c.solversFor newNames)).Nodup := nodup_listUnion _ _ hnd
    have hown1 : ∀ t ∈ listUnion solvers (s.c.solversFor newNames), t ∈ s.c.solversFor names := by
      intro t ht
      rcases (mem_listUnion _ _ _).mp ht with ht | ht
      · exact hown t ht
      · obtain ⟨n, hn, hnt⟩ := (mem_solversFor _ _ _).mp ht
        exact hnew n hn t hnt
    have hnew1 : ∀ n ∈ (((listUnion solvers (s.c.solversFor newNames)).foldl
          (fun acc j => listUnion acc (s.child j).variables) []).filter fun v => !(listUnion allNames newNames).contains v),
        ∀ t, alGet? s.c.solvers n = some t → t ∈ s.c.solversFor names := by
      intro n hn t hnt
      have hn' := (List.mem_filter.mp hn).1
      rcases (mem_foldl_childVars s _ [] n).mp hn' with hx | ⟨j, hj, hnj⟩
      · cases hx
      · rw [Option.some.inj (hnt.symm.trans (h.owner (h.mem_of_solversFor (hown1 j hj)) hnj))]; exact hown1 j hj
    unfold closureLoop
    simp only
    split
    · exact ⟨hnd1, hown1, fun t ht => (mem_listUnion _ _ _).mpr (Or.inl ht), fun _ t ht => (mem_listUnion _ _ _).mpr (Or.inr ht)⟩
    · obtain ⟨r1, r2, r3, _⟩ := ih (listUnion allNames newNames) _ _ hnd1 hown1 hnew1
      exact ⟨r1, r2, fun t ht => r3 t ((mem_listUnion _ _ _).mpr (Or.inl ht)),
        fun _ t ht => r3 t ((mem_listUnion _ _ _).mpr (Or.inr ht))⟩

theorem closure_names {U : List Con} {Us : List (List Con)} {s : CSt} (h : CInv R RE E U Us s) (names : List Var) (fuel : Nat) :
    (closureLoop s (fuel + 1) names names []).Nodup ∧
    ∀ t, t ∈ closureLoop s (fuel + 1) names names [] ↔ t ∈ s.c.solversFor names := by
  obtain ⟨r1, r2, _, r4⟩ := closureLoop_spec h names (fuel + 1) names names [] List.nodup_nil (fun _ h => by cases h)
    (fun n hn t hnt => (mem_solversFor _ _ _).mpr ⟨n, hn, hnt⟩)
  exact ⟨r1, fun t => ⟨r2 t, r4 (by omega) t⟩⟩

theorem solversFor_eq_nil_of_closure {U : List Con} {Us : List (List Con)} {s : CSt} (h : CInv R RE E U Us s)
    (names : List Var) (fuel : Nat) (hc : closureLoop s (fuel + 1) names names [] = []) : s.c.solversFor names = [] := by
  cases hx : s.c.solversFor names with
  | nil => rfl
  | cons t rest =>
    have := ((closure_names h names fuel).2 t).mpr (by rw [hx]; simp)
    rw [hc] at this; cases this

/-- no child owns a name: `template.blank_copy()` -/
theorem merged_blank {U : List Con} {Us : List (List Con)} {s : CSt} (h : CInv R RE E U Us s) (names : List Var)
    (hnone : s.c.solversFor names = []) :
    ∃ s1, blankChild E s = (.ok s.w.fes.length, s1) ∧ Merged R RE E Us (Us ++ [[]]) s s1 names s.w.fes.length := by
  obtain ⟨hk, hnew, hU, hold⟩ := child_blank_spec s.w Us h.kids h.reuse { track := s.c.track }
  refine ⟨_, rfl, Merged.of_new h hk h.reuse List.length_append hold hnew
    (fun _ hm => by cases hm) (fun _ hv => by cases hv) (fun _ hv => by cases hv) ?_ ?_ (fun _ => ⟨rfl, rfl⟩)⟩
  · intro t ht; rw [hnone] at ht; cases ht
  · intro a
    rw [hnone, hU]
    simp [Models]

/-- exactly one child owns names: that child -/
theorem merged_single {U : List Con} {Us : List (List Con)} {s : CSt} (h : CInv R RE E U Us s) (names : List Var) (j : Nat)
    (hone : ∀ t, t ∈ s.c.solversFor names ↔ t = j) : Merged R RE E Us Us s s names j := by
  have hj : j ∈ s.c.solversFor names := (hone j).mpr rfl
  obtain ⟨n, _, hn⟩ := (mem_solversFor _ _ _).mp hj
  have hlt := (h.map n j hn).1
  refine ⟨rfl, h.kids, h.reuse, h.keysOk, h.exact, Nat.le_refl _, fun i _ => ⟨rfl, rfl⟩, hlt, ?_, ?_, ?_, fun _ => hj, ?_⟩
  · intro v hv; exact ⟨j, hj, hv⟩
  · intro t ht v hv; rw [(hone t).mp ht] at hv; exact hv
  · intro a
    constructor
    · intro ha t ht; rw [(hone t).mp ht]; exact ha
    · intro ha; exact ha j hj
  · intro hnil; rw [hnil] at hj; cases hj

def claimAddStore (E : Env) (m : Nat) (cs : List Con) : CM (List Con) := do
  let j ← claim E m
  let added ← CM.onChild j (publicAdd (childOps E) cs)
  storeChild j
  pure added

theorem addDependent_eq (E : Env) (names : List Var) (cs : List Con) :
    addDependent E names cs = (do let m ← solverForNames E names; claimAddStore E m cs) := rfl

theorem solverForNames_eq (E : Env) (names : List Var) (s : CSt) :
    solverForNames E names s =
      (match closureLoop s ((s.w.fes.map (fun f : Frontend => f.variables.length)).sum + 1) names names [] with
       | [] => blankChild E
       | [j] => pure j
       | l => (do
          match ← orderChildren E l with
          | [] => blankChild E
          | j :: rest => childCombine E j rest : CM Nat)) s := rfl

theorem CInv.congr {U U' : List Con} {Us : List (List Con)} {s : CSt} (h : CInv R RE E U Us s)
    (heq : ∀ a, Models U' a ↔ Models U a) : CInv R RE E U' Us s :=
  { h with sem := fun hu a => (heq a).trans (h.sem hu a), unsatOk := fun hu ⟨a, ha⟩ => h.unsatOk hu ⟨a, (heq a).mp ha⟩ }

theorem getD_map_vars (cs : List Con) (i : Nat) (hi : i < cs.length) : (cs.map (·.vars)).getD i [] = (cs.getD i default).vars := by
  simp [List.getD, hi]

theorem getD_mem (cs : List Con) (i : Nat) (hi : i < cs.length) : cs.getD i default ∈ cs := by
  simp only [List.getD, List.getElem?_eq_getElem hi, Option.getD_some]; exact List.getElem_mem hi

/-- the groups of `_split_constraints` as lists of constraints (`varss` = the variable sets of `cs`) -/
theorem groupLists_spec (cs : List Con) (varss : List (List Var))
    (hvarss : ∀ i, i < cs.length → varss.getD i [] = (cs.getD i default).vars) (hvl : varss.length = cs.length) :
    (∀ g ∈ groupsOf varss, ∀ c ∈ g.2.map (fun i => cs.getD i default), c ∈ cs ∧ c.vars ≠ [] ∧ ∀ v ∈ c.vars, v ∈ g.1) ∧
    (∀ c ∈ (concreteOf varss).map (fun i => cs.getD i default), c ∈ cs ∧ c.vars = []) ∧
    ∀ c ∈ cs, (∃ g ∈ groupsOf varss, c ∈ g.2.map fun i => cs.getD i default) ∨
      c ∈ (concreteOf varss).map fun i => cs.getD i default := by
  refine ⟨fun g hg c hc => ?_, fun c hc => ?_, fun c hc => ?_⟩
  · obtain ⟨i, hi, rfl⟩ := List.mem_map.mp hc
    obtain ⟨p, hp, hgp⟩ := (groupsOf_spec varss).1 g |>.mp hg
    obtain ⟨hlt, vs, hvs, hne, _⟩ := group_index varss p hp i (hgp ▸ hi)
    have hlt' : i < cs.length := by rw [← hvl]; exact hlt
    have hvi : varss.getD i [] = vs := by simp [List.getD, hvs]
    rw [hvarss i hlt'] at hvi
    refine ⟨getD_mem cs i hlt', by rw [hvi]; exact hne, ?_⟩
    have h1 := groups_cover_vars varss g hg i hi
    rwa [hvarss i hlt'] at h1
  · obtain ⟨i, hi, rfl⟩ := List.mem_map.mp hc
    have h1 := (mem_concreteOf varss i).mp hi
    have hlt : i < cs.length := by rw [← hvl]; exact (List.getElem?_eq_some_iff.mp h1).1
    refine ⟨getD_mem cs i hlt, ?_⟩
    rw [← hvarss i hlt]; simp [List.getD, h1]
  · obtain ⟨i, hlt, rfl⟩ := List.getElem_of_mem hc
    have hgd : cs.getD i default = cs[i] := by simp [List.getD, hlt]
    have : i ∈ allIdx varss := (mem_allIdx varss i).mpr (by rw [hvl]; exact hlt)
    unfold allIdx at this
    rcases List.mem_append.mp this with hx | hx
    · obtain ⟨l, hl, hil⟩ := List.mem_flatten.mp hx
      obtain ⟨g, hg, rfl⟩ := List.mem_map.mp hl
      exact Or.inl ⟨g, hg, List.mem_map.mpr ⟨i, hil, hgd⟩⟩
    · exact Or.inr (List.mem_map.mpr ⟨i, hx, hgd⟩)

theorem concreteScan_spec (set : List Con) :
    (concreteScan set = some true → ∃ c ∈ set, c.conc = some false) ∧
    (concreteScan set = some false → ∀ c ∈ set, c.conc = some true) ∧
    (concreteScan set = none → ∃ c ∈ set, c.conc = none) := by
  induction set with
  | nil => exact ⟨fun h => (by cases h), fun _ _ hc => (by cases hc), fun h => (by cases h)⟩
  | cons c rest ih =>
    cases hc : c.conc with
    | none =>
      simp only [concreteScan, hc]
      exact ⟨fun h => (by cases h), fun h => (by cases h), fun _ => ⟨c, List.mem_cons_self, hc⟩⟩
    | some b =>
      cases b with
      | false =>
        simp only [concreteScan, hc]
        exact ⟨fun _ => ⟨c, List.mem_cons_self, hc⟩, fun h => (by cases h), fun h => (by cases h)⟩
      | true =>
        simp only [concreteScan, hc]
        refine ⟨fun h => ?_, fun h c' hc' => ?_, fun h => ?_⟩
        · obtain ⟨c', hc', h'⟩ := ih.1 h
          exact ⟨c', List.mem_cons_of_mem _ hc', h'⟩
        · rcases List.mem_cons.mp hc' with rfl | hc'
          · exact hc
          · exact ih.2.1 h c' hc'
        · obtain ⟨c', hc', h'⟩ := ih.2.2 h
          exact ⟨c', List.mem_cons_of_mem _ hc', h'⟩

/-- the composite's own constraint list is not looked at by the invariant -/
theorem CInv.own {U : List Con} {Us : List (List Con)} {s : CSt} (h : CInv R RE E U Us s) (childAdded : List Con) :
    CInv R RE E U Us (ownAdd childAdded s).2 :=
  { h with }

theorem CInv.setUnsat {U U' : List Con} {Us : List (List Con)} {s : CSt} (h : CInv R RE E U Us s) (hun : ¬ Satisfiable U') :
    CInv R RE E U' Us { s with c := { s.c with unsat := true } } :=
  { h with sem := fun hu => (by cases hu), unsatOk := fun _ => hun }

theorem orderGroups_run (E : Env) (gs : List (List Var × List Nat)) (s : CSt) :
    ∃ gs' t, orderGroups E gs s = (.ok gs', { s with w := { s.w with tick := t } }) ∧ (∀ g, g ∈ gs' ↔ g ∈ gs) ∧
      (gs.Nodup → gs'.Nodup) := by
  unfold orderGroups
  by_cases hl : gs.length < 2
  · simp only [hl, ↓reduceIte]
    exact ⟨gs, s.w.tick, rfl, fun _ => Iff.rfl, id⟩
  · simp only [hl, ↓reduceIte, orderOracle_run]
    exact ⟨_, _, rfl, fun g => mem_reorderBy _ _ _ g, nodup_reorderBy _ _ _⟩

section
variable (H : SolverHyps R RE E)
include H

/-- after `_solver_for_names`: claim the merged child (copy-on-write), add, store.  The claimed record `k` stands for `m`: it is
`m` itself or its copy. -/
theorem after_merge {U : List Con} {Us Us1 : List (List Con)} {s s1 : CSt} (h : CInv R RE E U Us s) (names : List Var)
    (m : Nat) (hm : Merged R RE E Us Us1 s s1 names m)
    (cs : List Con) (hcs : ∀ c ∈ cs, R c) (hcv : ∀ c ∈ cs, ∀ v ∈ c.vars, v ∈ names) (hne : cs ≠ [])
    (hvne : ∀ c ∈ cs, c.vars ≠ []) :
    ∃ added Us' s', claimAddStore E m cs s1 = (.ok added, s') ∧ (∀ c ∈ added, c ∈ cs) ∧ CInv R RE E (U ++ cs) Us' s' := by
  have hltL : ∀ i ∈ s.c.solverList, i < s.w.fes.length := fun _ hi => h.lt_of_mem hi
  obtain ⟨k, s2, hcl, hcase, hfin, hcopy, hre2⟩ := (claim_run (E := E) s1 m).ok
  obtain ⟨Us2, hw2, hUk, hUs2, hlen2, hk2⟩ : ∃ Us2, WOk R RE E Us2 s2.w ∧ Us2.getD k [] = Us1.getD m [] ∧
      (∀ i, i < s1.w.fes.length → Us2.getD i [] = Us1.getD i []) ∧ s1.w.fes.length ≤ s2.w.fes.length ∧ k < s2.w.fes.length := by
    rcases hcase with ⟨rfl, _, rfl⟩ | ⟨rfl, _, _, hst, hl⟩
    · exact ⟨Us1, hm.wok, rfl, fun _ _ => rfl, Nat.le_refl _, hm.lt⟩
    · have hk := (ch_step_branch (E := E) s1.w Us1 hm.kids m hm.lt).2
      rw [hst] at hk
      refine ⟨_, hm.wok.extend hk hre2 (fun i hi => ⟨(hfin i hi).1.cons, (hfin i hi).1.vars, (hfin i hi).1.models⟩)
          (fun i h1 h2 => ?_), by rw [← hm.kids.len]; exact getD_append_last _ _ _,
        fun i hi => getD_append_left' _ _ _ _ (by rw [hm.kids.len]; exact hi), by omega, by omega⟩
      have : i = s1.w.fes.length := by omega
      rw [this]
      exact ⟨keysInv_congr hcopy.models hcopy.vars (hm.keysOk m hm.lt), exactVars_congr hcopy.cons hcopy.vars (hm.exact m hm.lt)⟩
  have hc2 : s2.c = { s.c with owned := s2.c.owned } := by
    rcases hcase with ⟨_, _, rfl⟩ | ⟨_, _, hc, _⟩
    · rw [hm.comp]
    · rw [hc, hm.comp]
  have hknew : k < s.w.fes.length → k = m := fun hk => by
    rcases hcase with ⟨rfl, _⟩ | ⟨rfl, _⟩
    · rfl
    · exact absurd hk (Nat.not_lt.mpr hm.len)
  obtain ⟨added, w3, hrun, hk3, hlen3, hre3, hoth, hA⟩ := child_add_spec H s2.w Us2 hw2.kids k hk2 cs hcs
  have hw3 : WOk R RE E (Us2.set k (Us2.getD k [] ++ cs)) w3 :=
    hw2.of_frame hk3 hre3 hlen3 hoth (hA.keys (hw2.keysOk k hk2)) (hA.exact (hw2.exact k hk2))
  have hvk : (s2.w.fes.getD k {}).variables = (s1.child m).variables := hcopy.vars
  have hinv : CInv R RE E (U ++ cs) (Us2.set k (Us2.getD k [] ++ cs))
      { c := s.c.stored (w3.fes.getD k {}).variables k s2.c.owned, w := w3 } := by
    refine cinv_install h names cs w3 s2.c.owned k hw3 (by rw [hlen3]; exact Nat.le_trans hm.len hlen2) (by rw [hlen3]; exact hk2)
      ?_ ?_ ?_ ?_ ?_
    · intro v hv
      rcases (hA.vars v).mp hv with hv | ⟨c, hc, hvc⟩
      · exact Or.inl (hm.sub v (hvk ▸ hv))
      · exact Or.inr (hcv c (hA.sub c hc) v hvc)
    · intro t ht v hv
      exact (hA.vars v).mpr (Or.inl (hvk ▸ hm.sup t ht v hv))
    · -- the merged child knows a variable: one of an owner of the names, or, if it is fresh, one of `cs`
      intro hnil
      cases hsol : s.c.solversFor names with
      | cons t rest =>
        have ht : t ∈ s.c.solversFor names := by rw [hsol]; simp
        obtain ⟨n, _, hn⟩ := (mem_solversFor _ _ _).mp ht
        have := (hA.vars n).mpr (Or.inl (hvk ▸ hm.sup t ht n (h.map n t hn).2))
        rw [hnil] at this; cases this
      | nil =>
        obtain ⟨hh, hwo⟩ := hm.fresh hsol
        have hids : IdsInv (s2.w.fes.getD k {}) := fun i hi => by
          rw [show (s2.w.fes.getD k {}).hashes = _ from hcopy.hashes, show (s2.w.fes.getD k {}).woAnnot = _ from hcopy.woAnnot,
            hh, hwo] at hi
          rcases hi with hi | hi <;> cases hi
        obtain ⟨c0, rest, rfl⟩ := List.exists_cons_of_ne_nil hne
        obtain ⟨v, vs, hv⟩ := List.exists_cons_of_ne_nil (hvne c0 (by simp))
        have := (hA.ids hids).2 c0 (by simp) v (by rw [hv]; simp)
        rw [hnil] at this; cases this
    · intro a
      rw [getD_set_self _ _ _ _ (by rw [hw2.kids.len]; exact hk2), models_append, hUk, hm.sem a]
    · intro i hi his
      have hil := hltL i hi
      have him : i ≠ m := fun e => by subst e; exact his (hm.old hil)
      have hik : i ≠ k := fun e => him (e ▸ hknew (e ▸ hil))
      have hil1 := Nat.lt_of_lt_of_le hil hm.len
      rw [hoth i hik, getD_set_ne _ _ _ _ _ (Ne.symm hik)]
      exact ⟨((hfin i hil1).2 him).trans (hm.frame i hil).1, (hUs2 i hil1).trans (hm.frame i hil).2⟩
  refine ⟨added, _, _, ?_, hA.sub, hinv⟩
  simp only [claimAddStore, bind, CM.bind, hcl, CM.onChild, hrun, storeChild, pure, CM.pure]
  rw [hc2]
  rfl

/-- `_solver_for_names(names)`: whatever the order in which `list(solvers)` lists the set of children -/
theorem solverForNames_spec {U : List Con} {Us : List (List Con)} {s : CSt}
    (h : CInv R RE E U Us s) (names : List Var) :
    ∃ m Us1 s1, solverForNames E names s = (.ok m, s1) ∧ Merged R RE E Us Us1 s s1 names m := by
  obtain ⟨hnd, hmem⟩ := closure_names h names ((s.w.fes.map (fun f : Frontend => f.variables.length)).sum)
  rw [solverForNames_eq]
  cases hcl : closureLoop s ((s.w.fes.map (fun f : Frontend => f.variables.length)).sum + 1) names names [] with
  | nil =>
    obtain ⟨s1, hr, hm⟩ := merged_blank (E := E) h names (solversFor_eq_nil_of_closure h names _ hcl)
    exact ⟨_, _, s1, hr, hm⟩
  | cons j rest =>
    cases rest with
    | nil =>
      refine ⟨j, Us, s, rfl, merged_single h names j (fun t => ?_)⟩
      rw [← hmem t, hcl]; simp
    | cons r rest =>
      rw [hcl] at hnd hmem
      -- the set in the order CPython lists it: a permutation
      obtain ⟨l', _, hord, hmem', hnd', t, rfl⟩ := (orderChildren_spec (E := E) (j :: r :: rest) s).ok
      have hnd' := hnd' hnd
      simp only [bind, CM.bind, hord]
      have hjr : j ≠ r := by
        intro e; subst e
        have := (List.nodup_cons.mp hnd).1
        exact this (by simp)
      match l', hnd', hmem' with
      | [], _, hm' => exact absurd ((hm' j).mpr (by simp)) (by simp)
      | [a], _, hm' =>
        have h1 : j = a := by simpa using (hm' j).mpr (by simp)
        have h2 : r = a := by simpa using (hm' r).mpr (by simp)
        exact absurd (h1.trans h2.symm) hjr
      | a :: b :: rest', hnd', hm' =>
        obtain ⟨Us1, s1, hr, hm⟩ := combineSpec H (childFoot H) U Us _ (h.set_tick t) names a (b :: rest') (by simp) hnd'
          (fun t => (hm' t).trans (hmem t))
        exact ⟨_, Us1, s1, hr, hm.of_tick _⟩

theorem addDependent_spec {U : List Con} {Us : List (List Con)} {s : CSt}
    (h : CInv R RE E U Us s) (names : List Var) (cs : List Con) (hcs : ∀ c ∈ cs, R c)
    (hcv : ∀ c ∈ cs, ∀ v ∈ c.vars, v ∈ names) (hne : cs ≠ []) (hvne : ∀ c ∈ cs, c.vars ≠ []) :
    ∃ added Us' s', addDependent E names cs s = (.ok added, s') ∧ (∀ c ∈ added, c ∈ cs) ∧ CInv R RE E (U ++ cs) Us' s' := by
  obtain ⟨m, Us1, s1, hr, hm⟩ := solverForNames_spec H h names
  obtain ⟨added, Us', s', hr2, hadd, hinv⟩ := after_merge H h names m hm cs hcs hcv hne hvne
  refine ⟨added, Us', s', ?_, hadd, hinv⟩
  rw [addDependent_eq]
  simp only [bind, CM.bind, hr, hr2]

theorem addGroups_spec (cs : List Con) (hcs : ∀ c ∈ cs, R c) (varss : List (List Var))
    (hvarss : ∀ i, i < cs.length → varss.getD i [] = (cs.getD i default).vars) (hvl : varss.length = cs.length) :
    ∀ (gs : List (List Var × List Nat)), (∀ g ∈ gs, g ∈ groupsOf varss) →
    ∀ (U : List Con) (Us : List (List Con)) (s : CSt) (acc : List Con), CInv R RE E U Us s →
    ∃ out Us' s', addGroups E cs gs acc s = (.ok out, s') ∧
      CInv R RE E (U ++ gs.flatMap (fun g => g.2.map fun i => cs.getD i default)) Us' s' := by
  intro gs
  induction gs with
  | nil => intro _ U Us s acc h; exact ⟨acc, Us, s, rfl, by simpa using h⟩
  | cons g rest ih =>
    intro hgs U Us s acc h
    have hg : g ∈ groupsOf varss := hgs g (by simp)
    have hgl := (groupLists_spec cs varss hvarss hvl).1 g hg
    obtain ⟨added, Us1, s1, hr, _, hinv⟩ := addDependent_spec H h g.1 (g.2.map fun i => cs.getD i default)
      (fun c hc => hcs c (hgl c hc).1) (fun c hc => (hgl c hc).2.2)
      (fun hnil => groups_nonempty _ g hg (List.map_eq_nil_iff.mp hnil)) (fun c hc => (hgl c hc).2.1)
    obtain ⟨out, Us2, s2, hr2, hinv2⟩ := ih (fun g' hg' => hgs g' (List.mem_cons_of_mem _ hg')) _ Us1 s1 (acc ++ added) hinv
    refine ⟨out, Us2, s2, ?_, ?_⟩
    · simp only [addGroups, bind, CM.bind, hr, hr2]
    · simpa [List.flatMap_cons, List.append_assoc] using hinv2

/-- `CompositeFrontend._add` keeps the invariant (constraints without variables that the concrete backend cannot decide are out of
scope: `hconc`) -/
theorem compAdd_spec {U : List Con} {Us : List (List Con)} {s : CSt} (h : CInv R RE E U Us s)
    (cs : List Con) (hcs : ∀ c ∈ cs, R c) (hconc : ∀ c ∈ cs, c.vars = [] → c.conc ≠ none) :
    ∃ added Us' s', compAdd E cs s = (.ok added, s') ∧ CInv R RE E (U ++ cs) Us' s' := by
  have hvarss : ∀ i, i < cs.length → (cs.map (·.vars)).getD i [] = (cs.getD i default).vars := fun i hi => getD_map_vars cs i hi
  have hvl : (cs.map (·.vars)).length = cs.length := by simp
  generalize hv : cs.map (·.vars) = varss at hvarss hvl
  have hsplit : splitConstraints varss = (groupsOf varss, concreteOf varss) := splitConstraints_eq varss
  obtain ⟨gs, t, hog, hgs, _⟩ := orderGroups_run E (groupsOf varss) s
  obtain ⟨out, Us1, s1, hr, hinv⟩ := addGroups_spec H cs hcs varss hvarss hvl gs (fun g hg => (hgs g).mp hg) U Us _ []
    (h.set_tick t)
  obtain ⟨hgl, hset, hcov⟩ := groupLists_spec cs varss hvarss hvl
  have hgrp : ∀ c ∈ gs.flatMap (fun g => g.2.map fun i => cs.getD i default), c ∈ cs := by
    intro c hc
    obtain ⟨g, hg, hcg⟩ := List.mem_flatMap.mp hc
    exact (hgl g ((hgs g).mp hg) c hcg).1
  have hall : ∀ c ∈ cs, c ∈ gs.flatMap (fun g => g.2.map fun i => cs.getD i default) ∨
      c ∈ (concreteOf varss).map (fun i => cs.getD i default) := fun c hc =>
    (hcov c hc).imp (fun ⟨g, hg, hcg⟩ => List.mem_flatMap.mpr ⟨g, (hgs g).mpr hg, hcg⟩) id
  -- the constraints without variables do not matter when they are all true
  have hsame : (∀ c ∈ (concreteOf varss).map (fun i => cs.getD i default), ∀ a, c.sem a = true) →
      CInv R RE E (U ++ cs) Us1 (ownAdd out s1).2 := by
    intro htrue
    refine (hinv.own out).congr fun a => ?_
    rw [models_append, models_append]
    constructor
    · rintro ⟨hU, hc⟩; exact ⟨hU, fun c hc' => hc c (hgrp c hc')⟩
    · rintro ⟨hU, hc⟩
      refine ⟨hU, fun c hc' => ?_⟩
      rcases hall c hc' with hx | hx
      · exact hc c hx
      · exact htrue c hx a
  refine (?_ : (compAdd E cs).wp (fun _ s' => ∃ Us', CInv R RE E (U ++ cs) Us' s') (fun _ _ => False) s).ok.imp
    fun added ⟨s', hrun, Us', hinv'⟩ => ⟨Us', s', hrun, hinv'⟩
  unfold compAdd
  rw [hv, hsplit]
  dsimp only
  rw [CM.wp_bind, CM.wp_ok hog, CM.wp_bind, CM.wp_ok hr, CM.wp_ite]
  split
  · rename_i hemp
    have hnil : concreteOf varss = [] := by simpa using hemp
    exact ⟨Us1, hsame fun c hx => by rw [hnil] at hx; cases hx⟩
  · cases hscan : concreteScan ((concreteOf varss).map fun i => cs.getD i default) with
    | none =>
      obtain ⟨c, hc, hcn⟩ := (concreteScan_spec _).2.2 hscan
      exact absurd hcn (hconc c (hset c hc).1 (hset c hc).2)
    | some b =>
      cases b with
      | true =>
        obtain ⟨c, hc, hcf⟩ := (concreteScan_spec _).1 hscan
        have hun : ¬ Satisfiable (U ++ cs) := by
          rintro ⟨a, ha⟩
          have := (models_append.mp ha).2 c (hset c hc).1
          rw [(H.reg.wf c (hcs c (hset c hc).1)).2.2.1 false hcf a] at this
          cases this
        exact ⟨Us1, (hinv.setUnsat hun).own _⟩
      | false =>
        have htrue := (concreteScan_spec _).2.1 hscan
        exact ⟨Us1, hsame fun c hx a => (H.reg.wf c (hcs c (hset c hx).1)).2.2.1 true (htrue c hx) a⟩

end

end Claripy.Solver

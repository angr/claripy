import ClaripyProofs.Lemmas.Solver.Z3Obj
/-!
Trees of branched solvers, for any class: the world is a list of frontend records over one heap of Z3 objects, `branch`
appends a copy that refers to its parent's object.  Given an invariant `I U s` of ONE frontend relative to the constraints
`U` of its user that reads the heap only at the object the record refers to (`HeapLocal`), the invariant of the world is
`WInv I`: every frontend has `I` for its own user's constraints, and an object two frontends refer to is referred to by
finalized frontends only.  A call on one frontend that is a `WStep` keeps it (`winv_step`), so does `branch` (`winv_branch`).
What a class owes for its methods is one statement about the method as a monadic term (`CallOk`), from which the step on a
tree follows for every class (`winv_call`); a class whose every call in scope keeps the invariant while answering as `Judge`
allows does so along every history (`hist_of_step`).
-/
namespace Claripy.Solver

theorem getD_set_self {α : Type} (l : List α) (i : Nat) (x d : α) (h : i < l.length) : (l.set i x).getD i d = x := by
  simp [List.getD, h]

theorem getD_set_ne {α : Type} (l : List α) (i j : Nat) (x d : α) (h : i ≠ j) : (l.set i x).getD j d = l.getD j d := by
  simp [List.getD, List.getElem?_set_ne h]

theorem set_getD_self {α : Type} (l : List α) (i : Nat) (d : α) (h : i < l.length) : l.set i (l.getD i d) = l := by
  apply List.ext_getElem
  · simp
  · intro n h1 h2
    by_cases hn : i = n
    · subst hn; simp [List.getD, h]
    · simp [List.getElem_set_ne hn]

theorem getD_append_left' {α : Type} (l : List α) (c d : α) (j : Nat) (h : j < l.length) : (l ++ [c]).getD j d = l.getD j d := by
  simp [List.getD, List.getElem?_append_left h]

theorem getD_append_last {α : Type} (l : List α) (c d : α) : (l ++ [c]).getD l.length d = c := by
  simp [List.getD]

/-! A list of records indexed by position, one entry replaced or one appended: what holds of every entry, and of every two
different entries, afterwards.  (The invariants of a world of frontends, `WInv`, and of a tree of composites are of this form.) -/

theorem forall_getD_set {α : Type} (d : α) {P : Nat → α → Prop} {l : List α} {i : Nat} {x : α}
    (hx : i < l.length → P i x) (hold : ∀ m, m < l.length → i ≠ m → P m (l.getD m d)) :
    ∀ m, m < (l.set i x).length → P m ((l.set i x).getD m d) := by
  intro m hm
  rw [List.length_set] at hm
  by_cases hmi : i = m
  · subst hmi
    rw [getD_set_self _ _ _ _ hm]
    exact hx hm
  · rw [getD_set_ne _ _ _ _ _ hmi]
    exact hold m hm hmi

theorem pairwise_getD_set {α : Type} (d : α) {Q : Nat → Nat → α → α → Prop} {l : List α} {i : Nat} {x : α}
    (hxo : ∀ b, b < l.length → i ≠ b → Q i b x (l.getD b d)) (hox : ∀ a, a < l.length → i ≠ a → Q a i (l.getD a d) x)
    (hold : ∀ a b, a < l.length → b < l.length → a ≠ b → i ≠ a → i ≠ b → Q a b (l.getD a d) (l.getD b d)) :
    ∀ a b, a < (l.set i x).length → b < (l.set i x).length → a ≠ b →
      Q a b ((l.set i x).getD a d) ((l.set i x).getD b d) := by
  intro a b ha hb hab
  rw [List.length_set] at ha hb
  by_cases hai : i = a
  · subst hai
    rw [getD_set_self _ _ _ _ ha, getD_set_ne _ _ _ _ _ hab]
    exact hxo b hb hab
  · rw [getD_set_ne _ _ _ _ _ hai]
    by_cases hbi : i = b
    · subst hbi
      rw [getD_set_self _ _ _ _ hb]
      exact hox a ha hai
    · rw [getD_set_ne _ _ _ _ _ hbi]
      exact hold a b ha hb hab hai hbi

theorem forall_getD_snoc {α : Type} (d : α) {P : Nat → α → Prop} {l : List α} {x : α}
    (hold : ∀ m, m < l.length → P m (l.getD m d)) (hx : P l.length x) :
    ∀ m, m < (l ++ [x]).length → P m ((l ++ [x]).getD m d) := by
  intro m hm
  by_cases hml : m < l.length
  · rw [getD_append_left' _ _ _ _ hml]
    exact hold m hml
  · obtain rfl : m = l.length := by
      rw [List.length_append, List.length_singleton] at hm
      omega
    rw [getD_append_last]
    exact hx

theorem pairwise_getD_snoc {α : Type} (d : α) {Q : Nat → Nat → α → α → Prop} {l : List α} {x : α}
    (hold : ∀ a b, a < l.length → b < l.length → a ≠ b → Q a b (l.getD a d) (l.getD b d))
    (hxo : ∀ b, b < l.length → Q l.length b x (l.getD b d)) (hox : ∀ a, a < l.length → Q a l.length (l.getD a d) x) :
    ∀ a b, a < (l ++ [x]).length → b < (l ++ [x]).length → a ≠ b → Q a b ((l ++ [x]).getD a d) ((l ++ [x]).getD b d) :=
  fun a b ha => forall_getD_snoc d (P := fun a ca => ∀ b, b < (l ++ [x]).length → a ≠ b → Q a b ca ((l ++ [x]).getD b d))
    (fun a ha => forall_getD_snoc d (P := fun b cb => a ≠ b → Q a b (l.getD a d) cb) (fun b hb hab => hold a b ha hb hab)
      fun _ => hox a ha)
    (forall_getD_snoc d (P := fun b cb => l.length ≠ b → Q l.length b x cb) (fun b hb _ => hxo b hb) fun h => (h rfl).elim)
    a ha b

/-- what any call on a frontend does to the Z3 objects and to its own reference, as far as the OTHER frontends care -/
structure WStep (s s' : St) : Prop where
  grow : s.objs.length ≤ s'.objs.length
  solver3 : s'.fe.solver = s.fe.solver ∨ s'.fe.solver = none ∨ ∃ r, s'.fe.solver = some r ∧ s.objs.length ≤ r
  foreign : ∀ i, i < s.objs.length → (s.fe.solver = some i → s.fe.finalized = true) →
    (objAt s' i).frames = (objAt s i).frames
  reuse : s'.reuse = s.reuse
  fin : s.fe.finalized = true → s'.fe.finalized = true

theorem WStep.refl (s : St) : WStep s s := ⟨Nat.le_refl _, Or.inl rfl, fun _ _ _ => rfl, rfl, id⟩

theorem WStep.trans {s s' s'' : St} (h1 : WStep s s') (h2 : WStep s' s'') : WStep s s'' := by
  refine ⟨Nat.le_trans h1.grow h2.grow, ?_, ?_, h2.reuse.trans h1.reuse, fun hf => h2.fin (h1.fin hf)⟩
  · rcases h2.solver3 with e | e | ⟨r, hr, hge⟩
    · rw [e]; exact h1.solver3
    · exact Or.inr (Or.inl e)
    · exact Or.inr (Or.inr ⟨r, hr, Nat.le_trans h1.grow hge⟩)
  · intro i hi hp
    have hi' : i < s'.objs.length := Nat.lt_of_lt_of_le hi h1.grow
    have hp' : s'.fe.solver = some i → s'.fe.finalized = true := by
      intro hs'
      rcases h1.solver3 with e | e | ⟨r, hr, hge⟩
      · exact h1.fin (hp (e ▸ hs'))
      · rw [e] at hs'; cases hs'
      · rw [hr] at hs'
        have : r = i := by simpa using hs'
        omega
    rw [h2.foreign i hi' hp', h1.foreign i hi hp]

theorem WStep.of_fe {s s' : St} (hobjs : s'.objs = s.objs) (hre : s'.reuse = s.reuse) (hsol : s'.fe.solver = s.fe.solver)
    (hfin : s'.fe.finalized = s.fe.finalized) : WStep s s' :=
  ⟨by rw [hobjs]; exact Nat.le_refl _, Or.inl hsol, fun i _ _ => by simp only [objAt, hobjs], hre,
   fun hf => by rw [hfin]; exact hf⟩

/- the state solver `i` of the world runs on, and the world after its run: `runOn w i m` is `m` between the two (`runOn_eq`) -/
def stOfI (w : World) (i : Nat) : St :=
  { fe := w.fes.getD i {}, objs := w.objs, reuse := w.reuse, shared := w.shared, tick := w.tick, qlog := w.qlog }

def wOfI (w : World) (i : Nat) (st' : St) : World :=
  { w with fes := w.fes.set i st'.fe, objs := st'.objs, shared := st'.shared, tick := st'.tick, qlog := st'.qlog }

theorem runOn_eq {α : Type} (w : World) (i : Nat) (m : M α) :
    runOn w i m = ((m (stOfI w i)).1, wOfI w i (m (stOfI w i)).2) := rfl

/-- `I` looks at the part `view` of the record (which determines the solver reference) and, of the heap, at the frames of the
Z3 object referred to -/
structure HeapLocal {α : Type} (I : List Con → St → Prop) (view : Frontend → α) : Prop where
  solver : ∀ {fe fe' : Frontend}, view fe' = view fe → fe'.solver = fe.solver
  lt : ∀ {U : List Con} {s : St} {r : Nat}, I U s → s.fe.solver = some r → r < s.objs.length
  heap : ∀ {U : List Con} {s s' : St}, I U s → view s'.fe = view s.fe → s'.reuse = s.reuse →
    (∀ r, s.fe.solver = some r → r < s'.objs.length ∧ (objAt s' r).frames = (objAt s r).frames) → I U s'

/-- every frontend satisfies `I` for ITS user's constraints; a Z3 object referred to by two frontends is referred to by
finalized frontends only (so nobody asserts into it) -/
structure WInv (I : List Con → St → Prop) (Us : List (List Con)) (w : World) : Prop where
  len : Us.length = w.fes.length
  each : ∀ i, i < w.fes.length → I (Us.getD i []) (stOfI w i)
  share : ∀ i j r, i < w.fes.length → j < w.fes.length → i ≠ j →
    (w.fes.getD i {}).solver = some r → (w.fes.getD j {}).solver = some r → (w.fes.getD i {}).finalized = true

theorem winv_snoc {I : List Con → St → Prop} {Us : List (List Con)} {w : World} (hw : WInv I Us w) (c : Frontend)
    (U : List Con)
    (hc : I U { fe := c, objs := w.objs, reuse := w.reuse, shared := w.shared, tick := w.tick, qlog := w.qlog })
    (hshare : ∀ a r, a < w.fes.length → (w.fes.getD a {}).solver = some r → c.solver = some r →
      (w.fes.getD a {}).finalized = true ∧ c.finalized = true) :
    WInv I (Us ++ [U]) { w with fes := w.fes ++ [c] } := by
  refine ⟨by simp [hw.len],
    forall_getD_snoc {} (P := fun m fe => I ((Us ++ [U]).getD m [])
        { fe := fe, objs := w.objs, reuse := w.reuse, shared := w.shared, tick := w.tick, qlog := w.qlog })
      (fun m hm => ?_) ?_,
    fun a b r ha hb hab => pairwise_getD_snoc {}
      (Q := fun _ _ (fa fb : Frontend) => ∀ r, fa.solver = some r → fb.solver = some r → fa.finalized = true)
      (fun a b ha hb hab r => hw.share a b r ha hb hab) (fun b hb r hrc hrb => (hshare b r hb hrb hrc).2)
      (fun a ha r hra hrc => (hshare a r ha hra hrc).1) a b ha hb hab r⟩
  · rw [getD_append_left' _ _ _ _ (by rw [hw.len]; exact hm)]
    exact hw.each m hm
  · rw [← hw.len, getD_append_last]
    exact hc

theorem winv_append_fresh {I : List Con → St → Prop} {Us : List (List Con)} {w : World} (hw : WInv I Us w) (c : Frontend)
    (U : List Con)
    (hc : I U { fe := c, objs := w.objs, reuse := w.reuse, shared := w.shared, tick := w.tick, qlog := w.qlog })
    (hsol : c.solver = none) : WInv I (Us ++ [U]) { w with fes := w.fes ++ [c] } :=
  winv_snoc hw c U hc fun _ r _ _ h => by rw [hsol] at h; cases h

section
variable {α : Type} {I : List Con → St → Prop} {view : Frontend → α} (hI : HeapLocal I view)
include hI

/-- the frame rule: a call on frontend `i` that is a `WStep` for it and re-establishes its invariant (for possibly more
constraints) keeps the invariant of the world -/
theorem winv_step {Us : List (List Con)} {w : World} (hw : WInv I Us w) {i : Nat} (hi : i < w.fes.length)
    {s' : St} {U' : List Con} (hws : WStep (stOfI w i) s') (hf : I U' s') : WInv I (Us.set i U') (wOfI w i s') := by
  have hre : s'.reuse = w.reuse := hws.reuse
  have hst : ∀ j, stOfI (wOfI w i s') j = { s' with fe := (w.fes.set i s'.fe).getD j {} } := fun j => by
    show ({ fe := _, objs := s'.objs, reuse := w.reuse, shared := s'.shared, tick := s'.tick, qlog := s'.qlog } : St) = _
    rw [← hre]
    rfl
  have hlt : ∀ {j r}, j < w.fes.length → (w.fes.getD j {}).solver = some r → r < w.objs.length :=
    fun hj hr => hI.lt (hw.each _ hj) hr
  -- the reference of `i` after the call is the old one, none, or an object nobody else can know
  have key : ∀ b r, b < w.fes.length → s'.fe.solver = some r → (w.fes.getD b {}).solver = some r →
      (w.fes.getD i {}).solver = some r := by
    intro b r hb hra hrb
    rcases hws.solver3 with e | e | ⟨r', e, hge⟩
    · exact e ▸ hra
    · rw [e] at hra; cases hra
    · rw [e] at hra
      obtain rfl : r' = r := by simpa using hra
      exact absurd (hlt hb hrb) (Nat.not_lt.mpr hge)
  refine ⟨by simp [wOfI, hw.len], fun j hj => ?_, fun a b r ha hb hab => pairwise_getD_set ({} : Frontend)
    (Q := fun _ _ fa fb => ∀ r, fa.solver = some r → fb.solver = some r → fa.finalized = true)
    (fun b hb hib r hra hrb => hws.fin (hw.share i b r hi hb hib (key b r hb hra hrb) hrb))
    (fun a ha hia r hra hrb => hw.share a i r ha hi (Ne.symm hia) hra (key a r ha hrb hra))
    (fun a b ha hb hab _ _ r => hw.share a b r ha hb hab) a b ha hb hab r⟩
  rw [hst j]
  refine forall_getD_set ({} : Frontend) (P := fun m fe => I ((Us.set i U').getD m []) { s' with fe := fe }) (fun _ => ?_)
    (fun m hm him => ?_) j hj
  · rw [getD_set_self _ _ _ _ (by rw [hw.len]; exact hi)]
    exact hf
  · rw [getD_set_ne _ _ _ _ _ him]
    exact hI.heap (hw.each m hm) rfl hre fun r hr => ⟨Nat.lt_of_lt_of_le (hlt hm hr) hws.grow,
      hws.foreign r (hlt hm hr) (fun hir => hw.share i m r hi hm him hir hr)⟩

theorem winv_step_same {Us : List (List Con)} {w : World} (hw : WInv I Us w) {i : Nat} (hi : i < w.fes.length)
    {s' : St} (hws : WStep (stOfI w i) s') (hf : I (Us.getD i []) s') : WInv I Us (wOfI w i s') := by
  have := winv_step hI hw hi hws hf
  rwa [set_getD_self Us i [] (by rw [hw.len]; exact hi)] at this

/-- the copy made by `branch` joins the world: it refers to the same Z3 object as its (finalized) parent -/
theorem winv_append {Us : List (List Con)} {w : World} (hw : WInv I Us w) {i : Nat} (hi : i < w.fes.length)
    (hfin : (w.fes.getD i {}).finalized = true) (c : Frontend) (hview : view c = view (w.fes.getD i {}))
    (hcfin : c.finalized = true) : WInv I (Us ++ [Us.getD i []]) { w with fes := w.fes ++ [c] } := by
  have hsol : c.solver = (w.fes.getD i {}).solver := hI.solver hview
  refine winv_snoc hw c _ ?_ fun a r ha hra hrc => ⟨?_, hcfin⟩
  · exact hI.heap (hw.each i hi) hview rfl fun r hr => ⟨(hI.lt (hw.each i hi) hr : r < (stOfI w i).objs.length), rfl⟩
  · rw [hsol] at hrc
    by_cases hai : a = i
    · subst hai; exact hfin
    · exact hw.share a i r ha hi hai hra hrc

/-- `branch` on solver `i` of a class whose `_copy` chain hands the viewed part of the record to the copy and finalizes both
sides: a new solver with index = the number of solvers so far, inheriting the constraint list of its parent -/
theorem winv_branch {E : Env} {cls : SolverClass} (hfinView : ∀ fe : Frontend, view { fe with finalized := true } = view fe)
    (hcopy : ∀ s : St, ∃ c, (do let fe ← M.getFe; (classOps E cls).copy ((classOps E cls).blankCopy fe {}) : M Frontend) s =
        (.ok c, { s with fe := { s.fe with finalized := true } }) ∧ view c = view s.fe ∧ c.finalized = true)
    {Us : List (List Con)} {w : World} (hw : WInv I Us w) {i : Nat} (hi : i < w.fes.length) :
    (step E cls w i .branch).1 = .newSolver w.fes.length ∧
    WInv I (Us ++ [Us.getD i []]) (step E cls w i .branch).2 := by
  obtain ⟨c, hrun, hview, hcfin⟩ := hcopy (stOfI w i)
  have hstep : step E cls w i .branch =
      (match runOn w i (do let fe ← M.getFe; (classOps E cls).copy ((classOps E cls).blankCopy fe {})) with
       | (.ok c, w') => (.newSolver w'.fes.length, { w' with fes := w'.fes ++ [c] })
       | (.error e, w') => (.err e, w')) := rfl
  rw [hstep, runOn_eq, hrun]
  simp only
  -- the parent, now finalized
  have hw1 := winv_step_same hI hw hi (s' := { stOfI w i with fe := { (stOfI w i).fe with finalized := true } })
    ⟨Nat.le_refl _, Or.inl rfl, fun _ _ _ => rfl, rfl, fun _ => rfl⟩
    (hI.heap (hw.each i hi) (hfinView _) rfl fun r hr => ⟨(hI.lt (hw.each i hi) hr : r < (stOfI w i).objs.length), rfl⟩)
  have hlen1 : (wOfI w i { stOfI w i with fe := { (stOfI w i).fe with finalized := true } }).fes.length = w.fes.length := by
    simp [wOfI]
  have hfe1 : (wOfI w i { stOfI w i with fe := { (stOfI w i).fe with finalized := true } }).fes.getD i {} =
      { (stOfI w i).fe with finalized := true } := by
    simp only [wOfI]; exact getD_set_self _ _ _ _ hi
  refine ⟨by rw [hlen1], ?_⟩
  exact winv_append hI hw1 (by rw [hlen1]; exact hi) (by rw [hfe1]) c (by rw [hfe1, hfinView]; exact hview) hcfin

end

def usersAfter (U : List Con) : Op → List Con
  | .add new => U ++ new
  | _ => U

def usersAll (Us : List (List Con)) (i : Nat) : Op → List (List Con)
  | .add new => Us.set i (Us.getD i [] ++ new)
  | .branch => Us ++ [Us.getD i []]
  | _ => Us

theorem usersAll_length (Us : List (List Con)) (i : Nat) (op : Op) :
    (usersAll Us i op).length = (match op with | .branch => Us.length + 1 | _ => Us.length) := by
  cases op <;> simp [usersAll]

theorem runHist_cons' (E : Env) (cls : SolverClass) (w : World) (Us : List (List Con)) (i : Nat) (op : Op)
    (rest : List (Nat × Op)) :
    runHist E cls w Us ((i, op) :: rest) =
      (usersAfter (Us.getD i []) op, op, (step E cls w i op).1) ::
        runHist E cls (step E cls w i op).2 (usersAll Us i op) rest := by
  cases op <;> rfl

/-- the call raised because the backend gave up (`ClaripyZ3Error` / solver `unknown`), and the oracle did say `unknown` -/
def GaveUpOut (E : Env) (o : Out) : Prop := ∃ e, o = .err e ∧ IsGiveUp E e

theorem GaveUpOut.eq {E : Env} {o : Out} (h : GaveUpOut E o) : o = .err .giveUp := by
  obtain ⟨e, rfl, he, _⟩ := h
  rw [he]

def JudgeOrGiveUp (E : Env) (cs : List Con) (op : Op) (o : Out) : Prop := Judge cs op o ∨ GaveUpOut E o

/-- an error of a query: `UnsatError` only when the constraints (with the extra ones) are unsatisfiable, or the
backend gave up -/
def ErrOk (E : Env) (cs : List Con) (err : Err) : Prop := err = .unsat ∧ ¬ Satisfiable cs ∨ IsGiveUp E err

theorem errOk_judge {E : Env} {U : List Con} {op : Op} {err : Err} (h : ErrOk E (U ++ op.extra) err)
    (hj : ¬ Satisfiable (U ++ op.extra) → Judge U op (.err .unsat)) : JudgeOrGiveUp E U op (.err err) := by
  rcases h with ⟨rfl, hns⟩ | hg
  · exact Or.inl (hj hns)
  · exact Or.inr ⟨err, rfl, hg⟩

/-- the answers of `satisfiable` and `solution` as result clauses of a `QSpec`: the constraints, the parameters of the query, the
value, the state before and the state after -/
def SatGood (cs : List Con) (b : Bool) (_ _ : St) : Prop := b = true ↔ Satisfiable cs

def SolGood (cs : List Con) (e : Exp) (v : Nat) (b : Bool) (_ _ : St) : Prop := b = true ↔ Feasible cs e v

/-- the one-state form of a specification: from `s`, `m` answers with `Q` or raises with `Er`, and `Post` holds afterwards -/
abbrev Outcome {β : Type} (Q : β → Prop) (Er : Err → Prop) (Post : St → Prop) (m : M β) (s : St) : Prop :=
  m.wp (fun b s' => Q b ∧ Post s') (fun e s' => Er e ∧ Post s') s

theorem QSpec.outcome {α : Type} {I : St → Prop} {K : St → St → Prop} {Good : α → St → St → Prop} {Bad : Err → Prop}
    {m : M α} (h : QSpec I K Good Bad m) {s : St} (hs : I s) {Q : α → Prop} (hQ : ∀ a s', Good a s s' → Q a) :
    Outcome Q Bad I m s :=
  (h s hs).imp (fun a s' h => ⟨hQ a s' h.1, h.2.1⟩) fun _ _ h => ⟨h.1, h.2.1⟩

theorem QSpec.of_outcome {α : Type} {I : St → Prop} {Q : α → Prop} {Bad : Err → Prop} {m : M α}
    (h : ∀ s, I s → Outcome Q Bad I m s) : QSpec I (fun _ _ => True) (fun a _ _ => Q a) Bad m :=
  fun s hs => (h s hs).imp (fun _ _ g => ⟨g.1, g.2, trivial⟩) fun _ _ g => ⟨g.1, g.2, trivial⟩

theorem wp_runOn {β : Type} {m : M β} {w : World} {i : Nat} {f : β → Out} {A : Out → Prop} {B : World → Prop}
    (h : m.wp (fun b s' => A (f b) ∧ B (wOfI w i s')) (fun e s' => A (.err e) ∧ B (wOfI w i s')) (stOfI w i)) :
    A (outOf f (runOn w i m)).1 ∧ B (outOf f (runOn w i m)).2 := by
  rw [runOn_eq]
  exact wp.elim (m (stOfI w i)) h (fun _ _ h => h) fun _ _ h => h

/-- the method `step` runs for `op`, with its result wrapped as `step` wraps it (`add`, which changes the constraints of the
user, `branch` and `pickle` are not of this kind) -/
def callOf (o : Ops) : Op → M Out
  | .satisfiable extra => do let b ← o.satisfiable extra; pure (.bool b)
  | .eval e n extra => do let vs ← o.eval e n extra; pure (.vals vs)
  | .batchEval es n extra => do let ts ← o.batchEval es n extra; pure (.tuples ts)
  | .min e extra signed => do let v ← o.min e extra signed; pure (.int v)
  | .max e extra signed => do let v ← o.max e extra signed; pure (.int v)
  | .solution e v extra => do let b ← o.solution e v extra; pure (.bool b)
  | .isTrue c extra => do let b ← o.isTrue c extra; pure (.bool b)
  | .isFalse c extra => do let b ← o.isFalse c extra; pure (.bool b)
  | .unsatCore extra => do let core ← o.unsatCore extra; pure (.cons (core.map (·.id)))
  | .simplify => do let cs ← o.simplify; pure (.cons (cs.map (·.id)))
  | .downsize => do o.downsize; pure .unit
  | _ => pure .unit

def Op.isCall : Op → Bool
  | .add _ | .branch | .pickle => false
  | _ => true

theorem outOf_map {α : Type} (f : α → Out) (w : World) (i : Nat) (m : M α) :
    outOf f (runOn w i m) = outOf id (runOn w i (do let a ← m; pure (f a))) := by
  simp only [runOn_eq, bind, M.bind]
  rcases m (stOfI w i) with ⟨_ | _, s'⟩ <;> rfl

theorem step_call (E : Env) (cls : SolverClass) (w : World) (i : Nat) (op : Op) (h : op.isCall = true) :
    step E cls w i op = outOf id (runOn w i (callOf (classOps E cls) op)) := by
  cases op
  case add => cases h
  case branch => cases h
  case pickle => cases h
  all_goals exact outOf_map _ w i _

/-- what a class owes the tree layer: every call in scope, made under the invariant `I U`, is judged right for the constraints `U`
(or is an honest give-up), keeps `I U` and moves the heap by a `WStep` -/
def CallOk (E : Env) (cls : SolverClass) (I : List Con → St → Prop) (Sc : Op → Prop) : Prop :=
  ∀ (U : List Con) (s : St) (op : Op), Sc op → op.isCall = true → I U s →
    (callOf (classOps E cls) op).wp (fun out s' => Judge U op out ∧ I U s' ∧ WStep s s')
      (fun e s' => JudgeOrGiveUp E U op (.err e) ∧ I U s' ∧ WStep s s') s

theorem winv_call {E : Env} {cls : SolverClass} {α : Type} {I : List Con → St → Prop} {view : Frontend → α} {Sc : Op → Prop}
    (hI : HeapLocal I view) (C : CallOk E cls I Sc) {Us : List (List Con)} {w : World} (hw : WInv I Us w) {i : Nat}
    (hi : i < w.fes.length) (op : Op) (hop : Sc op) (hc : op.isCall = true) :
    JudgeOrGiveUp E (Us.getD i []) op (step E cls w i op).1 ∧ WInv I Us (step E cls w i op).2 := by
  rw [step_call E cls w i op hc]
  refine wp_runOn ((C (Us.getD i []) (stOfI w i) op hop hc (hw.each i hi)).imp ?_ ?_)
  · exact fun out s' h => ⟨Or.inl h.1, winv_step_same hI hw hi h.2.2 h.2.1⟩
  · exact fun e s' h => ⟨h.1, winv_step_same hI hw hi h.2.2 h.2.1⟩

theorem Outcome.call {E : Env} {β : Type} {m : M β} {f : β → Out} {Q : β → Prop} {Er : Err → Prop} {Post Post' : St → Prop}
    {s : St} (h : Outcome Q Er Post m s) {U : List Con} {op : Op} (hQ : ∀ b, Q b → Judge U op (f b))
    (hEr : ∀ e, Er e → JudgeOrGiveUp E U op (.err e)) (hP : ∀ s', Post s' → Post' s') :
    (do let b ← m; pure (f b)).wp (fun out s' => Judge U op out ∧ Post' s')
      (fun e s' => JudgeOrGiveUp E U op (.err e) ∧ Post' s') s := by
  rw [M.wp_bind]
  exact h.imp (fun b s' h' => ⟨hQ b h'.1, hP s' h'.2⟩) (fun e s' h' => ⟨hEr e h'.1, hP s' h'.2⟩)

theorem Outcome.query {E : Env} {β : Type} {m : M β} {f : β → Out} {Post Post' : St → Prop} {s : St} {U : List Con} {op : Op}
    (h : Outcome (fun b => Judge U op (f b)) (ErrOk E (U ++ op.extra)) Post m s)
    (hj : ¬ Satisfiable (U ++ op.extra) → Judge U op (.err .unsat)) (hP : ∀ s', Post s' → Post' s') :
    (do let b ← m; pure (f b)).wp (fun out s' => Judge U op out ∧ Post' s')
      (fun e s' => JudgeOrGiveUp E U op (.err e) ∧ Post' s') s :=
  h.call (fun _ h => h) (fun _ h => errOk_judge h hj) hP

theorem wp_call_ok {β : Type} {m : M β} {f : β → Out} {s s' : St} {b : β} (h : m s = (.ok b, s')) {Q : Out → St → Prop}
    {X : Err → St → Prop} (hQ : Q (f b) s') : (do let b ← m; pure (f b)).wp Q X s := by
  rw [M.wp_bind]
  exact (wp_ok h).mpr hQ

/-- **trees of branched solvers, any class**: if every call in scope (`Sc`) on any solver alive answers as allowed for that
solver's own constraints — or gives up honestly — and keeps the invariant `W` of the world, then so does every answer of every
history in scope (`Ok n hist`: the solver called exists among the `n` alive at that moment, the arguments are in scope) -/
theorem hist_of_step {E : Env} {cls : SolverClass} {W : List (List Con) → World → Prop} {Sc : Op → Prop}
    {Ok : Nat → List (Nat × Op) → Prop} (hlen : ∀ {Us w}, W Us w → Us.length = w.fes.length)
    (hOk : ∀ {n i op rest}, Ok n ((i, op) :: rest) → i < n ∧ Sc op ∧ Ok (match op with | .branch => n + 1 | _ => n) rest)
    (hstep : ∀ w Us, W Us w → ∀ i, i < w.fes.length → ∀ op, Sc op →
      JudgeOrGiveUp E (usersAfter (Us.getD i []) op) op (step E cls w i op).1 ∧ W (usersAll Us i op) (step E cls w i op).2)
    (hist : List (Nat × Op)) : ∀ (w : World) (Us : List (List Con)), W Us w → Ok w.fes.length hist →
    ∀ x ∈ runHist E cls w Us hist, JudgeOrGiveUp E x.1 x.2.1 x.2.2 := by
  induction hist with
  | nil => intro w Us _ _ x hx; simp [runHist] at hx
  | cons io rest ih =>
    obtain ⟨i, op⟩ := io
    intro w Us hw hok x hx
    obtain ⟨hi, hop, hrest⟩ := hOk hok
    obtain ⟨hj, hw'⟩ := hstep w Us hw i hi op hop
    rw [runHist_cons'] at hx
    rcases List.mem_cons.mp hx with rfl | hx
    · exact hj
    · refine ih _ _ hw' ?_ x hx
      have hl := hlen hw'
      rw [usersAll_length, hlen hw] at hl
      rw [← hl]
      exact hrest

theorem JudgeOrGiveUp.toOr {E : Env} {cs : List Con} {op : Op} {o : Out} (h : JudgeOrGiveUp E cs op o) :
    Judge cs op o ∨ (o = .err .giveUp ∧ GaveUp E) :=
  h.imp id fun hg => ⟨hg.eq, hg.elim fun _ h => h.2.2⟩

theorem JudgeOrGiveUp.judge {E : Env} {cs : List Con} {op : Op} {o : Out} (h : JudgeOrGiveUp E cs op o)
    (hne : o ≠ .err .giveUp) : Judge cs op o :=
  h.elim id fun hg => (hne hg.eq).elim

end Claripy.Solver

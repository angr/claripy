import ClaripyProofs.Lemmas.Solver.CompositeFoot
import Batteries.Data.List.Basic
/-!
`combine` of the child class (ConstrainedFrontend.combine + ModelCacheMixin.combine), as `_solver_for_names` calls it when a
constraint connects several children: `CombineSpec` holds (`combineSpec`).  The constraint part is a blank copy to which the
constraint lists of the children are added one after the other through the public `add` (`combine_go`); the combined child knows
exactly the variables of the parts, since a constraint the deduplication drops has the id, hence the variables (`Reg.varsId`), of
one that is held (`IdsInv`).  The cache part: every stored product `ModelCache.combine(m_0, …, m_n)` of one cached model per part
is a model of the combined constraints, because cached models are dicts over the part's own variables (`KeysInv`) and the parts
share no variable (`CInv.disjoint`), so the product agrees with `m_i` on the variables of part `i` (`PModel.get?_combine`,
`combine_valid`).
-/
namespace Claripy.Solver

variable {R : Con → Prop} {RE : Exp → Prop} {E : Env}

theorem mem_productOf : ∀ (lists : List (List PModel)) (t : List PModel), t ∈ productOf lists →
    List.Forall₂ (fun m ms => m ∈ ms) t lists
  | [], t, h => by
    simp only [productOf, List.mem_singleton] at h
    subst h; exact .nil
  | l :: rest, t, h => by
    simp only [productOf, List.mem_flatMap, List.mem_map] at h
    obtain ⟨m, hm, t', ht', rfl⟩ := h
    exact .cons hm (mem_productOf rest t' ht')

theorem PModel.get?_combine_aux (ms : List PModel) (hs : ∀ m ∈ ms, m.Sorted) (acc : PModel) (v : Nat) :
    (ms.foldl (fun acc m => m.foldl (fun acc kv => PModel.insert acc kv.1 kv.2) acc) acc).get? v =
      ms.foldl (fun r m => (PModel.get? m v).orElse fun _ => r) (acc.get? v) := by
  induction ms generalizing acc with
  | nil => rfl
  | cons m rest ih =>
    simp only [List.foldl_cons]
    rw [ih (fun m' hm' => hs m' (List.mem_cons_of_mem _ hm')), PModel.get?_foldl_insert (hs m (by simp))]

theorem foldl_orElse_owner (v : Nat) (o : Option Nat) : ∀ (ms : List PModel) (r : Option Nat), (r = none ∨ r = o) →
    (∀ m ∈ ms, PModel.get? m v = none ∨ PModel.get? m v = o) → (r = o ∨ ∃ m ∈ ms, PModel.get? m v = o) →
    ms.foldl (fun r m => (PModel.get? m v).orElse fun _ => r) r = o
  | [], r, _, _, h3 => by
    rcases h3 with h | ⟨m, hm, _⟩
    · exact h
    · cases hm
  | m :: rest, r, h1, h2, h3 => by
    simp only [List.foldl_cons]
    have h2' : ∀ m' ∈ rest, PModel.get? m' v = none ∨ PModel.get? m' v = o := fun m' hm' => h2 m' (List.mem_cons_of_mem _ hm')
    cases hg : PModel.get? m v with
    | none =>
      simp only [Option.orElse_none]
      refine foldl_orElse_owner v o rest r h1 h2' ?_
      rcases h3 with h | ⟨m', hm', hmo⟩
      · exact Or.inl h
      · rcases List.mem_cons.mp hm' with rfl | hm'
        · rw [hg] at hmo
          rcases h1 with h | h
          · exact Or.inl (h.trans hmo)
          · exact Or.inl h
        · exact Or.inr ⟨m', hm', hmo⟩
    | some x =>
      simp only [Option.orElse_some]
      have hox : o = some x := by
        rcases h2 m (by simp) with h | h
        · rw [hg] at h; cases h
        · rw [hg] at h; exact h.symm
      exact foldl_orElse_owner v o rest (some x) (Or.inr hox.symm) h2' (Or.inl hox.symm)

/-- **a product of dicts over disjoint key sets gives every key the value of its owner** -/
theorem PModel.get?_combine (ms : List PModel) (hs : ∀ m ∈ ms, m.Sorted) (v : Nat) (o : Option Nat)
    (h1 : ∀ m ∈ ms, PModel.get? m v = none ∨ PModel.get? m v = o) (h2 : o = none ∨ ∃ m ∈ ms, PModel.get? m v = o) :
    (PModel.combine ms).get? v = o := by
  unfold PModel.combine
  rw [PModel.get?_combine_aux ms hs [] v]
  refine foldl_orElse_owner v o ms _ (Or.inl rfl) h1 ?_
  rcases h2 with h | h
  · exact Or.inl (by rw [h]; rfl)
  · exact Or.inr h

theorem PModel.mem_foldl_insert (m : PModel) : ∀ (acc : PModel) (kv : Var × Nat),
    kv ∈ m.foldl (fun acc kv => PModel.insert acc kv.1 kv.2) acc → kv ∈ acc ∨ ∃ kv' ∈ m, kv'.1 = kv.1 := by
  induction m with
  | nil => intro acc kv h; exact Or.inl h
  | cons hd tl ih =>
    intro acc kv h
    simp only [List.foldl_cons] at h
    rcases ih _ kv h with h | ⟨kv', hkv', he⟩
    · rcases PModel.mem_insert acc hd.1 hd.2 kv h with h | h
      · exact Or.inr ⟨hd, by simp, h.symm⟩
      · exact Or.inl h
    · exact Or.inr ⟨kv', List.mem_cons_of_mem _ hkv', he⟩

theorem PModel.mem_combine_aux (ms : List PModel) : ∀ (acc : PModel) (kv : Var × Nat),
    kv ∈ ms.foldl (fun acc m => m.foldl (fun acc kv => PModel.insert acc kv.1 kv.2) acc) acc →
      kv ∈ acc ∨ ∃ m ∈ ms, ∃ kv' ∈ m, kv'.1 = kv.1 := by
  induction ms with
  | nil => intro acc kv h; exact Or.inl h
  | cons m rest ih =>
    intro acc kv h
    simp only [List.foldl_cons] at h
    rcases ih _ kv h with h | ⟨m', hm', hx⟩
    · rcases PModel.mem_foldl_insert m acc kv h with h | hx
      · exact Or.inl h
      · exact Or.inr ⟨m, by simp, hx⟩
    · exact Or.inr ⟨m', List.mem_cons_of_mem _ hm', hx⟩

theorem PModel.mem_combine (ms : List PModel) (kv : Var × Nat) (h : kv ∈ PModel.combine ms) :
    ∃ m ∈ ms, ∃ kv' ∈ m, kv'.1 = kv.1 := by
  rcases PModel.mem_combine_aux ms [] kv h with h | h
  · cases h
  · exact h

theorem PModel.sorted_combine (ms : List PModel) : (PModel.combine ms).Sorted := by
  unfold PModel.combine
  have : ∀ acc : PModel, acc.Sorted →
      (ms.foldl (fun acc m => m.foldl (fun acc kv => PModel.insert acc kv.1 kv.2) acc) acc).Sorted := by
    induction ms with
    | nil => intro acc h; exact h
    | cons m rest ih => intro acc h; exact ih _ (PModel.sorted_foldl_insert m acc h)
  exact this [] PModel.sorted_nil

theorem forall₂_left {α β : Type} {R : α → β → Prop} : ∀ {l : List α} {l' : List β}, List.Forall₂ R l l' →
    ∀ a ∈ l, ∃ b ∈ l', R a b
  | _, _, .nil, _, h => by cases h
  | _, _, .cons hab ht, a, h => by
    rcases List.mem_cons.mp h with rfl | h
    · exact ⟨_, by simp, hab⟩
    · obtain ⟨b, hb, hr⟩ := forall₂_left ht a h
      exact ⟨b, List.mem_cons_of_mem _ hb, hr⟩

theorem forall₂_right {α β : Type} {R : α → β → Prop} : ∀ {l : List α} {l' : List β}, List.Forall₂ R l l' →
    ∀ b ∈ l', ∃ a ∈ l, R a b
  | _, _, .nil, _, h => by cases h
  | _, _, .cons hab ht, b, h => by
    rcases List.mem_cons.mp h with rfl | h
    · exact ⟨_, by simp, hab⟩
    · obtain ⟨a, ha, hr⟩ := forall₂_right ht b h
      exact ⟨a, List.mem_cons_of_mem _ ha, hr⟩

theorem forall₂_pairwise {α β : Type} {R : α → β → Prop} {S : β → β → Prop} {T : α → α → Prop}
    (hRST : ∀ a b a' b', R a b → R a' b' → S b b' → T a a') :
    ∀ {l : List α} {l' : List β}, List.Forall₂ R l l' → l'.Pairwise S → l.Pairwise T
  | _, _, .nil, _ => List.Pairwise.nil
  | _, _, .cons hab ht, hp => by
    obtain ⟨h1, h2⟩ := List.pairwise_cons.mp hp
    refine List.pairwise_cons.mpr ⟨fun a' ha' => ?_, forall₂_pairwise hRST ht h2⟩
    obtain ⟨b', hb', hr'⟩ := forall₂_left ht a' ha'
    exact hRST _ _ _ _ hab hr' (h1 b' hb')

theorem forall₂_comp {s : CSt} : ∀ {t : List PModel} {mss : List (List PModel)} {L : List Nat},
    List.Forall₂ (fun m ms => m ∈ ms) t mss → List.Forall₂ (fun ms o => ∀ m ∈ ms, m ∈ (s.child o).models) mss L →
    List.Forall₂ (fun m o => m ∈ (s.child o).models) t L
  | _, _, _, .nil, .nil => .nil
  | _, _, _, .cons h1 h2, .cons g1 g2 => .cons (g1 _ h1) (forall₂_comp h2 g2)

theorem forall₂_pick {P : PModel → Nat → Prop} : ∀ {t : List PModel} {L : List Nat}, List.Forall₂ P t L → L.Nodup → ∀ j ∈ L,
    ∃ m, P m j ∧ m ∈ t ∧ ∀ m' ∈ t, m' = m ∨ ∃ j' ∈ L, j' ≠ j ∧ P m' j'
  | _, _, .nil, _, j, hj => by cases hj
  | _, _, .cons (a := a) (b := b) (l₁ := t') (l₂ := L') hab hrest, hnd, j, hj => by
    obtain ⟨hbL, hndL⟩ := List.nodup_cons.mp hnd
    rcases List.mem_cons.mp hj with rfl | hj
    · refine ⟨a, hab, by simp, fun m' hm' => ?_⟩
      rcases List.mem_cons.mp hm' with rfl | hm'
      · exact Or.inl rfl
      · obtain ⟨j', hj', hp⟩ := forall₂_left hrest m' hm'
        exact Or.inr ⟨j', List.mem_cons_of_mem _ hj', fun e => hbL (e ▸ hj'), hp⟩
    · obtain ⟨m, hpm, hmt, hall⟩ := forall₂_pick hrest hndL j hj
      refine ⟨m, hpm, List.mem_cons_of_mem _ hmt, fun m' hm' => ?_⟩
      rcases List.mem_cons.mp hm' with rfl | hm'
      · exact Or.inr ⟨b, by simp, fun e => hbL (e ▸ hj), hab⟩
      · rcases hall m' hm' with h | ⟨j', hj', hne, hp⟩
        · exact Or.inl h
        · exact Or.inr ⟨j', List.mem_cons_of_mem _ hj', hne, hp⟩

theorem combine_valid (hR : Reg R E) {U : List Con} {Us : List (List Con)} {s : CSt} (h : CInv R RE E U Us s) (L : List Nat)
    (hnd : L.Nodup) (hin : ∀ j ∈ L, j ∈ s.c.solverList) (t : List PModel)
    (ht : List.Forall₂ (fun m j => m ∈ (s.child j).models) t L) :
    ∀ j ∈ L, Models (s.child j).constraints ((PModel.combine t).complete E.dflt) := by
  have hlt : ∀ j ∈ L, j < s.w.fes.length := fun j hj => h.lt_of_mem (hin j hj)
  have hsorted : ∀ m ∈ t, m.Sorted := by
    intro m hm
    obtain ⟨j, hj, hmj⟩ := forall₂_left ht m hm
    exact (h.keysOk j (hlt j hj) m hmj).2
  intro j hj
  obtain ⟨m, hmj, hmt, hall⟩ := forall₂_pick ht hnd j hj
  have hval : Models (s.child j).constraints (m.complete E.dflt) :=
    (h.child_models (hlt j hj) _).mpr ((h.kids.each j (hlt j hj)).mc.valid m hmj)
  refine h.child_agree hR (hlt j hj) (fun v hvj => ?_) hval
  simp only [PModel.complete_apply]
  rw [PModel.get?_combine t hsorted v (PModel.get? m v) ?_ ?_]
  · intro m' hm'
    rcases hall m' hm' with rfl | ⟨j', hj', hne, hmj'⟩
    · exact Or.inr rfl
    · left
      cases hg : PModel.get? m' v with
      | none => rfl
      | some x =>
        have hk := (h.keysOk j' (hlt j' hj') m' hmj').1 (v, x) (PModel.mem_of_get? hg)
        exact absurd hvj (h.disjoint (hin j' hj') (hin j hj) hne v hk)
  · exact Or.inr ⟨m, hmt, rfl⟩

/-- changing the caches of one child (fields of ModelCacheMixin only) -/
theorem tinvS_set_cache {Us : List (List Con)} {w : World} (hw : TInvS R RE E Us w) {k : Nat} (hk : k < w.fes.length)
    (fe' : Frontend) (hfe : clearFlags { fe' with models := [] } = clearFlags { w.fes.getD k {} with models := [] })
    (hmc : MCInv RE E (Us.getD k []) fe') : TInvS R RE E Us { w with fes := w.fes.set k fe' } := by
  have hsi : SI R RE E (fun _ => True) (Us.getD k []) { stOfI w k with fe := fe' } := (hw.each k hk).set_cache hfe hmc
  have hws : WStep (stOfI w k) { stOfI w k with fe := fe' } :=
    WStep.of_fe rfl rfl (congrArg Frontend.solver hfe :) (congrArg Frontend.finalized hfe :)
  exact tinvS_step_same hw hk hws hsi

theorem Merged.add_models {Us Us1 : List (List Con)} {s s1 : CSt} {names : List Var} {m : Nat}
    (hm : Merged R RE E Us Us1 s s1 names m) (hnew : s.w.fes.length ≤ m) (ms : List PModel)
    (hv : ∀ x ∈ ms, Models (Us1.getD m []) (x.complete E.dflt))
    (hk : ∀ x ∈ ms, (∀ kv ∈ x, kv.1 ∈ (s1.child m).variables) ∧ x.Sorted) :
    Merged R RE E Us Us1 s
      { s1 with w := { s1.w with fes := s1.w.fes.set m { s1.child m with models := ms.foldl listInsert (s1.child m).models } } }
      names m := by
  let fm : Frontend := { s1.child m with models := ms.foldl listInsert (s1.child m).models }
  have hself : (s1.w.fes.set m fm).getD m {} = fm := getD_set_self _ _ _ _ hm.lt
  have hoth : ∀ i, i ≠ m → (s1.w.fes.set m fm).getD i {} = s1.child i := fun i hi => getD_set_ne _ _ _ _ _ (Ne.symm hi)
  have hmem : ∀ x, x ∈ ms.foldl listInsert (s1.child m).models ↔ x ∈ (s1.child m).models ∨ x ∈ ms := by
    intro x; rw [mem_foldl_listInsert]
  have hkids : TInvS R RE E Us1 { s1.w with fes := s1.w.fes.set m fm } := by
    refine tinvS_set_cache hm.kids hm.lt _ rfl ?_
    refine (hm.kids.each m hm.lt).mc.more_models _ (fun x hx => (hmem x).mpr (Or.inl hx)) ?_
    intro x hx
    rcases (hmem x).mp hx with hx | hx
    · exact (hm.kids.each m hm.lt).mc.valid x hx
    · exact hv x hx
  have hw := hm.wok.of_frame (j := m) hkids rfl (List.length_set ..) hoth
    (by
      show KeysInv ((s1.w.fes.set m _).getD m {})
      rw [hself]
      intro x hx
      rcases (hmem x).mp hx with hx | hx
      · exact hm.keysOk m hm.lt x hx
      · exact hk x hx)
    (by
      show ExactVars ((s1.w.fes.set m _).getD m {})
      rw [hself]; exact exactVars_congr rfl rfl (hm.exact m hm.lt))
  refine ⟨hm.comp, hkids, hm.reuse, hw.keysOk, hw.exact, ?_, ?_, ?_, ?_, ?_, hm.sem, hm.old, ?_⟩
  · have := hm.len; simpa using this
  · intro i hi
    have him : i ≠ m := by omega
    refine ⟨?_, (hm.frame i hi).2⟩
    show (s1.w.fes.set m _).getD i {} = _
    rw [hoth i him]; exact (hm.frame i hi).1
  · have := hm.lt; simpa using this
  · intro v hv'
    have : v ∈ ((s1.w.fes.set m fm).getD m {}).variables := hv'
    rw [hself] at this
    exact hm.sub v this
  · intro t ht v hv'
    show v ∈ ((s1.w.fes.set m fm).getD m {}).variables
    rw [hself]
    exact hm.sup t ht v hv'
  · intro hnil
    show ((s1.w.fes.set m fm).getD m {}).hashes = [] ∧
      ((s1.w.fes.set m fm).getD m {}).woAnnot = []
    rw [hself]
    exact hm.fresh hnil

theorem orderModelSets_run (E : Env) : ∀ (l : List Nat) (s : CSt), ∃ mss t,
    orderModelSets E l s = (.ok mss, { s with w := { s.w with tick := t } }) ∧
      List.Forall₂ (fun ms o => ∀ m ∈ ms, m ∈ (s.child o).models) mss l
  | [], s => ⟨[], s.w.tick, rfl, .nil⟩
  | o :: rest, s => by
    obtain ⟨mss, t, hrun, hall⟩ := orderModelSets_run E rest { s with w := { s.w with tick := s.w.tick + 1 } }
    refine ⟨reorderBy (fun m k => k == modelKey m) (E.pick ((s.child o).models.map modelKey) ((s.child o).models.map modelKey).length s.w.tick)
      (s.child o).models :: mss, t, ?_, .cons (fun m hm => (mem_reorderBy _ _ _ m).mp hm) hall⟩
    simp only [orderModelSets, bind, CM.bind, CM.get, orderModels, orderOracle_run, hrun, pure, CM.pure]

section
variable (H : SolverHyps R RE E)
include H

/-- `combined.add(self.constraints); for o in others: combined.add(o.constraints)` on the blank copy `k` -/
theorem combine_go (k : Nat) : ∀ (os : List Nat) (w : World) (Us : List (List Con)), TInvS R RE E Us w → k < w.fes.length →
    (∀ o ∈ os, o < w.fes.length ∧ o ≠ k) → KeysInv (w.fes.getD k {}) → ExactVars (w.fes.getD k {}) → IdsInv (w.fes.getD k {}) →
    ∃ w' Us', childCombineWith.go E k os w = (.ok (), w') ∧ TInvS R RE E Us' w' ∧ w'.reuse = w.reuse ∧
      w'.fes.length = w.fes.length ∧ (∀ i, i ≠ k → w'.fes.getD i {} = w.fes.getD i {} ∧ Us'.getD i [] = Us.getD i []) ∧
      KeysInv (w'.fes.getD k {}) ∧ ExactVars (w'.fes.getD k {}) ∧ IdsInv (w'.fes.getD k {}) ∧
      (∀ a, Models (Us'.getD k []) a ↔ Models (Us.getD k []) a ∧ ∀ o ∈ os, Models (w.fes.getD o {}).constraints a) ∧
      (∀ v, v ∈ (w'.fes.getD k {}).variables ↔
        v ∈ (w.fes.getD k {}).variables ∨ ∃ o ∈ os, ∃ c ∈ (w.fes.getD o {}).constraints, v ∈ c.vars) := by
  intro os
  induction os with
  | nil =>
    intro w Us hw hk _ hkeys hex hids
    refine ⟨w, Us, by simp [childCombineWith.go], hw, rfl, rfl, fun i _ => ⟨rfl, rfl⟩, hkeys, hex, hids, fun a => by simp, fun v => by simp⟩
  | cons o rest ih =>
    intro w Us hw hk hos hkeys hex hids
    obtain ⟨hol, hok⟩ := hos o (by simp)
    have hcsR : ∀ c ∈ (w.fes.getD o {}).constraints, R c := (hw.each o hol).base.dinv.consR
    -- `combined.add(o.constraints)`: `Us` at `k` takes all of them, the child only `added`, those the deduplication lets through
    obtain ⟨added, w1, hrun, hk1, hlen1, hre1, hoth1, hA⟩ :=
      child_add_spec H w Us hw k hk (w.fes.getD o {}).constraints hcsR
    have hkU : k < Us.length := by rw [hw.len]; exact hk
    -- `IdsInv` is what makes the variables of a constraint dropped as a duplicate arrive all the same
    obtain ⟨hidsInv1, harrive⟩ := hA.ids hids
    obtain ⟨w2, Us2, hgo, hk2, hre2, hlen2, hfr2, hkeys2, hex2, hids2, hsem2, hvars2⟩ :=
      ih w1 (Us.set k (Us.getD k [] ++ (w.fes.getD o {}).constraints)) hk1 (by rw [hlen1]; exact hk)
        (fun o' ho' => by rw [hlen1]; exact hos o' (List.mem_cons_of_mem _ ho')) (hA.keys hkeys) (hA.exact hex) hidsInv1
    -- the `add` wrote child `k` only: the children still to come are in `w1`, where `go` reads them, what they are in `w`
    have hrest : ∀ o' ∈ rest, w1.fes.getD o' {} = w.fes.getD o' {} :=
      fun o' ho' => hoth1 o' (hos o' (List.mem_cons_of_mem _ ho')).2
    refine ⟨w2, Us2, ?_, hk2, hre2.trans hre1, hlen2.trans hlen1, ?_, hkeys2, hex2, hids2, ?_, ?_⟩
    · rw [childCombineWith.go, hrun]; exact hgo
    · intro i hik
      refine ⟨((hfr2 i hik).1).trans (hoth1 i hik), ((hfr2 i hik).2).trans ?_⟩
      exact getD_set_ne _ _ _ _ _ (Ne.symm hik)
    · intro a
      rw [hsem2 a, getD_set_self _ _ _ _ hkU, models_append]
      constructor
      · rintro ⟨⟨h1, h2⟩, h3⟩
        refine ⟨h1, fun o' ho' => ?_⟩
        rcases List.mem_cons.mp ho' with rfl | ho'
        · exact h2
        · rw [← hrest o' ho']; exact h3 o' ho'
      · rintro ⟨h1, h2⟩
        exact ⟨⟨h1, h2 o (by simp)⟩, fun o' ho' => by rw [hrest o' ho']; exact h2 o' (List.mem_cons_of_mem _ ho')⟩
    -- the variables: one that came with `added` is of a constraint of `o`; conversely `harrive`
    · intro v
      rw [hvars2 v]
      constructor
      · rintro (hv | ⟨o', ho', c, hc, hvc⟩)
        · rcases (hA.vars v).mp hv with hv | ⟨c, hc, hvc⟩
          · exact Or.inl hv
          · exact Or.inr ⟨o, by simp, c, hA.sub c hc, hvc⟩
        · rw [hrest o' ho'] at hc
          exact Or.inr ⟨o', List.mem_cons_of_mem _ ho', c, hc, hvc⟩
      · rintro (hv | ⟨o', ho', c, hc, hvc⟩)
        · exact Or.inl ((hA.vars v).mpr (Or.inl hv))
        · rcases List.mem_cons.mp ho' with rfl | ho'
          · exact Or.inl (harrive c hc v hvc)
          · exact Or.inr ⟨o', ho', c, by rw [hrest o' ho']; exact hc, hvc⟩

/-- `self.combine(others)` with the model sets in the order `itertools.product` walks them -/
theorem childCombineWith_spec {U : List Con} {Us : List (List Con)} {s : CSt} (h : CInv R RE E U Us s) (names : List Var)
    (j : Nat) (rest : List Nat) (hnd : (j :: rest).Nodup) (hmem : ∀ t, t ∈ j :: rest ↔ t ∈ s.c.solversFor names)
    (selfModels : List PModel) (otherModels : List (List PModel))
    (hsm : ∀ m ∈ selfModels, m ∈ (s.child j).models)
    (hom : List.Forall₂ (fun ms o => ∀ m ∈ ms, m ∈ (s.child o).models) otherModels rest) :
    ∃ Us1 s1, childCombineWith E j rest selfModels otherModels s = (.ok s.w.fes.length, s1) ∧
      Merged R RE E Us Us1 s s1 names s.w.fes.length := by
  have hsolIn : ∀ t ∈ j :: rest, t ∈ s.c.solverList := fun t ht => h.mem_of_solversFor ((hmem t).mp ht)
  have hlt : ∀ t ∈ j :: rest, t < s.w.fes.length := fun t ht => h.lt_of_mem (hsolIn t ht)
  let fes0 : List Frontend := s.w.fes ++ [childBlank E (s.child j)]
  have hlen0 : fes0.length = s.w.fes.length + 1 := List.length_append
  obtain ⟨hk0, hnew, h0, hold⟩ := child_blank_spec s.w Us h.kids h.reuse (s.child j)
  obtain ⟨w1, Us1, hgo, hk1, hre1, hlen1, hfr1, hkeys1, hex1, _, hsem1, hvars1⟩ :=
    combine_go H s.w.fes.length (j :: rest) { s.w with fes := fes0 } (Us ++ [[]]) hk0 (by rw [hlen0]; exact Nat.lt_succ_self _)
      (fun o ho => ⟨by rw [hlen0]; exact Nat.lt_succ_of_lt (hlt o ho), Nat.ne_of_lt (hlt o ho)⟩)
      (by show KeysInv (fes0.getD s.w.fes.length {}); rw [hnew]; intro m hm; cases hm)
      (by show ExactVars (fes0.getD s.w.fes.length {}); rw [hnew]; intro v hv; cases hv)
      (by
        show IdsInv (fes0.getD s.w.fes.length {})
        rw [hnew]; intro i hi; rcases hi with hi | hi <;> cases hi)
  have hlen1' : w1.fes.length = s.w.fes.length + 1 := hlen1.trans hlen0
  have hpart : ∀ o ∈ j :: rest, fes0.getD o {} = s.child o := fun o ho => (hold o (hlt o ho)).1
  have hvarsK : ∀ v, v ∈ (w1.fes.getD s.w.fes.length {}).variables ↔
      ∃ o ∈ j :: rest, ∃ c ∈ (s.child o).constraints, v ∈ c.vars := by
    intro v
    have := hvars1 v
    simp only [] at this
    rw [this]
    constructor
    · rintro (hv | ⟨o, ho, c, hc, hvc⟩)
      · have hv' : v ∈ (fes0.getD s.w.fes.length {}).variables := hv
        rw [hnew] at hv'; cases hv'
      · exact ⟨o, ho, c, by rw [← hpart o ho]; exact hc, hvc⟩
    · rintro ⟨o, ho, c, hc, hvc⟩
      exact Or.inr ⟨o, ho, c, by rw [hpart o ho]; exact hc, hvc⟩
  have hsemK : ∀ a, Models (Us1.getD s.w.fes.length []) a ↔ ∀ t ∈ s.c.solversFor names, Models (Us.getD t []) a := by
    intro a
    rw [hsem1 a, h0]
    constructor
    · rintro ⟨_, hall⟩ t ht
      have htm := (hmem t).mpr ht
      have := hall t htm
      rw [hpart t htm] at this
      exact (h.child_models (hlt t htm) a).mp this
    · intro hall
      refine ⟨by simp [Models], fun o ho => ?_⟩
      rw [hpart o ho]
      exact (h.child_models (hlt o ho) a).mpr (hall o ((hmem o).mp ho))
  -- the merged child before the cache part
  have hbase : Merged R RE E Us Us1 s { s with w := w1 } names s.w.fes.length := by
    refine Merged.of_new h hk1 (by rw [hre1]; exact h.reuse) hlen1' (fun i hi => ?_) rfl hkeys1 hex1 ?_ ?_ hsemK ?_
    · have hik : i ≠ s.w.fes.length := Nat.ne_of_lt hi
      exact ⟨(hfr1 i hik).1.trans (hold i hi).1, (hfr1 i hik).2.trans (hold i hi).2⟩
    · intro v hv
      obtain ⟨o, ho, c, hc, hvc⟩ := (hvarsK v).mp hv
      exact ⟨o, (hmem o).mp ho, h.child_vars (hlt o ho) c hc v hvc⟩
    · intro t ht v hv
      have htm := (hmem t).mpr ht
      obtain ⟨c, hc, hvc⟩ := h.exact t (hlt t htm) v hv
      exact (hvarsK v).mpr ⟨t, htm, c, hc, hvc⟩
    · intro hnil
      have := (hmem j).mp (by simp)
      rw [hnil] at this; cases this
  unfold childCombineWith
  dsimp only
  rw [hgo]
  dsimp only
  split
  · exact ⟨Us1, _, rfl, hbase⟩
  · split
    · exact ⟨Us1, _, rfl, hbase⟩
    · refine ⟨Us1, _, rfl, ?_⟩
      have hprod : ∀ x ∈ ((productOf (selfModels :: otherModels)).take (s.child j).models.length).map PModel.combine,
          ∃ t, x = PModel.combine t ∧ List.Forall₂ (fun m o => m ∈ (s.child o).models) t (j :: rest) := by
        intro x hx
        obtain ⟨t, ht, rfl⟩ := List.mem_map.mp hx
        have ht' := mem_productOf _ t (List.mem_of_mem_take ht)
        refine ⟨t, rfl, ?_⟩
        cases ht' with
        | cons h1 h2 => exact .cons (hsm _ h1) (forall₂_comp h2 hom)
      exact hbase.add_models (Nat.le_refl _) _
        (fun x hx => by
          obtain ⟨t, rfl, ht⟩ := hprod x hx
          have hall := combine_valid H.reg h (j :: rest) hnd hsolIn t ht
          refine (hsemK _).mpr fun o ho => ?_
          have hom' := (hmem o).mpr ho
          exact (h.child_models (hlt o hom') _).mp (hall o hom'))
        (fun x hx => by
          obtain ⟨t, rfl, ht⟩ := hprod x hx
          refine ⟨fun kv hkv => ?_, PModel.sorted_combine t⟩
          obtain ⟨m, hmt, kv', hkv', hke⟩ := PModel.mem_combine t kv hkv
          obtain ⟨o, ho, hmo⟩ := forall₂_left ht m hmt
          have hvo := (h.keysOk o (hlt o ho) m hmo).1 kv' hkv'
          rw [hke] at hvo
          exact hbase.sup o ((hmem o).mp ho) kv.1 hvo)

variable (F : ChildFoot R RE E) in
include F in
theorem combineSpec : CombineSpec R RE E := by
  intro U Us s h names j rest _ hnd hmem
  obtain ⟨mss, t, hrun, hall⟩ := orderModelSets_run E (j :: rest) s
  cases hall with
  | cons hj hrest =>
    rename_i ms0 mss0
    obtain ⟨Us1, s1, hr, hm⟩ := childCombineWith_spec H (h.set_tick t) names j rest hnd hmem ms0 mss0 hj hrest
    refine ⟨Us1, s1, ?_, hm.of_tick t⟩
    simp only [childCombine, bind, CM.bind, hrun, List.headD_cons, List.drop_succ_cons, List.drop_zero]
    exact hr

end

end Claripy.Solver

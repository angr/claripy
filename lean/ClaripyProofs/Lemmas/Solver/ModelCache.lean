import ClaripyProofs.Lemmas.Solver.FullQuery
/-!
ModelCacheMixin, part 1: what the cache means.  `MCInv` is the invariant of the mixin's state (`_models`, `_eval_exhausted`,
`_max_exhausted`, `_min_exhausted`, `_max_signed_exhausted`, `_min_signed_exhausted`) relative to the constraints `U` the user has
added: every cached model, completed with claripy's defaults, satisfies `U`; and, as soon as some model is cached, an expression
flagged eval-exhausted takes no value under `U` that no cached model gives it, one flagged max/min-exhausted (per signedness) none
beyond what some cached model gives it.  Then `MCHalf` (the cache in the middle of `_add`), the cache look-ups (`_get_models`,
`_get_batch_solutions`), the model hook, and the fast paths: answers served from the cache are answers `Judge` allows.
-/
namespace Claripy.Solver

/-- **ExpReg** (hash-consing, C06, for the queried expressions): equal ids mean equal value functions and widths; all
well formed; values depend on the listed variables only -/
structure ExpReg (RE : Exp → Prop) : Prop where
  faithful : ∀ e e', RE e → RE e' → e.id = e'.id → e.bits = e'.bits ∧ ∀ a, e.val a = e'.val a
  wf : ∀ e, RE e → ExpWf e
  dep : ∀ e, RE e → ExpDep e

/-- **EvalComplete** (trusted like OracleExact): the model of a `sat` answer, as `_generic_model` hands it to the
frontend, (1) completed with claripy's defaults gives every registered expression the value Z3 reports for it and
(2) mentions a variable of every registered symbolic expression.  This is what `_batch_eval` / `_extrema` obtain by
evaluating with `model_completion=True` BEFORE reading the model (the evaluator adds the constants it visits to the
model object; the recorder takes the key set at that moment).  The oracle of the model is indexed by the event number
only, so the hypothesis is stated for every answer. -/
structure EvalComplete (RE : Exp → Prop) (E : Env) : Prop where
  agree : ∀ q k vals keys, E.oracle q k = .sat vals keys → ∀ e, RE e →
    e.val ((PModel.ofKeys vals keys).complete E.dflt) = e.val (asgOf vals)
  overlap : ∀ q k vals keys, E.oracle q k = .sat vals keys → ∀ e, RE e → ∃ v ∈ e.vars, v ∈ keys

/-- the `BVS == constant` shape `_trivial_model_optimization` looks for means what it looks like: the constraint
holds when the variable has the value, and pins the registered expression with the recorded id to the value -/
def TrivOk (R : Con → Prop) (RE : Exp → Prop) : Prop :=
  ∀ c, R c → ∀ v x eid, c.triv = some (v, x, eid) →
    (∀ a : Asg, a v = x → c.sem a = true) ∧
    (∀ e, RE e → e.id = eid → (∀ a : Asg, c.sem a = true → e.val a = x) ∧ (∀ a : Asg, a v = x → e.val a = x))

theorem modelSatisfies_iff (E : Env) (m : PModel) (extra : List Con) :
    modelSatisfies E m extra = true ↔ Models extra (m.complete E.dflt) := by
  simp [modelSatisfies, Models, List.all_eq_true]

theorem mem_getModels (E : Env) (fe : Frontend) (extra : List Con) (m : PModel) :
    m ∈ getModels E fe extra ↔ m ∈ fe.models ∧ Models extra (m.complete E.dflt) := by
  simp [getModels, List.mem_filter, modelSatisfies_iff]

theorem getModels_nil (E : Env) (fe : Frontend) : getModels E fe [] = fe.models := by
  simp [getModels, modelSatisfies]

theorem evalList_true (E : Env) (m : PModel) (asts : List Exp) :
    evalList E m asts true = some (asts.map fun e => e.val (m.complete E.dflt)) := by
  simp [evalList]

theorem nodup_listInsert {α : Type} [BEq α] [LawfulBEq α] (l : List α) (x : α) (h : l.Nodup) : (listInsert l x).Nodup := by
  unfold listInsert
  split
  · exact h
  · rename_i hc
    have hx : x ∉ l := by simpa using hc
    rw [List.nodup_append]
    exact ⟨h, by simp, fun a ha b hb => by simp at hb; subst hb; exact fun hab => hx (hab ▸ ha)⟩

theorem nodup_foldl_listInsert {α : Type} [BEq α] [LawfulBEq α] (l acc : List α) (h : acc.Nodup) :
    (l.foldl listInsert acc).Nodup :=
  nodup_foldl_addNew (has := fun acc x => acc.contains x) (fun _ _ h => List.contains_iff_mem.2 h) l acc h

theorem nodup_listUnion {α : Type} [BEq α] [LawfulBEq α] (l r : List α) (h : l.Nodup) : (listUnion l r).Nodup :=
  nodup_foldl_listInsert r l h

theorem mem_allBatchSolutions (E : Env) (fe : Frontend) (asts : List Exp) (extra : List Con) (t : List Nat) :
    t ∈ allBatchSolutions E fe asts extra true ↔
      ∃ m ∈ fe.models, Models extra (m.complete E.dflt) ∧ t = asts.map fun e => e.val (m.complete E.dflt) := by
  unfold allBatchSolutions
  rw [mem_foldl_listInsert]
  simp only [List.not_mem_nil, false_or, List.mem_filterMap, mem_getModels, evalList_true, Option.some.injEq]
  constructor
  · rintro ⟨m, ⟨hm, hx⟩, rfl⟩; exact ⟨m, hm, hx, rfl⟩
  · rintro ⟨m, hm, hx, rfl⟩; exact ⟨m, ⟨hm, hx⟩, rfl⟩

theorem nodup_allBatchSolutions (E : Env) (fe : Frontend) (asts : List Exp) (extra : List Con) :
    (allBatchSolutions E fe asts extra true).Nodup :=
  nodup_foldl_listInsert _ _ List.nodup_nil

theorem mem_cachedValues (E : Env) (fe : Frontend) (e : Exp) (extra : List Con) (v : Nat) :
    v ∈ (allBatchSolutions E fe [e] extra true).map (fun t => t.headD 0) ↔
      ∃ m ∈ fe.models, Models extra (m.complete E.dflt) ∧ v = e.val (m.complete E.dflt) := by
  simp only [List.mem_map, mem_allBatchSolutions]
  constructor
  · rintro ⟨t, ⟨m, hm, hx, rfl⟩, rfl⟩; exact ⟨m, hm, hx, rfl⟩
  · rintro ⟨m, hm, hx, rfl⟩; exact ⟨_, ⟨m, hm, hx, rfl⟩, rfl⟩

def optFlags (isMax signed : Bool) (fe : Frontend) : List Nat :=
  if isMax then (if signed then fe.maxSExh else fe.maxExh) else (if signed then fe.minSExh else fe.minExh)

def Beats (isMax signed : Bool) (bits : Nat) (v w : Nat) : Prop :=
  if isMax then key signed bits w ≤ key signed bits v else key signed bits v ≤ key signed bits w

/-- under `U` the expression takes one value at most (what `_trivial_model_optimization` knows of `BVS` when the sole
constraint is `BVS == constant`) -/
def ConstUnder (U : List Con) (e : Exp) : Prop := ∀ v w, Feasible U e v → Feasible U e w → v = w

theorem ConstUnder.mono {U U' : List Con} {e : Exp} (h : ConstUnder U e) (hf : ∀ v, Feasible U' e v → Feasible U e v) :
    ConstUnder U' e := fun v w hv hw => h v w (hf v hv) (hf w hw)

/-- **the invariant of ModelCacheMixin's state**.  The marker clauses say what the CODE relies on: every reader of a marker
(`batch_eval`: `len(results) > 0 and … in self._eval_exhausted`; `min` / `max`: `if len(cached) > 0`) first makes sure that some
model is cached.  A record with markers and NO cached model exists (`ModelCacheMixin.split` replaces `_models` of a part whose
`_add` just set the markers of its sole `BVS == constant` constraint): there the marker only says that the expression has one
value at most — and that is what makes the marker right again as soon as ANY valid model is cached.  With a model cached the
clause is the strong one (`MCInv.evalExh`, `MCInv.opt` below). -/
structure MCInv (RE : Exp → Prop) (E : Env) (U : List Con) (fe : Frontend) : Prop where
  valid : ∀ m ∈ fe.models, Models U (m.complete E.dflt)
  evalExhW : ∀ e, RE e → e.id ∈ fe.evalExh →
    ConstUnder U e ∨ ∀ v, Feasible U e v → ∃ m ∈ fe.models, e.val (m.complete E.dflt) = v
  optW : ∀ (isMax signed : Bool) e, RE e → e.id ∈ optFlags isMax signed fe →
    ConstUnder U e ∨ ∀ v, Feasible U e v → ∃ m ∈ fe.models, Beats isMax signed e.bits (e.val (m.complete E.dflt)) v

theorem Beats.refl (isMax signed : Bool) (bits v : Nat) : Beats isMax signed bits v v := by
  unfold Beats; split <;> exact Int.le_refl _

theorem Beats.trans {isMax signed : Bool} {bits a b c : Nat} (h1 : Beats isMax signed bits a b)
    (h2 : Beats isMax signed bits b c) : Beats isMax signed bits a c := by
  unfold Beats at *
  split
  · next hm => rw [if_pos hm] at h1 h2; exact Int.le_trans h2 h1
  · next hm => rw [if_neg hm] at h1 h2; exact Int.le_trans h1 h2

/-- **under the guard of the code** (a model is cached) a marker means: every value the expression can take is the value of a
cached model -/
theorem MCInv.evalExh {RE : Exp → Prop} {E : Env} {U : List Con} {fe : Frontend} (h : MCInv RE E U fe) (hne : fe.models ≠ [])
    (e : Exp) (he : RE e) (hi : e.id ∈ fe.evalExh) (v : Nat) (hv : Feasible U e v) :
    ∃ m ∈ fe.models, e.val (m.complete E.dflt) = v := by
  rcases h.evalExhW e he hi with hc | hs
  · obtain ⟨m, hm⟩ := List.exists_mem_of_ne_nil _ hne
    exact ⟨m, hm, hc _ _ ⟨_, h.valid m hm, rfl⟩ hv⟩
  · exact hs v hv

theorem MCInv.opt {RE : Exp → Prop} {E : Env} {U : List Con} {fe : Frontend} (h : MCInv RE E U fe) (hne : fe.models ≠ [])
    (isMax signed : Bool) (e : Exp) (he : RE e) (hi : e.id ∈ optFlags isMax signed fe) (v : Nat) (hv : Feasible U e v) :
    ∃ m ∈ fe.models, Beats isMax signed e.bits (e.val (m.complete E.dflt)) v := by
  rcases h.optW isMax signed e he hi with hc | hs
  · obtain ⟨m, hm⟩ := List.exists_mem_of_ne_nil _ hne
    exact ⟨m, hm, hc _ _ ⟨_, h.valid m hm, rfl⟩ hv ▸ Beats.refl _ _ _ _⟩
  · exact hs v hv

theorem MCInv.of_strong {RE : Exp → Prop} {E : Env} {U : List Con} {fe : Frontend}
    (valid : ∀ m ∈ fe.models, Models U (m.complete E.dflt))
    (evalExh : ∀ e, RE e → e.id ∈ fe.evalExh → ∀ v, Feasible U e v → ∃ m ∈ fe.models, e.val (m.complete E.dflt) = v)
    (opt : ∀ (isMax signed : Bool) e, RE e → e.id ∈ optFlags isMax signed fe → ∀ v, Feasible U e v →
      ∃ m ∈ fe.models, Beats isMax signed e.bits (e.val (m.complete E.dflt)) v) : MCInv RE E U fe :=
  ⟨valid, fun e he hi => Or.inr (evalExh e he hi), fun isMax signed e he hi => Or.inr (opt isMax signed e he hi)⟩

theorem mcInv_init (RE : Exp → Prop) (E : Env) (U : List Con) (fe : Frontend) (hm : fe.models = [])
    (h1 : fe.evalExh = []) (h2 : fe.maxExh = []) (h3 : fe.minExh = []) (h4 : fe.maxSExh = []) (h5 : fe.minSExh = []) :
    MCInv RE E U fe := by
  refine ⟨by simp [hm], by simp [h1], ?_⟩
  intro isMax signed e _ hin
  cases isMax <;> cases signed <;> simp [optFlags, h2, h3, h4, h5] at hin

/-- the cache between `super()._add` and the re-validation: the models are still only known to satisfy the OLD
constraints `U`, the flags are already right for the new ones `U'` -/
structure MCHalf (RE : Exp → Prop) (E : Env) (U U' : List Con) (fe : Frontend) : Prop where
  valid : ∀ m ∈ fe.models, Models U (m.complete E.dflt)
  evalExh : ∀ e, RE e → e.id ∈ fe.evalExh →
    ConstUnder U' e ∨ ∀ v, Feasible U' e v → ∃ m ∈ fe.models, e.val (m.complete E.dflt) = v
  opt : ∀ (isMax signed : Bool) e, RE e → e.id ∈ optFlags isMax signed fe →
    ConstUnder U' e ∨ ∀ v, Feasible U' e v → ∃ m ∈ fe.models, Beats isMax signed e.bits (e.val (m.complete E.dflt)) v

/-- more constraints: fewer values to account for, so the flags stay right -/
theorem MCInv.half {RE : Exp → Prop} {E : Env} {U U' : List Con} {fe : Frontend} (h : MCInv RE E U fe)
    (himp : ∀ a, Models U' a → Models U a) : MCHalf RE E U U' fe :=
  have hf : ∀ e v, Feasible U' e v → Feasible U e v := fun _ _ ⟨a, ha, hv⟩ => ⟨a, himp a ha, hv⟩
  ⟨h.valid, fun e he hi => (h.evalExhW e he hi).imp (·.mono (hf e)) (fun h' v hv => h' v (hf e v hv)),
   fun isMax signed e he hi => (h.optW isMax signed e he hi).imp (·.mono (hf e)) (fun h' v hv => h' v (hf e v hv))⟩

theorem MCHalf.full {RE : Exp → Prop} {E : Env} {U U' : List Con} {fe : Frontend} (h : MCHalf RE E U U' fe)
    (hv : ∀ m ∈ fe.models, Models U' (m.complete E.dflt)) : MCInv RE E U' fe := ⟨hv, h.evalExh, h.opt⟩

theorem MCInv.strengthen {RE : Exp → Prop} {E : Env} {U U' : List Con} {fe : Frontend} (h : MCInv RE E U fe)
    (himp : ∀ a, Models U' a → Models U a) (hv : ∀ m ∈ fe.models, Models U' (m.complete E.dflt)) : MCInv RE E U' fe :=
  (h.half himp).full hv

theorem MCInv.congr {RE : Exp → Prop} {E : Env} {U U' : List Con} {fe : Frontend} (h : MCInv RE E U fe)
    (heq : ∀ a, Models U' a ↔ Models U a) : MCInv RE E U' fe :=
  h.strengthen (fun a => (heq a).mp) fun m hm => (heq _).mpr (h.valid m hm)

theorem mcInv_unsat (RE : Exp → Prop) (E : Env) (U : List Con) (fe : Frontend) (hun : ¬ Satisfiable U)
    (hm : ∀ m ∈ fe.models, Models U (m.complete E.dflt)) : MCInv RE E U fe :=
  ⟨hm, fun _ _ _ => Or.inl fun _ _ ⟨a, ha, _⟩ => (hun ⟨a, ha⟩).elim,
   fun _ _ _ _ _ => Or.inl fun _ _ ⟨a, ha, _⟩ => (hun ⟨a, ha⟩).elim⟩

def mcFields (fe : Frontend) : List PModel × List Nat × List Nat × List Nat × List Nat × List Nat :=
  (fe.models, fe.evalExh, fe.maxExh, fe.minExh, fe.maxSExh, fe.minSExh)

theorem mcFields_eq {fe fe' : Frontend} (h : mcFields fe' = mcFields fe) :
    fe'.models = fe.models ∧ fe'.evalExh = fe.evalExh ∧ fe'.maxExh = fe.maxExh ∧ fe'.minExh = fe.minExh ∧
    fe'.maxSExh = fe.maxSExh ∧ fe'.minSExh = fe.minSExh := by
  simp only [mcFields, Prod.mk.injEq] at h
  exact h

theorem MCInv.of_fields {RE : Exp → Prop} {E : Env} {U : List Con} {fe fe' : Frontend} (h : MCInv RE E U fe)
    (hf : mcFields fe' = mcFields fe) : MCInv RE E U fe' := by
  obtain ⟨hm, h1, h2, h3, h4, h5⟩ := mcFields_eq hf
  have hof : ∀ isMax signed, optFlags isMax signed fe' = optFlags isMax signed fe := by
    intro isMax signed; simp only [optFlags, h2, h3, h4, h5]
  exact ⟨by rw [hm]; exact h.valid, by rw [hm, h1]; exact h.evalExhW,
         fun isMax signed => by rw [hof, hm]; exact h.optW isMax signed⟩

theorem MCInv.more_models {RE : Exp → Prop} {E : Env} {U : List Con} {fe : Frontend} (h : MCInv RE E U fe)
    (ms : List PModel) (hsub : ∀ m ∈ fe.models, m ∈ ms) (hv : ∀ m ∈ ms, Models U (m.complete E.dflt)) :
    MCInv RE E U { fe with models := ms } := by
  have grow : ∀ {P : PModel → Prop}, (∃ m ∈ fe.models, P m) → ∃ m ∈ ms, P m := fun ⟨m, hm, hx⟩ => ⟨m, hsub m hm, hx⟩
  exact ⟨hv, fun e he hi => (h.evalExhW e he hi).imp id fun h' v hv' => grow (h' v hv'),
    fun isMax signed e he hi => (h.optW isMax signed e he hi).imp id fun h' v hv' => grow (h' v hv')⟩

/-- ModelCacheMixin._model_hook -/
def mcHook (m : PModel) : M Unit := do
  let fe ← M.getFe
  let m' := m.restrict fe.variables
  if !m'.isEmpty then M.modifyFe fun fe => { fe with models := listInsert fe.models m' }

theorem mcHook_layer (E : Env) (self sup : Ops) : (modelCacheLayer E self sup).modelHook = mcHook := rfl

def mcHookFe (m : PModel) (fe : Frontend) : Frontend :=
  if (m.restrict fe.variables).isEmpty then fe else { fe with models := listInsert fe.models (m.restrict fe.variables) }

theorem mcHook_apply (m : PModel) (s : St) : mcHook m s = (.ok (), { s with fe := mcHookFe m s.fe }) := by
  unfold mcHook mcHookFe
  simp only [bind, M.bind, M.getFe_apply]
  by_cases h : (m.restrict s.fe.variables).isEmpty = true
  · simp [h, pure, M.pure]
  · simp [h, M.modifyFe_apply]

/-- a partial model of constraints whose variables the frontend knows stays a model when restricted to those
variables and completed with the defaults -/
theorem restrict_complete_models {E : Env} {cs : List Con} (wf : ∀ c ∈ cs, ConWf c) (vars : List Var)
    (hv : ∀ c ∈ cs, ∀ v ∈ c.vars, v ∈ vars) (m : PModel) (hm : ∀ a, Agrees a m → Models cs a) :
    Models cs ((m.restrict vars).complete E.dflt) := by
  -- the assignment that follows `m` where `m` speaks and the restricted completion elsewhere
  let a : Asg := fun v => (m.get? v).getD (((m.restrict vars).complete E.dflt) v)
  have ha : Agrees a m := fun v x hx => by simp [a, hx]
  intro c hc
  rw [← hm a ha c hc]
  apply (wf c hc).1
  intro v hvc
  have hin := hv c hc v hvc
  simp only [a, PModel.complete_apply, PModel.get?_restrict, hin, ↓reduceIte]
  cases m.get? v <;> simp

theorem mcHookFe_inv {RE : Exp → Prop} {E : Env} {U : List Con} {fe : Frontend} (h : MCInv RE E U fe) (m : PModel)
    (cs : List Con) (wf : ∀ c ∈ cs, ConWf c) (hv : ∀ c ∈ cs, ∀ v ∈ c.vars, v ∈ fe.variables)
    (heq : ∀ a, Models cs a ↔ Models U a) (hm : ∀ a, Agrees a m → Models cs a) : MCInv RE E U (mcHookFe m fe) := by
  unfold mcHookFe
  split
  · exact h
  · refine h.more_models _ (fun m' hm' => (mem_listInsert _ _ _).mpr (Or.inl hm')) ?_
    intro m' hm'
    rcases (mem_listInsert _ _ _).mp hm' with hm' | rfl
    · exact h.valid m' hm'
    · exact (heq _).mp (restrict_complete_models wf fe.variables hv m hm)

theorem mcHookFe_fields (m : PModel) (fe : Frontend) :
    mcHookFe m fe = { fe with models := (mcHookFe m fe).models } := by
  unfold mcHookFe; split <;> rfl

theorem mcHookFe_models_mono (m : PModel) (fe : Frontend) : ∀ m' ∈ fe.models, m' ∈ (mcHookFe m fe).models := by
  intro m' hm'
  unfold mcHookFe; split
  · exact hm'
  · exact (mem_listInsert _ _ _).mpr (Or.inl hm')

theorem subset_of_nodup_length {α : Type} {l m : List α} (hl : l.Nodup) (hs : ∀ x ∈ l, x ∈ m)
    (hlen : m.length ≤ l.length) : ∀ x ∈ m, x ∈ l := by
  intro x hx
  apply Classical.byContradiction
  intro hxl
  -- otherwise `x :: l` is a list without repetitions within `m`, and longer than `m`
  have hsub : x :: l ⊆ m := by
    intro y hy
    rcases List.mem_cons.mp hy with rfl | hy
    · exact hx
    · exact hs y hy
  have := (List.nodup_cons.mpr ⟨hxl, hl⟩).length_le_of_subset hsub
  simp only [List.length_cons] at this
  omega

/-- **PickOk**: the recorded choice among DISTINCT cached solutions is one the code can make (`PickValid` of Basic.lean asks the
same of lists with repetitions, which nothing can satisfy; the cached tuples form a set) -/
def PickOk (E : Env) : Prop :=
  ∀ all n k, all.Nodup → subsetB (E.pick all n k) all = true ∧ (E.pick all n k).length = min n all.length ∧
    (E.pick all n k).foldl listInsert [] = E.pick all n k

theorem getBatchSolutions_spec {E : Env} (hP : PickOk E) (asts : List Exp) (n : Nat) (extra : List Con) (s : St) :
    ∃ chosen, getBatchSolutions E asts n extra s = (.ok chosen, { s with tick := s.tick + 1 }) ∧
      (∀ t ∈ chosen, t ∈ allBatchSolutions E s.fe asts extra true) ∧
      chosen.length = min n (allBatchSolutions E s.fe asts extra true).length ∧ chosen.Nodup ∧
      (chosen.length < n → ∀ t ∈ allBatchSolutions E s.fe asts extra true, t ∈ chosen) := by
  obtain ⟨h1, h2, h3⟩ := hP (allBatchSolutions E s.fe asts extra true) n s.tick (nodup_allBatchSolutions E s.fe asts extra)
  have hsub : ∀ t ∈ E.pick (allBatchSolutions E s.fe asts extra true) n s.tick,
      t ∈ allBatchSolutions E s.fe asts extra true := by
    intro t ht
    have := List.all_eq_true.mp h1 t ht
    simpa using this
  have hnd : (E.pick (allBatchSolutions E s.fe asts extra true) n s.tick).Nodup := by
    rw [← h3]; exact nodup_foldl_listInsert _ _ List.nodup_nil
  refine ⟨E.pick (allBatchSolutions E s.fe asts extra true) n s.tick, ?_, hsub, h2, hnd, ?_⟩
  · simp only [getBatchSolutions, bind, M.bind, M.get_apply, M.modify_apply, h1, h2, h3, beq_self_eq_true,
      Bool.and_self, ↓reduceIte, pure, M.pure]
  · intro hlt
    exact subset_of_nodup_length hnd hsub (by omega)

theorem pickBy_spec (isMax : Bool) (keyf : Nat → Int) (l : List Nat) :
    match pickBy (if isMax then (fun a b => decide (a > b)) else (fun a b => decide (a < b))) keyf l with
    | none => l = []
    | some v => v ∈ l ∧ ∀ w ∈ l, if isMax then keyf w ≤ keyf v else keyf v ≤ keyf w := by
  cases l with
  | nil => simp [pickBy]
  | cons v rest =>
    simp only [pickBy]
    -- generalised over the running best
    have key : ∀ (rest : List Nat) (best : Nat) (seen : List Nat), best ∈ seen →
        (∀ w ∈ seen, if isMax then keyf w ≤ keyf best else keyf best ≤ keyf w) →
        let r := rest.foldl (fun best w =>
          if (if isMax then (fun a b => decide (a > b)) else (fun a b => decide (a < b))) (keyf w) (keyf best) then w else best) best
        r ∈ seen ++ rest ∧ ∀ w ∈ seen ++ rest, if isMax then keyf w ≤ keyf r else keyf r ≤ keyf w := by
      intro rest
      induction rest with
      | nil => intro best seen hb hs; simpa using ⟨hb, hs⟩
      | cons x xs ih =>
        intro best seen hb hs
        simp only [List.foldl_cons]
        by_cases hx : (if isMax then (fun a b => decide (a > b)) else (fun a b => decide (a < b))) (keyf x) (keyf best) = true
        · rw [if_pos hx]
          have := ih x (seen ++ [x]) (by simp) (by
            intro w hw
            rcases List.mem_append.mp hw with hw | hw
            · have := hs w hw
              cases isMax <;> simp at hx this ⊢ <;> omega
            · simp at hw; subst hw; cases isMax <;> simp)
          simpa [List.append_assoc] using this
        · rw [if_neg hx]
          have := ih best (seen ++ [x]) (by simp [hb]) (by
            intro w hw
            rcases List.mem_append.mp hw with hw | hw
            · exact hs w hw
            · simp at hw; subst hw
              cases isMax <;> simp at hx ⊢ <;> omega)
          simpa [List.append_assoc] using this
    have := key rest v [v] (by simp) (by intro w hw; simp at hw; subst hw; cases isMax <;> simp)
    simpa using this

section fast
variable {RE : Exp → Prop} {E : Env} {U : List Con}

theorem cached_feasible {fe : Frontend} (h : MCInv RE E U fe) (e : Exp) (extra : List Con) (v : Nat)
    (hin : ((allBatchSolutions E fe [e] extra true).map fun t => t.headD 0).contains v = true) :
    Feasible (U ++ extra) e v := by
  obtain ⟨m, hm, hx, rfl⟩ := (mem_cachedValues E fe e extra v).mp (List.contains_iff_mem.mp hin)
  exact ⟨_, models_append.mpr ⟨h.valid m hm, hx⟩, rfl⟩

theorem cachedT_feasible {fe : Frontend} (h : MCInv RE E U fe) (asts : List Exp) (extra : List Con) (t : List Nat)
    (ht : t ∈ allBatchSolutions E fe asts extra true) : FeasibleT (U ++ extra) asts t := by
  obtain ⟨m, hm, hx, rfl⟩ := (mem_allBatchSolutions E fe asts extra t).mp ht
  exact ⟨_, models_append.mpr ⟨h.valid m hm, hx⟩, rfl⟩

theorem cached_satisfiable {fe : Frontend} (h : MCInv RE E U fe) (extra : List Con)
    (hne : (getModels E fe extra).isEmpty = false) : Satisfiable (U ++ extra) := by
  obtain ⟨m, hm⟩ := List.exists_mem_of_ne_nil _ (List.isEmpty_eq_false_iff.mp hne)
  obtain ⟨hm1, hm2⟩ := (mem_getModels E fe extra m).mp hm
  exact ⟨_, models_append.mpr ⟨h.valid m hm1, hm2⟩⟩

/-- **satisfiable, from the cache**: a cached model that satisfies the extra constraints makes the mixin answer `True`
without asking anybody — and `True` is right -/
theorem mc_satisfiable_fast {self sup : Ops} {s : St} (h : MCInv RE E U s.fe) (extra : List Con)
    (hne : (getModels E s.fe extra).isEmpty = false) :
    (modelCacheLayer E self sup).satisfiable extra s = (.ok true, s) ∧ Judge U (.satisfiable extra) (.bool true) := by
  refine ⟨?_, (iff_true_left rfl).mpr (cached_satisfiable h extra hne)⟩
  dsimp only [modelCacheLayer]
  simp only [M.bind_apply, M.getFe_apply, hne, Bool.not_false, ↓reduceIte]
  rfl

theorem mc_solution_fast {self sup : Ops} {s : St} (h : MCInv RE E U s.fe) (e : Exp) (hc : e.conc = none) (v : Nat)
    (extra : List Con)
    (hin : ((allBatchSolutions E s.fe [e] extra true).map fun t => t.headD 0).contains v = true) :
    (modelCacheLayer E self sup).solution e v extra s = (.ok true, s) ∧ Judge U (.solution e v extra) (.bool true) := by
  refine ⟨?_, ?_⟩
  · dsimp only [modelCacheLayer]
    simp only [M.bind_apply, M.getFe_apply, hin, ↓reduceIte]
    rfl
  · show match e.conc with | some c => true = (c == v) | none => (true = true ↔ Feasible (U ++ extra) e v)
    rw [hc]
    exact (iff_true_left rfl).mpr (cached_feasible h e extra v hin)

theorem cached_opt {fe : Frontend} (hR : ExpReg RE) (h : MCInv RE E U fe) (isMax signed : Bool) (e : Exp) (he : RE e)
    (hfl : e.id ∈ fe.evalExh ∨ e.id ∈ optFlags isMax signed fe) (v : Nat)
    (hv : pickBy (if isMax then (fun a b => decide (a > b)) else (fun a b => decide (a < b))) (key signed e.bits)
      ((allBatchSolutions E fe [e] [] true).map fun t => t.headD 0) = some v) :
    IsOpt isMax signed U e (v : Int) ∧ ∃ m ∈ fe.models, e.val (m.complete E.dflt) = wrap e.bits v := by
  have hp := pickBy_spec isMax (key signed e.bits) ((allBatchSolutions E fe [e] [] true).map fun t => t.headD 0)
  rw [hv] at hp
  obtain ⟨hvin, hbest⟩ := hp
  obtain ⟨m, hm, _, rfl⟩ := (mem_cachedValues E fe e [] v).mp hvin
  have hw : wrap e.bits ((e.val (m.complete E.dflt) : Nat) : Int) = e.val (m.complete E.dflt) :=
    wrap_nat _ _ ((hR.wf e he).2 _)
  refine ⟨⟨by rw [hw]; exact ⟨_, h.valid m hm, rfl⟩, fun w hw' => ?_⟩, m, hm, hw.symm⟩
  rw [hw]
  -- some cached value is at least as good as `w`, and the picked one is at least as good as every cached value
  have hne : fe.models ≠ [] := List.ne_nil_of_mem hm
  obtain ⟨m', hm', hb⟩ : ∃ m' ∈ fe.models, Beats isMax signed e.bits (e.val (m'.complete E.dflt)) w := by
    rcases hfl with hfl | hfl
    · obtain ⟨m', hm', hx⟩ := h.evalExh hne e he hfl w hw'
      exact ⟨m', hm', hx ▸ Beats.refl _ _ _ _⟩
    · exact h.opt hne isMax signed e he hfl w hw'
  exact Beats.trans (hbest _ ((mem_cachedValues E fe e [] _).mpr ⟨m', hm', by simp [Models], rfl⟩)) hb

/-- **min / max, from the cache**: an expression flagged (eval- or optimum-) exhausted, no extra constraints, some
model cached: the mixin answers from the cached values, and the answer is the optimum the specification demands -/
theorem mc_extremum_fast {sup : Ops} {s : St} (hR : ExpReg RE) (h : MCInv RE E U s.fe) (isMax signed : Bool) (e : Exp)
    (he : RE e) (hc : e.conc = none) (hfl : e.id ∈ s.fe.evalExh ∨ e.id ∈ optFlags isMax signed s.fe)
    (hne : s.fe.models ≠ []) :
    ∃ i, modelCacheExtremum E sup isMax e [] signed s = (.ok i, s) ∧
      Judge U (if isMax then .max e [] signed else .min e [] signed) (.int i) := by
  obtain ⟨m, hm⟩ := List.exists_mem_of_ne_nil _ hne
  have hin := (mem_cachedValues E s.fe e [] _).mpr ⟨m, hm, by simp [Models], rfl⟩
  have hp := pickBy_spec isMax (key signed e.bits) ((allBatchSolutions E s.fe [e] [] true).map fun t => t.headD 0)
  cases hpick : pickBy (if isMax then (fun a b => decide (a > b)) else (fun a b => decide (a < b))) (key signed e.bits)
      ((allBatchSolutions E s.fe [e] [] true).map fun t => t.headD 0) with
  | none =>
    rw [hpick] at hp
    rw [hp] at hin
    cases hin
  | some v =>
    have hcond : (([] : List Con).isEmpty && (s.fe.evalExh.contains e.id || (optFlags isMax signed s.fe).contains e.id)) =
        true := by
      rcases hfl with hfl | hfl <;> simp [hfl]
    refine ⟨(v : Int), ?_, ?_⟩
    · simp only [modelCacheExtremum, M.bind_apply, M.getFe_apply, ← optFlags.eq_1, hcond, ↓reduceIte, hpick]
      rfl
    · have hopt := (cached_opt hR h isMax signed e he hfl v hpick).1
      cases isMax
      · show match e.conc with | some c => (v : Int) = (c : Int) | none => IsOpt false signed (U ++ []) e v
        rw [hc, List.append_nil]
        exact hopt
      · show match e.conc with | some c => (v : Int) = (c : Int) | none => IsOpt true signed (U ++ []) e v
        rw [hc, List.append_nil]
        exact hopt

/-- the condition under which `batch_eval` answers from the cache alone -/
def BatchFast (E : Env) (fe : Frontend) (asts : List Exp) (n : Nat) (extra : List Con) : Prop :=
  n ≤ (allBatchSolutions E fe asts extra true).length ∨
  (allBatchSolutions E fe asts extra true ≠ [] ∧ extra = [] ∧ ∃ e, asts = [e] ∧ e.id ∈ fe.evalExh)

/-- `len(asts) == 1 and asts[0].hash() in self._eval_exhausted` -/
def exhaustedOne (fe : Frontend) (asts : List Exp) : Bool :=
  match asts with | [e] => fe.evalExh.contains e.id | _ => false

/-- what `batch_eval` tests of the tuples `chosen` that `_get_batch_solutions` gave, before it asks anybody -/
def BatchHit (fe : Frontend) (asts : List Exp) (n : Nat) (extra : List Con) (chosen : List (List Nat)) : Prop :=
  chosen.length = n ∨ (chosen ≠ [] ∧ extra = [] ∧ ∃ e, asts = [e] ∧ e.id ∈ fe.evalExh)

theorem batchHit_iff (fe : Frontend) (asts : List Exp) (n : Nat) (extra : List Con) (chosen : List (List Nat)) :
    (chosen.length == n || (!chosen.isEmpty && extra.isEmpty && exhaustedOne fe asts)) = true ↔
      BatchHit fe asts n extra chosen := by
  unfold BatchHit exhaustedOne
  rcases asts with _ | ⟨e, _ | ⟨e', es⟩⟩ <;> simp [and_assoc]

theorem BatchFast.hit {fe : Frontend} {asts : List Exp} {n : Nat} {extra : List Con} (h : BatchFast E fe asts n extra)
    {chosen : List (List Nat)} (hlen : chosen.length = min n (allBatchSolutions E fe asts extra true).length) :
    BatchHit fe asts n extra chosen := by
  rcases h with hge | ⟨hne, hex, he⟩
  · exact Or.inl (by omega)
  · by_cases hn : chosen.length = n
    · exact Or.inl hn
    · refine Or.inr ⟨fun hc => hne (List.length_eq_zero_iff.mp ?_), hex, he⟩
      rw [hc] at hlen hn
      simp only [List.length_nil] at hlen hn
      omega

theorem cached_tuplesOk {fe : Frontend} (h : MCInv RE E U fe) (asts : List Exp) (hre : ∀ e ∈ asts, RE e) (n : Nat)
    (extra : List Con) (chosen : List (List Nat)) (hhit : BatchHit fe asts n extra chosen)
    (hsub : ∀ t ∈ chosen, t ∈ allBatchSolutions E fe asts extra true)
    (hlen : chosen.length = min n (allBatchSolutions E fe asts extra true).length) (hnd : chosen.Nodup)
    (hall : chosen.length < n → ∀ t ∈ allBatchSolutions E fe asts extra true, t ∈ chosen) :
    TuplesOk (U ++ extra) asts n chosen := by
  refine ⟨fun t ht => cachedT_feasible h asts extra t (hsub t ht), hnd, by omega, fun t ht => ?_⟩
  rcases hhit with hn | ⟨hne, hex, e, rfl, hfl⟩
  · exact Or.inr hn
  · -- exhausted: the value is given by a cached model, and all cached tuples were taken
    by_cases hlt : chosen.length < n
    · subst hex
      obtain ⟨a, ha, rfl⟩ := ht
      obtain ⟨t0, ht0⟩ := List.exists_mem_of_ne_nil _ hne
      obtain ⟨m0, hm0, _⟩ := (mem_allBatchSolutions E fe [e] [] t0).mp (hsub t0 ht0)
      obtain ⟨m, hm, hx⟩ := h.evalExh (List.ne_nil_of_mem hm0) e (hre e (by simp)) hfl (e.val a)
        ⟨a, (models_append.mp ha).1, rfl⟩
      refine Or.inl (hall hlt _ ((mem_allBatchSolutions E fe [e] [] _).mpr ⟨m, hm, by simp [Models], ?_⟩))
      simp [hx]
    · right; omega

/-- **eval / batch_eval, from the cache**: enough cached tuples, or one expression flagged eval-exhausted (no extra
constraints, a model cached): the answer comes from the cache and is what the specification demands -/
theorem mc_batchEval_fast {sup : Ops} {s : St} (hP : PickOk E) (h : MCInv RE E U s.fe) (asts : List Exp)
    (hre : ∀ e ∈ asts, RE e) (n : Nat) (extra : List Con) (hfast : BatchFast E s.fe asts n extra) :
    ∃ ts, modelCacheBatchEval E sup asts n extra s = (.ok ts, { s with tick := s.tick + 1 }) ∧
      TuplesOk (U ++ extra) asts n ts := by
  obtain ⟨chosen, hrun, hsub, hlen, hnd, hall⟩ := getBatchSolutions_spec hP asts n extra s
  have hhit := hfast.hit hlen
  refine ⟨chosen, ?_, cached_tuplesOk h asts hre n extra chosen hhit hsub hlen hnd hall⟩
  simp only [modelCacheBatchEval, M.bind_apply, hrun, M.getFe_apply]
  exact congrFun (if_pos ((batchHit_iff s.fe asts n extra chosen).mpr hhit)) _

theorem mc_eval_fast {self sup : Ops} {s : St} (hP : PickOk E) (h : MCInv RE E U s.fe) (e : Exp) (he : RE e)
    (hc : e.conc = none) (n : Nat) (extra : List Con) (hfast : BatchFast E s.fe [e] n extra) :
    ∃ vs, (modelCacheLayer E self sup).eval e n extra s = (.ok vs, { s with tick := s.tick + 1 }) ∧
      Judge U (.eval e n extra) (.vals vs) := by
  obtain ⟨ts, hrun, hok⟩ := mc_batchEval_fast (sup := sup) hP h [e] (by simpa using he) n extra hfast
  refine ⟨ts.map fun t => t.headD 0, ?_, ?_⟩
  · dsimp only [modelCacheLayer]
    simp only [M.bind_apply, hrun]
    rfl
  · exact evalOk_of_tuples hc hok

end fast

end Claripy.Solver

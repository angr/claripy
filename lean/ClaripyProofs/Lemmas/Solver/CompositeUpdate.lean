import ClaripyProofs.Lemmas.Solver.CompositeSplit
import ClaripyProofs.Lemmas.Solver.CompositeAdd
import ClaripyProofs.Lemmas.Solver.CompositeQuery
/-!
`_reabsorb_solver`, the branch `len(parts) == len(old)`: `split()` (`childSplit_spec`), then `update` of the old child each part's
least variable points to (`childUpdate_step`): the models it accepts are valid for the old child (`update_accepts_valid`), the
markers it copies are those of a single `BVS == BVV` constraint, which pins the variable for the old child too
(`part_marker_const`: glue a model of the old child with models of the other children — all satisfiable after `_ensure_sat` —
into a model of the merged constraints, which contain that constraint).  The two branches are put together in
CompositeReplace.lean (`reabsorbFrames`).
-/
namespace Claripy.Solver

variable {R : Con → Prop} {RE : Exp → Prop} {E : Env}

def DisjL (cl cl' : List Con) : Prop := ∀ c ∈ cl, ∀ v ∈ c.vars, ∀ c' ∈ cl', v ∉ c'.vars

section
variable (H : SolverHyps R RE E)
include H

theorem childSplit_spec {Us : List (List Con)} {s : CSt} (hw : TInvS R RE E Us s.w) (hre : s.w.reuse = false)
    (m : Nat) (hm : m < s.w.fes.length) :
    ∃ parts s' Us', childSplit E m s = (.ok parts, s') ∧ s'.c = s.c ∧ TInvS R RE E Us' s'.w ∧ s'.w.reuse = false ∧
      s.w.fes.length ≤ s'.w.fes.length ∧
      (∀ i, i < s.w.fes.length → s'.child i = s.child i ∧ Us'.getD i [] = Us.getD i []) ∧
      (KeysInv (s.child m) → ∀ i, s.w.fes.length ≤ i → i < s'.w.fes.length → PartOk (s.child m) (s'.child i)) ∧
      (∀ p ∈ parts, s.w.fes.length ≤ p ∧ p < s'.w.fes.length) ∧
      parts.Pairwise (fun p q => ∀ v ∈ (s'.child p).variables, v ∉ (s'.child q).variables) ∧
      (∀ p ∈ parts, ∀ v ∈ (s'.child p).variables, v ∈ (s.child m).variables) ∧
      (ExactVars (s.child m) → ∀ v ∈ (s.child m).variables, ∃ p ∈ parts, v ∈ (s'.child p).variables) ∧
      (∀ a, (∀ c ∈ (s.child m).constraints, c.vars = [] → c.sem a = true) →
        (Models (s.child m).constraints a ↔ ∀ p ∈ parts, (s'.child p).variables ≠ [] → Models (Us'.getD p []) a)) := by
  have hvl : ((s.child m).constraints.map (·.vars)).length = (s.child m).constraints.length := by simp
  generalize hv : (s.child m).constraints.map (·.vars) = varss at hvl
  obtain ⟨gs, t, hog, hgs, hgnd⟩ := orderGroups_run E (groupsOf varss) s
  have hgnd := hgnd (groupsOf_spec varss).2
  have hsi := hw.each m hm
  have hbase := hsi.base
  have hgetv : ∀ i, i < (s.child m).constraints.length → varss.getD i [] = ((s.child m).constraints.getD i default).vars := by
    intro i hi; rw [← hv]; exact getD_map_vars _ i hi
  obtain ⟨hglist, hconcs, hcovs⟩ := groupLists_spec (s.child m).constraints varss hgetv hvl
  -- the constraint lists `split()` hands to the parts: registered constraints of the child
  let lists : List (List Con) := (gs.map fun g => g.2.map fun i => (s.child m).constraints.getD i default) ++
    (if (concreteOf varss).isEmpty then [] else [(concreteOf varss).map fun i => (s.child m).constraints.getD i default])
  have hlists : ∀ cl ∈ lists, ∀ c ∈ cl, R c ∧ c ∈ (s.child m).constraints := by
    intro cl hcl c hc
    rcases List.mem_append.mp hcl with hcl | hcl
    · obtain ⟨g, hg, rfl⟩ := List.mem_map.mp hcl
      exact ⟨hbase.dinv.consR c (hglist g ((hgs g).mp hg) c hc).1, (hglist g ((hgs g).mp hg) c hc).1⟩
    · split at hcl
      · cases hcl
      · rw [List.mem_singleton.mp hcl] at hc
        exact ⟨hbase.dinv.consR c (hconcs c hc).1, (hconcs c hc).1⟩
  have hfv : ∀ x ∈ (s.child m).models, Models (s.child m).constraints (x.complete E.dflt) :=
    fun x hx => (hbase.models_iff _).mpr (hsi.mc.valid x hx)
  obtain ⟨parts, w', Us', hgo, h1, hre1, hlen1, hfr1, hparts1, newParts, hnp, hfa, hnr⟩ :=
    split_go_spec H (s.child m) hfv lists { s.w with tick := t } Us [] (hw.set_tick t) hre hlists
  simp only [List.nil_append] at hnp
  subst hnp
  have hgvars : ∀ g ∈ gs, ∀ c ∈ (g.2.map fun i => (s.child m).constraints.getD i default), ∀ v ∈ c.vars, v ∈ g.1 :=
    fun g hg c hc => (hglist g ((hgs g).mp hg) c hc).2.2
  have hconc : ∀ c ∈ ((concreteOf varss).map fun i => (s.child m).constraints.getD i default), c.vars = [] :=
    fun c hc => (hconcs c hc).2
  have hpw : lists.Pairwise DisjL := by
    rw [List.pairwise_append]
    refine ⟨?_, ?_, ?_⟩
    · rw [List.pairwise_map]
      refine List.Pairwise.imp_of_mem ?_ hgnd
      intro g g' hg hg' hne c hc v hvc c' hc' hvc'
      exact groups_disjoint varss g g' ((hgs g).mp hg) ((hgs g').mp hg') hne v (hgvars g hg c hc v hvc) (hgvars g' hg' c' hc' v hvc')
    · split
      · exact List.Pairwise.nil
      · exact List.pairwise_singleton _ _
    · intro a _ b hb c _ v _ c' hc' hvc'
      split at hb
      · cases hb
      · simp only [List.mem_singleton] at hb
        subst hb
        rw [hconc c' hc'] at hvc'; cases hvc'
  -- a constraint with variables lies in a group, hence in a list, hence in a part
  have hfind : ∀ c ∈ (s.child m).constraints, c.vars ≠ [] → ∃ p ∈ parts, ∃ cl, ListOk (Us'.getD p []) (w'.fes.getD p {}) cl ∧ c ∈ cl := by
    intro c hc hcv
    rcases hcovs c hc with ⟨g, hg, hcg⟩ | hcc
    · have hcl : (g.2.map fun i => (s.child m).constraints.getD i default) ∈ lists :=
        List.mem_append_left _ (List.mem_map.mpr ⟨g, (hgs g).mpr hg, rfl⟩)
      obtain ⟨p, hp, hok⟩ := forall₂_right hfa _ hcl
      exact ⟨p, hp, _, hok, hcg⟩
    · exact absurd (hconc c hcc) hcv
  refine ⟨parts, { s with w := w' }, Us', ?_, rfl, h1, hre1, hlen1, fun i hi => hfr1 i hi,
    fun hk => hparts1 fun x hx => (hk x hx).2, hnr, ?_, ?_, ?_, ?_⟩
  · unfold childSplit
    simp only [bind, CM.bind, CM.get]
    rw [hv, splitConstraints_eq]
    simp only [hog]
    show childSplitWith E m gs (concreteOf varss) { s with w := { s.w with tick := t } } = _
    simp only [childSplitWith]
    have : ({ s with w := { s.w with tick := t } } : CSt).child m = s.child m := rfl
    rw [this, hgo]
  · refine forall₂_pairwise (S := DisjL) ?_ hfa hpw
    intro p cl p' cl' hok hok' hd v hv hv'
    obtain ⟨c, hc, hvc⟩ := hok.2.2 v hv
    obtain ⟨c', hc', hvc'⟩ := hok'.2.2 v hv'
    exact hd c hc v hvc c' hc' hvc'
  · intro p hp v hv'
    obtain ⟨cl, hcl, hok⟩ := forall₂_left hfa p hp
    obtain ⟨c, hc, hvc⟩ := hok.2.2 v hv'
    exact hbase.vars c (hlists cl hcl c hc).2 v hvc
  · intro hex v hv
    obtain ⟨c, hc, hvc⟩ := hex v hv
    obtain ⟨p, hp, cl, hok, hccl⟩ := hfind c hc (by intro h0; rw [h0] at hvc; cases hvc)
    exact ⟨p, hp, hok.2.1 c hccl v hvc⟩
  · intro a htriv
    constructor
    · intro ha p hp _
      obtain ⟨cl, hcl, hok⟩ := forall₂_left hfa p hp
      exact (hok.1 a).mpr fun c hc => ha c (hlists cl hcl c hc).2
    · intro hall c hc
      by_cases hcv : c.vars = []
      · exact htriv c hc hcv
      · obtain ⟨p, hp, cl, hok, hccl⟩ := hfind c hc hcv
        have hne : (({ s with w := w' } : CSt).child p).variables ≠ [] := by
          obtain ⟨v, hv⟩ := List.exists_mem_of_ne_nil _ hcv
          intro h0
          have := hok.2.1 c hccl v hv
          have h0' : (w'.fes.getD p {}).variables = [] := h0
          rw [h0'] at this; cases this
        exact (hok.1 a).mp (hall p hp hne) c hccl

/-- **a marker of a part is right for the old child its variable points to**: the part's sole constraint `v == x` is one of the
merged constraints; a model of the old child `t` (which knows `v`) extends — the other children are satisfiable and share no
variable with `t` — to a model of all merged constraints without changing `v`; so `v = x` in every model of `t` -/
theorem part_marker_const {U : List Con} {Us : List (List Con)} {s : CSt} (h : CInv R RE E U Us s) (m : Nat)
    (hm : m < s.w.fes.length)
    (hsem : ∀ a, Models (Us.getD m []) a ↔ ∀ t ∈ s.c.solversFor (s.child m).variables, Models (Us.getD t []) a)
    (hsat : ∀ t ∈ s.c.solversFor (s.child m).variables, Satisfiable (Us.getD t []))
    (fp : Frontend) (hp : PartOk (s.child m) fp) (hne : fp.variables ≠ [])
    (t : Nat) (ht : alGet? s.c.solvers (minVar fp.variables) = some t)
    (e : Exp) (he : RE e) (hi : Marked fp e.id) : ConstUnder (Us.getD t []) e := by
  obtain ⟨c, v, x, hcons, htr⟩ := hp.marks e.id hi
  have hcp : c ∈ fp.constraints := by rw [hcons]; simp
  have hcm : c ∈ (s.child m).constraints := hp.cons c hcp
  have hcR : R c := (h.kids.each m hm).base.dinv.consR c hcm
  obtain ⟨hcv, hcsem⟩ := (H.reg.wf c hcR).2.2.2 v x e.id htr
  have hvars : ∀ u ∈ fp.variables, u = v := by
    intro u hu
    obtain ⟨c', hc', huc⟩ := hp.exact u hu
    rw [hcons] at hc'
    simp only [List.mem_singleton] at hc'
    subst hc'
    rw [hcv] at huc
    simpa using huc
  have hmin : minVar fp.variables = v := hvars _ (minVar_mem _ hne)
  rw [hmin] at ht
  obtain ⟨htlt, hvt⟩ := h.map v t ht
  have htl : t ∈ s.c.solverList := (mem_solverList' _ h.nodup t).mpr ⟨v, ht⟩
  have hvm : v ∈ (s.child m).variables := (h.kids.each m hm).base.vars c hcm v (by rw [hcv]; simp)
  have h2 := ((H.triv c hcR v x e.id htr).2 e he rfl).2
  have hltL : ∀ j ∈ s.c.solverList, j < s.w.fes.length := fun _ hj => h.lt_of_mem hj
  have key : ∀ a, Models (Us.getD t []) a → a v = x := by
    intro a ha
    obtain ⟨a', ha', hk'⟩ := h.joint_model H.reg (fun j => j ∈ s.c.solversFor (s.child m).variables ∧ j ≠ t) a
      fun j _ hp => hsat j hp.1
    have hkt : ∀ u ∈ (s.child t).variables, a' u = a u := fun u hu => hk' u fun j hjl hp huj =>
      h.disjoint hjl htl hp.2 u huj hu
    have hma' : Models (Us.getD m []) a' := by
      refine (hsem a').mpr fun j hj => ?_
      by_cases hjt : j = t
      · subst hjt; exact h.agree H.reg htlt (fun u hu => (hkt u hu).symm) ha
      · exact ha' j (h.mem_of_solversFor hj) ⟨hj, hjt⟩
    have hc' : c.sem a' = true := (h.child_models hm a').mpr hma' c hcm
    rw [hcsem a'] at hc'
    have : a' v = x := by simpa using hc'
    rw [← hkt v hvt]; exact this
  intro v1 v2 ⟨a, ha, hva⟩ ⟨b, hb, hvb⟩
  rw [← hva, ← hvb, h2 a (key a ha), h2 b (key b hb)]

end

/-- the state of the loop `for p in parts: self._solvers[min(p.variables)].update(p)` relative to the state `s1` after `split()`;
the records from `n0` on are the parts -/
structure UpdInv (R : Con → Prop) (RE : Exp → Prop) (E : Env) (Us1 : List (List Con)) (n0 : Nat) (s1 s' : CSt) : Prop where
  comp : s'.c = s1.c
  kids : TInvS R RE E Us1 s'.w
  reuse : s'.w.reuse = false
  len : s'.w.fes.length = s1.w.fes.length
  keys : ∀ i, i < s'.w.fes.length → KeysInv (s'.child i)
  same : ∀ i, (s'.child i).variables = (s1.child i).variables ∧ (s'.child i).constraints = (s1.child i).constraints
  parts : ∀ i, n0 ≤ i → s'.child i = s1.child i

section
variable (H : SolverHyps R RE E)
include H

theorem childUpdate_step {U : List Con} {Us Us1 : List (List Con)} {s s1 s' : CSt} (h : CInv R RE E U Us s) (m : Nat)
    (hm : m < s.w.fes.length)
    (hsem : ∀ a, Models (Us.getD m []) a ↔ ∀ t ∈ s.c.solversFor (s.child m).variables, Models (Us.getD t []) a)
    (hsat : ∀ t ∈ s.c.solversFor (s.child m).variables, Satisfiable (Us.getD t []))
    (hlen01 : s.w.fes.length ≤ s1.w.fes.length)
    (hfr : ∀ i, i < s.w.fes.length → s1.child i = s.child i ∧ Us1.getD i [] = Us.getD i [])
    (hI : UpdInv R RE E Us1 s.w.fes.length s1 s') (p : Nat) (hp1 : s.w.fes.length ≤ p)
    (hpart : PartOk (s.child m) (s1.child p)) (hne : (s1.child p).variables ≠ [])
    (t : Nat) (ht : alGet? s.c.solvers (minVar (s1.child p).variables) = some t) :
    ∃ s'', childUpdate t p s' = (.ok (), s'') ∧ UpdInv R RE E Us1 s.w.fes.length s1 s'' := by
  obtain ⟨htlt, hvt⟩ := h.map _ t ht
  have htlt' : t < s'.w.fes.length := by rw [hI.len]; omega
  have hpc : s'.child p = s1.child p := hI.parts p hp1
  have htv : (s'.child t).variables = (s.child t).variables := by rw [(hI.same t).1, (hfr t htlt).1]
  have htc : (s'.child t).constraints = (s.child t).constraints := by rw [(hI.same t).2, (hfr t htlt).1]
  have hUt : Us1.getD t [] = Us.getD t [] := (hfr t htlt).2
  -- `minVar (vars p)` is a variable of the merged child owned by `t`
  have hminp : minVar (s1.child p).variables ∈ (s1.child p).variables := minVar_mem _ hne
  have hminm : minVar (s1.child p).variables ∈ (s.child m).variables := by
    obtain ⟨c, hc, hvc⟩ := hpart.exact _ hminp
    exact (h.kids.each m hm).base.vars c (hpart.cons c hc) _ hvc
  have htin : t ∈ s.c.solversFor (s.child m).variables := (mem_solversFor _ _ _).mpr ⟨_, hminm, ht⟩
  have hsit := hI.kids.each t htlt'
  have hmct : MCInv RE E (Us1.getD t []) (s'.child t) := hsit.mc
  have hmemM : ∀ x, x ∈ (((s'.child p).models.filter fun x => sameSet (modelKeys x) (s'.child t).variables).foldl listInsert
      (s'.child t).models) ↔ x ∈ (s'.child t).models ∨
        (x ∈ (s'.child p).models ∧ sameSet (modelKeys x) (s'.child t).variables = true) := by
    intro x; rw [mem_foldl_listInsert, List.mem_filter]
  have hvalidNew : ∀ x, x ∈ (s'.child p).models → sameSet (modelKeys x) (s'.child t).variables = true →
      Models (Us1.getD t []) (x.complete E.dflt) := by
    intro x hx hacc
    rw [hpc] at hx
    obtain ⟨mm, hmm, rfl⟩ := hpart.models x hx
    rw [hUt]
    refine (h.child_models htlt _).mp ?_
    refine update_accepts_valid E.dflt (Um := (s.child m).constraints) ((h.kids.each t htlt).base.cons_wf H.reg)
      (s'.child t).variables (s1.child p).variables ?_ ?_ mm ?_ hacc
    · intro u hu
      obtain ⟨c, hc, huc⟩ := mem_varsOf_iff.mp hu
      rw [htv]; exact h.child_vars htlt c hc u huc
    · intro a ha
      exact (h.child_models htlt a).mpr ((hsem a).mp ((h.child_models hm a).mp ha) t htin)
    · exact (h.child_models hm _).mpr ((h.kids.each m hm).mc.valid mm hmm)
  have hconstNew : ∀ e, RE e → Marked (s'.child p) e.id → ConstUnder (Us1.getD t []) e := by
    intro e he hi
    rw [hpc] at hi
    rw [hUt]
    exact part_marker_const H h m hm hsem hsat (s1.child p) hpart hne t ht e he hi
  refine ⟨_, rfl, ?_⟩
  have hself : ∀ fe' : Frontend, (s'.w.fes.set t fe').getD t {} = fe' := fun fe' => getD_set_self _ _ _ _ htlt'
  have hoth : ∀ (fe' : Frontend) i, i ≠ t → (s'.w.fes.set t fe').getD i {} = s'.child i :=
    fun fe' i hi => getD_set_ne _ _ _ _ _ (Ne.symm hi)
  refine ⟨hI.comp, ?_, hI.reuse, by simp [hI.len], ?_, ?_, ?_⟩
  ·
    refine tinvS_set_cache hI.kids htlt' _ rfl ?_
    refine ⟨?_, ?_, ?_⟩
    · intro x hx
      rcases (hmemM x).mp hx with hx | ⟨hx, hacc⟩
      · exact hmct.valid x hx
      · exact hvalidNew x hx hacc
    · intro e he hi
      rcases (mem_listUnion _ _ _).mp hi with hi | hi
      · refine (hmct.evalExhW e he hi).imp id fun h' v hv => ?_
        obtain ⟨x, hx, hxv⟩ := h' v hv
        exact ⟨x, (hmemM x).mpr (Or.inl hx), hxv⟩
      · exact Or.inl (hconstNew e he (Or.inl hi))
    · intro isMax signed e he hi
      have hi : e.id ∈ listUnion (optFlags isMax signed (s'.child t)) (optFlags isMax signed (s'.child p)) := by
        cases isMax <;> cases signed <;> exact hi
      rcases (mem_listUnion _ _ _).mp hi with hi | hi
      · refine (hmct.optW isMax signed e he hi).imp id fun h' v hv => ?_
        obtain ⟨x, hx, hxv⟩ := h' v hv
        exact ⟨x, (hmemM x).mpr (Or.inl hx), hxv⟩
      · exact Or.inl (hconstNew e he (marked_of_opt hi))
  ·
    refine forall_kids_of_frame (j := t) (List.length_set ..) (fun i hi => hoth _ i hi) hI.keys ?_
    show KeysInv ((s'.w.fes.set t _).getD t {})
    rw [hself]
    intro x hx
    rcases (hmemM x).mp hx with hx | ⟨hx, hacc⟩
    · exact hI.keys t htlt' x hx
    · refine ⟨fun kv hkv => ?_, ?_⟩
      · simp only [sameSet, Bool.and_eq_true] at hacc
        exact (subsetB_iff _ _).mp hacc.1 kv.1 (List.mem_map.mpr ⟨kv, hkv, rfl⟩)
      · rw [hpc] at hx
        exact (hpart.keys x hx).2
  · exact fun i => ⟨(childUpdate_cv t p s' i).2.trans (hI.same i).1, (childUpdate_cv t p s' i).1.trans (hI.same i).2⟩
  · intro i hi
    have hit : i ≠ t := by omega
    show (s'.w.fes.set t _).getD i {} = _
    rw [hoth _ i hit]; exact hI.parts i hi

/-- `_reabsorb_solver(m)` takes the branch in which the parts REPLACE the children -/
def ReplaceTaken (E : Env) (m : Nat) (s : CSt) : Prop :=
  ∀ parts s1, childSplit E m s = (.ok parts, s1) →
    (parts.length == (s1.c.solversFor (s.child m).variables).length &&
      parts.all (fun p => !(s1.child p).variables.isEmpty)) = false

/-- `ReabsorbKeeps` for the branch of `_reabsorb_solver` in which the parts of `split()` replace the
children (`_owned_solvers.add(p)`, `_store_child(p)` for every part) -/
def ReabsorbReplaceKeeps (R : Con → Prop) (RE : Exp → Prop) (E : Env) : Prop :=
  ∀ (U : List Con) (Us : List (List Con)) (s : CSt) (m : Nat), CInv R RE E U Us s → m < s.w.fes.length →
    (∀ v ∈ (s.child m).variables, ∃ t, alGet? s.c.solvers v = some t) →
    (∀ t ∈ s.c.solversFor (s.child m).variables, ∀ v ∈ (s.child t).variables, v ∈ (s.child m).variables) →
    (∀ a, Models (Us.getD m []) a ↔ ∀ t ∈ s.c.solversFor (s.child m).variables, Models (Us.getD t []) a) →
    (∀ t ∈ s.c.solversFor (s.child m).variables, Satisfiable (Us.getD t [])) → s.c.unsat = false →
    (s.child m).variables ≠ [] → alGet? s.c.solvers (minVar (s.child m).variables) ≠ some m → ReplaceTaken E m s →
    ∀ s', reabsorb E m s = (.ok (), s') → ∃ Us', CInv R RE E U Us' s'

/-- the body of the loop `for p in parts: self._solvers[min(p.variables)].update(p)` -/
def updBody (p : Nat) : CM Unit := do
  let s ← CM.get
  match alGet? s.c.solvers (minVar (s.child p).variables) with
  | some t => childUpdate t p
  | none => CM.throw .value

end

end Claripy.Solver

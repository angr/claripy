import ClaripyProofs.Lemmas.Solver.CompositeFoot
/-!
`CompositeFrontend.check_satisfiability` / `satisfiable` without extra constraints: the children listed as unchecked are asked one
by one (`check_satisfiability` of the child class: cached verdict, the trivial-constraint shortcut, the backend); the composite is
satisfiable iff all of them are, because their constraint sets share no variable.  Specifications of the methods are stated in
the program logic (`wp`, CompositeWp.lean).
-/
namespace Claripy.Solver

variable {R : Con → Prop} {RE : Exp → Prop} {E : Env}

theorem tinvS_query {Us : List (List Con)} {w : World} (hk : TInvS R RE E Us w) (j : Nat) (hj : j < w.fes.length) {α : Type}
    (m : M α) (hsi : SI R RE E (· = stOfI w j) (Us.getD j []) (m (stOfI w j)).2) : TInvS R RE E Us (runOn w j m).2 := by
  rw [runOn_eq]
  obtain ⟨h1, hq⟩ := hsi.unmark
  exact tinvS_step_same hk hj hq h1

theorem runOn_child_vars (s : CSt) (j : Nat) {α : Type} (m : M α) (hfoot : FootQ (stOfI s.w j) (m (stOfI s.w j)).2) (i : Nat) :
    (({ s with w := (runOn s.w j m).2 } : CSt).child i).variables = (s.child i).variables :=
  (set_cv s.w.fes j _ ⟨hfoot.2.1, hfoot.1⟩ i).2

theorem WOk.query {Us : List (List Con)} {w : World} (h : WOk R RE E Us w) {j : Nat} (hj : j < w.fes.length) {α : Type} (m : M α)
    (hk : TInvS R RE E Us (runOn w j m).2) (hfoot : FootQ (stOfI w j) (m (stOfI w j)).2) : WOk R RE E Us (runOn w j m).2 := by
  have hself := runOn_getD_self w j m hj
  refine h.of_frame hk rfl (runOn_fes_length w j m) (fun i hi => runOn_getD_ne w j m i hi) ?_ ?_
  · rw [hself]; exact hfoot.2.2 (h.keysOk j hj)
  · rw [hself]; exact exactVars_congr hfoot.2.1 hfoot.1 (h.exact j hj)

theorem minVar_mem : ∀ (l : List Var), l ≠ [] → minVar l ∈ l
  | [], h => (h rfl).elim
  | v :: rest, _ => by
    have : ∀ (rest : List Var) (v : Var), rest.foldl Nat.min v ∈ v :: rest := by
      intro rest
      induction rest with
      | nil => intro v; simp
      | cons w ws ih =>
        intro v
        simp only [List.foldl_cons]
        rcases List.mem_cons.mp (ih (Nat.min v w)) with h | h
        · rw [h]
          rcases Nat.le_total v w with hvw | hvw
          · have : Nat.min v w = v := Nat.min_eq_left hvw
            rw [this]; simp
          · have : Nat.min v w = w := Nat.min_eq_right hvw
            rw [this]; simp
        · simp [h]
    exact this rest v

/-- the liveness test of the loops over `_unchecked_solvers` -/
theorem live_iff {U : List Con} {Us : List (List Con)} {s : CSt} (h : CInv R RE E U Us s) (j : Nat) :
    ((s.child j).variables.isEmpty || alGet? s.c.solvers (minVar (s.child j).variables) != some j) = false ↔
      j ∈ s.c.solverList := by
  rw [mem_solverList' _ h.nodup]
  constructor
  · intro ht
    simp only [Bool.or_eq_false_iff, bne_eq_false_iff_eq] at ht
    exact ⟨_, ht.2⟩
  · rintro ⟨v, hv⟩
    have hvj := (h.map v j hv).2
    have hne : (s.child j).variables ≠ [] := by intro hn; rw [hn] at hvj; cases hvj
    have := h.cover v j hv _ (minVar_mem _ hne)
    simp only [Bool.or_eq_false_iff, bne_eq_false_iff_eq]
    exact ⟨by simpa using hne, this⟩

theorem solverList_nodup (c : Comp) : c.solverList.Nodup := nodup_foldl_listInsert _ _ List.nodup_nil

theorem CInv.agree (hR : Reg R E) {U : List Con} {Us : List (List Con)} {s : CSt} (h : CInv R RE E U Us s) {j : Nat}
    (hj : j < s.w.fes.length) {a a' : Asg} (hag : ∀ v ∈ (s.child j).variables, a v = a' v) (ha : Models (Us.getD j []) a) :
    Models (Us.getD j []) a' :=
  (h.child_models hj a').mp (h.child_agree hR hj hag ((h.child_models hj a).mpr ha))

/-- **independent children have a joint model**: the constraint sets of the children in the list share no variable, so models of
each glue to a model of all, which is `b` on every variable none of them knows -/
theorem CInv.joint_model_list (hR : Reg R E) {U : List Con} {Us : List (List Con)} {s : CSt} (h : CInv R RE E U Us s) (b : Asg) :
    ∀ L : List Nat, L.Nodup → (∀ j ∈ L, j ∈ s.c.solverList) → (∀ j ∈ L, Satisfiable (Us.getD j [])) →
      ∃ a, (∀ j ∈ L, Models (Us.getD j []) a) ∧ ∀ v, (∀ j ∈ L, v ∉ (s.child j).variables) → a v = b v := by
  intro L
  induction L with
  | nil => intro _ _ _; exact ⟨b, fun j hj => (nomatch hj), fun _ _ => rfl⟩
  | cons j L ih =>
    intro hnd hin hsat
    obtain ⟨hjL, hndL⟩ := List.nodup_cons.mp hnd
    obtain ⟨a', ha', hk'⟩ := ih hndL (fun i hi => hin i (by simp [hi])) (fun i hi => hsat i (by simp [hi]))
    have hjl : j ∈ s.c.solverList := hin j (by simp)
    obtain ⟨aj, haj⟩ := hsat j (by simp)
    refine ⟨glue (s.child j).variables aj a', fun i hi => ?_, fun v hv => ?_⟩
    · rcases List.mem_cons.mp hi with rfl | hi
      · exact h.agree hR (h.lt_of_mem hjl) (fun v hv => by simp [glue, hv]) haj
      · have hil : i ∈ s.c.solverList := hin i (by simp [hi])
        refine h.agree hR (h.lt_of_mem hil) (fun v hv => ?_) (ha' i hi)
        have : v ∉ (s.child j).variables := h.disjoint hil hjl (fun e => hjL (e ▸ hi)) v hv
        simp [glue, this]
    · have : v ∉ (s.child j).variables := hv j (by simp)
      simp [glue, this, hk' v fun i hi => hv i (by simp [hi])]

theorem CInv.joint_model (hR : Reg R E) {U : List Con} {Us : List (List Con)} {s : CSt} (h : CInv R RE E U Us s) (P : Nat → Prop)
    [DecidablePred P] (b : Asg) (hsat : ∀ j ∈ s.c.solverList, P j → Satisfiable (Us.getD j [])) :
    ∃ a, (∀ j ∈ s.c.solverList, P j → Models (Us.getD j []) a) ∧
      ∀ v, (∀ j ∈ s.c.solverList, P j → v ∉ (s.child j).variables) → a v = b v := by
  have hmem : ∀ j, j ∈ s.c.solverList.filter (fun j => decide (P j)) ↔ j ∈ s.c.solverList ∧ P j := fun j => by
    rw [List.mem_filter, decide_eq_true_iff]
  obtain ⟨a, ha, hb⟩ := h.joint_model_list hR b (s.c.solverList.filter fun j => decide (P j)) ((solverList_nodup _).filter _)
    (fun j hj => ((hmem j).mp hj).1) fun j hj => hsat j ((hmem j).mp hj).1 ((hmem j).mp hj).2
  exact ⟨a, fun j hj hp => ha j ((hmem j).mpr ⟨hj, hp⟩), fun v hv => hb v fun j hj => hv j ((hmem j).mp hj).1 ((hmem j).mp hj).2⟩

theorem children_joint_model (hR : Reg R E) {U : List Con} {Us : List (List Con)} {s : CSt} (h : CInv R RE E U Us s)
    (keep : List Var) (b : Asg) :
    ∀ L : List Nat, L.Nodup → (∀ j ∈ L, j ∈ s.c.solverList) → (∀ j ∈ L, ∀ v ∈ (s.child j).variables, v ∉ keep) →
      (∀ j ∈ L, Satisfiable (Us.getD j [])) →
      ∃ a, (∀ j ∈ L, Models (s.child j).constraints a) ∧ ∀ v ∈ keep, a v = b v := by
  intro L hnd hin hkeep hsat
  obtain ⟨a, ha, hb⟩ := h.joint_model_list hR b L hnd hin hsat
  exact ⟨a, fun j hj => (h.child_models (h.lt_of_mem (hin j hj)) a).mpr (ha j hj), fun v hv => hb v fun j hj hvj => hkeep j hj v hvj hv⟩

section
variable (H : SolverHyps R RE E)
include H

theorem childCheckSat_spec {G : St → Prop} {U : List Con} (extra : List Con) :
    SQ R RE E G U (SatGood (U ++ extra)) (IsGiveUp E) (childCheckSat E extra) := by
  intro s h
  unfold childCheckSat
  simp only [M.wp_bind, M.wp_getFe]
  by_cases h1 : (s.fe.cachedSat == some false) = true
  · simp only [h1, ↓reduceIte]
    have hc : s.fe.cachedSat = some false := by simpa using h1
    refine ⟨⟨fun hb => (by cases hb), fun ⟨a, ha⟩ => (h.sc.2 hc ⟨a, (models_append.mp ha).1⟩).elim⟩, h, Keep.refl U s⟩
  · simp only [h1, Bool.false_eq_true, ↓reduceIte]
    by_cases h2 : (s.fe.cachedSat == some true && extra.isEmpty) = true
    · simp only [h2, ↓reduceIte]
      simp only [Bool.and_eq_true, beq_iff_eq, List.isEmpty_iff] at h2
      obtain ⟨hc, rfl⟩ := h2
      refine ⟨⟨fun _ => (by simpa using h.sc.1 hc), fun _ => rfl⟩, h, Keep.refl U s⟩
    · simp only [h2, Bool.false_eq_true, ↓reduceIte]
      have hmh : (childOps E).modelHook = mcHook := chStage_hook E 4
      rw [hmh]
      cases hsc : checkSatShortcut s.fe extra with
      | none =>
        simp only
        -- the backend path is FullFrontend.satisfiable with `_model_hook` as callback
        exact full_satisfiable_spec (R := R) (RE := RE) (G := G) (U := U)
          (self := { frontendBase with modelHook := mcHook }) (sup := frontendBase) H.oracle H.reg H.zid rfl extra s h
      | some m =>
        simp only
        unfold checkSatShortcut at hsc
        split at hsc
        · rename_i hcond
          simp only [Bool.and_eq_true, List.isEmpty_iff, beq_iff_eq] at hcond
          obtain ⟨rfl, hlen⟩ := hcond
          obtain ⟨c, hcons⟩ := List.length_eq_one_iff.mp hlen
          have hcR : R c := h.base.dinv.consR c (by rw [hcons]; simp)
          cases htr : c.triv with
          | none => simp [hcons, htr, Con.trivNe] at hsc
          | some t =>
            obtain ⟨v, x, eid⟩ := t
            simp only [hcons, List.headD_cons, htr, Option.some.injEq] at hsc
            subst hsc
            rw [M.wp_bind, M.wp_ok (mcHook_apply _ s)]
            have htriv := H.triv c hcR v x eid htr
            have hone : ∀ a : Asg, a v = x → Models s.fe.constraints a := by
              intro a ha c' hc'
              rw [hcons, List.mem_singleton] at hc'
              subst hc'
              exact htriv.1 a ha
            have hsat : Satisfiable (U ++ []) :=
              ⟨fun _ => x, by rw [List.append_nil, ← h.base.models_iff]; exact hone _ rfl⟩
            have hmc : MCInv RE E U (mcHookFe [(v, x)] s.fe) :=
              mcHookFe_inv h.mc [(v, x)] s.fe.constraints (h.base.cons_wf H.reg) h.base.vars h.base.models_iff
                fun a ha => hone a (ha v x (by simp [PModel.get?]))
            have hfe := mcHookFe_fields [(v, x)] s.fe
            refine ⟨⟨fun _ => hsat, fun _ => rfl⟩, ?_, ?_⟩
            · exact h.set_cache (by rw [hfe]) hmc
            · exact ⟨fun v hv => by rw [hfe]; exact hv, fun _ m hm => mcHookFe_models_mono _ _ m hm⟩
        · cases hsc

/-- child `j` shares a variable with the solver the extra constraints went to (`skip` = its variables) -/
def skipped (skip : Option (List Var)) (vars : List Var) : Bool :=
  match skip with | some sv => vars.any sv.contains | none => false

theorem childCheck_spec {U : List Con} {Us : List (List Con)} {s : CSt} (h : CInv R RE E U Us s) {j : Nat}
    (hj : j < s.w.fes.length) :
    (CM.onChild j (childCheckSat E [])).wp
      (fun b s' => (b = true ↔ Satisfiable (Us.getD j [])) ∧ CInv R RE E U Us s' ∧ s'.c = s.c ∧
        ∀ i, (s'.child i).variables = (s.child i).variables)
      (fun e s' => IsGiveUp E e ∧ CInv R RE E U Us s' ∧ s'.c = s.c) s := by
  have hspec := childCheckSat_spec H (G := (· = stOfI s.w j)) (U := Us.getD j []) [] (stOfI s.w j) (h.kids.each j hj).mark
  have hfoot := (childFoot H).checkSat _ _ [] (stOfI s.w j) (h.kids.each j hj)
  have hv := runOn_child_vars s j (childCheckSat E []) hfoot
  have hinv := fun hsi => h.of_wok (h.wok.query hj _ (tinvS_query h.kids j hj (childCheckSat E []) hsi) hfoot)
    (Nat.le_of_eq (runOn_fes_length _ _ _).symm) (fun i _ => hv i) fun _ _ _ => Iff.rfl
  rw [runOn_eq] at hinv hv
  rw [CM.wp_onChild]
  unfold M.wp wp at hspec ⊢
  revert hspec hv hinv
  rcases childCheckSat E [] (stOfI s.w j) with ⟨e | b, st⟩
  · exact fun hspec _ hinv => ⟨hspec.1, hinv hspec.2.1, rfl⟩
  · exact fun hspec hv hinv => ⟨by simpa [SatGood] using hspec.1, hinv hspec.2.1, rfl, hv⟩

theorem checkLoop_spec {U : List Con} {Us : List (List Con)} (skip : Option (List Var)) : ∀ (l : List Nat) (s : CSt),
    CInv R RE E U Us s →
    (checkLoop E skip l).wp
      (fun b s' => CInv R RE E U Us s' ∧ s'.c = s.c ∧ (∀ i, (s'.child i).variables = (s.child i).variables) ∧
        (b = true → ∀ j ∈ l, j ∈ s.c.solverList → skipped skip (s.child j).variables = false → Satisfiable (Us.getD j [])) ∧
        (b = false → ∃ j ∈ s.c.solverList, ¬ Satisfiable (Us.getD j [])))
      (fun e s' => IsGiveUp E e ∧ CInv R RE E U Us s' ∧ s'.c = s.c) s := by
  intro l
  induction l with
  | nil => exact fun s h => ⟨h, rfl, fun _ => rfl, fun _ j hj => (by cases hj), fun hb => (by cases hb)⟩
  | cons j rest ih =>
    intro s h
    -- the rest of the loop, from a state with the same record and variables, `j` being accounted for
    have hrest : ∀ s1, CInv R RE E U Us s1 → s1.c = s.c → (∀ i, (s1.child i).variables = (s.child i).variables) →
        (j ∈ s.c.solverList → skipped skip (s.child j).variables = false → Satisfiable (Us.getD j [])) →
        (checkLoop E skip rest).wp
          (fun b s' => CInv R RE E U Us s' ∧ s'.c = s.c ∧ (∀ i, (s'.child i).variables = (s.child i).variables) ∧
            (b = true → ∀ i ∈ j :: rest, i ∈ s.c.solverList → skipped skip (s.child i).variables = false →
              Satisfiable (Us.getD i [])) ∧
            (b = false → ∃ j ∈ s.c.solverList, ¬ Satisfiable (Us.getD j [])))
          (fun e s' => IsGiveUp E e ∧ CInv R RE E U Us s' ∧ s'.c = s.c) s1 := by
      intro s1 h1 hc hv hj
      refine (ih s1 h1).imp ?_ ?_
      · rintro b s' ⟨g1, g2, g3, g4, g5⟩
        refine ⟨g1, g2.trans hc, fun i => (g3 i).trans (hv i), fun hb i hi hil hns => ?_, by rw [← hc]; exact g5⟩
        rcases List.mem_cons.mp hi with rfl | hi
        · exact hj hil hns
        · exact g4 hb i hi (hc ▸ hil) (by rw [hv i]; exact hns)
      · rintro e s' ⟨g1, g2, g3⟩
        exact ⟨g1, g2, g3.trans hc⟩
    unfold checkLoop
    rw [CM.wp_bind, CM.wp_get]
    show (if skipped skip (s.child j).variables = true then checkLoop E skip rest else _).wp _ _ s
    rw [CM.wp_ite]
    split
    · rename_i hsk
      exact hrest s h rfl (fun _ => rfl) fun _ hns => by rw [hsk] at hns; cases hns
    rw [CM.wp_ite]
    split
    · rename_i hdead
      refine hrest s h rfl (fun _ => rfl) fun hil _ => ?_
      have := (live_iff h j).mpr hil
      rw [hdead] at this; cases this
    · rename_i hlive
      have hjl : j ∈ s.c.solverList := (live_iff h j).mp (by simpa using hlive)
      rw [CM.wp_bind]
      refine (childCheck_spec H h (h.lt_of_mem hjl)).imp ?_ fun _ _ => id
      rintro b s1 ⟨hb, h1, hc, hv⟩
      cases b with
      | false => exact ⟨h1, hc, hv, fun hb => (by cases hb), fun _ => ⟨j, hjl, fun hs => Bool.noConfusion (hb.mpr hs)⟩⟩
      | true => exact hrest s1 h1 hc hv fun _ _ => hb.mp rfl

theorem compSatisfiable_spec {U : List Con} {Us : List (List Con)} {s : CSt} (h : CInv R RE E U Us s) :
    (compSatisfiable E []).wp
      (fun b s' => (b = true ↔ Satisfiable U) ∧ CInv R RE E U Us s' ∧ s'.c.solvers = s.c.solvers)
      (fun e s' => IsGiveUp E e ∧ CInv R RE E U Us s' ∧ s'.c.solvers = s.c.solvers) s := by
  unfold compSatisfiable
  rw [CM.wp_bind, CM.wp_get, CM.wp_ite]
  split
  · rename_i hun
    exact ⟨⟨fun hb => (by cases hb), fun hs => (h.unsatOk hun hs).elim⟩, h, rfl⟩
  rename_i hun
  have hun' : s.c.unsat = false := by simpa using hun
  rw [CM.wp_ite, if_pos (show ([] : List Con).isEmpty = true from rfl), CM.wp_bind]
  refine (orderChildren_spec (E := E) s.c.unchecked s).imp ?_ fun _ _ => False.elim
  rintro order _ ⟨hord, _, t, rfl⟩
  rw [CM.wp_bind]
  refine (checkLoop_spec H none order _ (h.set_tick t)).imp ?_ fun e s' g => ⟨g.1, g.2.1, by rw [g.2.2]⟩
  rintro b s1 ⟨h1, hc1, _, h3, h4⟩
  cases b with
  | false =>
    obtain ⟨j, hjl, hns⟩ := h4 rfl
    exact ⟨⟨fun hb => (by cases hb), fun ⟨a, ha⟩ => (hns ⟨a, (h.sem hun' a).mp ha j hjl⟩).elim⟩, h1, by rw [hc1]⟩
  | true =>
    have hall : ∀ j ∈ s.c.solverList, Satisfiable (Us.getD j []) := fun j hj =>
      if hu : j ∈ s.c.unchecked then h3 rfl j ((hord j).mpr hu) hj rfl else h.checked j hj hu
    obtain ⟨a, ha, _⟩ := h.joint_model_list H.reg (fun _ => 0) s.c.solverList (solverList_nodup _) (fun _ hj => hj) hall
    have hsat : Satisfiable U := ⟨a, (h.sem hun' a).mpr ha⟩
    exact ⟨⟨fun _ => hsat, fun _ => rfl⟩, h1.clear_unchecked (by rw [hc1]; exact hall), by
      show ({ s1.c with unchecked := [] } : Comp).solvers = _
      rw [hc1]⟩

end

end Claripy.Solver

import ClaripyProofs.Lemmas.Solver.SolverChildHistory
import ClaripyProofs.Lemmas.Solver.SolverConsistent
/-!
Pickling a caching `Solver`: the restored frontend satisfies the full invariant `SI` for the constraints of the original
(`si_pickle`), so it can replace the original in the world (`step … .pickle`, proved in `sol_step`) or JOIN it as a twin that
runs side by side with the original (`tinvS_append_restored`): it refers to no Z3 object, hence shares nothing.
-/
namespace Claripy.Solver
open Claripy.Gen.SolverMro

variable {R : Con → Prop} {RE : Exp → Prop} {E : Env}

/-- the world in which solver `i` was dumped and loaded as an additional solver (the original lives on) -/
def twinWorld (cls : SolverClass) (w : World) (i : Nat) : World :=
  { w with fes := w.fes ++ [pickleRestore (mro cls) (w.fes.getD i {})] }

/-- the restored twin joins the tree, judged by the constraints of the original at the moment of the dump -/
theorem tinvS_append_restored (hR : Reg R E) {Us : List (List Con)} {w : World} (hw : TInvS R RE E Us w) {i : Nat}
    (hi : i < w.fes.length) : TInvS R RE E (Us ++ [Us.getD i []]) (twinWorld .Solver w i) :=
  (winv_append_fresh hw.toW _ _ (si_pickle hR (hw.each i hi)) rfl).toS

theorem tinvS_append_restored_child (hR : Reg R E) {Us : List (List Con)} {w : World} (hw : TInvS R RE E Us w) {i : Nat}
    (hi : i < w.fes.length) : TInvS R RE E (Us ++ [Us.getD i []]) (twinWorld .SolverCompositeChild w i) :=
  (winv_append_fresh hw.toW _ _ (si_pickle hR (hw.each i hi)) rfl).toS

theorem judge_satisfiable_unique {U : List Con} {ex : List Con} {o o' : Out} (h : Judge U (.satisfiable ex) o)
    (h' : Judge U (.satisfiable ex) o') : o = o' := by
  have hb : ∀ {o : Out}, Judge U (.satisfiable ex) o → ∃ b, o = .bool b ∧ (b = true ↔ Satisfiable (U ++ ex)) := by
    intro o h
    cases o with
    | bool b => exact ⟨b, rfl, h⟩
    | _ => exact h.elim
  obtain ⟨b, rfl, hs⟩ := hb h
  obtain ⟨b', rfl, hs'⟩ := hb h'
  rw [Bool.eq_iff_iff.mpr (hs.trans hs'.symm)]

end Claripy.Solver

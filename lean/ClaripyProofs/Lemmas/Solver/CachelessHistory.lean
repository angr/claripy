import ClaripyProofs.Lemmas.Solver.CachelessAdd
import ClaripyProofs.Lemmas.Solver.CachelessExtrema
/-!
SolverCacheless, whole histories over a TREE of branched solvers (not tracking, `reuse_z3_solver` off): any sequence of
add / satisfiable / eval / min / max / solution / is_true / is_false / simplify / downsize / branch on any of the solvers
alive.  Every answer the MODEL gives is one the property statement (`Judge`) allows for the constraints the user has
added to THAT solver (inherited at branch) — over the complete mixin stack composed from the generated MRO, with the
solvers of the tree sharing Z3 objects the way `_copy` makes them.

The step theorem is proved once (`clc_step`) for every class whose queries are those of SolverCacheless (`CLClass`);
SolverStrings is the other one.
-/
namespace Claripy.Solver

/-- the starting point recorded, so that the query step can be read off afterwards -/
theorem CLInv0.mark {U : List Con} {s : St} (h : CLInv0 U s) : CLInv (· = s) U s :=
  ⟨h.core, h.equiv, ⟨s, rfl, QStep.refl s⟩⟩

theorem CLInv.unmark {U : List Con} {s s' : St} (h : CLInv (· = s) U s') : CLInv0 U s' ∧ QStep s s' := by
  obtain ⟨s0, rfl, hq⟩ := h.ghost
  exact ⟨⟨h.core, h.equiv, ⟨s', trivial, QStep.refl s'⟩⟩, hq⟩

theorem DInv.qstep {R : Con → Prop} {U : List Con} {s s' : St} (hd : DInv R U s) (hq : QStep s s') : DInv R U s' := by
  obtain ⟨sol, ta, hfe⟩ := hq.fe
  exact ⟨by rw [hfe]; exact hd.consR, by rw [hfe]; exact hd.seen⟩

theorem MStep.toW {s s' : St} (h : MStep s s') : WStep s s' :=
  ⟨by rw [h.objs]; exact Nat.le_refl _, h.solver.elim Or.inl (fun h => Or.inr (Or.inl h)),
   fun i _ _ => by simp only [objAt, h.objs], h.reuse, h.fin⟩

/-- the invariant of a frontend only looks at its record and at the frames of the Z3 object it refers to -/
theorem FInv.transfer {R : Con → Prop} {U : List Con} {s s' : St} (h : FInv R U s)
    (hcons : s'.fe.constraints = s.fe.constraints) (htoadd : s'.fe.toAdd = s.fe.toAdd) (hsol : s'.fe.solver = s.fe.solver)
    (htrack : s'.fe.track = s.fe.track) (hhash : s'.fe.hashes = s.fe.hashes) (hwo : s'.fe.woAnnot = s.fe.woAnnot)
    (hre : s'.reuse = s.reuse)
    (hobj : ∀ r, s.fe.solver = some r → r < s'.objs.length ∧ (objAt s' r).frames = (objAt s r).frames) : FInv R U s' := by
  obtain ⟨hc, hd⟩ := h
  have hcore := hc.core.toG.heap hcons htoadd hsol hre hobj
  exact ⟨⟨⟨hcore.toAdd_sub, hcore.obj, hcore.noReuse, by rw [htrack]; exact hc.core.untracked⟩,
    by rw [hcons]; exact hc.equiv, ⟨s', trivial, QStep.refl s'⟩⟩,
    ⟨by rw [hcons]; exact hd.consR, by rw [hhash, hwo]; exact hd.seen⟩⟩

/-- the part of the record `FInv` reads -/
def clView (fe : Frontend) : List Con × List Con × Option Nat × Bool × List Nat × List Nat :=
  (fe.constraints, fe.toAdd, fe.solver, fe.track, fe.hashes, fe.woAnnot)

theorem finv_heapLocal (R : Con → Prop) : HeapLocal (FInv R) clView where
  solver h := by simp only [clView, Prod.mk.injEq] at h; exact h.2.2.1
  lt h hr := (h.1.core.obj _ hr).1
  heap h hv hre hobj := by
    simp only [clView, Prod.mk.injEq] at hv
    exact h.transfer hv.1 hv.2.1 hv.2.2.1 hv.2.2.2.1 hv.2.2.2.2.1 hv.2.2.2.2.2 hre hobj

/-- `WInv (FInv R)` spelled out (`TInv.toW`, `WInv.toT`) -/
structure TInv (R : Con → Prop) (Us : List (List Con)) (w : World) : Prop where
  len : Us.length = w.fes.length
  each : ∀ i, i < w.fes.length → FInv R (Us.getD i []) (stOfI w i)
  share : ∀ i j r, i < w.fes.length → j < w.fes.length → i ≠ j →
    (w.fes.getD i {}).solver = some r → (w.fes.getD j {}).solver = some r → (w.fes.getD i {}).finalized = true

theorem TInv.toW {R : Con → Prop} {Us : List (List Con)} {w : World} (h : TInv R Us w) : WInv (FInv R) Us w :=
  ⟨h.len, h.each, h.share⟩

theorem WInv.toT {R : Con → Prop} {Us : List (List Con)} {w : World} (h : WInv (FInv R) Us w) : TInv R Us w :=
  ⟨h.len, h.each, h.share⟩

theorem tinv_step {R : Con → Prop} {Us : List (List Con)} {w : World} (hw : TInv R Us w) {i : Nat} (hi : i < w.fes.length)
    {s' : St} {U' : List Con} (hws : WStep (stOfI w i) s') (hf : FInv R U' s') :
    TInv R (Us.set i U') (wOfI w i s') := (winv_step (finv_heapLocal R) hw.toW hi hws hf).toT

theorem tinv_append {R : Con → Prop} {Us : List (List Con)} {w : World} (hw : TInv R Us w) {i : Nat} (hi : i < w.fes.length)
    (hfin : (w.fes.getD i {}).finalized = true) (c : Frontend) (hview : clView c = clView (w.fes.getD i {}))
    (hcfin : c.finalized = true) : TInv R (Us ++ [Us.getD i []]) { w with fes := w.fes ++ [c] } :=
  (winv_append (finv_heapLocal R) hw.toW hi hfin c hview hcfin).toT

theorem tinv_init (R : Con → Prop) : TInv R [[]] (World.init false false) := by
  refine ⟨rfl, fun i hi => ?_, fun i j r hi hj hij => ?_⟩
  · obtain rfl : i = 0 := Nat.lt_one_iff.mp hi
    exact ⟨⟨⟨fun _ _ => rfl, fun r hr => (nomatch hr), rfl, rfl⟩, fun _ => rfl, ⟨_, trivial, QStep.refl _⟩⟩,
           ⟨fun c hc => (nomatch hc), fun c _ hi => (nomatch hi)⟩⟩
  · exact absurd (Nat.lt_one_iff.mp hi ▸ Nat.lt_one_iff.mp hj ▸ rfl) hij

/-- the calls this theorem covers and what is assumed of their arguments: added constraints come from the registry
(`R`), extra constraints and queried expressions are well formed, `eval` asks for at least one value, `solution` gets a
value in range -/
def InScope (R : Con → Prop) : Op → Prop
  | .add cs => ∀ c ∈ cs, R c
  | .satisfiable ex => ∀ c ∈ ex, ConWf c
  | .eval e n ex => ExpWf e ∧ 1 ≤ n ∧ ∀ c ∈ ex, ConWf c
  | .min e ex _ | .max e ex _ => ExpWf e ∧ ∀ c ∈ ex, ConWf c
  | .solution e v ex => v < 2 ^ e.bits ∧ ∀ c ∈ ex, ConWf c
  | .isTrue c ex | .isFalse c ex => ConWf c ∧ ∀ c ∈ ex, ConWf c
  | .simplify | .downsize | .branch => True
  | _ => False

def HistOk (R : Con → Prop) : Nat → List (Nat × Op) → Prop
  | _, [] => True
  | n, (i, op) :: rest => i < n ∧ InScope R op ∧ HistOk R (match op with | .branch => n + 1 | _ => n) rest

/-- the public methods `o` of a class whose queries are those of SolverCacheless — ConcreteHandler, ConstraintFilter over
FullFrontend, through an inner `self` that evaluates concretely and has no model hook — and whose `add`, `simplify`, `branch`
keep the invariant of the frontend -/
structure CLClass (R : Con → Prop) (E : Env) (o inner inner' : Ops) : Prop where
  ok : SelfOk inner
  ok' : SelfOk inner'
  selfSat : inner.satisfiable = clSat E inner'
  selfEval : inner.eval = clEval E inner'
  satisfiable : o.satisfiable = clSat E inner
  eval : o.eval = clEval E inner
  max : o.max = fun e extra signed => clExtremum E inner true e extra signed
  min : o.min = fun e extra signed => clExtremum E inner false e extra signed
  solution : o.solution = clSolution E inner
  isTrue : o.isTrue = clTruth E inner true
  isFalse : o.isFalse = clTruth E inner false
  downsize : ∀ s, o.downsize s = (.ok (), clDownsizeSt s)
  addNil : ∀ inv, o.add [] inv = pure []
  add : AddC R o.add
  simplify : SimpC R o.simplify
  branch : ∀ s : St, ∃ c, (do let fe ← M.getFe; o.copy (o.blankCopy fe {}) : M Frontend) s =
    (.ok c, { s with fe := { s.fe with finalized := true } }) ∧ clView c = clView s.fe ∧ c.finalized = true

section
variable {E : Env} {R : Con → Prop} {cls : SolverClass} {inner inner' : Ops}
  (C : CLClass R E (classOps E cls) inner inner') (hE : OracleExact E) (hT : CheapSound E)
include C hE hT

/-- every method other than `add` answers as the specification allows, or gives up honestly, and keeps `FInv`: a query
leaves the record alone but for `solver` and `toAdd` (`QStep`), `simplify` and `downsize` leave the Z3 objects alone (`MStep`) -/
theorem clc_callOk : CallOk E cls (FInv R) (InScope R) := by
  intro U s op hop hc ⟨h0, hd⟩
  have query : ∀ s', CLInv (· = s) U s' → FInv R U s' ∧ WStep s s' :=
    fun s' h' => ⟨⟨h'.unmark.1, hd.qstep h'.unmark.2⟩, h'.unmark.2.toW⟩
  cases op with
  | satisfiable extra =>
    simp only [callOf, C.satisfiable]
    exact (clSat_spec hE C.ok _ _ h0.mark extra hop).call (fun _ h => h) (fun e h => Or.inr ⟨e, rfl, h⟩) query
  | eval e n extra =>
    simp only [callOf, C.eval]
    exact (clEval_spec hE C.ok _ _ h0.mark e n hop.2.1 extra hop.2.2).query id query
  | batchEval es n extra => exact hop.elim
  | min e extra signed =>
    simp only [callOf, C.min]
    exact (clExtremum_spec hE C.ok C.ok' C.selfSat C.selfEval _ _ h0.mark false e hop.1 extra hop.2 signed).query id query
  | max e extra signed =>
    simp only [callOf, C.max]
    exact (clExtremum_spec hE C.ok C.ok' C.selfSat C.selfEval _ _ h0.mark true e hop.1 extra hop.2 signed).query id query
  | solution e v extra =>
    simp only [callOf, C.solution]
    exact (clSolution_spec hE C.ok _ _ h0.mark e v hop.1 extra hop.2).query id query
  | isTrue c extra =>
    simp only [callOf, C.isTrue]
    exact (clTruth_spec hT C.ok _ _ h0.mark true c hop.1 extra hop.2).query id query
  | isFalse c extra =>
    simp only [callOf, C.isFalse]
    exact (clTruth_spec hT C.ok _ _ h0.mark false c hop.1 extra hop.2).query id query
  | unsatCore extra => exact hop.elim
  | simplify =>
    simp only [callOf, M.wp_bind]
    exact (C.simplify U s ⟨h0, hd⟩).imp (fun _ _ h => ⟨trivial, h.2.2.1, h.2.2.2.toW⟩) fun _ _ h => h.elim
  | downsize =>
    obtain ⟨h1, h2⟩ := clDownsize_spec (R := R) U s h0 hd
    exact wp_call_ok (C.downsize s) ⟨trivial, ⟨h1, h2⟩, (clDownsize_mstep s).toW⟩
  | add cs => cases hc
  | branch => cases hc
  | pickle => cases hc

theorem clc_step (w : World) (Us : List (List Con)) (hw : TInv R Us w) (i : Nat) (hi : i < w.fes.length)
    (op : Op) (hop : InScope R op) :
    JudgeOrGiveUp E (usersAfter (Us.getD i []) op) op (step E cls w i op).1 ∧
    TInv R (usersAll Us i op) (step E cls w i op).2 := by
  cases op with
  | add cs =>
    obtain ⟨added, s', heq, hf, hm⟩ := wp.ok (C.add (Us.getD i []) (stOfI w i) cs true (hw.each i hi) hop)
    simp only [step, runOn_eq, publicAdd_eq C.addNil, heq]
    exact ⟨Or.inl trivial, tinv_step hw hi hm.toW hf⟩
  | branch =>
    obtain ⟨h1, h2⟩ := winv_branch (finv_heapLocal R) (E := E) (cls := cls) (fun _ => rfl) C.branch hw.toW hi
    exact ⟨Or.inl (by rw [h1]; trivial), h2.toT⟩
  | pickle => exact hop.elim
  | _ => exact (winv_call (finv_heapLocal R) (clc_callOk C hE hT) hw.toW hi _ hop rfl).imp id WInv.toT

theorem clc_hist_giveup (hist : List (Nat × Op)) (w : World) (Us : List (List Con)) (hw : TInv R Us w)
    (hok : HistOk R w.fes.length hist) : ∀ x ∈ runHist E cls w Us hist, JudgeOrGiveUp E x.1 x.2.1 x.2.2 :=
  hist_of_step (W := TInv R) (Sc := InScope R) (Ok := HistOk R) (fun h => h.len) (fun h => h) (clc_step C hE hT) hist w Us hw hok

end

theorem cacheless_class {E : Env} {R : Con → Prop} (hR : Reg R E) (hS : SimpOn R E) :
    CLClass R E (classOps E .SolverCacheless) (clStage E 3) (clStage E 2) where
  ok := clStage_ok E 3
  ok' := clStage_ok E 2
  selfSat := rfl
  selfEval := rfl
  satisfiable := rfl
  eval := rfl
  max := rfl
  min := rfl
  solution := rfl
  isTrue := clStage_isTrue E 3
  isFalse := clStage_isFalse E 3
  downsize _ := rfl
  addNil _ := rfl
  add := clAdd_spec hR 3
  simplify := clSimplify_spec hR hS 3
  branch _ := ⟨_, rfl, rfl, rfl⟩

section
variable {E : Env} {R : Con → Prop} (hR : Reg R E) (hE : OracleExact E) (hS : SimpOn R E) (hT : CheapSound E)

theorem cl_step_branch (w : World) (Us : List (List Con)) (hw : TInv R Us w) (i : Nat) (hi : i < w.fes.length) :
    (step E .SolverCacheless w i .branch).1 = .newSolver w.fes.length ∧
    TInv R (Us ++ [Us.getD i []]) (step E .SolverCacheless w i .branch).2 := by
  obtain ⟨h1, h2⟩ := winv_branch (finv_heapLocal R) (E := E) (cls := .SolverCacheless) (fun _ => rfl)
    (fun _ => ⟨_, rfl, rfl, rfl⟩) hw.toW hi
  exact ⟨h1, h2.toT⟩

include hR hE hS hT

theorem cl_step (w : World) (Us : List (List Con)) (hw : TInv R Us w) (i : Nat) (hi : i < w.fes.length)
    (op : Op) (hop : InScope R op) :
    JudgeOrGiveUp E (usersAfter (Us.getD i []) op) op (step E .SolverCacheless w i op).1 ∧
    TInv R (usersAll Us i op) (step E .SolverCacheless w i op).2 :=
  clc_step (cacheless_class hR hS) hE hT w Us hw i hi op hop

theorem cl_hist_giveup (hist : List (Nat × Op)) (w : World) (Us : List (List Con)) (hw : TInv R Us w)
    (hok : HistOk R w.fes.length hist) :
    ∀ x ∈ runHist E .SolverCacheless w Us hist, JudgeOrGiveUp E x.1 x.2.1 x.2.2 :=
  clc_hist_giveup (cacheless_class hR hS) hE hT hist w Us hw hok

end

end Claripy.Solver

import ClaripyProofs.Lemmas.Solver.CompositeReplace
/-!
`CompositeFrontend.check_satisfiability(extra_constraints)` / `satisfiable(extra_constraints)` WITH extra constraints: the merged
solver `es` of the extras' names is asked under the extras, `_reabsorb_solver(es)`, then the unchecked children that share no
variable with `es` are asked one by one (`checkLoop` with `skip = es.variables`), then `_unchecked_solvers.clear()`.
-/
namespace Claripy.Solver

variable {R : Con → Prop} {RE : Exp → Prop} {E : Env}

/-- the part of `check_satisfiability(extra)` after `_reabsorb_solver(es)` -/
def extraTail (E : Env) (es : Nat) : CM Bool := do
  let s ← CM.get
  let order ← orderChildren E s.c.unchecked
  let ok ← checkLoop E (some (s.child es).variables) order
  if !ok then pure false
  else do
    CM.modifyC fun c => { c with unchecked := [] }
    pure true

theorem compSatisfiable_extra_eq (E : Env) (extra : List Con) (s : CSt) (hun : s.c.unsat = false) (hne : extra.isEmpty = false) :
    compSatisfiable E extra s = (do
      let es ← solverForNames E (namesFor (extra.map (·.vars)))
      let r ← CM.onChild es (childCheckSat E extra)
      if !r then pure false
      else do
        reabsorb E es
        extraTail E es : CM Bool) s := by
  unfold compSatisfiable
  simp only [bind, CM.bind, CM.get, hun, hne, Bool.false_eq_true, ↓reduceIte]
  rfl

section
variable (H : SolverHyps R RE E)
include H

variable (F : ChildFoot R RE E) in
include F in
theorem checkLoop_skip_spec {U : List Con} {Us : List (List Con)} (sv : List Var) : ∀ (l : List Nat) (s : CSt),
    CInv R RE E U Us s →
    match checkLoop E (some sv) l s with
    | (.ok b, s') => CInv R RE E U Us s' ∧ s'.c = s.c ∧ (∀ i, (s'.child i).variables = (s.child i).variables) ∧
        (b = true → ∀ j ∈ l, j ∈ s.c.solverList → (s.child j).variables.any sv.contains = false →
          Satisfiable (Us.getD j [])) ∧
        (b = false → ∃ j ∈ s.c.solverList, ¬ Satisfiable (Us.getD j []))
    | (.error e, s') => IsGiveUp E e ∧ CInv R RE E U Us s' ∧ s'.c = s.c := by
  intro l s h
  exact wp.elim (checkLoop E (some sv) l s) (checkLoop_spec H (some sv) l s h) (fun _ _ h => h) fun _ _ h => h

theorem extraTail_spec {U : List Con} {Us1 Us3 : List (List Con)} {s2 s3 : CSt} {m : Nat} (extra : List Con) (names : List Var)
    (hwf : ∀ c ∈ extra, ConWf c) (hvn : ∀ c ∈ extra, ∀ v ∈ c.vars, v ∈ names)
    (hpost : ReabsorbPost R RE E U Us1 Us3 s2 s3 m)
    (hnm : ∀ v ∈ names, v ∈ (s2.child m).variables ∨ alGet? s2.c.solvers v = none)
    (hsat : Satisfiable (Us1.getD m [] ++ extra)) :
    (extraTail E m).wp (fun b s' => (b = true ↔ Satisfiable (U ++ extra)) ∧ CInv R RE E U Us3 s')
      (fun e s' => IsGiveUp E e ∧ CInv R RE E U Us3 s') s3 := by
  have h3 := hpost.inv
  unfold extraTail
  rw [CM.wp_bind, CM.wp_get, CM.wp_bind]
  refine (orderChildren_spec (E := E) s3.c.unchecked s3).imp ?_ fun _ _ => False.elim
  rintro order _ ⟨hord, _, t, rfl⟩
  rw [CM.wp_bind]
  refine (checkLoop_spec H (some (s3.child m).variables) order _ (h3.set_tick t)).imp ?_ fun e s' g => ⟨g.1, g.2.1⟩
  rintro b s4 ⟨h4, hc4, _, hT, hF⟩
  cases b with
  | false =>
    obtain ⟨j, hjl, hns⟩ := hF rfl
    refine ⟨⟨fun hb => (by cases hb), fun ⟨a, ha⟩ => ?_⟩, h4⟩
    exact (hns ⟨a, (h3.sem hpost.unsat a).mp (models_append.mp ha).1 j hjl⟩).elim
  | true =>
    have hmv := hpost.vars
    obtain ⟨am, ham⟩ := hsat
    obtain ⟨hamU, hamE⟩ := models_append.mp ham
    have hltL : ∀ j ∈ s3.c.solverList, j < s3.w.fes.length := fun _ hj => h3.lt_of_mem hj
    have hall : ∀ j ∈ s3.c.solverList, Satisfiable (Us3.getD j []) := by
      intro j hj
      by_cases hsk : (s3.child j).variables.any (s3.child m).variables.contains = true
      · exact ⟨am, hpost.sem am hamU j hj (by rw [← hmv]; exact hsk)⟩
      · have hsk' : (s3.child j).variables.any (s3.child m).variables.contains = false := by simpa using hsk
        by_cases hu : j ∈ s3.c.unchecked
        · exact hT rfl j ((hord j).mpr hu) hj hsk'
        · exact h3.checked j hj hu
    -- the children that are not skipped, glued onto the model of the merged child and the extras
    have hsatUE : Satisfiable (U ++ extra) := by
      obtain ⟨a, haL, hak⟩ := h3.joint_model H.reg
        (fun j => (s3.child j).variables.any (s3.child m).variables.contains = false) am fun j hj _ => hall j hj
      refine ⟨a, models_append.mpr ⟨(h3.sem hpost.unsat a).mpr fun j hj => ?_, ?_⟩⟩
      · by_cases hsk : (s3.child j).variables.any (s3.child m).variables.contains = true
        · -- skipped: implied by the merged constraints, and `a` agrees with their model on the child's variables
          refine h3.agree H.reg (hltL j hj) (fun v hvj => (hak v fun i hil his hvi => ?_).symm)
            (hpost.sem am hamU j hj (by rw [← hmv]; exact hsk))
          exact h3.disjoint hil hj (fun e => by rw [e, hsk] at his; cases his) v hvi hvj
        · exact haL j hj (by simpa using hsk)
      · -- a name: the merged child knows it, or nobody owns it
        refine models_of_agree hwf (fun v hv => (hak v fun j hjl hjs hvj => ?_).symm) hamE
        obtain ⟨c, hc, hvc⟩ := mem_varsOf_iff.mp hv
        have hvm : v ∉ (s3.child m).variables := any_contains_false.mp hjs v hvj
        have hvj' := h3.owner hjl hvj
        rcases hnm v (hvn c hc v hvc) with hin | hnone
        · exact hvm (by rw [hmv]; exact hin)
        · rw [hpost.keep v (by rw [← hmv]; exact hvm), hnone] at hvj'; cases hvj'
    refine ⟨⟨fun _ => hsatUE, fun _ => rfl⟩, ?_⟩
    exact h4.clear_unchecked (by rw [hc4]; exact hall)

theorem extra_reabsorb_post {U : List Con} {Us Us1 : List (List Con)} {s s1 s2 : CSt} {names : List Var} {m : Nat}
    (h : CInv R RE E U Us s) (hm : Merged R RE E Us Us1 s s1 names m)
    (h2 : CInv R RE E U Us1 s2) (hc2 : s2.c = s.c) (hmv : (s2.child m).variables = (s1.child m).variables)
    (hcv2 : ∀ t, t < s.w.fes.length → (s2.child t).variables = (s.child t).variables)
    (hlt2 : m < s2.w.fes.length) (hun : s.c.unsat = false) (hsat : Satisfiable (Us1.getD m [])) :
    ∃ s3 Us3, reabsorb E m s2 = (.ok (), s3) ∧ ReabsorbPost R RE E U Us1 Us3 s2 s3 m := by
  have hmem : ∀ t, t ∈ s.c.solversFor (s1.child m).variables ↔ t ∈ s.c.solversFor names := by
    intro t
    constructor
    · intro ht
      obtain ⟨v, hv, hvt⟩ := (mem_solversFor _ _ _).mp ht
      obtain ⟨t', ht', hvt'⟩ := hm.sub v hv
      rw [Option.some.inj (hvt.symm.trans (h.owner (h.mem_of_solversFor ht') hvt'))]; exact ht'
    · intro ht
      obtain ⟨n, _, hn⟩ := (mem_solversFor _ _ _).mp ht
      have hnv := (h.map n t hn).2
      exact (mem_solversFor _ _ _).mpr ⟨n, hm.sup t ht n hnv, hn⟩
  have hltN : ∀ t ∈ s.c.solversFor names, t < s.w.fes.length := fun t ht => h.lt_of_mem (h.mem_of_solversFor ht)
  have hkeys2 : ∀ v ∈ (s2.child m).variables, ∃ t, alGet? s2.c.solvers v = some t := by
    intro v hv
    rw [hmv] at hv
    obtain ⟨t, ht, hvt⟩ := hm.sub v hv
    exact ⟨t, by rw [hc2]; exact h.owner (h.mem_of_solversFor ht) hvt⟩
  obtain ⟨am, ham⟩ := hsat
  refine reabsorb_run H h2 hlt2 hkeys2 (by
      intro t ht v hv
      rw [hmv, hc2] at ht
      rw [hmv]
      have ht' := (hmem t).mp ht
      rw [hcv2 t (hltN t ht')] at hv
      exact hm.sup t ht' v hv) (by
      intro a
      rw [hmv, hc2, hm.sem a]
      constructor
      · intro hall t ht
        have ht' := (hmem t).mp ht
        rw [(hm.frame t (hltN t ht')).2]; exact hall t ht'
      · intro hall t ht
        have := hall t ((hmem t).mpr ht)
        rwa [(hm.frame t (hltN t ht)).2] at this) (by
      intro t ht
      rw [hmv, hc2] at ht
      have ht' := (hmem t).mp ht
      rw [(hm.frame t (hltN t ht')).2]
      exact ⟨am, (hm.sem am).mp ham t ht'⟩) (by rw [hc2]; exact hun)

theorem compSatisfiable_extra_spec {U : List Con} {Us : List (List Con)} {s : CSt} (h : CInv R RE E U Us s) (extra : List Con)
    (hne : extra ≠ []) (hwf : ∀ c ∈ extra, ConWf c) :
    (compSatisfiable E extra).wp (fun b s' => (b = true ↔ Satisfiable (U ++ extra)) ∧ ∃ Us', CInv R RE E U Us' s')
      (fun e s' => IsGiveUp E e ∧ ∃ Us', CInv R RE E U Us' s') s := by
  by_cases hun : s.c.unsat = true
  · unfold compSatisfiable
    rw [CM.wp_bind, CM.wp_get, CM.wp_ite, if_pos hun]
    exact ⟨⟨fun hb => (by cases hb), fun ⟨a, ha⟩ => (h.unsatOk hun ⟨a, (models_append.mp ha).1⟩).elim⟩, Us, h⟩
  have hun' : s.c.unsat = false := by simpa using hun
  have hemp : extra.isEmpty = false := by
    cases extra with
    | nil => exact absurd rfl hne
    | cons _ _ => rfl
  unfold CM.wp Solver.wp
  rw [compSatisfiable_extra_eq E extra s hun' hemp]
  show CM.wp _ _ _ s
  generalize hnames : namesFor (extra.map (·.vars)) = names
  have hvn : ∀ c ∈ extra, ∀ v ∈ c.vars, v ∈ names := by
    intro c hc v hv
    rw [← hnames]
    exact (mem_namesFor _ v).mpr ⟨c.vars, List.mem_map.mpr ⟨c, hc, rfl⟩, hv⟩
  obtain ⟨m, Us1, s1, hr, hm⟩ := solverForNames_spec H h names
  rw [CM.wp_bind, CM.wp_ok hr, CM.wp_bind, CM.wp_onChild]
  have hspec := childCheckSat_spec H (G := (· = stOfI s1.w m)) (U := Us1.getD m []) extra (stOfI s1.w m)
    (hm.kids.each m hm.lt).mark
  have hft := (childFoot H).checkSat _ _ extra (stOfI s1.w m) (hm.kids.each m hm.lt)
  have hafter := fun hsi => merged_after h hm (childCheckSat E extra) (tinvS_query hm.kids m hm.lt _ hsi) hft
  rw [runOn_eq] at hafter
  -- everything the user added implies the merged constraints
  have hdown := (merged_equi H h names m hm hun').1
  unfold M.wp Solver.wp at hspec ⊢
  revert hspec hafter
  rcases childCheckSat E extra (stOfI s1.w m) with ⟨e | b, st⟩
  · exact fun hspec hafter => ⟨hspec.1, Us1, (hafter hspec.2.1).1⟩
  intro hspec hafter
  obtain ⟨h2, hlen2, hfv, hcv2⟩ := hafter hspec.2.1
  dsimp only at h2 hlen2 hfv hcv2
  cases b with
  | false =>
    refine ⟨⟨fun hb => (by cases hb), fun ⟨a, ha⟩ => ?_⟩, Us1, h2⟩
    obtain ⟨haU, haE⟩ := models_append.mp ha
    exact Bool.noConfusion (hspec.1.mpr ⟨a, models_append.mpr ⟨hdown a haU, haE⟩⟩)
  | true =>
    have hsatE : Satisfiable (Us1.getD m [] ++ extra) := hspec.1.mp rfl
    have hsatM : Satisfiable (Us1.getD m []) := by
      obtain ⟨a, ha⟩ := hsatE
      exact ⟨a, (models_append.mp ha).1⟩
    obtain ⟨s3, Us3, hrb, hpost⟩ := extra_reabsorb_post H h hm h2 hm.comp hfv hcv2 (by rw [hlen2]; exact hm.lt) hun' hsatM
    show CM.wp _ _ _ _
    rw [CM.wp_ite, if_neg (by decide), CM.wp_bind, CM.wp_ok hrb]
    refine (extraTail_spec H extra names hwf hvn hpost (fun v hv => ?_) hsatE).imp (fun b s' g => ⟨g.1, Us3, g.2⟩)
      fun e s' g => ⟨g.1, Us3, g.2⟩
    cases hg : alGet? s.c.solvers v with
    | none => right; show alGet? s1.c.solvers v = none; rw [hm.comp]; exact hg
    | some t =>
      left
      show v ∈ ((wOfI s1.w m st).fes.getD m {}).variables
      rw [hfv]
      exact hm.sup t ((mem_solversFor _ _ _).mpr ⟨v, hv, hg⟩) v (h.map v t hg).2

theorem compSatisfiable_extra {U : List Con} {Us : List (List Con)} {s : CSt} (h : CInv R RE E U Us s) (extra : List Con)
    (hne : extra ≠ []) (hwf : ∀ c ∈ extra, ConWf c) :
    (compSatisfiable E extra).wp (fun b s' => (b = true ↔ Satisfiable (U ++ extra)) ∧ ∃ Us', CInv R RE E U Us' s')
      (fun e s' => IsGiveUp E e ∧ ∃ Us', CInv R RE E U Us' s') s :=
  compSatisfiable_extra_spec H h extra hne hwf

end

end Claripy.Solver

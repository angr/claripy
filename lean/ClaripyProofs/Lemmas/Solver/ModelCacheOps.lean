import ClaripyProofs.Lemmas.Solver.SolverInv
/-!
ModelCacheMixin, part 2: every operation of the mixin keeps the invariant `SI` (which contains `MCInv`) and answers as
the specification demands, PROVIDED the rest of the MRO below it (`sup`) does — the assumption on `sup` is an `SQ` statement
(SolverInv.lean) of the same form as the conclusion.
-/
namespace Claripy.Solver

variable {R : Con → Prop} {RE : Exp → Prop} {E : Env} {G : St → Prop} {U : List Con}

theorem length_listInsert_le {α : Type} [BEq α] (l : List α) (x : α) : (listInsert l x).length ≤ l.length + 1 := by
  unfold listInsert; split <;> simp

theorem length_listUnion_le {α : Type} [BEq α] (l r : List α) : (listUnion l r).length ≤ l.length + r.length := by
  unfold listUnion
  induction r generalizing l with
  | nil => simp
  | cons x xs ih =>
    simp only [List.foldl_cons, List.length_cons]
    have := ih (listInsert l x)
    have := length_listInsert_le l x
    omega

theorem listUnion_eq_append {α : Type} [BEq α] [LawfulBEq α] (l r : List α) (hd : ∀ x ∈ r, x ∉ l) (hn : r.Nodup) :
    listUnion l r = l ++ r := by
  unfold listUnion
  induction r generalizing l with
  | nil => simp
  | cons x xs ih =>
    rw [List.nodup_cons] at hn
    have hins : listInsert l x = l ++ [x] := by
      unfold listInsert
      simp [hd x (by simp)]
    rw [List.foldl_cons, hins, ih (l ++ [x]) ?_ hn.2, List.append_assoc, List.singleton_append]
    intro y hy hyl
    rcases List.mem_append.mp hyl with h | h
    · exact hd y (List.mem_cons_of_mem _ hy) h
    · exact hn.1 (List.mem_singleton.mp h ▸ hy)

theorem subsetB_iff (l r : List Nat) : subsetB l r = true ↔ ∀ v ∈ l, v ∈ r := by
  simp [subsetB, List.all_eq_true]

/-- meaning of the blocking constraint ModelCacheMixin.batch_eval passes down -/
theorem blockAllCon_sem (asts : List Exp) (results : List (List Nat)) (hl : ∀ r ∈ results, r.length = asts.length)
    (a : Asg) : (blockAllCon asts results).sem a = true ↔ ∀ r ∈ results, asts.map (·.val a) ≠ r := by
  simp only [blockAllCon, List.all_eq_true]
  refine forall₂_congr fun r hr => ?_
  rw [ne_eq, ← notAll_sem asts r a (hl r hr)]
  simp only [List.any_eq_true, decide_eq_true_eq, ne_eq, List.all_eq_true, Classical.not_forall, exists_prop]

theorem models_cons_extra (U : List Con) (b : Con) (extra : List Con) (a : Asg) :
    Models (U ++ b :: extra) a ↔ Models (U ++ extra) a ∧ b.sem a = true := by
  rw [models_append, models_append]
  simp only [Models, List.mem_cons, forall_eq_or_imp]
  constructor
  · rintro ⟨h1, h2, h3⟩; exact ⟨⟨h1, h3⟩, h2⟩
  · rintro ⟨⟨h1, h3⟩, h2⟩; exact ⟨h1, h2, h3⟩

/-- the flagging loop at the end of `batch_eval` -/
def flagEval (asts : List Exp) (fe : Frontend) : Frontend :=
  asts.foldl (fun fe e => if subsetB e.vars fe.variables then { fe with evalExh := listInsert fe.evalExh e.id } else fe) fe

/-- the loop only adds to `_eval_exhausted`, and what it adds does not depend on what it has added -/
theorem flagEval_eq (asts : List Exp) (fe : Frontend) :
    flagEval asts fe =
      { fe with evalExh := listUnion fe.evalExh ((asts.filter fun e => subsetB e.vars fe.variables).map (·.id)) } := by
  unfold flagEval listUnion
  induction asts generalizing fe with
  | nil => rfl
  | cons e es ih =>
    rw [List.foldl_cons, List.filter_cons]
    split
    · exact ih _
    · exact ih fe

/-- flagging the expressions of a COMPLETE answer all of whose tuples are cached keeps the cache invariant -/
theorem mcInv_flagEval (hRE : ExpReg RE) {fe : Frontend} (h : MCInv RE E U fe) (asts : List Exp) (hre : ∀ e ∈ asts, RE e)
    (ts : List (List Nat)) (hcomp : ∀ t, FeasibleT U asts t → t ∈ ts) (hc : CachedAll RE E fe asts ts) :
    MCInv RE E U (flagEval asts fe) := by
  rw [flagEval_eq]
  refine ⟨h.valid, fun e' he' hi => ?_, h.optW⟩
  rcases (mem_listUnion _ _ _).mp hi with hold | hnew
  · exact h.evalExhW e' he' hold
  · obtain ⟨e, hef, hid⟩ := List.mem_map.mp hnew
    obtain ⟨hein, hsub⟩ := List.mem_filter.mp hef
    refine Or.inr fun v ⟨a, ha, hv⟩ => ?_
    obtain ⟨_, hval⟩ := hRE.faithful e e' (hre e hein) he' hid
    obtain ⟨a', hta', hag⟩ := hc _ (hcomp (asts.map (·.val a)) ⟨a, ha, rfl⟩)
    obtain ⟨m, hm, hme⟩ := hag e hein (hre e hein) ((subsetB_iff _ _).mp hsub)
    refine ⟨m, hm, ?_⟩
    have h1 : e.val a = e.val a' := List.map_inj_left.mp hta' _ hein
    rw [← hv, ← hval, hme, ← h1, hval]

/-- the end of `batch_eval`: join what the cache and what the solver gave, flag when the answer is complete -/
theorem mcBatchFinish (hRE : ExpReg RE) (asts : List Exp) (hre : ∀ e ∈ asts, RE e) (n : Nat) (extra : List Con)
    (results more : List (List Nat)) {s s2 : St} (hk2 : Keep U s s2) (h : SI R RE E G U s2)
    (hrn : results.Nodup) (hrf : ∀ t ∈ results, FeasibleT (U ++ extra) asts t) (hrc : CachedAll RE E s2.fe asts results)
    (hlen : results.length < n)
    (hmn : more.Nodup) (hmf : ∀ t ∈ more, FeasibleT (U ++ extra) asts t ∧ t ∉ results)
    (hml : more.length ≤ n - results.length) (hmc : CachedAll RE E s2.fe asts more)
    (hcomp : ∀ t, FeasibleT (U ++ extra) asts t → t ∈ results ∨ t ∈ more ∨ more.length = n - results.length)
    (hne : results ≠ [] ∨ more ≠ []) :
    (do
        if extra.isEmpty && (listUnion results more).length < n then M.modifyFe fun fe => flagEval asts fe
        pure (listUnion results more) : M (List (List Nat))).wp
      (fun ts s' => BatchGood RE E (U ++ extra) asts n ts s s' ∧ SI R RE E G U s' ∧ Keep U s s')
      (fun e s' => ErrOk E (U ++ extra) e ∧ SI R RE E G U s' ∧ Keep U s s') s2 := by
  have hlenU : (listUnion results more).length = results.length + more.length := by
    rw [listUnion_eq_append results more (fun t ht => (hmf t ht).2) hmn, List.length_append]
  have hmemU : ∀ t, t ∈ listUnion results more ↔ t ∈ results ∨ t ∈ more := mem_listUnion results more
  have hok : TuplesOk (U ++ extra) asts n (listUnion results more) := by
    refine ⟨fun t ht => ?_, nodup_listUnion _ _ hrn, by omega, fun t ht => ?_⟩
    · rcases (hmemU t).mp ht with ht | ht
      · exact hrf t ht
      · exact (hmf t ht).1
    · rcases hcomp t ht with h1 | h1 | h1
      · exact Or.inl ((hmemU t).mpr (Or.inl h1))
      · exact Or.inl ((hmemU t).mpr (Or.inr h1))
      · right; omega
  have hnonempty : listUnion results more ≠ [] := by
    intro hnil
    have hl : (listUnion results more).length = 0 := by rw [hnil]; rfl
    rcases hne with h1 | h1
    · exact h1 (List.length_eq_zero_iff.mp (by omega))
    · exact h1 (List.length_eq_zero_iff.mp (by omega))
  have hcached : CachedAll RE E s2.fe asts (listUnion results more) := by
    intro t ht
    rcases (hmemU t).mp ht with ht | ht
    · exact hrc t ht
    · exact hmc t ht
  simp only [M.wp_bind, M.wp_ite, M.wp_modifyFe, Bool.and_eq_true, List.isEmpty_iff, decide_eq_true_eq]
  split
  · next hflag =>
    obtain ⟨hex, hlt⟩ := hflag
    subst hex
    have hcomplete : ∀ t, FeasibleT U asts t → t ∈ listUnion results more := fun t ht =>
      (hok.2.2.2 t (by simpa using ht)).resolve_right (by omega)
    obtain ⟨hsi, hk⟩ := h.set_flags (fe' := flagEval asts s2.fe) (by rw [flagEval_eq]; rfl)
      (mcInv_flagEval hRE h.mc asts hre _ hcomplete hcached)
    refine ⟨⟨hok, hnonempty, ?_⟩, hsi, hk2.trans hk⟩
    rw [flagEval_eq]
    exact hcached
  · exact ⟨⟨hok, hnonempty, hcached⟩, h, hk2⟩

theorem satisfiable_of_feasibleT {cs : List Con} {asts : List Exp} {t : List Nat} (h : FeasibleT cs asts t) :
    Satisfiable cs := by obtain ⟨a, ha, _⟩ := h; exact ⟨a, ha⟩

/-- the slow path of `batch_eval` as a function of what the cache gave (`results`) -/
def mcBatchSlow (sup : Ops) (asts : List Exp) (n : Nat) (extra : List Con) (results : List (List Nat)) :
    M (List (List Nat)) := do
  let remaining := n - results.length
  let constraints := if !results.isEmpty then blockAllCon asts results :: extra else extra
  let more ← M.tryCatch (sup.batchEval asts remaining constraints) (· == .unsat)
    (if results.isEmpty then M.throw .unsat else pure [])
  let results := listUnion results more
  if extra.isEmpty && results.length < n then
    M.modifyFe fun fe => flagEval asts fe
  pure results

theorem mcBatchSlow_spec (hRE : ExpReg RE) {sup : Ops} (asts : List Exp) (hre : ∀ e ∈ asts, RE e) (n : Nat) (extra : List Con)
    (hsup : ∀ n' extra', 1 ≤ n' →
      SQ R RE E G U (BatchGood RE E (U ++ extra') asts n') (ErrOk E (U ++ extra')) (sup.batchEval asts n' extra'))
    {s0 s : St} (hk : Keep U s0 s) (h : SI R RE E G U s) (results : List (List Nat))
    (hsub : ∀ t ∈ results, t ∈ allBatchSolutions E s.fe asts extra true) (hnd : results.Nodup) (hlen : results.length < n) :
    (mcBatchSlow sup asts n extra results).wp
      (fun ts s' => BatchGood RE E (U ++ extra) asts n ts s0 s' ∧ SI R RE E G U s' ∧ Keep U s0 s')
      (fun e s' => ErrOk E (U ++ extra) e ∧ SI R RE E G U s' ∧ Keep U s0 s') s := by
  have hrf : ∀ t ∈ results, FeasibleT (U ++ extra) asts t := fun t ht => cachedT_feasible h.mc asts extra t (hsub t ht)
  have hrl : ∀ r ∈ results, r.length = asts.length := by
    intro r hr
    obtain ⟨m, _, _, rfl⟩ := (mem_allBatchSolutions E s.fe asts extra r).mp (hsub r hr)
    simp
  have hrc : ∀ s2 : St, Keep U s s2 → CachedAll RE E s2.fe asts results := by
    intro s2 hk t ht
    obtain ⟨m, hm, _, rfl⟩ := (mem_allBatchSolutions E s.fe asts extra t).mp (hsub t ht)
    exact ⟨m.complete E.dflt, rfl, fun _ _ _ _ => ⟨m, hk.models ⟨_, h.mc.valid m hm⟩ m hm, rfl⟩⟩
  have hcons : ∀ a, Models (U ++ (if (!results.isEmpty) = true then blockAllCon asts results :: extra else extra)) a ↔
      Models (U ++ extra) a ∧ ∀ r ∈ results, asts.map (·.val a) ≠ r := by
    intro a
    by_cases hemp : results.isEmpty = true
    · have : results = [] := by simpa using hemp
      subst this; simp
    · simp only [hemp, Bool.not_false, ↓reduceIte]
      rw [models_cons_extra, blockAllCon_sem asts results hrl a]
  have hdown : ∀ t, FeasibleT (U ++ extra) asts t → t ∉ results →
      FeasibleT (U ++ (if (!results.isEmpty) = true then blockAllCon asts results :: extra else extra)) asts t :=
    fun t ⟨a, ha, hta⟩ hin => ⟨a, (hcons a).mpr ⟨ha, fun r hr heq => hin (by rw [← hta, heq]; exact hr)⟩, hta⟩
  have hspec := hsup (n - results.length)
    (if (!results.isEmpty) = true then blockAllCon asts results :: extra else extra) (by omega) s h
  unfold mcBatchSlow
  rw [M.wp_bind, M.wp_tryCatch]
  refine hspec.imp (fun more s2 ⟨⟨⟨hmf, hmn, hml, hmcomp⟩, hmne, hmc⟩, hsi2, hk2⟩ => ?_) fun err s2 ⟨herr, hsi2, hk2⟩ => ?_
  · -- the layers below found `more`
    refine mcBatchFinish hRE asts hre n extra results more (hk.trans hk2) hsi2 hnd hrf (hrc s2 hk2) hlen hmn ?_ hml hmc ?_ ?_
    · intro t ht
      obtain ⟨a, ha, hta⟩ := hmf t ht
      obtain ⟨h1, h2⟩ := (hcons a).mp ha
      exact ⟨⟨a, h1, hta⟩, fun hin => h2 t hin hta⟩
    · intro t ht
      by_cases hin : t ∈ results
      · exact Or.inl hin
      · exact Or.inr (hmcomp t (hdown t ht hin))
    · by_cases hemp : results = []
      · exact Or.inr hmne
      · exact Or.inl hemp
  · split
    · next hun =>
      have herr' : err = .unsat := by simpa using hun
      subst herr'
      have hnsat := errOk_unsat herr
      rw [M.wp_ite]
      split
      · next hemp =>
        -- nothing cached and nothing found: unsatisfiable
        have : results = [] := by simpa using hemp
        subst this
        exact ⟨Or.inl ⟨rfl, by simpa using hnsat⟩, hsi2, hk.trans hk2⟩
      · next hemp =>
        -- the cached tuples are all there is
        refine mcBatchFinish hRE asts hre n extra results [] (hk.trans hk2) hsi2 hnd hrf (hrc s2 hk2) hlen List.nodup_nil
          (by simp) (by simp) (by intro t ht; simp at ht) ?_ (Or.inl (by simpa using hemp))
        intro t ht
        by_cases hin : t ∈ results
        · exact Or.inl hin
        · exact absurd (satisfiable_of_feasibleT (hdown t ht hin)) hnsat
    · next hun =>
      -- the backend gave up
      refine ⟨?_, hsi2, hk.trans hk2⟩
      rcases herr with ⟨he, _⟩ | hg
      · subst he
        simp at hun
      · exact Or.inr hg

theorem mc_batchEval_spec (hP : PickOk E) (hRE : ExpReg RE) {sup : Ops} (asts : List Exp) (hre : ∀ e ∈ asts, RE e)
    (n : Nat) (hn : 1 ≤ n) (extra : List Con)
    (hsup : ∀ n' extra', 1 ≤ n' →
      SQ R RE E G U (BatchGood RE E (U ++ extra') asts n') (ErrOk E (U ++ extra')) (sup.batchEval asts n' extra')) :
    SQ R RE E G U (BatchGood RE E (U ++ extra) asts n) (ErrOk E (U ++ extra)) (modelCacheBatchEval E sup asts n extra) := by
  intro s h
  obtain ⟨chosen, hrun, hsub, hlen, hnd, hall⟩ := getBatchSolutions_spec hP asts n extra s
  have h1 : SI R RE E G U { s with tick := s.tick + 1 } := h.set_tick _
  have hk1 : Keep U s { s with tick := s.tick + 1 } := Keep.of_fe rfl rfl
  unfold modelCacheBatchEval
  rw [M.wp_bind, M.wp_ok hrun, M.wp_bind, M.wp_getFe]
  dsimp only
  rw [M.wp_ite]
  by_cases hfast : (chosen.length == n || (!chosen.isEmpty && extra.isEmpty && exhaustedOne s.fe asts)) = true
  · -- answered from the cache
    refine (if_pos hfast).mpr ?_
    have hhit := (batchHit_iff s.fe asts n extra chosen).mp hfast
    have hne : chosen ≠ [] := by
      rcases hhit with hl | ⟨hne, _⟩
      · exact List.ne_nil_of_length_pos (by omega)
      · exact hne
    refine ⟨⟨cached_tuplesOk h.mc asts hre n extra chosen hhit hsub hlen hnd hall, hne, fun t ht => ?_⟩, h1, hk1⟩
    obtain ⟨m, hm, _, rfl⟩ := (mem_allBatchSolutions E s.fe asts extra t).mp (hsub t ht)
    exact ⟨m.complete E.dflt, rfl, fun _ _ _ _ => ⟨m, hm, rfl⟩⟩
  · -- the cache does not settle it
    refine (if_neg hfast).mpr ?_
    have hlt : chosen.length < n := by
      have : chosen.length ≠ n := fun heq => hfast (by simp [heq])
      omega
    exact mcBatchSlow_spec hRE asts hre n extra hsup hk1 h1 chosen hsub hnd hlt

/-- **ModelCacheMixin.eval** (`batch_eval` of one expression) -/
theorem mc_eval_spec (hP : PickOk E) (hRE : ExpReg RE) {self sup : Ops} (e : Exp) (he : RE e) (hc : e.conc = none)
    (n : Nat) (hn : 1 ≤ n) (extra : List Con)
    (hsup : ∀ n' extra', 1 ≤ n' →
      SQ R RE E G U (BatchGood RE E (U ++ extra') [e] n') (ErrOk E (U ++ extra')) (sup.batchEval [e] n' extra')) :
    SQ R RE E G U (EvalGood E (U ++ extra) e n) (ErrOk E (U ++ extra)) ((modelCacheLayer E self sup).eval e n extra) := by
  intro s h
  dsimp only [modelCacheLayer]
  rw [M.wp_bind]
  refine (mc_batchEval_spec hP hRE [e] (by simpa using he) n hn extra hsup s h).imp
    (fun ts s2 ⟨⟨hok, hne, hca⟩, hsi, hk⟩ => ⟨⟨evalOk_of_tuples hc hok, by simpa using hne, ?_⟩, hsi, hk⟩) fun _ _ h => h
  intro hvars v hv
  obtain ⟨t, ht, rfl⟩ := List.mem_map.mp hv
  obtain ⟨a, rfl, hag⟩ := hca t ht
  obtain ⟨m, hm, hme⟩ := hag e (by simp) he hvars
  exact ⟨m, hm, by simpa using hme⟩

/-- `self._max_exhausted[e.hash()] = e` etc. -/
def flagOpt (isMax signed : Bool) (eid : Nat) (fe : Frontend) : Frontend :=
  if isMax then (if signed then { fe with maxSExh := listInsert fe.maxSExh eid }
                 else { fe with maxExh := listInsert fe.maxExh eid })
  else (if signed then { fe with minSExh := listInsert fe.minSExh eid }
        else { fe with minExh := listInsert fe.minExh eid })

theorem flagOpt_spec (isMax signed : Bool) (eid : Nat) (fe : Frontend) :
    flagOpt isMax signed eid fe = { fe with maxExh := (flagOpt isMax signed eid fe).maxExh,
                                            minExh := (flagOpt isMax signed eid fe).minExh,
                                            maxSExh := (flagOpt isMax signed eid fe).maxSExh,
                                            minSExh := (flagOpt isMax signed eid fe).minSExh } ∧
    ∀ im sg i, i ∈ optFlags im sg (flagOpt isMax signed eid fe) ↔
      i ∈ optFlags im sg fe ∨ (im = isMax ∧ sg = signed ∧ i = eid) := by
  constructor
  · cases isMax <;> cases signed <;> rfl
  · intro im sg i
    cases isMax <;> cases signed <;> cases im <;> cases sg <;> simp [flagOpt, optFlags, mem_listInsert]

/-- flagging an expression whose optimum is cached keeps the cache invariant -/
theorem mcInv_flagOpt (hRE : ExpReg RE) {fe : Frontend} (h : MCInv RE E U fe) (isMax signed : Bool) (e : Exp) (he : RE e)
    (i : Int) (hopt : IsOpt isMax signed U e i) (hc : ∃ m ∈ fe.models, e.val (m.complete E.dflt) = wrap e.bits i) :
    MCInv RE E U (flagOpt isMax signed e.id fe) := by
  obtain ⟨hf, hmem⟩ := flagOpt_spec isMax signed e.id fe
  rw [hf]
  refine ⟨h.valid, h.evalExhW, fun im sg e' he' hi => ?_⟩
  rcases (hmem im sg e'.id).mp hi with hold | ⟨rfl, rfl, hid⟩
  · exact h.optW im sg e' he' hold
  · refine Or.inr fun v ⟨a, ha, hva⟩ => ?_
    obtain ⟨hbits, hval⟩ := hRE.faithful e' e he' he hid
    obtain ⟨m, hm, hmv⟩ := hc
    refine ⟨m, hm, ?_⟩
    rw [hval, hmv, hbits]
    exact hopt.2 v ⟨a, ha, by rw [← hval]; exact hva⟩

theorem mc_extremum_spec (hRE : ExpReg RE) {sup : Ops} (isMax : Bool) (e : Exp) (he : RE e) (extra : List Con)
    (signed : Bool)
    (hsup : SQ R RE E G U (OptGood E isMax signed (U ++ extra) e) (ErrOk E (U ++ extra))
      (if isMax then sup.max e extra signed else sup.min e extra signed)) :
    SQ R RE E G U (OptGood E isMax signed (U ++ extra) e) (ErrOk E (U ++ extra))
      (modelCacheExtremum E sup isMax e extra signed) := by
  intro s h
  simp only [modelCacheExtremum, M.wp_bind, M.wp_getFe, ← optFlags.eq_1]
  generalize hpick : pickBy _ _ _ = p
  cases p with
  | some v =>
    -- from the cache
    by_cases hcond : (extra.isEmpty && (s.fe.evalExh.contains e.id || (optFlags isMax signed s.fe).contains e.id)) = true
    · rw [if_pos hcond] at hpick
      simp only [Bool.and_eq_true, Bool.or_eq_true, List.contains_eq_mem, decide_eq_true_eq, List.isEmpty_iff] at hcond
      obtain ⟨hex, hflag⟩ := hcond
      subst hex
      obtain ⟨hopt, hm⟩ := cached_opt hRE h.mc isMax signed e he hflag v hpick
      exact ⟨⟨by simpa using hopt, fun _ => hm⟩, h, Keep.refl U s⟩
    · rw [if_neg hcond] at hpick
      cases hpick
  | none =>
    -- ask the layers below, then flag
    dsimp only
    rw [M.ite_bind, M.wp_bind]
    refine (hsup s h).imp (fun i s2 ⟨hg, hsi2, hk2⟩ => ?_) fun _ _ h => h
    simp only [M.wp_bind, M.wp_ite, M.wp_modifyFe, Bool.and_eq_true, List.isEmpty_iff]
    split
    · next hcache =>
      obtain ⟨hex, hsubv⟩ := hcache
      subst hex
      have hvars := (subsetB_iff _ _).mp hsubv
      obtain ⟨hf, _⟩ := flagOpt_spec isMax signed e.id s2.fe
      obtain ⟨hsi, hk⟩ := hsi2.set_flags (fe' := flagOpt isMax signed e.id s2.fe) (by rw [hf]; rfl)
        (mcInv_flagOpt hRE hsi2.mc isMax signed e he i (by simpa using hg.1) (hg.2 hvars))
      have hmod : (flagOpt isMax signed e.id s2.fe).models = s2.fe.models := by rw [hf]
      exact ⟨⟨hg.1, fun hv => (hg.2 hv).imp fun m hm => ⟨(hmod ▸ hm.1 : m ∈ (flagOpt isMax signed e.id s2.fe).models), hm.2⟩⟩, hsi, hk2.trans hk⟩
    · exact ⟨hg, hsi2, hk2⟩

theorem mc_satisfiable_spec {self sup : Ops} (extra : List Con)
    (hsup : SQ R RE E G U (SatGood (U ++ extra)) (IsGiveUp E) (sup.satisfiable extra)) :
    SQ R RE E G U (SatGood (U ++ extra)) (IsGiveUp E)
      ((modelCacheLayer E self sup).satisfiable extra) := by
  intro s h
  dsimp only [modelCacheLayer]
  simp only [M.wp_bind, M.wp_getFe, M.wp_ite, Bool.not_eq_eq_eq_not, Bool.not_true]
  split
  · next hne => exact ⟨(iff_true_left rfl).mpr (cached_satisfiable h.mc extra hne), h, Keep.refl U s⟩
  · exact hsup s h

theorem mc_solution_spec {self sup : Ops} (e : Exp) (v : Nat) (extra : List Con)
    (hsup : SQ R RE E G U (SolGood (U ++ extra) e v) (ErrOk E (U ++ extra)) (sup.solution e v extra)) :
    SQ R RE E G U (SolGood (U ++ extra) e v) (ErrOk E (U ++ extra))
      ((modelCacheLayer E self sup).solution e v extra) := by
  intro s h
  dsimp only [modelCacheLayer]
  simp only [M.wp_bind, M.wp_getFe, M.wp_ite]
  split
  · next hin => exact ⟨(iff_true_left rfl).mpr (cached_feasible h.mc e extra v hin), h, Keep.refl U s⟩
  · exact hsup s h

end Claripy.Solver

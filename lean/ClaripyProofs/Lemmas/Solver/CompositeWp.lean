import Claripy.Solver.Composite
import ClaripyProofs.Lemmas.Solver.Tree
/-!
The rules of the program logic `wp` (Wp.lean) for the monad `CM` of the composite: one per constructor, `onChild` (a method of a
child, specified in the child's own monad `M`, read in the world of children) and `forM` with a loop invariant.
-/
namespace Claripy.Solver

abbrev CM.wp {α : Type} (m : CM α) (Q : α → CSt → Prop) (X : Err → CSt → Prop) (s : CSt) : Prop := Solver.wp m Q X s

namespace CM
variable {α β : Type} {Q : α → CSt → Prop} {X : Err → CSt → Prop} {s : CSt}

@[simp] theorem wp_pure (a : α) : (Pure.pure a : CM α).wp Q X s ↔ Q a s := Iff.rfl
@[simp] theorem wp_throw (e : Err) : (CM.throw e : CM α).wp Q X s ↔ X e s := Iff.rfl
@[simp] theorem wp_get {Q : CSt → CSt → Prop} : CM.get.wp Q X s ↔ Q s s := Iff.rfl
@[simp] theorem wp_modifyC {Q : Unit → CSt → Prop} (f : Comp → Comp) : (CM.modifyC f).wp Q X s ↔ Q () { s with c := f s.c } :=
  Iff.rfl

@[simp] theorem wp_bind (m : CM α) (f : α → CM β) {Q : β → CSt → Prop} :
    (m >>= f).wp Q X s ↔ m.wp (fun a s' => (f a).wp Q X s') X s := by
  show Solver.wp (CM.bind m f) Q X s ↔ _
  unfold CM.wp Solver.wp CM.bind
  rcases m s with ⟨_ | _, s'⟩ <;> exact Iff.rfl

/-- (`rw` needs the rule at the type `CM α`) -/
theorem wp_ok {m : CM α} {a : α} {s' : CSt} (h : m s = (.ok a, s')) : m.wp Q X s ↔ Q a s' := Solver.wp_ok h

/-- (`CM` is not reducible: `simp` needs the rule at the type `CM α`) -/
@[simp] theorem wp_ite (c : Prop) [Decidable c] (t e : CM α) :
    (if c then t else e).wp Q X s ↔ if c then t.wp Q X s else e.wp Q X s := Solver.wp_ite c t e

@[simp] theorem wp_onChild (j : Nat) (m : M α) :
    (CM.onChild j m).wp Q X s ↔
      m.wp (fun a st => Q a { s with w := wOfI s.w j st }) (fun e st => X e { s with w := wOfI s.w j st }) (stOfI s.w j) := by
  unfold CM.wp M.wp Solver.wp CM.onChild
  rw [runOn_eq]
  rcases m (stOfI s.w j) with ⟨_ | _, _⟩ <;> exact Iff.rfl

theorem wp_forM {γ : Type} {P : CSt → Prop} (f : γ → CM Unit) :
    ∀ (l : List γ) (s : CSt), P s → (∀ p ∈ l, ∀ s, P s → (f p).wp (fun _ => P) X s) → (l.forM f).wp (fun _ => P) X s
  | [], _, hp, _ => hp
  | p :: rest, s, hp, hf =>
    (wp_bind (f p) fun _ => rest.forM f).mpr <| (hf p List.mem_cons_self s hp).imp
      (fun _ s1 hp1 => wp_forM f rest s1 hp1 fun p' hp' => hf p' (List.mem_cons_of_mem _ hp')) fun _ _ => id

end CM
end Claripy.Solver

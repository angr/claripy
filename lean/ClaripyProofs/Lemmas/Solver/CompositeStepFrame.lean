import ClaripyProofs.Lemmas.Solver.CompositeBranch
/-!
**The footprint of the calls of a composite** (`StepFrame`, `CompFrames` of CompositeBranch.lean), invariant-free: `SF s0 Q m s` is
the specification "on every exit `StepFrame s0 ·`, and `Q` for a result" in the program logic, `sf_bind` its rule of sequence.
`StepFrame s0 ·` is kept by every primitive of the composite layer (`_solver_for_names` with `combine`, `_claim`, the child's `add`
on a CLAIMED record, `_store_child`, the oracle for set orders, `blank_copy`); of the child class it uses only that its QUERY methods
keep `constraints` and `variables` of the record they run on (`childKeeps`, a statement about class SolverCompositeChild alone).
-/
namespace Claripy.Solver

variable {E : Env}

/-- a record the composite may write: it owned it at the start of the call, or it is a new record -/
def Mine (s0 : CSt) (j : Nat) : Prop := j ∈ s0.c.owned ∨ s0.w.fes.length ≤ j

/-- a record `_solvers` may point to: it did at the start of the call, or it is a new record -/
def Good (s0 : CSt) (j : Nat) : Prop := j ∈ s0.c.solverList ∨ s0.w.fes.length ≤ j

theorem StepFrame.step {s0 s s' : CSt} (h : StepFrame s0 s)
    (hlen : s.w.fes.length ≤ s'.w.fes.length)
    (hch : ∀ k, k < s0.w.fes.length → k ∉ s0.c.owned →
      (s'.child k).constraints = (s.child k).constraints ∧ (s'.child k).variables = (s.child k).variables)
    (hown : ∀ k ∈ s'.c.owned, k ∈ s.c.owned ∨ (s0.w.fes.length ≤ k ∧ k < s'.w.fes.length))
    (hsl : ∀ k ∈ s'.c.solverList, k ∈ s.c.solverList ∨ Good s0 k) : StepFrame s0 s' := by
  obtain ⟨a, b, c, d⟩ := h
  refine ⟨Nat.le_trans a hlen, ?_, ?_, ?_⟩
  · intro k hk hko
    obtain ⟨x, y⟩ := hch k hk hko
    obtain ⟨x', y'⟩ := b k hk hko
    exact ⟨x.trans x', y.trans y'⟩
  · intro k hk
    rcases hown k hk with h1 | h1
    · rcases c k h1 with h2 | h2
      · exact Or.inl h2
      · exact Or.inr ⟨h2.1, Nat.lt_of_lt_of_le h2.2 hlen⟩
    · exact Or.inr h1
  · intro k hk
    rcases hsl k hk with h1 | h1
    · exact d k h1
    · exact h1

theorem StepFrame.world {s0 s : CSt} (h : StepFrame s0 s) (w' : World) (hlen : s.w.fes.length ≤ w'.fes.length)
    (hch : ∀ k, k < s0.w.fes.length → k ∉ s0.c.owned →
      (w'.fes.getD k {}).constraints = (s.w.fes.getD k {}).constraints ∧ (w'.fes.getD k {}).variables = (s.w.fes.getD k {}).variables) :
    StepFrame s0 { s with w := w' } :=
  h.step hlen hch (fun _ hk => Or.inl hk) (fun _ hk => Or.inl hk)

theorem StepFrame.world_old {s0 s : CSt} (h : StepFrame s0 s) (w' : World) (hlen : s.w.fes.length ≤ w'.fes.length)
    (hch : ∀ i, i < s.w.fes.length → w'.fes.getD i {} = s.w.fes.getD i {}) : StepFrame s0 { s with w := w' } :=
  h.world w' hlen (fun k hk _ => by rw [hch k (Nat.lt_of_lt_of_le hk h.1)]; exact ⟨rfl, rfl⟩)

theorem StepFrame.comp {s0 s : CSt} (h : StepFrame s0 s) (c' : Comp) (ho : c'.owned = s.c.owned) (hs : c'.solvers = s.c.solvers) :
    StepFrame s0 { s with c := c' } :=
  h.step (Nat.le_refl _) (fun _ _ _ => ⟨rfl, rfl⟩) (fun k hk => Or.inl (by rw [← ho]; exact hk))
    (fun k hk => Or.inl (by rw [← solverList_congr hs]; exact hk))

theorem StepFrame.mine_of_owned {s0 s : CSt} (h : StepFrame s0 s) {j : Nat} (hj : j ∈ s.c.owned) : Mine s0 j := by
  rcases h.2.2.1 j hj with h1 | h1
  · exact Or.inl h1
  · exact Or.inr h1.1

theorem StepFrame.good_of_mem {s0 s : CSt} (h : StepFrame s0 s) {j : Nat} (hj : j ∈ s.c.solverList) : Good s0 j := h.2.2.2 j hj

structure SF (s0 : CSt) {α : Type} (Q : α → CSt → Prop) (m : CM α) (s : CSt) : Prop where
  wp : m.wp (fun a s' => StepFrame s0 s' ∧ Q a s') (fun _ s' => StepFrame s0 s') s

theorem SF.intro {α : Type} {s0 s : CSt} {Q : α → CSt → Prop} {m : CM α} (h1 : StepFrame s0 (m s).2)
    (h2 : ∀ a, (m s).1 = .ok a → Q a (m s).2) : SF s0 Q m s := by
  refine ⟨?_⟩
  unfold CM.wp Solver.wp
  revert h1 h2
  rcases m s with ⟨_ | a, s'⟩
  · exact fun h1 _ => h1
  · exact fun h1 h2 => ⟨h1, h2 a rfl⟩

theorem SF.frame {α : Type} {s0 s : CSt} {Q : α → CSt → Prop} {m : CM α} (h : SF s0 Q m s) : StepFrame s0 (m s).2 :=
  (wp.fst_snd (A := fun _ => True) (h.wp.imp (fun _ _ g => ⟨trivial, g.1⟩) fun _ _ g => ⟨trivial, g⟩)).2

theorem SF.outOfC {α : Type} {s0 s : CSt} {Q : α → CSt → Prop} {m : CM α} (h : SF s0 Q m s) (f : α → Out) :
    StepFrame s0 (outOfC f (m s)).2 := by
  rw [outOfC_snd]; exact h.frame

theorem sf_bind {α β : Type} {s0 : CSt} {m : CM α} {f : α → CM β} {s : CSt} {Q1 : α → CSt → Prop} {Q : β → CSt → Prop}
    (h1 : SF s0 Q1 m s) (h2 : ∀ a s1, StepFrame s0 s1 → Q1 a s1 → SF s0 Q (f a) s1) : SF s0 Q (m >>= f) s :=
  ⟨(CM.wp_bind m f).mpr (h1.wp.imp (fun a s1 g => (h2 a s1 g.1 g.2).wp) fun _ _ => id)⟩

theorem SF.mono {α : Type} {s0 s : CSt} {Q Q' : α → CSt → Prop} {m : CM α} (h : SF s0 Q m s)
    (hq : ∀ a s, StepFrame s0 s → Q a s → Q' a s) : SF s0 Q' m s :=
  ⟨h.wp.imp (fun a s1 g => ⟨g.1, hq a s1 g.1 g.2⟩) fun _ _ => id⟩

theorem sf_get {s0 s : CSt} (h : StepFrame s0 s) : SF s0 (fun a s1 => a = s ∧ s1 = s) CM.get s := ⟨⟨h, rfl, rfl⟩⟩

theorem sf_pure {α : Type} {s0 s : CSt} (h : StepFrame s0 s) (a : α) : SF s0 (fun b s1 => b = a ∧ s1 = s) (pure a : CM α) s :=
  ⟨⟨h, rfl, rfl⟩⟩

theorem sf_throw {α : Type} {s0 s : CSt} (h : StepFrame s0 s) (e : Err) (Q : α → CSt → Prop) : SF s0 Q (CM.throw e : CM α) s :=
  ⟨h⟩

theorem sf_modifyC {s0 s : CSt} (h : StepFrame s0 s) (f : Comp → Comp) (ho : (f s.c).owned = s.c.owned)
    (hs : (f s.c).solvers = s.c.solvers) : SF s0 (fun _ s1 => s1 = { s with c := f s.c }) (CM.modifyC f) s :=
  ⟨⟨h.comp _ ho hs, rfl⟩⟩

theorem sf_onChild_keeps {α : Type} {s0 s : CSt} (h : StepFrame s0 s) (j : Nat) (m : M α) (hm : KeepsCV m) :
    SF s0 (fun _ s1 => s1.c = s.c ∧ s1.w.fes.length = s.w.fes.length) (CM.onChild j m) s := by
  refine SF.intro ?_ fun _ _ => ⟨rfl, runOn_fes_length _ _ _⟩
  exact h.world _ (Nat.le_of_eq (runOn_fes_length _ _ _).symm) (fun k _ _ => set_cv s.w.fes j _ (hm (stOfI s.w j)) k)

theorem sf_onChild_mine {α : Type} {s0 s : CSt} (h : StepFrame s0 s) (j : Nat) (m : M α) (hj : Mine s0 j) :
    SF s0 (fun _ s1 => s1.c = s.c ∧ s1.w.fes.length = s.w.fes.length) (CM.onChild j m) s := by
  refine SF.intro ?_ fun _ _ => ⟨rfl, runOn_fes_length _ _ _⟩
  refine h.world _ (Nat.le_of_eq (runOn_fes_length _ _ _).symm) (fun k hk hko => ?_)
  have hkj : k ≠ j := by
    rintro rfl
    rcases hj with h1 | h1
    · exact hko h1
    · omega
  rw [runOn_getD_ne _ _ _ _ hkj]; exact ⟨rfl, rfl⟩

theorem sf_orderOracle {α : Type} [BEq α] [LawfulBEq α] {s0 s : CSt} (h : StepFrame s0 s) (mt : α → List Nat → Bool)
    (keys : List (List Nat)) (l : List α) :
    SF s0 (fun r s1 => (∀ x, x ∈ r ↔ x ∈ l) ∧ s1.c = s.c ∧ s1.w.fes = s.w.fes) (orderOracle E mt keys l) s := by
  exact ⟨⟨h.world _ (Nat.le_refl _) (fun _ _ _ => ⟨rfl, rfl⟩), mem_reorderBy _ _ _, rfl, rfl⟩⟩

theorem sf_blankChild {s0 s : CSt} (h : StepFrame s0 s) :
    SF s0 (fun j s1 => j = s.w.fes.length ∧ s1.c = s.c ∧ s1.w.fes.length = s.w.fes.length + 1) (blankChild E) s := by
  refine SF.intro ?_ fun j hj => by cases hj; exact ⟨rfl, rfl, List.length_append⟩
  exact h.world_old _ (by show _ ≤ (s.w.fes ++ [_]).length; simp) (fun i hi => getD_append_left' _ _ _ _ hi)

theorem mem_foldl_alSet_snd (j : Nat) : ∀ (vars : List Var) (d : List (Var × Nat)) (p : Var × Nat),
    p ∈ vars.foldl (fun d v => alSet d v j) d → p ∈ d ∨ p.2 = j := by
  intro vars
  induction vars with
  | nil => intro d p hp; exact Or.inl hp
  | cons v rest ih =>
    intro d p hp
    rcases ih _ p hp with h1 | h1
    · replace h1 : p ∈ alSet d v j := h1
      unfold alSet at h1
      split at h1
      · obtain ⟨q, hq, hqp⟩ := List.mem_map.mp h1
        split at hqp
        · right; rw [← hqp]
        · left; rw [← hqp]; exact hq
      · rcases List.mem_append.mp h1 with h2 | h2
        · exact Or.inl h2
        · right; simp at h2; rw [h2]
    · exact Or.inr h1

theorem sf_storeChild {s0 s : CSt} (h : StepFrame s0 s) (j : Nat) (hj : Good s0 j) (inv : Bool) :
    SF s0 (fun _ s1 => s1.w = s.w ∧ s1.c.owned = s.c.owned) (storeChild j inv) s := by
  refine SF.intro ?_ fun _ _ => ⟨rfl, rfl⟩
  refine h.step (Nat.le_refl _) (fun _ _ _ => ⟨rfl, rfl⟩) (fun k hk => Or.inl hk) ?_
  intro k hk
  obtain ⟨v, hv⟩ := (mem_solverList _ k).mp hk
  rcases mem_foldl_alSet_snd j _ _ _ hv with h1 | h1
  · exact Or.inl ((mem_solverList _ k).mpr ⟨v, h1⟩)
  · have : k = j := h1
    subst this
    exact Or.inr hj

theorem sf_claim {s0 s : CSt} (h : StepFrame s0 s) (j : Nat) :
    SF s0 (fun k _ => Mine s0 k ∧ (k = j ∨ s0.w.fes.length ≤ k)) (claim E j) s := by
  refine ⟨(claim_run (E := E) s j).imp ?_ fun _ _ => False.elim⟩
  rintro k s' ⟨hcase, hfin, -, -⟩
  rcases hcase with ⟨rfl, ho, rfl⟩ | ⟨rfl, ho, hc, -, hlen⟩
  · exact ⟨h, h.mine_of_owned ho, Or.inl rfl⟩
  · refine ⟨h.step (by omega) (fun i hi _ => ?_) (fun i hi => ?_) (fun i hi => Or.inl (by rw [hc] at hi; exact hi)),
      Or.inr h.1, Or.inr h.1⟩
    · have hf := (hfin i (Nat.lt_of_lt_of_le hi h.1)).1
      exact ⟨hf.cons, hf.vars⟩
    · rw [hc] at hi
      rcases (mem_listInsert _ _ _).mp hi with h1 | rfl
      · exact Or.inl h1
      · exact Or.inr ⟨h.1, by omega⟩

theorem closureLoop_mem (s : CSt) : ∀ (fuel : Nat) (allNames newNames : List Var) (solvers : List Nat),
    ∀ t ∈ closureLoop s fuel allNames newNames solvers, t ∈ solvers ∨ t ∈ s.c.solverList := by
  intro fuel
  induction fuel with
  | zero => intro _ _ solvers t ht; exact Or.inl ht
  | succ n ih =>
    intro allNames newNames solvers t ht
    have hmem : ∀ t, t ∈ listUnion solvers (s.c.solversFor newNames) → t ∈ solvers ∨ t ∈ s.c.solverList := by
      intro t ht
      rcases (mem_listUnion _ _ _).mp ht with h1 | h1
      · exact Or.inl h1
      · obtain ⟨v, _, hv⟩ := (mem_solversFor _ _ _).mp h1
        exact Or.inr ((mem_solverList _ _).mpr ⟨v, mem_of_alGet? _ _ _ hv⟩)
    unfold closureLoop at ht
    simp only at ht
    split at ht
    · exact hmem t ht
    · rcases ih _ _ _ t ht with h1 | h1
      · exact hmem t h1
      · exact Or.inr h1

theorem combine_go_frame (E : Env) (k : Nat) : ∀ (l : List Nat) (w : World),
    (childCombineWith.go E k l w).2.fes.length = w.fes.length ∧
      ∀ i, i ≠ k → (childCombineWith.go E k l w).2.fes.getD i {} = w.fes.getD i {} := by
  intro l
  induction l with
  | nil => intro w; simp [childCombineWith.go]
  | cons o rest ih =>
    intro w
    rw [childCombineWith.go]
    have hl := runOn_fes_length w k (publicAdd (childOps E) (w.fes.getD o {}).constraints)
    have hg := fun i (hi : i ≠ k) => runOn_getD_ne w k (publicAdd (childOps E) (w.fes.getD o {}).constraints) i hi
    cases hr : runOn w k (publicAdd (childOps E) (w.fes.getD o {}).constraints) with
    | mk r w' =>
      rw [hr] at hl hg
      cases r with
      | ok a =>
        simp only
        obtain ⟨a1, a2⟩ := ih w'
        exact ⟨a1.trans hl, fun i hi => (a2 i hi).trans (hg i hi)⟩
      | error e => exact ⟨hl, hg⟩

theorem childCombineWith_frame (E : Env) (self : Nat) (others : List Nat) (sm : List PModel) (om : List (List PModel)) (s : CSt) :
    ∃ w', (childCombineWith E self others sm om s).2 = { s with w := w' } ∧ w'.fes.length = s.w.fes.length + 1 ∧
      (∀ i, i < s.w.fes.length → w'.fes.getD i {} = s.w.fes.getD i {}) ∧
      ∀ k, (childCombineWith E self others sm om s).1 = .ok k → k = s.w.fes.length := by
  let w0 : World := { s.w with fes := s.w.fes ++ [childBlank E (s.child self)] }
  obtain ⟨hl, hg⟩ := combine_go_frame E s.w.fes.length (self :: others) w0
  have hl0 : w0.fes.length = s.w.fes.length + 1 := List.length_append
  have hold : ∀ i, i < s.w.fes.length → w0.fes.getD i {} = s.w.fes.getD i {} := fun i hi => getD_append_left' _ _ _ _ hi
  unfold childCombineWith
  simp only
  cases hgo : childCombineWith.go E s.w.fes.length (self :: others) w0 with
  | mk r w1 =>
    rw [hgo] at hl hg
    simp only at hl hg
    have hfr : ∀ i, i < s.w.fes.length → w1.fes.getD i {} = s.w.fes.getD i {} :=
      fun i hi => (hg i (Nat.ne_of_lt hi)).trans (hold i hi)
    cases r with
    | error e => exact ⟨w1, rfl, hl.trans hl0, hfr, fun k hk => by cases hk⟩
    | ok u =>
      simp only
      split
      · exact ⟨w1, rfl, hl.trans hl0, hfr, fun k hk => by cases hk; rfl⟩
      · split
        · exact ⟨w1, rfl, hl.trans hl0, hfr, fun k hk => by cases hk; rfl⟩
        · refine ⟨_, rfl, by simp only [List.length_set]; exact hl.trans hl0, ?_, fun k hk => by cases hk; rfl⟩
          intro i hi
          show (w1.fes.set _ _).getD i {} = _
          rw [getD_set_ne _ _ _ _ _ (Nat.ne_of_gt hi)]
          exact hfr i hi

theorem sf_orderModelSets {s0 : CSt} (l : List Nat) (s : CSt) (h : StepFrame s0 s) :
    SF s0 (fun _ s1 => s1.c = s.c ∧ s1.w.fes = s.w.fes) (orderModelSets E l) s := by
  obtain ⟨mss, t, hrun, _⟩ := orderModelSets_run E l s
  exact ⟨(CM.wp_ok hrun).mpr ⟨h.world _ (Nat.le_refl _) (fun _ _ _ => ⟨rfl, rfl⟩), rfl, rfl⟩⟩

theorem sf_childCombine {s0 s : CSt} (h : StepFrame s0 s) (self : Nat) (others : List Nat) :
    SF s0 (fun k _ => s0.w.fes.length ≤ k) (childCombine E self others) s := by
  unfold childCombine
  refine sf_bind (sf_orderModelSets _ s h) ?_
  intro mss s1 h1 _
  obtain ⟨w', hst, hlen, hfr, hk⟩ := childCombineWith_frame E self others (mss.headD []) (mss.drop 1) s1
  refine SF.intro ?_ fun k hk' => by rw [hk k hk']; exact h1.1
  rw [hst]
  exact h1.world_old w' (by omega) hfr

theorem sf_solverForNames {s0 s : CSt} (h : StepFrame s0 s) (names : List Var) :
    SF s0 (fun m _ => Good s0 m) (solverForNames E names) s := by
  unfold solverForNames
  refine sf_bind (sf_get h) ?_
  rintro _ _ _ ⟨rfl, rfl⟩
  have hnew : ∀ {s1 : CSt}, StepFrame s0 s1 → SF s0 (fun m _ => Good s0 m) (blankChild E) s1 := fun h1 =>
    (sf_blankChild h1).mono (fun m _ _ hq => Or.inr (by rw [hq.1]; exact h1.1))
  dsimp only
  generalize hcl : closureLoop _ _ names names [] = cl
  match cl, hcl with
  | [], _ => exact hnew h
  | [j], hcl =>
    refine (sf_pure h j).mono (fun m _ _ hq => ?_)
    rw [hq.1]
    rcases closureLoop_mem _ _ _ _ _ j (by rw [hcl]; simp) with h1 | h1
    · cases h1
    · exact h.good_of_mem h1
  | a :: b :: c, _ =>
    refine sf_bind (sf_orderOracle h _ _ _) ?_
    intro l1 s1 h1 _
    cases l1 with
    | nil => exact hnew h1
    | cons j rest => exact (sf_childCombine h1 _ _).mono (fun k _ _ hq => Or.inr hq)

theorem SF.triv {α : Type} {s0 s : CSt} {Q : α → CSt → Prop} {m : CM α} (h : SF s0 Q m s) :
    SF s0 (fun _ _ => True) m s := h.mono (fun _ _ _ _ => trivial)

theorem sf_ite {α : Type} {s0 s : CSt} {Q : α → CSt → Prop} (c : Prop) [Decidable c] {a b : CM α}
    (ha : c → SF s0 Q a s) (hb : ¬ c → SF s0 Q b s) : SF s0 Q (if c then a else b) s := by
  by_cases hc : c
  · rw [if_pos hc]; exact ha hc
  · rw [if_neg hc]; exact hb hc

theorem sf_forM {s0 : CSt} {P : CSt → Prop} (f : Nat → CM Unit) (l : List Nat) (s : CSt) (h : StepFrame s0 s) (hp : P s)
    (hf : ∀ p ∈ l, ∀ s, StepFrame s0 s → P s → SF s0 (fun _ s' => P s') (f p) s) : SF s0 (fun _ s' => P s') (l.forM f) s :=
  ⟨CM.wp_forM (P := fun s => StepFrame s0 s ∧ P s) f l s ⟨h, hp⟩ fun p hp s hs => (hf p hp s hs.1 hs.2).wp⟩

theorem sf_claimCallStore {α β : Type} {s0 s : CSt} {Q : β → CSt → Prop} (h : StepFrame s0 s) (j : Nat) (hj : Good s0 j) (m : M α)
    (k : α → CM β) (hk : ∀ a s', StepFrame s0 s' → SF s0 Q (k a) s') :
    SF s0 Q (do let c ← claim E j; let a ← CM.onChild c m; storeChild c; k a : CM β) s := by
  refine sf_bind (sf_claim h j) ?_
  intro c s2 h2 ⟨hmine, hc⟩
  have hgood : Good s0 c := by
    rcases hc with rfl | hc
    · exact hj
    · exact Or.inr hc
  refine sf_bind (sf_onChild_mine h2 c _ hmine) ?_
  intro a s3 h3 _
  refine sf_bind (sf_storeChild h3 c hgood true) ?_
  intro _ s4 h4 _
  exact hk a s4 h4

theorem sf_addDependent {s0 s : CSt} (h : StepFrame s0 s) (names : List Var) (cs : List Con) :
    SF s0 (fun _ _ => True) (addDependent E names cs) s := by
  unfold addDependent
  refine sf_bind (sf_solverForNames h names) ?_
  intro m s1 h1 hm
  exact sf_claimCallStore h1 m hm _ _ fun _ _ h4 => (sf_pure h4 _).triv

theorem sf_addGroups {s0 : CSt} (cs : List Con) : ∀ (gs : List (List Var × List Nat)) (acc : List Con) (s : CSt),
    StepFrame s0 s → SF s0 (fun _ _ => True) (addGroups E cs gs acc) s
  | [], acc, s, h => (sf_pure h _).triv
  | g :: rest, acc, s, h => by
    unfold addGroups
    refine sf_bind (sf_addDependent h _ _) ?_
    intro added s1 h1 _
    exact sf_addGroups cs rest _ s1 h1

theorem sf_addUnsure {s0 : CSt} (unsure : List Con) : ∀ (l : List Nat) (s : CSt), (∀ j ∈ l, Good s0 j) →
    StepFrame s0 s → SF s0 (fun _ _ => True) (addUnsure E unsure l) s
  | [], s, _, h => (sf_pure h _).triv
  | j :: rest, s, hl, h => by
    unfold addUnsure
    exact sf_claimCallStore h j (hl _ (by simp)) _ _ fun _ s4 h4 =>
      sf_addUnsure unsure rest s4 (fun j' hj' => hl j' (List.mem_cons_of_mem _ hj')) h4

theorem sf_ownAdd {s0 s : CSt} (h : StepFrame s0 s) (ca : List Con) : SF s0 (fun _ _ => True) (ownAdd ca) s :=
  ⟨⟨h.comp _ rfl rfl, trivial⟩⟩

theorem sf_orderGroups {s0 s : CSt} (h : StepFrame s0 s) (gs : List (List Var × List Nat)) :
    SF s0 (fun _ _ => True) (orderGroups E gs) s := by
  unfold orderGroups
  exact sf_ite _ (fun _ => (sf_pure h _).triv) (fun _ => (sf_orderOracle h _ _ _).triv)

theorem sf_compAdd {s0 s : CSt} (h : StepFrame s0 s) (cs : List Con) : SF s0 (fun _ _ => True) (compAdd E cs) s := by
  unfold compAdd
  dsimp only
  refine sf_bind (sf_orderGroups h _) ?_
  intro groups s1 h1 _
  refine sf_bind (sf_addGroups cs groups [] s1 h1) ?_
  intro ca s2 h2 _
  refine sf_ite _ (fun _ => sf_ownAdd h2 _) (fun _ => ?_)
  generalize concreteScan _ = sc
  match sc with
  | some true =>
    refine sf_bind (sf_modifyC h2 _ rfl rfl) ?_
    intro _ s3 h3 _
    exact sf_ownAdd h3 _
  | some false => exact sf_ownAdd h2 _
  | none =>
    refine sf_bind (sf_get h2) ?_
    rintro _ _ h3 ⟨rfl, rfl⟩
    refine sf_bind (sf_addUnsure _ _ _ (fun j hj => h3.good_of_mem hj) h3) ?_
    intro _ s4 h4 _
    exact sf_ownAdd h4 _

theorem sf_compTruth {s0 s : CSt} (h : StepFrame s0 s) (names : List Var) (q : M Bool) (hq : KeepsCV q) :
    SF s0 (fun _ _ => True) (do let ms ← solverForNames E names; CM.onChild ms q : CM Bool) s := by
  refine sf_bind (sf_solverForNames h _) ?_
  intro ms s1 h1 _
  exact (sf_onChild_keeps h1 ms _ hq).triv

theorem sf_checkLoop {s0 : CSt} (skip : Option (List Var)) : ∀ (l : List Nat) (s : CSt), StepFrame s0 s →
    SF s0 (fun _ _ => True) (checkLoop E skip l) s
  | [], s, h => (sf_pure h _).triv
  | j :: rest, s, h => by
    unfold checkLoop
    refine sf_bind (sf_get h) ?_
    rintro _ _ h ⟨rfl, rfl⟩
    dsimp only
    refine sf_ite _ (fun _ => sf_checkLoop skip rest _ h) (fun _ => sf_ite _ (fun _ => sf_checkLoop skip rest _ h) (fun _ => ?_))
    refine sf_bind (sf_onChild_keeps h j _ ((childKeeps E).checkSat [])) ?_
    intro r s1 h1 _
    exact sf_ite _ (fun _ => (sf_pure h1 _).triv) (fun _ => sf_checkLoop skip rest s1 h1)

theorem split_go_frame (E : Env) (fs : Frontend) : ∀ (lists : List (List Con)) (w : World) (acc : List Nat),
    w.fes.length ≤ (childSplitWith.go E fs lists w acc).2.fes.length ∧
    (∀ i, i < w.fes.length → (childSplitWith.go E fs lists w acc).2.fes.getD i {} = w.fes.getD i {}) ∧
    ∀ parts, (childSplitWith.go E fs lists w acc).1 = .ok parts →
      ∀ p ∈ parts, p ∈ acc ∨ (w.fes.length ≤ p ∧ p < (childSplitWith.go E fs lists w acc).2.fes.length) := by
  intro lists
  induction lists with
  | nil =>
    intro w acc
    rw [childSplitWith.go]
    exact ⟨Nat.le_refl _, fun _ _ => rfl, fun parts hp p hpp => by cases hp; exact Or.inl hpp⟩
  | cons cl rest ih =>
    intro w acc
    rw [childSplitWith.go]
    simp only
    have hl := runOn_fes_length { w with fes := w.fes ++ [childBlank E fs] } w.fes.length (publicAdd (childOps E) cl)
    have hg := fun i (hi : i ≠ w.fes.length) =>
      runOn_getD_ne { w with fes := w.fes ++ [childBlank E fs] } w.fes.length (publicAdd (childOps E) cl) i hi
    cases hr : runOn { w with fes := w.fes ++ [childBlank E fs] } w.fes.length (publicAdd (childOps E) cl) with
    | mk r w' =>
      rw [hr] at hl hg
      simp only [List.length_append, List.length_singleton] at hl
      have hold : ∀ i, i < w.fes.length → w'.fes.getD i {} = w.fes.getD i {} := fun i hi =>
        (hg i (Nat.ne_of_lt hi)).trans (getD_append_left' _ _ _ _ hi)
      cases r with
      | error e => exact ⟨by simp only; omega, hold, fun parts hp => by cases hp⟩
      | ok a =>
        simp only
        obtain ⟨a1, a2, a3⟩ := ih
          { w' with fes := w'.fes.set w.fes.length { (w'.fes.getD w.fes.length {}) with
              models := (fs.models.map fun m => m.restrict (w'.fes.getD w.fes.length {}).variables).foldl listInsert [] } }
          (acc ++ [w.fes.length])
        simp only [List.length_set] at a1 a2 a3
        refine ⟨by omega, fun i hi => ?_, fun parts hp p hpp => ?_⟩
        · rw [a2 i (by omega), getD_set_ne _ _ _ _ _ (Nat.ne_of_gt hi)]
          exact hold i hi
        · rcases a3 parts hp p hpp with h1 | h1
          · rcases List.mem_append.mp h1 with h2 | h2
            · exact Or.inl h2
            · right
              have : p = w.fes.length := by simpa using h2
              subst this
              exact ⟨Nat.le_refl _, by omega⟩
          · exact Or.inr ⟨by omega, h1.2⟩

theorem split_go_frame' (E : Env) (fs : Frontend) (lists : List (List Con)) (w : World) (acc : List Nat)
    (r : Except Err (List Nat)) (w' : World) (h : childSplitWith.go E fs lists w acc = (r, w')) :
    w.fes.length ≤ w'.fes.length ∧ (∀ i, i < w.fes.length → w'.fes.getD i {} = w.fes.getD i {}) ∧
    ∀ parts, r = .ok parts → ∀ p ∈ parts, p ∈ acc ∨ (w.fes.length ≤ p ∧ p < w'.fes.length) := by
  have := split_go_frame E fs lists w acc
  rw [h] at this
  exact this

theorem sf_childSplitWith {s0 s : CSt} (h : StepFrame s0 s) (j : Nat) (groups : List (List Var × List Nat)) (concrete : List Nat) :
    SF s0 (fun parts s1 => ∀ p ∈ parts, s0.w.fes.length ≤ p ∧ p < s1.w.fes.length) (childSplitWith E j groups concrete) s := by
  obtain ⟨a1, a2, a3⟩ := split_go_frame E (s.child j)
    ((groups.map fun g => g.2.map fun i => (s.child j).constraints.getD i default) ++
      (if concrete.isEmpty then [] else [concrete.map fun i => (s.child j).constraints.getD i default])) s.w []
  refine SF.intro (h.world_old _ a1 a2) fun parts hp p hpp => ?_
  rcases a3 parts hp p hpp with h1 | h1
  · cases h1
  · exact ⟨Nat.le_trans h.1 h1.1, h1.2⟩

theorem sf_childSplit {s0 s : CSt} (h : StepFrame s0 s) (j : Nat) :
    SF s0 (fun parts s1 => ∀ p ∈ parts, s0.w.fes.length ≤ p ∧ p < s1.w.fes.length) (childSplit E j) s := by
  unfold childSplit
  refine sf_bind (sf_get h) ?_
  rintro _ _ h ⟨rfl, rfl⟩
  dsimp only
  refine sf_bind (sf_orderGroups h _) ?_
  intro groups s1 h1 _
  exact sf_childSplitWith h1 j groups _

theorem sf_childUpdate {s0 s : CSt} (h : StepFrame s0 s) (self other : Nat) :
    SF s0 (fun _ s1 => s1.w.fes.length = s.w.fes.length) (childUpdate self other) s := by
  refine SF.intro ?_ fun _ _ => by simp [childUpdate]
  exact h.world _ (by simp) (fun k _ _ => childUpdate_cv self other s k)

theorem sf_reabsorb {s0 s : CSt} (h : StepFrame s0 s) (j : Nat) : SF s0 (fun _ _ => True) (reabsorb E j) s := by
  unfold reabsorb
  refine sf_bind (sf_get h) ?_
  rintro _ _ h ⟨rfl, rfl⟩
  dsimp only
  refine sf_ite _ (fun _ => (sf_pure h _).triv) (fun _ => ?_)
  generalize alGet? _ _ = tt
  match tt with
  | none => exact (sf_pure h _).triv
  | some t =>
    refine sf_ite _ (fun _ => (sf_pure h _).triv) (fun _ => ?_)
    refine sf_bind (sf_childSplit h j) ?_
    intro parts s1 h1 hparts
    refine sf_bind (sf_get h1) ?_
    rintro _ _ h1 ⟨rfl, rfl⟩
    refine sf_ite _ (fun _ => ?_) (fun _ => ?_)
    · refine (sf_forM (P := fun _ => True) _ parts _ h1 trivial ?_).triv
      intro p _ s2 h2 _
      refine sf_bind (sf_get h2) ?_
      rintro _ _ h2 ⟨rfl, rfl⟩
      generalize alGet? _ _ = t2
      match t2 with
      | some t => exact (sf_childUpdate h2 _ _).triv
      | none => exact sf_throw h2 _ _
    · refine (sf_forM (P := fun s' => ∀ p ∈ parts, s0.w.fes.length ≤ p ∧ p < s'.w.fes.length) _ parts _ h1 hparts ?_).triv
      intro p hp s2 h2 hP
      have hnew : StepFrame s0 { s2 with c := { s2.c with owned := listInsert s2.c.owned p } } := by
        refine h2.step (Nat.le_refl _) (fun _ _ _ => ⟨rfl, rfl⟩) ?_ (fun k hk => Or.inl hk)
        intro k hk
        rcases (mem_listInsert _ _ _).mp hk with h3 | h3
        · exact Or.inl h3
        · right; subst h3; exact hP k hp
      refine sf_bind (Q1 := fun _ s3 => s3 = { s2 with c := { s2.c with owned := listInsert s2.c.owned p } }) ⟨⟨hnew, rfl⟩⟩ ?_
      rintro _ _ h3 rfl
      refine (sf_storeChild h3 p (Or.inr (hP p hp).1) true).mono ?_
      intro _ s4 _ hq
      rw [hq.1]; exact hP

theorem sf_checkTail {s0 s : CSt} (h : StepFrame s0 s) (skip : Option (List Var)) (l : List Nat) :
    SF s0 (fun _ _ => True) ((do
      let order ← orderChildren E l
      let ok ← checkLoop E skip order
      if !ok then pure false
      else do
        CM.modifyC fun c => { c with unchecked := [] }
        pure true : CM Bool)) s := by
  refine sf_bind (sf_orderOracle h _ _ _) ?_
  intro order s1 h1 _
  refine sf_bind (sf_checkLoop skip order s1 h1) ?_
  intro ok s2 h2 _
  refine sf_ite _ (fun _ => (sf_pure h2 _).triv) (fun _ => ?_)
  refine sf_bind (sf_modifyC h2 _ rfl rfl) ?_
  intro _ s3 h3 _
  exact (sf_pure h3 _).triv

theorem sf_compSatisfiable {s0 s : CSt} (h : StepFrame s0 s) (extra : List Con) :
    SF s0 (fun _ _ => True) (compSatisfiable E extra) s := by
  unfold compSatisfiable
  refine sf_bind (sf_get h) ?_
  rintro _ _ h ⟨rfl, rfl⟩
  refine sf_ite _ (fun _ => (sf_pure h _).triv) (fun _ => ?_)
  refine sf_ite _ (fun _ => sf_checkTail h none _) (fun _ => ?_)
  refine sf_bind (sf_solverForNames h _) ?_
  intro es s1 h1 _
  refine sf_bind (sf_onChild_keeps h1 es _ ((childKeeps E).checkSat extra)) ?_
  intro r s2 h2 _
  refine sf_ite _ (fun _ => (sf_pure h2 _).triv) (fun _ => ?_)
  refine sf_bind (sf_reabsorb h2 es) ?_
  intro _ s3 h3 _
  refine sf_bind (sf_get h3) ?_
  rintro _ _ h3 ⟨rfl, rfl⟩
  exact sf_checkTail h3 _ _

theorem sf_ensureSat {s0 s : CSt} (h : StepFrame s0 s) (extra : List Con) :
    SF s0 (fun _ _ => True) (ensureSat E extra) s := by
  unfold ensureSat
  refine sf_bind (sf_get h) ?_
  rintro _ _ h ⟨rfl, rfl⟩
  refine sf_ite _ (fun _ => sf_throw h _ _) (fun _ => ?_)
  refine sf_bind (sf_compSatisfiable h extra) ?_
  intro b s1 h1 _
  exact sf_ite _ (fun _ => sf_throw h1 _ _) (fun _ => (sf_pure h1 _).triv)

theorem sf_compQuery {α : Type} {s0 s : CSt} (h : StepFrame s0 s) (names : List Var) (extra : List Con)
    (q : M α) (hq : KeepsCV q) : SF s0 (fun _ _ => True) (compQuery E names extra q) s := by
  unfold compQuery
  refine sf_bind (sf_ensureSat h extra) ?_
  intro _ s1 h1 _
  refine sf_bind (sf_solverForNames h1 names) ?_
  intro ms s2 h2 _
  refine sf_bind (sf_onChild_keeps h2 ms q hq) ?_
  intro r s3 h3 _
  refine sf_bind (sf_reabsorb h3 ms) ?_
  intro _ s4 h4 _
  exact (sf_pure h4 _).triv

theorem stepFrame_compStep (s : CSt) (op : Op)
    (hop : op ≠ .simplify ∧ op ≠ .downsize ∧ op ≠ .pickle) : StepFrame s (compStep E s op).2 := by
  have h := StepFrame.refl s
  cases op with
  | add cs =>
    show StepFrame s (if cs.isEmpty then (Out.cons [], s) else outOfC _ (compAdd E cs s)).2
    split
    · exact h
    · exact (sf_compAdd h cs).outOfC _
  | satisfiable extra => exact (sf_compSatisfiable h extra).outOfC _
  | eval e n extra => exact (sf_compQuery h _ _ _ ((childKeeps E).eval e n extra)).outOfC _
  | batchEval es n extra => exact (sf_compQuery h _ _ _ ((childKeeps E).batchEval es n extra)).outOfC _
  | min e extra sg => exact (sf_compQuery h _ _ _ ((childKeeps E).min e extra sg)).outOfC _
  | max e extra sg => exact (sf_compQuery h _ _ _ ((childKeeps E).max e extra sg)).outOfC _
  | solution e v extra => exact (sf_compQuery h _ _ _ ((childKeeps E).solution e v extra)).outOfC _
  | isTrue c extra => exact (sf_compTruth h _ _ ((childKeeps E).isTrue c extra)).outOfC _
  | isFalse c extra => exact (sf_compTruth h _ _ ((childKeeps E).isFalse c extra)).outOfC _
  | simplify => exact absurd rfl hop.1
  | downsize => exact absurd rfl hop.2.1
  | pickle => exact absurd rfl hop.2.2
  | unsatCore _ => exact h
  | branch => exact h

theorem compFrames (R : Con → Prop) (RE : Exp → Prop) (E : Env) : CompFrames R RE E := by
  intro U Us s op _ hop _
  refine stepFrame_compStep s op ?_
  refine ⟨?_, ?_, ?_⟩ <;> rintro rfl <;> exact hop

end Claripy.Solver

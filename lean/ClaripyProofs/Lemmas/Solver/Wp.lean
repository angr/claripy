import ClaripyProofs.Lemmas.Solver.Basic
/-!
One program logic for the state-and-exception monads of the solver models (`M` over `St`, the composite's `CM` over `CSt`).
`wp m Q X s`: run from `s`, `m` ends normally with a value and a state satisfying `Q`, or raises an error with `X`.  The start
state is an argument, so `Q` and `X` may speak of it (two-state post-conditions need nothing extra) and a specification under an
invariant is `∀ s, I s → wp m (Q s) (X s) s`.  "Never raises" is `X := fun _ _ => False`.  One rule per constructor of `M`;
proofs about the transcribed methods go through these and do not unfold `bind`.  `wp.elim` reads a specification off as a
statement about the pair `m s` in any other form.  `QSpec I K Good Bad m`, at the end, is the shape the specifications of the
query methods have: `K` is a relation between the state before and the state after the call.
-/
namespace Claripy.Solver

def wp {σ α : Type} (m : σ → Except Err α × σ) (Q : α → σ → Prop) (X : Err → σ → Prop) (s : σ) : Prop :=
  match m s with
  | (.ok a, s') => Q a s'
  | (.error e, s') => X e s'

section
variable {σ α : Type} {m : σ → Except Err α × σ} {Q Q' : α → σ → Prop} {X X' : Err → σ → Prop} {s : σ}

theorem wp_ok {a : α} {s' : σ} (h : m s = (.ok a, s')) : wp m Q X s ↔ Q a s' := by
  unfold wp; rw [h]

theorem wp_error {e : Err} {s' : σ} (h : m s = (.error e, s')) : wp m Q X s ↔ X e s' := by
  unfold wp; rw [h]

theorem wp.imp (h : wp m Q X s) (hQ : ∀ a s', Q a s' → Q' a s') (hX : ∀ e s', X e s' → X' e s') : wp m Q' X' s := by
  unfold wp at *
  revert h
  rcases m s with ⟨_ | _, s'⟩
  · exact hX _ _
  · exact hQ _ _

theorem wp.and (h : wp m Q X s) (h' : wp m Q' X' s) :
    wp m (fun a s' => Q a s' ∧ Q' a s') (fun e s' => X e s' ∧ X' e s') s := by
  unfold wp at *
  revert h h'
  rcases m s with ⟨_ | _, s'⟩ <;> exact fun h h' => ⟨h, h'⟩

theorem wp.of_imp {C : Prop} (h : C → wp m Q X s) : wp m (fun a s' => C → Q a s') (fun e s' => C → X e s') s := by
  unfold wp at *
  revert h
  rcases m s with ⟨_ | _, s'⟩
  · exact id
  · exact id

theorem wp.ok (h : wp m Q (fun _ _ => False) s) : ∃ a s', m s = (.ok a, s') ∧ Q a s' := by
  unfold wp at h
  revert h
  rcases m s with ⟨_ | a, s'⟩
  · exact False.elim
  · exact fun h => ⟨a, s', rfl, h⟩

/-- from a specification `h : wp m Q X s` to a statement `C (m s)` about the pair of result and state in any other form (`r` is
`m s`: stated so that `C` is found by abstracting `r` from the goal) -/
@[elab_as_elim]
theorem wp.elim {C : Except Err α × σ → Prop} (r : Except Err α × σ)
    (h : match r with | (.ok a, s') => Q a s' | (.error e, s') => X e s')
    (ok : ∀ a s', Q a s' → C (.ok a, s')) (err : ∀ e s', X e s' → C (.error e, s')) : C r := by
  revert h
  rcases r with ⟨_ | _, s'⟩
  · exact err _ _
  · exact ok _ _

theorem wp.fst_snd {A : Except Err α → Prop} {B : σ → Prop}
    (h : wp m (fun a s' => A (.ok a) ∧ B s') (fun e s' => A (.error e) ∧ B s') s) : A (m s).1 ∧ B (m s).2 :=
  wp.elim (m s) h (fun _ _ h => h) fun _ _ h => h

theorem wp_ite (c : Prop) [Decidable c] (t e : σ → Except Err α × σ) :
    wp (if c then t else e) Q X s ↔ if c then wp t Q X s else wp e Q X s := by
  split <;> exact Iff.rfl

end

/-- `wp` for the frontend monad, so that `m.wp Q X s` can be written for `m : M α` -/
abbrev M.wp {α : Type} (m : M α) (Q : α → St → Prop) (X : Err → St → Prop) (s : St) : Prop := Solver.wp m Q X s

namespace M
variable {α β : Type} {Q : α → St → Prop} {X : Err → St → Prop} {s : St}

/- `M` is not reducible: `rw` and `simp` need the generic rules at the type `M α` -/
theorem wp_ok {m : M α} {a : α} {s' : St} (h : m s = (.ok a, s')) : m.wp Q X s ↔ Q a s' := Solver.wp_ok h
theorem wp_error {m : M α} {e : Err} {s' : St} (h : m s = (.error e, s')) : m.wp Q X s ↔ X e s' := Solver.wp_error h

@[simp] theorem wp_pure (a : α) : (Pure.pure a : M α).wp Q X s ↔ Q a s := Iff.rfl
@[simp] theorem wp_throw (e : Err) : (M.throw e : M α).wp Q X s ↔ X e s := Iff.rfl
@[simp] theorem wp_get {Q : St → St → Prop} : M.get.wp Q X s ↔ Q s s := Iff.rfl
@[simp] theorem wp_getFe {Q : Frontend → St → Prop} : M.getFe.wp Q X s ↔ Q s.fe s := Iff.rfl
@[simp] theorem wp_modify {Q : Unit → St → Prop} (f : St → St) : (M.modify f).wp Q X s ↔ Q () (f s) := Iff.rfl
@[simp] theorem wp_modifyFe {Q : Unit → St → Prop} (f : Frontend → Frontend) :
    (M.modifyFe f).wp Q X s ↔ Q () { s with fe := f s.fe } := Iff.rfl

@[simp] theorem wp_bind (m : M α) (f : α → M β) {Q : β → St → Prop} :
    (m >>= f).wp Q X s ↔ m.wp (fun a s' => (f a).wp Q X s') X s := by
  show Solver.wp (M.bind m f) Q X s ↔ _
  unfold M.wp Solver.wp M.bind
  rcases m s with ⟨_ | _, s'⟩ <;> exact Iff.rfl

/-- `try: m except <p>: h` -/
@[simp] theorem wp_tryCatch (m : M α) (p : Err → Bool) (h : M α) :
    (M.tryCatch m p h).wp Q X s ↔ m.wp Q (fun e s' => if p e = true then h.wp Q X s' else X e s') s := by
  unfold M.wp Solver.wp M.tryCatch
  rcases m s with ⟨e | _, s'⟩
  · by_cases hp : p e = true <;> simp only [hp, ↓reduceIte, Bool.false_eq_true]
  · exact Iff.rfl

/-- `try: m finally: fin`: `fin` runs after `m` in either case; after a normal end of `m` an error of `fin` is the outcome, after an
error of `m` that error stays the outcome whatever `fin` does (only the state is `fin`'s) -/
@[simp] theorem wp_tryFinally (m : M α) (fin : M Unit) :
    (M.tryFinally m fin).wp Q X s ↔
      m.wp (fun a s' => fin.wp (fun _ => Q a) X s') (fun e s' => fin.wp (fun _ => X e) (fun _ => X e) s') s := by
  unfold M.wp Solver.wp M.tryFinally
  rcases m s with ⟨e | a, s'⟩ <;> simp only <;> rcases fin s' with ⟨_ | _, s''⟩ <;> exact Iff.rfl

@[simp] theorem wp_ite (c : Prop) [Decidable c] (t e : M α) :
    (if c then t else e).wp Q X s ↔ if c then t.wp Q X s else e.wp Q X s := Solver.wp_ite c t e

/-- a `do` block binds the continuation in each arm of a statement-level `if` -/
theorem ite_bind {α β : Type} (c : Prop) [Decidable c] (a b : M α) (k : α → M β) :
    (if c then a >>= k else b >>= k) = (if c then a else b) >>= k := by
  split <;> rfl

@[simp] theorem wp_liftE (x : Except Err α) :
    (liftE x).wp Q X s ↔ match x with | .ok a => Q a s | .error e => X e s := by
  unfold M.wp Solver.wp liftE
  cases x <;> exact Iff.rfl

end M

/-- under the invariant `I`, `m` answers with `Good` (of the value, the state before and the state after) or raises with `Bad`,
and either way `I` holds again and `K` relates the state before to the state after -/
def QSpec {α : Type} (I : St → Prop) (K : St → St → Prop) (Good : α → St → St → Prop) (Bad : Err → Prop) (m : M α) : Prop :=
  ∀ s, I s → m.wp (fun a s' => Good a s s' ∧ I s' ∧ K s s') (fun e s' => Bad e ∧ I s' ∧ K s s') s

theorem QSpec.imp {α : Type} {I : St → Prop} {K : St → St → Prop} {Good Good' : α → St → St → Prop} {Bad Bad' : Err → Prop}
    {m : M α} (h : QSpec I K Good Bad m) (hG : ∀ a s s', Good a s s' → Good' a s s') (hB : ∀ e, Bad e → Bad' e) :
    QSpec I K Good' Bad' m :=
  fun s hs => (h s hs).imp (fun a s' g => ⟨hG a s s' g.1, g.2⟩) fun e _ g => ⟨hB e g.1, g.2⟩

end Claripy.Solver

import ClaripyProofs.Lemmas.Solver.CompositeCalls
/-!
`branch()` of a CompositeFrontend and trees of branched composites (children shared copy-on-write).  After `branch` the parent and
the copy both satisfy `CInv` over the SAME constraint list in the same world, and NEITHER owns a child (`compBranch_spec`); the
invariant of a composite reads only the records of the children ITS `_solvers` points to, so a call on ANOTHER composite of the tree
keeps it as soon as those records keep `constraints` and `variables` (`CInv.frame`).  `TreeInv`: every composite of the tree
satisfies `CInv` for ITS OWN user's constraints, and a child owned by one composite is in no other composite's `_solvers`;
`tree_step` / `tree_hist` take the footprint of one call (`StepFrame`, `CompFrames`) as a hypothesis, CompositeStepFrame.lean proves
it (`compFrames`).
-/
namespace Claripy.Solver

variable {R : Con → Prop} {RE : Exp → Prop} {E : Env}

theorem CInv.frame {Uj Ui : List Con} {Us Us' : List (List Con)} {cj ci : Comp} {w w' : World}
    (hj : CInv R RE E Uj Us { c := cj, w := w }) (hi : CInv R RE E Ui Us' { c := ci, w := w' })
    (hlen : w.fes.length ≤ w'.fes.length)
    (hfr : ∀ k ∈ cj.solverList, (w'.fes.getD k {}).constraints = (w.fes.getD k {}).constraints ∧
      (w'.fes.getD k {}).variables = (w.fes.getD k {}).variables) :
    CInv R RE E Uj Us' { c := cj, w := w' } := by
  have hlt : ∀ k ∈ cj.solverList, k < w.fes.length := fun _ hk => hj.lt_of_mem hk
  refine hj.transfer cj w' rfl rfl rfl hi.kids hi.reuse hi.keysOk hi.exact hlen (fun k hk => (hfr k hk).2) ?_
  intro k hk a
  have h1 := hj.child_models (hlt k hk) a
  have h2 := hi.child_models (j := k) (Nat.lt_of_lt_of_le (hlt k hk) hlen) a
  have h3 : (CSt.child { c := ci, w := w' } k).constraints = (CSt.child { c := cj, w := w } k).constraints := (hfr k hk).1
  rw [h3] at h2
  exact h2.symm.trans h1

/-- `child.finalize()` in the world of children -/
def finWorld (w : World) (j : Nat) : World := { w with fes := w.fes.set j { w.fes.getD j {} with finalized := true } }

theorem finWorld_eq (w : World) (j : Nat) :
    finWorld w j = wOfI w j { stOfI w j with fe := { (stOfI w j).fe with finalized := true } } := rfl

theorem tinvS_finalize {Us : List (List Con)} {w : World} (hw : TInvS R RE E Us w) (j : Nat) : TInvS R RE E Us (finWorld w j) := by
  by_cases hj : j < w.fes.length
  · have hf1 : SI R RE E (fun _ => True) (Us.getD j []) { stOfI w j with fe := { (stOfI w j).fe with finalized := true } } :=
      (hw.each j hj).heap rfl rfl rfl rfl rfl rfl rfl rfl rfl rfl (fun r hr => ⟨hw.solver_lt hj hr, rfl⟩)
    have hws : WStep (stOfI w j) { stOfI w j with fe := { (stOfI w j).fe with finalized := true } } :=
      ⟨Nat.le_refl _, Or.inl rfl, fun _ _ _ => rfl, rfl, fun _ => rfl⟩
    rw [finWorld_eq]; exact tinvS_step_same hw hj hws hf1
  · have : finWorld w j = w := by
      unfold finWorld
      rw [List.set_eq_of_length_le (Nat.le_of_not_lt hj)]
    rw [this]; exact hw

theorem finWorld_rel (w : World) (j k : Nat) : FinRel (w.fes.getD k {}) ((finWorld w j).fes.getD k {}) := by
  unfold finWorld FinRel
  by_cases hj : j < w.fes.length
  · by_cases hk : j = k
    · subst hk
      simp only
      rw [getD_set_self _ _ _ _ hj]
    · simp only
      rw [getD_set_ne _ _ _ _ _ hk]
  · simp only
    rw [List.set_eq_of_length_le (Nat.le_of_not_lt hj)]

/-- the world after `for s in self._solver_list: s.finalize()` -/
def finAll (l : List Nat) (w : World) : World := l.foldl finWorld w

theorem finAll_eq (l : List Nat) : ∀ w : World,
    ({ w with fes := l.foldl (fun fes j => fes.set j { fes.getD j {} with finalized := true }) w.fes } : World) = finAll l w := by
  induction l with
  | nil => intro w; rfl
  | cons j rest ih =>
    intro w
    have := ih (finWorld w j)
    simp only [finAll, List.foldl_cons] at this ⊢
    rw [← this]
    rfl

theorem finAll_spec {Us : List (List Con)} (l : List Nat) : ∀ w : World, TInvS R RE E Us w →
    TInvS R RE E Us (finAll l w) ∧ (finAll l w).fes.length = w.fes.length ∧ (finAll l w).reuse = w.reuse ∧
      ∀ k, FinRel (w.fes.getD k {}) ((finAll l w).fes.getD k {}) := by
  induction l with
  | nil => intro w hw; exact ⟨hw, rfl, rfl, fun _ => rfl⟩
  | cons j rest ih =>
    intro w hw
    obtain ⟨h1, h2, h3, h4⟩ := ih (finWorld w j) (tinvS_finalize hw j)
    exact ⟨h1, h2.trans (List.length_set ..), h3, fun k => (h4 k).trans (finWorld_rel w j k)⟩

theorem compBranch_eq (s : CSt) :
    compBranch s =
      ({ constraints := s.c.constraints, woAnnot := s.c.woAnnot, finalized := false, solvers := s.c.solvers,
         unchecked := s.c.unchecked, owned := [], unsat := s.c.unsat, track := s.c.track },
       { c := { s.c with owned := [] }, w := finAll s.c.solverList s.w }) := by
  unfold compBranch
  simp only
  rw [finAll_eq]

theorem CInv.finalized {U : List Con} {Us : List (List Con)} {s : CSt} (h : CInv R RE E U Us s) (c2 : Comp) (l : List Nat)
    (hs : c2.solvers = s.c.solvers) (hu : c2.unsat = s.c.unsat) (hun : c2.unchecked = s.c.unchecked) :
    CInv R RE E U Us { c := c2, w := finAll l s.w } := by
  obtain ⟨h1, h2, h3, h4⟩ := finAll_spec (R := R) (RE := RE) (E := E) l s.w h.kids
  have hw := h.wok.extend h1 h3 (fun i _ => ⟨(h4 i).cons, (h4 i).vars, (h4 i).models⟩)
    (fun i hi hi' => absurd hi' (by rw [h2]; exact Nat.not_lt.mpr hi))
  exact h.transfer c2 _ hs hu hun hw.kids hw.reuse hw.keysOk hw.exact (Nat.le_of_eq h2.symm)
    (fun j _ => (h4 j).vars) (fun _ _ _ => Iff.rfl)

theorem compBranch_spec {U : List Con} {Us : List (List Con)} {s : CSt} (h : CInv R RE E U Us s) :
    CInv R RE E U Us (compBranch s).2 ∧ CInv R RE E U Us { c := (compBranch s).1, w := (compBranch s).2.w } ∧
    (compBranch s).1.owned = [] ∧ (compBranch s).2.c.owned = [] ∧
    (compBranch s).1.solvers = s.c.solvers ∧ (compBranch s).2.c.solvers = s.c.solvers ∧
    (compBranch s).1.constraints = s.c.constraints ∧ (compBranch s).2.c.constraints = s.c.constraints ∧
    (compBranch s).2.w.fes.length = s.w.fes.length ∧
    ∀ k, FinRel (s.child k) ((compBranch s).2.child k) := by
  rw [compBranch_eq]
  obtain ⟨_, h2, _, h4⟩ := finAll_spec (R := R) (RE := RE) (E := E) s.c.solverList s.w h.kids
  exact ⟨h.finalized _ _ rfl rfl rfl, h.finalized _ _ rfl rfl rfl, rfl, rfl, rfl, rfl, rfl, rfl, h2, h4⟩

theorem claim_spec {Us : List (List Con)} (s : CSt) (hw : TInvS R RE E Us s.w) (j : Nat) (hj : j < s.w.fes.length) :
    (j ∈ s.c.owned ∧ claim E j s = (.ok j, s)) ∨
    (j ∉ s.c.owned ∧ ∃ s', claim E j s = (.ok s.w.fes.length, s') ∧
      s'.c = { s.c with owned := listInsert s.c.owned s.w.fes.length } ∧
      s'.w.fes.length = s.w.fes.length + 1 ∧
      (s'.child s.w.fes.length).constraints = (s.child j).constraints ∧
      (s'.child s.w.fes.length).variables = (s.child j).variables ∧
      (∀ k, k < s.w.fes.length → FinRel (s.child k) (s'.child k)) ∧
      TInvS R RE E (Us ++ [Us.getD j []]) s'.w) := by
  obtain ⟨k, s', hr, hcase, hfin, hcopy, -⟩ := (claim_run (E := E) s j).ok
  rcases hcase with ⟨rfl, ho, rfl⟩ | ⟨rfl, ho, hc, hst, hlen⟩
  · exact Or.inl ⟨ho, hr⟩
  · have hk := (ch_step_branch (E := E) s.w Us hw j hj).2
    rw [hst] at hk
    exact Or.inr ⟨ho, s', hr, hc, hlen, hcopy.cons, hcopy.vars, fun i hi => (hfin i hi).1, hk⟩

/-- the composites of a tree (in the order they were made by `branch`) and the world of children they share -/
structure TSt where
  cs : List Comp := [{}]
  w : World := { fes := [] }
  deriving Inhabited

def TSt.at (t : TSt) (i : Nat) : CSt := { c := t.cs.getD i {}, w := t.w }

/-- one public call on composite `i` of the tree; `branch` appends the copy -/
def treeStep (E : Env) (t : TSt) (i : Nat) : Op → Out × TSt
  | .branch =>
    let r := compBranch (t.at i)
    (.newSolver t.cs.length, { cs := t.cs.set i r.2.c ++ [r.1], w := r.2.w })
  | op =>
    let r := compStep E (t.at i) op
    (r.1, { cs := t.cs.set i r.2.c, w := r.2.w })

/-- a history over the tree; every answer is paired with the constraints the user of THAT composite had added when it was given -/
def runTree (E : Env) : TSt → List (List Con) → List (Nat × Op) → List (List Con × Op × Out)
  | _, _, [] => []
  | t, UU, (i, op) :: rest =>
    let r := treeStep E t i op
    ((usersAll UU i op).getD i [], op, r.1) :: runTree E r.2 (usersAll UU i op) rest

/-- the history addresses composites that exist, with calls in scope or `branch` -/
def HistOkT (R : Con → Prop) (RE : Exp → Prop) : Nat → List (Nat × Op) → Prop
  | _, [] => True
  | n, (i, op) :: rest =>
    i < n ∧ (op = .branch ∨ InScopeCE R RE op) ∧ HistOkT R RE (match op with | .branch => n + 1 | _ => n) rest

/-- **the invariant of a tree**: every composite satisfies `CInv` for its own user's constraints (over one assignment `Us` of
constraint lists to the child records); a child owned by a composite is a record of the world and is in NO OTHER composite's
`_solvers` -/
structure TreeInv (R : Con → Prop) (RE : Exp → Prop) (E : Env) (UU : List (List Con)) (Us : List (List Con)) (t : TSt) : Prop where
  len : UU.length = t.cs.length
  each : ∀ i, i < t.cs.length → CInv R RE E (UU.getD i []) Us (t.at i)
  ownLt : ∀ i, i < t.cs.length → ∀ k ∈ (t.cs.getD i {}).owned, k < t.w.fes.length
  own : ∀ i j, i < t.cs.length → j < t.cs.length → i ≠ j → ∀ k ∈ (t.cs.getD i {}).owned, k ∉ (t.cs.getD j {}).solverList

/-- **the footprint of one call** on a composite: the world grows; the record of a child the composite does NOT own keeps
constraints and variables; what it owns afterwards it owned before or is a new record; what `_solvers` points to afterwards it
pointed to before or is a new record -/
def StepFrame (s s' : CSt) : Prop :=
  s.w.fes.length ≤ s'.w.fes.length ∧
  (∀ k, k < s.w.fes.length → k ∉ s.c.owned →
    (s'.child k).constraints = (s.child k).constraints ∧ (s'.child k).variables = (s.child k).variables) ∧
  (∀ k ∈ s'.c.owned, k ∈ s.c.owned ∨ (s.w.fes.length ≤ k ∧ k < s'.w.fes.length)) ∧
  (∀ k ∈ s'.c.solverList, k ∈ s.c.solverList ∨ s.w.fes.length ≤ k)

def CompFrames (R : Con → Prop) (RE : Exp → Prop) (E : Env) : Prop :=
  ∀ (U : List Con) (Us : List (List Con)) (s : CSt) (op : Op), CInv R RE E U Us s → InScopeCE R RE op →
    (∀ k ∈ s.c.owned, k < s.w.fes.length) → StepFrame s (compStep E s op).2

theorem StepFrame.refl (s : CSt) : StepFrame s s :=
  ⟨Nat.le_refl _, fun _ _ _ => ⟨rfl, rfl⟩, fun _ hk => Or.inl hk, fun _ hk => Or.inl hk⟩

theorem usersAll_getD_self (UU : List (List Con)) (i : Nat) (hi : i < UU.length) (op : Op) :
    (usersAll UU i op).getD i [] = usersAfter (UU.getD i []) op := by
  cases op with
  | add cs => exact getD_set_self _ _ _ _ hi
  | branch => exact getD_append_left' _ _ _ _ hi
  | _ => rfl

theorem usersAll_getD_ne (UU : List (List Con)) (i j : Nat) (hj : j < UU.length) (hij : i ≠ j) (op : Op) :
    (usersAll UU i op).getD j [] = UU.getD j [] := by
  cases op with
  | add cs => exact getD_set_ne _ _ _ _ _ hij
  | branch => exact getD_append_left' _ _ _ _ hj
  | _ => rfl

theorem TreeInv.set {UU UU' Us Us' : List (List Con)} {t : TSt} (ht : TreeInv R RE E UU Us t) {i : Nat} (hi : i < t.cs.length)
    {c' : Comp} {w' : World} (hinv : CInv R RE E (UU'.getD i []) Us' { c := c', w := w' })
    (hf : StepFrame (t.at i) { c := c', w := w' }) (hlen : UU'.length = UU.length)
    (hne : ∀ m, m < UU.length → i ≠ m → UU'.getD m [] = UU.getD m []) :
    TreeInv R RE E UU' Us' { cs := t.cs.set i c', w := w' } := by
  obtain ⟨f1, f2, f3, f4⟩ := hf
  refine ⟨by simpa [hlen] using ht.len,
    forall_getD_set {} (P := fun m c => CInv R RE E (UU'.getD m []) Us' { c := c, w := w' }) (fun _ => hinv) fun m hm hmi => ?_,
    forall_getD_set {} (P := fun _ (c : Comp) => ∀ k ∈ c.owned, k < w'.fes.length)
      (fun _ k hk => (f3 k hk).elim (fun h => Nat.lt_of_lt_of_le (ht.ownLt i hi k h) f1) fun h => h.2)
      fun m hm _ k hk => Nat.lt_of_lt_of_le (ht.ownLt m hm k hk) f1,
    pairwise_getD_set {} (Q := fun _ _ (ca cb : Comp) => ∀ k ∈ ca.owned, k ∉ cb.solverList) (fun b hb hib k hk => ?_)
      (fun a ha hia k hk hkb => ?_) fun a b ha hb hab _ _ => ht.own a b ha hb hab⟩
  · -- another composite: the frame rule
    rw [hne m (by rw [ht.len]; exact hm) hmi]
    exact (ht.each m hm).frame hinv f1 fun k hk =>
      f2 k ((ht.each m hm).lt_of_mem hk) (fun hko => ht.own i m hi hm hmi k hko hk)
  · -- what `i` owns afterwards nobody else points to
    rcases f3 k hk with h | h
    · exact ht.own i b hi hb hib k h
    · exact fun hkb => absurd ((ht.each b hb).lt_of_mem hkb) (Nat.not_lt.mpr h.1)
  · -- what `i` points to afterwards nobody else owns
    rcases f4 k hkb with h | h
    · exact ht.own a i ha hi (Ne.symm hia) k hk h
    · exact absurd (ht.ownLt a ha k hk) (Nat.not_lt.mpr h)

theorem TreeInv.append {UU Us : List (List Con)} {t : TSt} (ht : TreeInv R RE E UU Us t) {U : List Con} {c : Comp}
    (hc : CInv R RE E U Us { c := c, w := t.w }) (ho : c.owned = [])
    (hown : ∀ a, a < t.cs.length → ∀ k ∈ (t.cs.getD a {}).owned, k ∉ c.solverList) :
    TreeInv R RE E (UU ++ [U]) Us { cs := t.cs ++ [c], w := t.w } := by
  have hU : ∀ m, m < t.cs.length → (UU ++ [U]).getD m [] = UU.getD m [] :=
    fun m hm => getD_append_left' _ _ _ _ (by rw [ht.len]; exact hm)
  have hUl : (UU ++ [U]).getD t.cs.length [] = U := by rw [← ht.len]; exact getD_append_last _ _ _
  exact ⟨by simp [ht.len],
    forall_getD_snoc {} (P := fun m c => CInv R RE E ((UU ++ [U]).getD m []) Us { c := c, w := t.w })
      (fun m hm => by rw [hU m hm]; exact ht.each m hm) (by rw [hUl]; exact hc),
    forall_getD_snoc {} (P := fun _ (c : Comp) => ∀ k ∈ c.owned, k < t.w.fes.length) ht.ownLt (fun k hk => by rw [ho] at hk; cases hk),
    pairwise_getD_snoc {} (Q := fun _ _ (ca cb : Comp) => ∀ k ∈ ca.owned, k ∉ cb.solverList) ht.own
      (fun _ _ k hk => by rw [ho] at hk; cases hk) hown⟩

section
variable (H : SolverHyps R RE E)
include H

theorem tree_step (hF : CompFrames R RE E) {UU Us : List (List Con)} {t : TSt} (ht : TreeInv R RE E UU Us t) (i : Nat)
    (hi : i < t.cs.length) (op : Op) (hop : op = .branch ∨ InScopeCE R RE op) :
    JudgeOrGiveUp E ((usersAll UU i op).getD i []) op (treeStep E t i op).1 ∧
      ∃ Us', TreeInv R RE E (usersAll UU i op) Us' (treeStep E t i op).2 := by
  have hiU : i < UU.length := by rw [ht.len]; exact hi
  by_cases hb : op = .branch
  · subst hb
    refine ⟨Or.inl trivial, Us, ?_⟩
    obtain ⟨hp, hc, hco, hpo, hcs, hps, _, _, hlen, hfin⟩ := compBranch_spec (ht.each i hi)
    -- the parent made a step; then the copy is appended
    have hfr : StepFrame (t.at i) (compBranch (t.at i)).2 :=
      ⟨Nat.le_of_eq hlen.symm, fun k _ _ => ⟨(hfin k).cons, (hfin k).vars⟩, fun k hk => (by rw [hpo] at hk; cases hk),
        fun k hk => Or.inl (by rw [solverList_congr hps] at hk; exact hk)⟩
    have h1 : TreeInv R RE E UU Us { cs := t.cs.set i (compBranch (t.at i)).2.c, w := (compBranch (t.at i)).2.w } :=
      ht.set hi hp hfr rfl (fun _ _ _ => rfl)
    exact h1.append hc hco (forall_getD_set {} (P := fun _ (c : Comp) => ∀ k ∈ c.owned, k ∉ (compBranch (t.at i)).1.solverList)
      (fun _ k hk => by rw [hpo] at hk; cases hk)
      fun a ha hia k hk => by rw [solverList_congr hcs]; exact ht.own a i ha hi (Ne.symm hia) k hk)
  · have hsc : InScopeCE R RE op := hop.resolve_left hb
    have hstep : treeStep E t i op = ((compStep E (t.at i) op).1,
        { cs := t.cs.set i (compStep E (t.at i) op).2.c, w := (compStep E (t.at i) op).2.w }) := by
      cases op with
      | branch => exact (hb rfl).elim
      | _ => rfl
    obtain ⟨hj, Us', hinv⟩ := comp_stepE H (ht.each i hi) op hsc
    have hlenU : (usersAll UU i op).length = UU.length := by
      rw [usersAll_length]
      cases op with
      | branch => exact (hb rfl).elim
      | _ => rfl
    rw [hstep, usersAll_getD_self UU i hiU op]
    exact ⟨hj, Us', ht.set hi (by rw [usersAll_getD_self UU i hiU op]; exact hinv)
      (hF _ _ _ op (ht.each i hi) hsc (ht.ownLt i hi)) hlenU fun m hm hne => usersAll_getD_ne UU i m hm hne op⟩

theorem tree_hist (hF : CompFrames R RE E) : ∀ (hist : List (Nat × Op)) (t : TSt) (UU Us : List (List Con)),
    TreeInv R RE E UU Us t → HistOkT R RE t.cs.length hist → ∀ x ∈ runTree E t UU hist, JudgeOrGiveUp E x.1 x.2.1 x.2.2
  | [], _, _, _, _, _ => fun x hx => by cases hx
  | (i, op) :: rest, t, UU, Us, ht, hok => by
    intro x hx
    obtain ⟨hi, hop, hrest⟩ := hok
    obtain ⟨hj, Us', hinv⟩ := tree_step H hF ht i hi op hop
    have hrest' : HistOkT R RE (treeStep E t i op).2.cs.length rest := by
      cases op <;> simpa [treeStep] using hrest
    have hx' : x = ((usersAll UU i op).getD i [], op, (treeStep E t i op).1) ∨
        x ∈ runTree E (treeStep E t i op).2 (usersAll UU i op) rest := List.mem_cons.mp hx
    rcases hx' with rfl | hx'
    · exact hj
    · exact tree_hist hF rest _ _ Us' hinv hrest' x hx'

end

theorem treeInv_init (R : Con → Prop) (RE : Exp → Prop) (E : Env) (track : Bool) :
    TreeInv R RE E [[]] [] { cs := [{ track := track }], w := { fes := [] } } := by
  refine ⟨rfl, ?_, ?_, ?_⟩
  · intro i hi
    have : i = 0 := by simpa using hi
    subst this
    exact cinv_init R RE E track
  · intro i hi k hk
    have : i = 0 := by simpa using hi
    subst this
    cases hk
  · intro i j hi hj hij
    have h1 : i = 0 := by simpa using hi
    have h2 : j = 0 := by simpa using hj
    exact (hij (h1.trans h2.symm)).elim

end Claripy.Solver

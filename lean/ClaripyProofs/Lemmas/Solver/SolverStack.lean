import ClaripyProofs.Lemmas.Solver.SolverInv
/-!
The class `Solver` as the model composes it from the GENERATED method resolution order, layer by layer, and the methods
that do not depend on `self`: `simplify`, `downsize`, `_model_hook`, `_concrete_value`, `_concrete_constraint`; `simplify`
and `downsize` keep the invariant.
-/
namespace Claripy.Solver
open Claripy.Gen.SolverMro

variable {R : Con → Prop} {RE : Exp → Prop} {E : Env} {G : St → Prop} {U : List Con}

def sL0 (E : Env) (self : Ops) : Ops := fullLayer E self (constrainedLayer E self frontendBase)
def sL1 (E : Env) (self : Ops) : Ops := helperLayer self (sL0 E self)
def sL2 (E : Env) (self : Ops) : Ops := expansionLayer E self (sL1 E self)
def sL3 (E : Env) (self : Ops) : Ops := modelCacheLayer E self (sL2 E self)
def sL4 (E : Env) (self : Ops) : Ops := satCacheLayer E self (sL3 E self)
def sL5 (E : Env) (self : Ops) : Ops := skipperLayer self (sL4 E self)
def sL6 (E : Env) (self : Ops) : Ops := dedupLayer self (sL5 E self)
def sL7 (E : Env) (self : Ops) : Ops := filterLayer E self (sL6 E self)
def sL8 (E : Env) (self : Ops) : Ops := eagerLayer self (sL7 E self)
def sL9 (E : Env) (self : Ops) : Ops := concreteHandlerLayer self (sL8 E self)

/-- the class `Solver`, one unrolling of `self` -/
theorem compose_solver (E : Env) (self : Ops) : compose E (mro .Solver) self = sL9 E self := rfl

/-- the class seen through `self` inside its own methods (`k + 1` unrollings) -/
def solStage (E : Env) (k : Nat) : Ops := stage E (mro .Solver) (k + 1)

theorem solStage_eq (E : Env) (k : Nat) : solStage E (k + 1) = sL9 E (solStage E k) := compose_solver E (solStage E k)
theorem solStage_zero (E : Env) : solStage E 0 = sL9 E frontendBase := compose_solver E frontendBase

theorem sL9_modelHook (E : Env) (self : Ops) : (sL9 E self).modelHook = mcHook := rfl
theorem sL9_concreteCon (E : Env) (self : Ops) (c : Con) : (sL9 E self).concreteCon c = c.conc := rfl
theorem sL9_concreteValue (E : Env) (self : Ops) (e : Exp) : (sL9 E self).concreteValue e = e.conc := rfl

theorem sL9_downsize (E : Env) (self : Ops) (s : St) : (sL9 E self).downsize s = (.ok (), clDownsizeSt s) := rfl

theorem sL9_simplify_self (E : Env) (self self' : Ops) : (sL9 E self).simplify = (sL9 E self').simplify := by
  -- layer by layer: one `rfl` for the whole stack takes twice as long with each mixin that wraps `super().simplify()`
  have h2 : (sL2 E self).simplify = (sL2 E self').simplify := rfl
  have h3 : (sL3 E self).simplify = (sL3 E self').simplify := by dsimp only [sL3, modelCacheLayer]; rw [h2]
  have h4 : (sL4 E self).simplify = (sL4 E self').simplify := by dsimp only [sL4, satCacheLayer]; rw [h3]
  have h5 : (sL5 E self).simplify = (sL5 E self').simplify := by dsimp only [sL5, skipperLayer]; rw [h4]
  have h6 : (sL6 E self).simplify = (sL6 E self').simplify := by dsimp only [sL6, dedupLayer]; rw [h5]
  exact h6

/-- **SimpVars** (C09): on constraints of the registry `claripy.simplify` invents no variables -/
def SimpVars (R : Con → Prop) (E : Env) : Prop :=
  ∀ cs k, (∀ c ∈ cs, R c) → ∀ c ∈ E.simp cs k, ∀ v ∈ c.vars, ∃ c' ∈ cs, v ∈ c'.vars

theorem unsat_of_false_among (hR : Reg R E) {out : List Con} (hoR : ∀ c ∈ out, R c)
    (heq : ∀ a, holdsAll out a = holdsAll U a) (hF : (!out.isEmpty && out.any (·.isFalse)) = true) : ¬ Satisfiable U := by
  rintro ⟨a, ha⟩
  simp only [Bool.and_eq_true] at hF
  obtain ⟨c, hc, hcf⟩ := List.any_eq_true.mp hF.2
  have h1 : holdsAll out a = true := by rw [heq a]; exact (models_iff_holdsAll U a).mp ha
  have := (models_iff_holdsAll out a).mpr h1 c hc
  rw [(hR.wf c (hoR c hc)).2.1 hcf a] at this
  exact absurd this (by simp)

/-! Above FullFrontend every layer's `simplify` returns registered constraints that mean what the user's constraints mean, does not
raise, and keeps the invariant; each mixin is shown to hand this on, so that any order of the mixins is covered. -/

def SimpQ (R : Con → Prop) (RE : Exp → Prop) (E : Env) (G : St → Prop) (m : M (List Con)) : Prop :=
  ∀ (U : List Con) s, SI R RE E G U s →
    m.wp (fun out s' => (∀ c ∈ out, R c) ∧ (∀ a, holdsAll out a = holdsAll U a) ∧ SI R RE E G U s' ∧ Keep U s s')
      (fun _ _ => False) s

theorem SimpQ.spec {m : M (List Con)} (h : SimpQ R RE E G m) : SimplifySpec R RE E G m := fun U s hs =>
  let ⟨out, s', hrun, _, _, h1, h2⟩ := wp.ok (h U s hs)
  ⟨out, s', hrun, h1, h2⟩

theorem SI.reset {s : St} (h : SI R RE E G U s) (out : List Con) (hoR : ∀ c ∈ out, R c)
    (hoeq : ∀ a, holdsAll out a = holdsAll U a) (hov : ∀ c ∈ out, ∀ v ∈ c.vars, v ∈ s.fe.variables) (t : Nat) :
    SI R RE E G U { s with tick := t, fe := { s.fe with constraints := out, solver := none, toAdd := [] } } := by
  refine ⟨⟨⟨fun _ _ => rfl, fun _ hr => (by cases hr), h.base.core.noReuse⟩, hoeq, ⟨hoR, h.base.dinv.seen⟩, hov, ?_,
    fun _ _ hr => (by cases hr)⟩, h.mc.of_fields rfl, h.sc⟩
  obtain ⟨s0, hg, hw⟩ := h.base.ghost
  exact ⟨s0, hg, hw.trans ⟨Nat.le_refl _, Or.inr (Or.inl rfl), fun _ _ _ => rfl, rfl, fun hf => hf⟩⟩

theorem full_simplify_q (hR : Reg R E) (hS : SimpOn R E) (hV : SimpVars R E) (self self' base : Ops) :
    SimpQ R RE E G (fullLayer E self (constrainedLayer E self' base)).simplify := by
  intro U s h
  simp only [fullLayer, constrainedLayer, M.wp_bind, M.wp_getFe, M.wp_ite, M.wp_get, M.wp_modify, M.wp_modifyFe]
  split
  · exact ⟨h.base.dinv.consR, h.base.equiv, h.reset _ h.base.dinv.consR h.base.equiv h.base.vars s.tick, Keep.of_fe rfl rfl⟩
  · have hoR := hR.simp_closed _ s.tick h.base.dinv.consR
    have hoeq : ∀ a, holdsAll (E.simp s.fe.constraints s.tick) a = holdsAll U a := fun a => by
      rw [← h.base.equiv a]
      exact hS _ _ h.base.dinv.consR a
    refine ⟨hoR, hoeq, h.reset _ hoR hoeq (fun c hc v hv => ?_) (s.tick + 1), Keep.of_fe rfl rfl⟩
    obtain ⟨c', hc', hv'⟩ := hV _ _ h.base.dinv.consR c hc v hv
    exact h.base.vars c' hc' v hv'

/-- ModelCacheMixin.simplify: a literally false constraint empties the model cache -/
theorem mc_simplify_q (hR : Reg R E) {self sup : Ops} (hsup : SimpQ R RE E G sup.simplify) :
    SimpQ R RE E G (modelCacheLayer E self sup).simplify := by
  intro U s h
  simp only [modelCacheLayer, M.wp_bind]
  refine (hsup U s h).imp (fun out s1 ⟨hoR, hoeq, h1, hk1⟩ => ?_) fun _ _ h => h
  simp only [M.wp_ite, M.wp_bind, M.wp_modifyFe]
  split
  · next hF =>
    have hun := unsat_of_false_among hR hoR hoeq hF
    exact ⟨hoR, hoeq, h1.set_fe _ rfl rfl rfl rfl rfl rfl rfl rfl (mcInv_unsat RE E U _ hun (by simp)) h1.sc,
      hk1.trans ⟨fun _ hv => hv, fun hsat => absurd hsat hun⟩⟩
  · exact ⟨hoR, hoeq, h1, hk1⟩

/-- SatCacheMixin.simplify: a literally false constraint is remembered as unsatisfiable; the cached core, which the last step
may drop, is not part of the invariant -/
theorem satCache_simplify_q (hR : Reg R E) {self sup : Ops} (hsup : SimpQ R RE E G sup.simplify) :
    SimpQ R RE E G (satCacheLayer E self sup).simplify := by
  intro U s h
  simp only [satCacheLayer, M.wp_bind]
  refine (hsup U s h).imp (fun out s1 ⟨hoR, hoeq, h1, hk1⟩ => ?_) fun _ _ h => h
  have core : ∀ s2, SI R RE E G U s2 → Keep U s s2 → ∀ c, (∀ c ∈ out, R c) ∧ (∀ a, holdsAll out a = holdsAll U a) ∧
      SI R RE E G U { s2 with fe := { s2.fe with cachedCore := c } } ∧
      Keep U s { s2 with fe := { s2.fe with cachedCore := c } } := fun s2 h2 hk2 c =>
    ⟨hoR, hoeq, h2.set_fe _ rfl rfl rfl rfl rfl rfl rfl rfl (h2.mc.of_fields rfl) h2.sc,
      hk2.trans (Keep.of_fe rfl rfl)⟩
  simp only [M.wp_ite, M.wp_bind, M.wp_modifyFe]
  split
  · next hF =>
    have h2 := h1.set_cachedSat _ (scInv_false (unsat_of_false_among hR hoR hoeq hF))
    have hk2 := hk1.trans (Keep.of_fe (s' := { s1 with fe := { s1.fe with cachedSat := some false } }) rfl rfl)
    split
    · split
      · exact core _ h2 hk2 none
      · exact core _ h2 hk2 _
    · exact core _ h2 hk2 _
  · split
    · split
      · exact core s1 h1 hk1 none
      · exact core s1 h1 hk1 _
    · exact core s1 h1 hk1 _

/-- SimplifySkipperMixin.simplify: nothing to do when nothing was added since the last time -/
theorem skipper_simplify_q {self sup : Ops} (hsup : SimpQ R RE E G sup.simplify) :
    SimpQ R RE E G (skipperLayer self sup).simplify := by
  intro U s h
  simp only [skipperLayer, M.wp_bind, M.wp_getFe, M.wp_ite, M.wp_modifyFe]
  split
  · exact ⟨h.base.dinv.consR, h.base.equiv, h, Keep.refl U s⟩
  · exact (hsup U _ (h.set_fe { s.fe with simplified := true } rfl rfl rfl rfl rfl rfl rfl rfl
      (h.mc.of_fields rfl) h.sc)).imp
      (fun _ _ ⟨a, b, c, d⟩ => ⟨a, b, c, (Keep.of_fe (s := s) (s' := { s with fe := { s.fe with simplified := true } }) rfl rfl).trans d⟩) fun _ _ h => h

theorem SI.add_hashes {s : St} (hR : Reg R E) (h : SI R RE E G U s) (out : List Con) (hoR : ∀ c ∈ out, R c)
    (hoeq : ∀ a, holdsAll out a = holdsAll U a) :
    SI R RE E G U { s with fe := { s.fe with hashes := listUnion s.fe.hashes (out.map (·.id)) } } := by
  refine ⟨⟨⟨h.base.core.toAdd_sub, h.base.core.obj, h.base.core.noReuse⟩, h.base.equiv,
    ⟨h.base.dinv.consR, seen_union hR h.base.dinv out hoR hoeq⟩, h.base.vars, ?_, h.base.areg⟩,
    h.mc.of_fields rfl, h.sc⟩
  obtain ⟨s0, hg, hw⟩ := h.base.ghost
  exact ⟨s0, hg, hw.trans (WStep.of_fe rfl rfl rfl rfl)⟩

theorem dedup_simplify_q (hR : Reg R E) {self sup : Ops} (hsup : SimpQ R RE E G sup.simplify) :
    SimpQ R RE E G (dedupLayer self sup).simplify := by
  intro U s h
  simp only [dedupLayer, M.wp_bind, M.wp_modifyFe]
  exact (hsup U s h).imp (fun out s1 ⟨hoR, hoeq, h1, hk1⟩ =>
    ⟨hoR, hoeq, h1.add_hashes hR out hoR hoeq, hk1.trans (Keep.of_fe rfl rfl)⟩) fun _ _ h => h

theorem sL9_simplify_spec (hR : Reg R E) (hS : SimpOn R E) (hV : SimpVars R E) (self : Ops) :
    SimplifySpec R RE E G (sL9 E self).simplify :=
  (dedup_simplify_q hR (self := self) (sup := sL5 E self) (skipper_simplify_q (self := self) (sup := sL4 E self)
    (satCache_simplify_q hR (self := self) (sup := sL3 E self) (mc_simplify_q hR (self := self) (sup := sL2 E self)
      (full_simplify_q hR hS hV self self frontendBase))))).spec

theorem solDownsize_spec (s : St) (h : SI R RE E G U s) : SI R RE E G U (clDownsizeSt s) ∧ Keep U s (clDownsizeSt s) :=
  ⟨h.reset _ h.base.dinv.consR h.base.equiv h.base.vars s.tick, Keep.of_fe rfl rfl⟩

end Claripy.Solver

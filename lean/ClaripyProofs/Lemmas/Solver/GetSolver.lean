import ClaripyProofs.Lemmas.Solver.L1
import ClaripyProofs.Lemmas.Solver.Independent
/-!
L2: `FullFrontend._get_solver` / `_add_constraints` establish that the Z3 object the frontend references asserts
exactly (up to meaning) the frontend's constraints, with nothing pending (`reuse_z3_solver` off): `getSolver_got`, one case
analysis for untracked and tracked frontends (`getSolverG_spec`, `getSolver_spec` say the same of the pair `getSolver s`,
`wp_getSolverG`, `wp_getSolver` use it as a step of a method).  With `track=True`, `BackendZ3._add(track=True)`
names every assertion by its Z3 AST and skips a constraint whose name is already asserted; a finalized frontend with pending
constraints takes a fresh solver instead of a clone.  What makes this sound: equal Z3 ASTs mean equal constraints
(`ZidFaithful`), and the assertions of the object a tracked frontend refers to are conversions of registered constraints
(`AssertedReg` — blocking clauses only ever live in pushed frames).
-/
namespace Claripy.Solver

/-- what the FullFrontend part of a frontend record and its Z3 object must satisfy between calls -/
structure CoreInv (s : St) : Prop where
  /-- pending constraints are among the constraints (semantically) -/
  toAdd_sub : ∀ a, holdsAll s.fe.constraints a = true → holdsAll s.fe.toAdd a = true
  /-- the referenced object exists, has no open scope, and together with what is pending says what the constraints say -/
  obj : ∀ r, s.fe.solver = some r → r < s.objs.length ∧ (∃ f, (objAt s r).frames = [f]) ∧
        ∀ a, (SatBy (objAt s r).asserted a ∧ holdsAll s.fe.toAdd a = true) ↔ holdsAll s.fe.constraints a = true
  noReuse : s.reuse = false
  untracked : s.fe.track = false

theorem satBy_ofCon (cs : List Con) (a : Asg) : SatBy (cs.map ZCon.ofCon) a ↔ holdsAll cs a = true := by
  simp [SatBy, holdsAll, ZCon.ofCon, List.all_eq_true]

theorem z3Add_untracked (r : Nat) (cs : List ZCon) (s : St) :
    z3Add r cs false s = (.ok (), { s with objs := s.objs.set r ((objAt s r).addTop cs) }) := rfl

theorem objAt_other_set (s : St) (r i : Nat) (o : Z3Obj) (h : i ≠ r) :
    objAt { s with objs := s.objs.set r o } i = objAt s i := by
  simp [objAt, List.getD, Ne.symm h]

theorem addConstraints_eq (s : St) (r : Nat) (hs : s.fe.solver = some r) (ht : s.fe.track = false) :
    addConstraints s = (.ok (), { s with objs := s.objs.set r ((objAt s r).addTop (s.fe.constraints.map ZCon.ofCon)),
                                         fe := { s.fe with toAdd := [] } }) := by
  simp [addConstraints, bind, M.bind, hs, ht, z3Add_untracked]

theorem holdsAll_nil (a : Asg) : holdsAll [] a = true := rfl

/-- the state `_get_solver` leaves behind -/
structure GotSolver (s s' : St) (r : Nat) : Prop where
  fe : s'.fe = { s.fe with solver := some r, toAdd := [] }
  lt : r < s'.objs.length
  frames : ∃ f, (objAt s' r).frames = [f]
  asserted : ∀ a, SatBy (objAt s' r).asserted a ↔ holdsAll s.fe.constraints a = true
  /-- objects that existed before and are not the one in use are untouched; `r` is the old object or a new one -/
  others : ∀ i, i < s.objs.length → i ≠ r → s'.objs[i]? = s.objs[i]?
  grow : s.objs.length ≤ s'.objs.length
  fresh_or_same : s.fe.solver = some r ∧ s.fe.finalized = false ∨ s.objs.length ≤ r ∨ (s.fe.solver = some r ∧ s.fe.toAdd = [] ∧ s'.objs = s.objs)
  reuse : s'.reuse = s.reuse
  shared : s'.shared = s.shared

theorem asserted_of_frames {o : Z3Obj} {f : List ZCon} (h : o.frames = [f]) : o.asserted = f := by
  simp [Z3Obj.asserted, h]

/-- equal Z3 ASTs (the names `assert_and_track` uses) mean equal constraints -/
def ZidFaithful (R : Con → Prop) : Prop := ∀ c c', R c → R c' → c.zid = c'.zid → ∀ a, c.sem a = c'.sem a

/-- `CoreInv` without the restriction to untracked frontends -/
structure CoreInvG (s : St) : Prop where
  toAdd_sub : ∀ a, holdsAll s.fe.constraints a = true → holdsAll s.fe.toAdd a = true
  obj : ∀ r, s.fe.solver = some r → r < s.objs.length ∧ (∃ f, (objAt s r).frames = [f]) ∧
        ∀ a, (SatBy (objAt s r).asserted a ∧ holdsAll s.fe.toAdd a = true) ↔ holdsAll s.fe.constraints a = true
  noReuse : s.reuse = false

theorem CoreInv.toG {s : St} (h : CoreInv s) : CoreInvG s := ⟨h.toAdd_sub, h.obj, h.noReuse⟩

theorem CoreInvG.add {s s' : St} {new : List Con} (h : CoreInvG s) (hcons : s'.fe.constraints = s.fe.constraints ++ new)
    (htoadd : s'.fe.toAdd = s.fe.toAdd ++ new) (hsol : s'.fe.solver = s.fe.solver) (hobjs : s'.objs = s.objs)
    (hre : s'.reuse = s.reuse) : CoreInvG s' := by
  refine ⟨?_, ?_, by rw [hre]; exact h.noReuse⟩
  · intro a hca
    rw [hcons, holdsAll_append] at hca
    rw [htoadd, holdsAll_append]
    simp only [Bool.and_eq_true] at hca ⊢
    exact ⟨h.toAdd_sub a hca.1, hca.2⟩
  · intro r hr
    rw [hsol] at hr
    obtain ⟨hlt, hfr, hsem⟩ := h.obj r hr
    have hobj : objAt s' r = objAt s r := objAt_of_objs_eq hobjs r
    refine ⟨by rw [hobjs]; exact hlt, by rw [hobj]; exact hfr, fun a => ?_⟩
    rw [hobj, htoadd, hcons, holdsAll_append, holdsAll_append]
    simp only [Bool.and_eq_true]
    constructor
    · rintro ⟨h1, h2, h3⟩; exact ⟨(hsem a).mp ⟨h1, h2⟩, h3⟩
    · rintro ⟨h1, h2⟩
      have := (hsem a).mpr h1
      exact ⟨this.1, this.2, h2⟩

/-- the invariant reads the heap only at the frames of the object referred to -/
theorem CoreInvG.heap {s s' : St} (h : CoreInvG s) (hcons : s'.fe.constraints = s.fe.constraints)
    (htoadd : s'.fe.toAdd = s.fe.toAdd) (hsol : s'.fe.solver = s.fe.solver) (hre : s'.reuse = s.reuse)
    (hobj : ∀ r, s.fe.solver = some r → r < s'.objs.length ∧ (objAt s' r).frames = (objAt s r).frames) : CoreInvG s' := by
  refine ⟨by rw [hcons, htoadd]; exact h.toAdd_sub, ?_, by rw [hre]; exact h.noReuse⟩
  intro r hr
  rw [hsol] at hr
  obtain ⟨_, ⟨f, hf⟩, hsem⟩ := h.obj r hr
  obtain ⟨hlt, hfr⟩ := hobj r hr
  refine ⟨hlt, ⟨f, by rw [hfr, hf]⟩, fun a => ?_⟩
  have has : (objAt s' r).asserted = (objAt s r).asserted := by simp only [Z3Obj.asserted, hfr]
  rw [has, htoadd, hcons]
  exact hsem a

theorem objAt_eq_of_getElem? {s s' : St} {i : Nat} (h : s'.objs[i]? = s.objs[i]?) : objAt s' i = objAt s i := by
  simp only [objAt, List.getD_eq_getElem?_getD, h]

theorem CoreInvG.after_query {s s1 s2 : St} {r : Nat} (hnr : s.reuse = false) (hg : GotSolver s s1 r) (hst : ObjStep r s1 s2)
    (hfr : (objAt s2 r).frames = (objAt s1 r).frames) (hcons : s2.fe.constraints = s.fe.constraints)
    (htoadd : s2.fe.toAdd = []) (hsol : s2.fe.solver = some r) : CoreInvG s2 := by
  refine ⟨fun a _ => by rw [htoadd]; rfl, ?_, by rw [hst.reuse, hg.reuse]; exact hnr⟩
  intro r' hr'
  rw [hsol] at hr'
  simp only [Option.some.injEq] at hr'
  subst hr'
  obtain ⟨f, hf⟩ := hg.frames
  refine ⟨by rw [hst.len]; exact hg.lt, ⟨f, by rw [hfr, hf]⟩, fun a => ?_⟩
  have has : (objAt s2 r).asserted = (objAt s1 r).asserted := by simp only [Z3Obj.asserted, hfr]
  rw [has, hcons, htoadd]
  simp only [holdsAll_nil, and_true]
  exact hg.asserted a

theorem GotSolver.solverNew {s s1 : St} {r : Nat} (hg : GotSolver s s1 r) : some r = s.fe.solver ∨ s.objs.length ≤ r := by
  rcases hg.fresh_or_same with ⟨h1, _⟩ | h2 | ⟨h3, _, _⟩
  · exact Or.inl h1.symm
  · exact Or.inr h2
  · exact Or.inl h3.symm

theorem GotSolver.foreign {s s1 s2 : St} {r : Nat} (hg : GotSolver s s1 r) (hst : ObjStep r s1 s2)
    (hfr : (objAt s2 r).frames = (objAt s1 r).frames) (i : Nat) (hi : i < s.objs.length)
    (hp : s.fe.solver = some i → s.fe.finalized = true) : (objAt s2 i).frames = (objAt s i).frames := by
  by_cases hir : i = r
  · subst hir
    rcases hg.fresh_or_same with ⟨h1, hf⟩ | h2 | ⟨_, _, h3⟩
    · have := hp h1; rw [hf] at this; cases this
    · omega
    · rw [hfr]
      have : objAt s1 i = objAt s i := by simp only [objAt, h3]
      rw [this]
  · have e1 : s2.objs[i]? = s1.objs[i]? := hst.other i hir
    have e2 : s1.objs[i]? = s.objs[i]? := hg.others i hi hir
    rw [objAt_eq_of_getElem? (e1.trans e2)]

def AssertedReg (R : Con → Prop) (s : St) (r : Nat) : Prop := ∀ z ∈ (objAt s r).asserted, ∃ c, R c ∧ z = ZCon.ofCon c

structure GotS (R : Con → Prop) (s s' : St) (r : Nat) : Prop extends GotSolver s s' r where
  areg : s.fe.track = true → AssertedReg R s' r

/-- the assertions `_add(track=True)` really makes: those whose name is new -/
def trackedFresh (names : List ZTag) (cs : List ZCon) : List ZCon :=
  cs.foldl (fun (acc : List ZCon) c => if (names ++ acc.map (·.tag)).contains c.tag then acc else acc ++ [c]) []

theorem trackedFresh_aux (names : List ZTag) (cs : List ZCon) : ∀ acc : List ZCon,
    let out := cs.foldl (fun (acc : List ZCon) c => if (names ++ acc.map (·.tag)).contains c.tag then acc else acc ++ [c]) acc
    (∀ z ∈ out, z ∈ acc ∨ z ∈ cs) ∧ (∀ z ∈ acc, z ∈ out) ∧
    (∀ c ∈ cs, c.tag ∈ names ∨ ∃ z ∈ out, z.tag = c.tag) := by
  induction cs with
  | nil => intro acc; simp
  | cons c cs ih =>
    intro acc
    simp only [List.foldl_cons]
    by_cases hc : (names ++ acc.map (·.tag)).contains c.tag = true
    · rw [if_pos hc]
      obtain ⟨h1, h2, h3⟩ := ih acc
      refine ⟨fun z hz => (h1 z hz).elim Or.inl (fun h => Or.inr (List.mem_cons_of_mem _ h)), h2, ?_⟩
      intro c' hc'
      rcases List.mem_cons.mp hc' with rfl | hc'
      · have : c'.tag ∈ names ++ acc.map (·.tag) := by simpa using hc
        rcases List.mem_append.mp this with h | h
        · exact Or.inl h
        · obtain ⟨z, hz, hzt⟩ := List.mem_map.mp h
          exact Or.inr ⟨z, h2 z hz, hzt⟩
      · exact h3 c' hc'
    · rw [if_neg hc]
      obtain ⟨h1, h2, h3⟩ := ih (acc ++ [c])
      refine ⟨fun z hz => ?_, fun z hz => h2 z (List.mem_append_left _ hz), ?_⟩
      · rcases h1 z hz with h | h
        · rcases List.mem_append.mp h with h | h
          · exact Or.inl h
          · simp at h; subst h; exact Or.inr List.mem_cons_self
        · exact Or.inr (List.mem_cons_of_mem _ h)
      · intro c' hc'
        rcases List.mem_cons.mp hc' with rfl | hc'
        · exact Or.inr ⟨c', h2 c' (by simp), rfl⟩
        · exact h3 c' hc'

theorem trackedFresh_spec (names : List ZTag) (cs : List ZCon) :
    (∀ z ∈ trackedFresh names cs, z ∈ cs) ∧
    (∀ c ∈ cs, c.tag ∈ names ∨ ∃ z ∈ trackedFresh names cs, z.tag = c.tag) := by
  obtain ⟨h1, _, h3⟩ := trackedFresh_aux names cs []
  exact ⟨fun z hz => (h1 z hz).elim (fun h => by simp at h) id, h3⟩

theorem z3Add_tracked (r : Nat) (cs : List ZCon) (s : St) :
    z3Add r cs true s =
      (.ok (), { s with objs := s.objs.set r ((objAt s r).addTop (trackedFresh (objAt s r).trackedNames cs)) }) := rfl

theorem tracked_add_sem {R : Con → Prop} (hZ : ZidFaithful R) (asserted : List ZCon) (cons : List Con)
    (hA : ∀ z ∈ asserted, ∃ c, R c ∧ z = ZCon.ofCon c) (hC : ∀ c ∈ cons, R c) (a : Asg) :
    SatBy (asserted ++ trackedFresh (asserted.map (·.tag)) (cons.map ZCon.ofCon)) a ↔
      SatBy asserted a ∧ holdsAll cons a = true := by
  obtain ⟨h1, h2⟩ := trackedFresh_spec (asserted.map (·.tag)) (cons.map ZCon.ofCon)
  rw [SatBy.append]
  refine and_congr_right fun hsa => ?_
  constructor
  · intro hf
    rw [← models_iff_holdsAll]
    intro c hc
    rcases h2 (ZCon.ofCon c) (List.mem_map.mpr ⟨c, hc, rfl⟩) with ht | ⟨z, hz, hzt⟩
    · obtain ⟨z, hz, hzt⟩ := List.mem_map.mp ht
      obtain ⟨c0, hc0, rfl⟩ := hA z hz
      have hzid : c0.zid = c.zid := by simpa [ZCon.ofCon] using hzt
      rw [← hZ c0 c hc0 (hC c hc) hzid a]
      exact hsa _ hz
    · obtain ⟨c1, hc1, rfl⟩ := List.mem_map.mp (h1 z hz)
      have hzid : c1.zid = c.zid := by simpa [ZCon.ofCon] using hzt
      rw [← hZ c1 c (hC c1 hc1) (hC c hc) hzid a]
      exact hf _ hz
  · intro hc z hz
    obtain ⟨c1, hc1, rfl⟩ := List.mem_map.mp (h1 z hz)
    exact (models_iff_holdsAll cons a).mpr hc c1 hc1

theorem tracked_add_reg {R : Con → Prop} (asserted : List ZCon) (cons : List Con)
    (hA : ∀ z ∈ asserted, ∃ c, R c ∧ z = ZCon.ofCon c) (hC : ∀ c ∈ cons, R c) :
    ∀ z ∈ asserted ++ trackedFresh (asserted.map (·.tag)) (cons.map ZCon.ofCon), ∃ c, R c ∧ z = ZCon.ofCon c := by
  obtain ⟨h1, _⟩ := trackedFresh_spec (asserted.map (·.tag)) (cons.map ZCon.ofCon)
  intro z hz
  rcases List.mem_append.mp hz with hz | hz
  · exact hA z hz
  · obtain ⟨c1, hc1, rfl⟩ := List.mem_map.mp (h1 z hz)
    exact ⟨c1, hC c1 hc1, rfl⟩

/-- the assertions `_add(s, cs, track)` really makes on an object that asserts `asserted` -/
def addedBy (track : Bool) (asserted : List ZCon) (cs : List ZCon) : List ZCon :=
  if track then trackedFresh (asserted.map (·.tag)) cs else cs

theorem added_sem {R : Con → Prop} (hZ : ZidFaithful R) (track : Bool) (asserted : List ZCon) (cons : List Con)
    (hA : track = true → ∀ z ∈ asserted, ∃ c, R c ∧ z = ZCon.ofCon c) (hC : track = true → ∀ c ∈ cons, R c) (a : Asg) :
    SatBy (asserted ++ addedBy track asserted (cons.map ZCon.ofCon)) a ↔ SatBy asserted a ∧ holdsAll cons a = true := by
  cases track
  · rw [SatBy.append]
    exact and_congr_right fun _ => satBy_ofCon cons a
  · exact tracked_add_sem hZ asserted cons (hA rfl) (hC rfl) a

/-- `_get_solver` took a new object — an empty one, or (`clone_solver`) a copy `base` of the old one — and asserted the
constraints -/
def solverMade (s : St) (base : Z3Obj) : St :=
  let o := objAt { s with objs := s.objs ++ [base] } s.objs.length
  { s with objs := (s.objs ++ [base]).set s.objs.length
             (o.addTop (addedBy s.fe.track o.asserted (s.fe.constraints.map ZCon.ofCon))),
           fe := { s.fe with solver := some s.objs.length, toAdd := [] } }

/-- `_get_solver` asserted the pending constraints into the object `r` it already had -/
def solverKept (s : St) (r : Nat) : St :=
  { s with objs := s.objs.set r
             ((objAt s r).addTop (addedBy s.fe.track (objAt s r).asserted (s.fe.constraints.map ZCon.ofCon))),
           fe := { s.fe with toAdd := [] } }

/-- `_get_solver` without `reuse_z3_solver`, as a function of the state: no solver yet; nothing pending; finalized with pending
constraints (a clone, or — tracked — a fresh object); pending constraints asserted into the object it has -/
theorem getSolver_eq (s : St) (hr : s.reuse = false) :
    getSolver s = match s.fe.solver with
      | none => (.ok s.objs.length, solverMade s {})
      | some r =>
        if s.fe.toAdd.isEmpty then (.ok r, s)
        else if s.fe.finalized then
          (.ok s.objs.length, solverMade s (if s.fe.track then {} else { objAt s r with lastCore := [] }))
        else (.ok r, solverKept s r) := by
  obtain ⟨fe, objs, reuse, shared, tick, qlog⟩ := s
  obtain ⟨f1, f2, f3, fin, track, solver, toAdd, f8, f9, f10, f11, f12, f13, f14, f15, f16, f17⟩ := fe
  simp only at hr
  subst hr
  cases solver with
  | none => cases track <;> rfl
  | some r =>
    cases toAdd with
    | nil => cases fin <;> rfl
    | cons t ts => cases fin <;> cases track <;> rfl

theorem objAt_append_self (s : St) (b : Z3Obj) : objAt { s with objs := s.objs ++ [b] } s.objs.length = b := by
  simp [objAt, List.getD]

theorem objAt_set_self' (s : St) (l : List Z3Obj) (n : Nat) (o : Z3Obj) (fe : Frontend) (hn : n < l.length) :
    objAt { s with objs := l.set n o, fe := fe } n = o := by
  simp [objAt, List.getD, hn]

theorem addTop_added {R : Con → Prop} (hZ : ZidFaithful R) (track : Bool) (o : Z3Obj) (f : List ZCon) (cons : List Con)
    (hf : o.frames = [f]) (himp : ∀ a, holdsAll cons a = true → SatBy f a)
    (hA : track = true → ∀ z ∈ f, ∃ c, R c ∧ z = ZCon.ofCon c) (hC : track = true → ∀ c ∈ cons, R c) :
    (∃ f', (o.addTop (addedBy track o.asserted (cons.map ZCon.ofCon))).frames = [f']) ∧
    (∀ a, SatBy (o.addTop (addedBy track o.asserted (cons.map ZCon.ofCon))).asserted a ↔ holdsAll cons a = true) ∧
    (track = true → ∀ z ∈ (o.addTop (addedBy track o.asserted (cons.map ZCon.ofCon))).asserted, ∃ c, R c ∧ z = ZCon.ofCon c) := by
  rw [Z3Obj.asserted_addTop, asserted_of_frames hf]
  refine ⟨⟨f ++ addedBy track f (cons.map ZCon.ofCon), by simp [Z3Obj.addTop, hf]⟩, fun a => ?_, fun ht z hz => ?_⟩
  · rw [added_sem hZ track f cons hA hC a]
    exact ⟨fun h => h.2, fun h => ⟨himp a h, h⟩⟩
  · have : addedBy track f (cons.map ZCon.ofCon) = trackedFresh (f.map (·.tag)) (cons.map ZCon.ofCon) := by
      simp [addedBy, ht]
    rw [this] at hz
    exact tracked_add_reg f cons (hA ht) (hC ht) z hz

theorem solverMade_got {R : Con → Prop} (hZ : ZidFaithful R) (s : St) (base : Z3Obj) (f : List ZCon)
    (hf : base.frames = [f]) (himp : ∀ a, holdsAll s.fe.constraints a = true → SatBy f a)
    (hA : s.fe.track = true → ∀ z ∈ f, ∃ c, R c ∧ z = ZCon.ofCon c)
    (hC : s.fe.track = true → ∀ c ∈ s.fe.constraints, R c) : GotS R s (solverMade s base) s.objs.length := by
  obtain ⟨hfr, hsem, hreg⟩ := addTop_added hZ s.fe.track base f s.fe.constraints hf himp hA hC
  have hobj : objAt (solverMade s base) s.objs.length =
      base.addTop (addedBy s.fe.track base.asserted (s.fe.constraints.map ZCon.ofCon)) := by
    unfold solverMade
    simp only [objAt_append_self]
    exact objAt_set_self' s _ _ _ _ (by simp)
  refine ⟨⟨rfl, by simp [solverMade], by rw [hobj]; exact hfr, by rw [hobj]; exact hsem, fun i hi _ => ?_,
    by simp [solverMade], Or.inr (Or.inl (Nat.le_refl _)), rfl, rfl⟩, fun ht => by rw [AssertedReg, hobj]; exact hreg ht⟩
  simp [solverMade, List.getElem?_append_left hi]

theorem getSolver_got {R : Con → Prop} (hZ : ZidFaithful R) (s : St) (h : CoreInvG s)
    (hC : s.fe.track = true → ∀ c ∈ s.fe.constraints, R c)
    (hA : s.fe.track = true → ∀ r, s.fe.solver = some r → AssertedReg R s r) :
    getSolver.wp (fun r s' => GotS R s s' r) (fun _ _ => False) s := by
  unfold M.wp wp
  rw [getSolver_eq s h.noReuse]
  cases hsol : s.fe.solver with
  | none =>
    exact solverMade_got hZ s {} [] rfl (fun _ _ => by simp [SatBy]) (fun _ => by simp) hC
  | some r =>
    obtain ⟨hlt, ⟨f, hf⟩, hsem⟩ := h.obj r hsol
    have has : (objAt s r).asserted = f := asserted_of_frames hf
    by_cases hta : s.fe.toAdd = []
    · simp only [hta, List.isEmpty_nil, ↓reduceIte]
      refine ⟨⟨?_, hlt, ⟨f, hf⟩, ?_, fun _ _ _ => rfl, Nat.le_refl _, Or.inr (Or.inr ⟨hsol, hta, rfl⟩), rfl, rfl⟩,
        fun ht => hA ht r hsol⟩
      · cases hfe : s.fe
        simp [hfe] at hsol hta ⊢
        simp [hsol, hta]
      · intro a
        have := hsem a
        rw [hta] at this
        simpa [holdsAll_nil] using this
    · have himp : ∀ a, holdsAll s.fe.constraints a = true → SatBy f a := fun a hc => has ▸ ((hsem a).mpr hc).1
      simp only [List.isEmpty_iff, hta, ↓reduceIte]
      cases hfz : s.fe.finalized with
      | true =>
        simp only [↓reduceIte]
        cases ht : s.fe.track with
        | true => exact solverMade_got hZ s {} [] rfl (fun _ _ => by simp [SatBy]) (fun _ => by simp) hC
        | false =>
          exact solverMade_got hZ s { objAt s r with lastCore := [] } f hf himp (fun h => by rw [ht] at h; cases h) hC
      | false =>
        simp only [Bool.false_eq_true, ↓reduceIte]
        obtain ⟨hfr, hsem', hreg⟩ := addTop_added hZ s.fe.track (objAt s r) f s.fe.constraints hf himp
          (fun ht => has ▸ hA ht r hsol) hC
        have hobj : objAt (solverKept s r) r =
            (objAt s r).addTop (addedBy s.fe.track (objAt s r).asserted (s.fe.constraints.map ZCon.ofCon)) :=
          objAt_set_self' s _ _ _ _ hlt
        refine ⟨⟨?_, by simpa [solverKept] using hlt, by rw [hobj]; exact hfr, by rw [hobj]; exact hsem',
          fun i hi hne => by simp [solverKept, Ne.symm hne], by simp [solverKept], Or.inl ⟨hsol, hfz⟩, rfl, rfl⟩,
          fun ht => by rw [AssertedReg, hobj]; exact hreg ht⟩
        cases hfe : s.fe
        simp [solverKept, hfe] at hsol ⊢
        simp [hsol]

theorem getSolverG_spec {R : Con → Prop} (hZ : ZidFaithful R) (s : St) (h : CoreInvG s) (hC : ∀ c ∈ s.fe.constraints, R c)
    (hA : s.fe.track = true → ∀ r, s.fe.solver = some r → AssertedReg R s r) :
    match getSolver s with
    | (.ok r, s') => GotS R s s' r
    | (.error _, _) => False :=
  wp.elim (getSolver s) (getSolver_got hZ s h (fun _ => hC) hA) (fun _ _ h => h) fun _ _ h => h

theorem wp_getSolverG {R : Con → Prop} (hZ : ZidFaithful R) {s : St} (h : CoreInvG s) (hC : ∀ c ∈ s.fe.constraints, R c)
    (hA : s.fe.track = true → ∀ r, s.fe.solver = some r → AssertedReg R s r) {Q : Nat → St → Prop} {X : Err → St → Prop}
    (hQ : ∀ r s1, GotS R s s1 r → Q r s1) : getSolver.wp Q X s :=
  (getSolver_got hZ s h (fun _ => hC) hA).imp hQ fun _ _ h => h.elim

/-- untracked frontends: no registry is needed -/
theorem wp_getSolver {s : St} (h : CoreInv s) {Q : Nat → St → Prop} {X : Err → St → Prop}
    (hQ : ∀ r s1, GotSolver s s1 r → Q r s1) : getSolver.wp Q X s :=
  have hnt : ¬ s.fe.track = true := by rw [h.untracked]; simp
  (getSolver_got (R := fun _ => False) (fun _ _ h => h.elim) s h.toG (fun ht => (hnt ht).elim) fun ht => (hnt ht).elim).imp
    (fun r s1 hg => hQ r s1 hg.toGotSolver) fun _ _ h => h.elim

theorem getSolver_spec (s : St) (h : CoreInv s) :
    match getSolver s with
    | (.ok r, s') => GotSolver s s' r
    | (.error _, _) => False :=
  wp.elim (getSolver s) (wp_getSolver (X := fun _ _ => False) h fun _ _ hg => hg) (fun _ _ h => h) fun _ _ h => h

end Claripy.Solver

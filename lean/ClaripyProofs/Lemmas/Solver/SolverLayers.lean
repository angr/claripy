import ClaripyProofs.Lemmas.Solver.ModelCacheOps
/-!
The query layers of the class `Solver` — SatCacheMixin, ConstraintFilterMixin, SimplifyHelperMixin, ConstraintExpansionMixin —
each shown for an arbitrary query below it (SatCacheMixin twice: `satCacheQuery_spec` for the methods whose model goes through
`satCacheQuery`, `satCache_solution_spec` for `solution`, whose model does not), to keep the specification `SQ … Good Bad`
(SolverInv.lean) given what it needs of the result clause `Good`; and the merge of concrete and symbolic values in ConcreteHandlerMixin's `batch_eval`.
-/
namespace Claripy.Solver

variable {R : Con → Prop} {RE : Exp → Prop} {E : Env} {G : St → Prop} {U : List Con}

theorem satisfiable_left {A B : List Con} (h : Satisfiable (A ++ B)) : Satisfiable A := by
  obtain ⟨a, ha⟩ := h; exact ⟨a, (models_append.mp ha).1⟩

/-- what SatCacheMixin needs of a result clause: it implies that the constraints are satisfiable, and it does not look at the
cached satisfiability -/
structure GoodSat {α : Type} (cs : List Con) (Good : α → St → St → Prop) : Prop where
  sat : ∀ {a s s'}, Good a s s' → Satisfiable cs
  cachedSat : ∀ {a s s'} c, Good a s s' → Good a s { s' with fe := { s'.fe with cachedSat := c } }

/-- SatCacheMixin.eval / batch_eval / max / min: a cached `False` raises at once, an `UnsatError` from below (without extra
constraints) is remembered, success is remembered as `True` -/
theorem satCacheQuery_spec {α : Type} {m : M α} {extra : List Con} {Good : α → St → St → Prop}
    (hG : GoodSat (U ++ extra) Good) (hm : SQ R RE E G U Good (ErrOk E (U ++ extra)) m) :
    SQ R RE E G U Good (ErrOk E (U ++ extra)) (satCacheQuery m extra.isEmpty) := by
  intro s h
  unfold satCacheQuery
  simp only [M.wp_bind, M.wp_getFe, M.wp_ite, M.wp_throw, M.wp_tryCatch, M.wp_modifyFe, beq_iff_eq]
  split
  · next hcf => exact ⟨Or.inl ⟨rfl, fun hs => h.sc.2 hcf (satisfiable_left hs)⟩, h, Keep.refl U s⟩
  · refine (hm s h).imp (fun a s1 ⟨hg, h1, hk1⟩ => ?_) fun err s1 ⟨herr, h1, hk1⟩ => ?_
    · exact ⟨hG.cachedSat _ hg, h1.set_cachedSat _ (scInv_true (satisfiable_left (hG.sat hg))), hk1.trans (Keep.of_fe rfl rfl)⟩
    · split
      · next hun =>
        subst hun
        have hns := errOk_unsat herr
        split
        · next hex =>
          rw [List.isEmpty_iff] at hex
          subst hex
          exact ⟨herr, h1.set_cachedSat _ (scInv_false (by simpa using hns)), hk1.trans (Keep.of_fe rfl rfl)⟩
        · exact ⟨herr, h1, hk1⟩
      · exact ⟨herr, h1, hk1⟩

theorem evalGood_sat {cs : List Con} {e : Exp} (hc : e.conc = none) {n : Nat} : GoodSat cs (EvalGood E cs e n) where
  sat := fun ⟨hok, hne, _⟩ => by
    simp only [EvalOk, hc] at hok
    obtain ⟨v, hv⟩ := List.exists_mem_of_ne_nil _ hne
    obtain ⟨a, ha, _⟩ := hok.1 v hv
    exact ⟨a, ha⟩
  cachedSat := fun _ h => h

theorem optGood_sat {cs : List Con} {e : Exp} {isMax signed : Bool} : GoodSat cs (OptGood E isMax signed cs e) where
  sat := fun ⟨⟨⟨a, ha, _⟩, _⟩, _⟩ => ⟨a, ha⟩
  cachedSat := fun _ h => h

theorem batchGood_sat {cs : List Con} {asts : List Exp} {n : Nat} : GoodSat cs (BatchGood RE E cs asts n) where
  sat := fun ⟨hok, hne, _⟩ => by
    obtain ⟨t, ht⟩ := List.exists_mem_of_ne_nil _ hne
    exact satisfiable_of_feasibleT (hok.1 t ht)
  cachedSat := fun _ h => h

theorem satCache_satisfiable_spec {self sup : Ops} (extra : List Con)
    (hsup : SQ R RE E G U (SatGood (U ++ extra)) (IsGiveUp E) (sup.satisfiable extra)) :
    SQ R RE E G U (SatGood (U ++ extra)) (IsGiveUp E)
      ((satCacheLayer E self sup).satisfiable extra) := by
  intro s h
  simp only [satCacheLayer, M.wp_bind, M.wp_getFe, M.wp_ite, M.wp_modifyFe, beq_iff_eq, Bool.and_eq_true, List.isEmpty_iff]
  split
  · next hcf => exact ⟨⟨fun hb => by simp at hb, fun hs => absurd (satisfiable_left hs) (h.sc.2 hcf)⟩, h, Keep.refl U s⟩
  · split
    · next hct =>
      obtain ⟨hc, rfl⟩ := hct
      exact ⟨by simpa [SatGood] using h.sc.1 hc, h, Keep.refl U s⟩
    · refine (hsup s h).imp (fun b s1 ⟨hb, h1, hk1⟩ => ?_) fun _ _ h => h
      split
      · next hex =>
        subst hex
        refine ⟨hb, h1.set_cachedSat _ ?_, hk1.trans (Keep.of_fe rfl rfl)⟩
        cases b
        · exact scInv_false (fun hs => by have := hb.mpr (by simpa using hs); cases this)
        · exact scInv_true (by simpa using hb.mp rfl)
      · exact ⟨hb, h1, hk1⟩

theorem satCache_solution_spec {self sup : Ops} (e : Exp) (v : Nat) (extra : List Con)
    (hsup : SQ R RE E G U (SolGood (U ++ extra) e v) (ErrOk E (U ++ extra)) (sup.solution e v extra)) :
    SQ R RE E G U (SolGood (U ++ extra) e v) (ErrOk E (U ++ extra))
      ((satCacheLayer E self sup).solution e v extra) := by
  intro s h
  simp only [satCacheLayer, M.wp_bind, M.wp_getFe, M.wp_ite, M.wp_throw, M.wp_tryCatch, M.wp_modifyFe, beq_iff_eq,
    List.isEmpty_iff]
  split
  · next hcf => exact ⟨Or.inl ⟨rfl, fun hs => h.sc.2 hcf (satisfiable_left hs)⟩, h, Keep.refl U s⟩
  · refine (hsup s h).imp (fun b s1 ⟨hb, h1, hk1⟩ => ?_) fun err s1 ⟨herr, h1, hk1⟩ => ?_
    · split
      · next hbt =>
        subst hbt
        obtain ⟨a, ha, _⟩ := hb.mp rfl
        exact ⟨hb, h1.set_cachedSat _ (scInv_true ⟨a, (models_append.mp ha).1⟩), hk1.trans (Keep.of_fe rfl rfl)⟩
      · exact ⟨hb, h1, hk1⟩
    · split
      · next hun =>
        subst hun
        have hns := errOk_unsat herr
        split
        · next hex =>
          subst hex
          exact ⟨herr, h1.set_cachedSat _ (scInv_false (by simpa using hns)), hk1.trans (Keep.of_fe rfl rfl)⟩
        · exact ⟨herr, h1, hk1⟩
      · exact ⟨herr, h1, hk1⟩

theorem evalGood_congr {e : Exp} {n : Nat} : GoodCongr (fun cs => EvalGood E cs e n) :=
  fun h _ _ _ hg => ⟨(evalOk_congr h e n _).mp hg.1, hg.2⟩

theorem optGood_congr {isMax signed : Bool} {e : Exp} : GoodCongr (fun cs => OptGood E isMax signed cs e) :=
  fun h _ _ _ hg => ⟨(isOpt_congr h isMax signed e _).mp hg.1, hg.2⟩

theorem batchGood_congr {asts : List Exp} {n : Nat} : GoodCongr (fun cs => BatchGood RE E cs asts n) :=
  fun h _ _ _ hg => ⟨(tuplesOk_congr h asts n _).mp hg.1, hg.2⟩

theorem filter_opt_spec {self sup : Ops} (hcc : ∀ c, self.concreteCon c = c.conc) (isMax : Bool) (e : Exp)
    (extra : List Con) (signed : Bool) (wf : ∀ c ∈ extra, ConWf c)
    (hsup : ∀ ec, OptSpec R RE E G U isMax e ec signed (if isMax then sup.max e ec signed else sup.min e ec signed)) :
    OptSpec R RE E G U isMax e extra signed
      (if isMax then (filterLayer E self sup).max e extra signed else (filterLayer E self sup).min e extra signed) := by
  have := optSpec_iff.mpr (filter_spec_query hcc extra wf (Keep.refl U) optGood_congr fun ec _ => optSpec_iff.mp (hsup ec))
  cases isMax <;> exact this

/-- the fold of ConcreteHandlerMixin.batch_eval: walk the expressions, take the concrete value or the next symbolic one -/
def mergeStep (acc : List Nat × List Nat) (c : Option Nat) : List Nat × List Nat :=
  match c with
  | some v => (acc.1 ++ [v], acc.2)
  | none => (acc.1 ++ [acc.2.headD 0], acc.2.tail)

def mergeConc (conc : List (Option Nat)) (r : List Nat) : List Nat := (conc.foldl mergeStep ([], r)).1

def symbolicOf (es : List Exp) : List Exp := es.filter fun e => e.conc.isNone

theorem symbolic_eq (es : List Exp) :
    ((es.zip (es.map (·.conc))).filterMap fun ec => if ec.2.isNone then some ec.1 else none) = symbolicOf es := by
  induction es with
  | nil => rfl
  | cons e es ih =>
    unfold symbolicOf at ih ⊢
    simp only [List.map_cons, List.zip_cons_cons, List.filterMap_cons, List.filter_cons]
    cases he : e.conc with
    | none => simp only [Option.isNone_none, ↓reduceIte, ih]
    | some c => simp only [Option.isNone_some, Bool.false_eq_true, ↓reduceIte, ih]

theorem mergeStep_foldl (es : List Exp) (a : Asg) (hco : ∀ e ∈ es, ∀ c, e.conc = some c → e.val a = c) (pre : List Nat) :
    ((es.map (·.conc)).foldl mergeStep (pre, (symbolicOf es).map (·.val a))).1 = pre ++ es.map (·.val a) := by
  induction es generalizing pre with
  | nil => simp
  | cons e es ih =>
    have hco' : ∀ e' ∈ es, ∀ c, e'.conc = some c → e'.val a = c := fun e' he' => hco e' (List.mem_cons_of_mem _ he')
    simp only [List.map_cons, List.foldl_cons]
    cases he : e.conc with
    | some c =>
      have hs : symbolicOf (e :: es) = symbolicOf es := by simp [symbolicOf, he]
      rw [hs]
      simp only [mergeStep]
      rw [ih hco' (pre ++ [c]), hco e (by simp) c he]
      simp
    | none =>
      have hs : symbolicOf (e :: es) = e :: symbolicOf es := by simp [symbolicOf, he]
      rw [hs]
      simp only [mergeStep, List.map_cons, List.headD_cons, List.tail_cons]
      rw [ih hco' (pre ++ [e.val a])]
      simp

theorem mergeConc_val (es : List Exp) (a : Asg) (hco : ∀ e ∈ es, ∀ c, e.conc = some c → e.val a = c) :
    mergeConc (es.map (·.conc)) ((symbolicOf es).map (·.val a)) = es.map (·.val a) := by
  have := mergeStep_foldl es a hco []
  simpa [mergeConc] using this

theorem symbolic_of_map (es : List Exp) (a a' : Asg) (h : es.map (·.val a) = es.map (·.val a')) :
    (symbolicOf es).map (·.val a) = (symbolicOf es).map (·.val a') := by
  apply List.map_congr_left
  intro e he
  exact List.map_inj_left.mp h _ (List.mem_filter.mp he).1

/-- the answer of `batch_eval` on all expressions from the answer on the symbolic ones -/
theorem tuplesOk_merge (cs : List Con) (es : List Exp) (n : Nat) (rs : List (List Nat))
    (hco : ∀ e ∈ es, ∀ c, e.conc = some c → ∀ a, e.val a = c) (h : TuplesOk cs (symbolicOf es) n rs) :
    TuplesOk cs es n (rs.map (mergeConc (es.map (·.conc)))) := by
  obtain ⟨hf, hnd, hlen, hcomp⟩ := h
  have hwit : ∀ r ∈ rs, ∃ a, Models cs a ∧ r = (symbolicOf es).map (·.val a) ∧
      mergeConc (es.map (·.conc)) r = es.map (·.val a) := by
    intro r hr
    obtain ⟨a, ha, hra⟩ := hf r hr
    exact ⟨a, ha, hra.symm, by rw [← hra]; exact mergeConc_val es a (fun e he c hc => hco e he c hc a)⟩
  refine ⟨?_, ?_, by simpa using hlen, ?_⟩
  · intro t ht
    obtain ⟨r, hr, rfl⟩ := List.mem_map.mp ht
    obtain ⟨a, ha, _, hm⟩ := hwit r hr
    exact ⟨a, ha, hm.symm⟩
  · refine nodup_map_on ?_ hnd
    intro x hx y hy hxy
    obtain ⟨a, _, hxa, hma⟩ := hwit x hx
    obtain ⟨b, _, hyb, hmb⟩ := hwit y hy
    rw [hma, hmb] at hxy
    rw [hxa, hyb]
    exact symbolic_of_map es a b hxy
  · intro t ⟨a, ha, hta⟩
    rcases hcomp ((symbolicOf es).map (·.val a)) ⟨a, ha, rfl⟩ with hin | hl
    · left
      refine List.mem_map.mpr ⟨_, hin, ?_⟩
      rw [mergeConc_val es a (fun e he c hc => hco e he c hc a), hta]
    · right; simpa using hl

/-- `self.simplify()` in front of any query whose result clause only gets weaker when the start state knows fewer variables -/
theorem helper_spec_query {α : Type} {self : Ops} (hsimp : SimplifySpec R RE E G self.simplify) {Good : α → St → St → Prop}
    {Bad : Err → Prop} (hG : ∀ a s0 s1 s2, Keep U s0 s1 → Good a s1 s2 → Good a s0 s2) {m : M α}
    (hm : SQ R RE E G U Good Bad m) : SQ R RE E G U Good Bad (do let _ ← self.simplify; m) := by
  intro s h
  obtain ⟨out, s1, hrun, h1, hk1⟩ := hsimp U s h
  rw [M.wp_bind, M.wp_ok hrun]
  exact (hm s1 h1).imp (fun _ _ ⟨hg, h2, hk2⟩ => ⟨hG _ _ _ _ hk1 hg, h2, hk1.trans hk2⟩)
    fun _ _ ⟨hb, h2, hk2⟩ => ⟨hb, h2, hk1.trans hk2⟩

/-- SimplifyHelperMixin.batch_eval simplifies only when more than one solution is asked for -/
theorem helper_batchEval_spec {self sup : Ops} (hsimp : SimplifySpec R RE E G self.simplify) (asts : List Exp) (n : Nat)
    (extra : List Con) {Bad : Err → Prop}
    (hsup : SQ R RE E G U (BatchGood RE E (U ++ extra) asts n) Bad (sup.batchEval asts n extra)) :
    SQ R RE E G U (BatchGood RE E (U ++ extra) asts n) Bad ((helperLayer self sup).batchEval asts n extra) := by
  by_cases hn : n > 1
  · simpa only [helperLayer, hn, ↓reduceIte] using helper_spec_query hsimp (fun _ _ _ _ _ hg => hg) hsup
  · simpa only [helperLayer, hn, ↓reduceIte, pure_bind] using hsup

theorem optGood_start {cs : List Con} {e : Exp} {isMax signed : Bool} {i : Int} {s0 s1 s2 : St} (hk : Keep U s0 s1)
    (hg : OptGood E isMax signed cs e i s1 s2) : OptGood E isMax signed cs e i s0 s2 :=
  ⟨hg.1, fun hv => hg.2 fun x hx => hk.vars x (hv x hx)⟩

/-- **BuildOn** (C01, on the registry): the constraints claripy builds from a registered expression are registered, mean
what was written, and mention variables of the expression only -/
def BuildOn (R : Con → Prop) (RE : Exp → Prop) (E : Env) : Prop :=
  ∀ key : BuildKey, RE key.exp → R (E.build key) ∧ (∀ a, (E.build key).sem a = key.sem a) ∧
    ∀ v ∈ (E.build key).vars, v ∈ key.exp.vars

/-- adding a constraint the constraints imply: nothing changes for the user, no cached model is lost -/
theorem add_implied {self : Ops} (hadd : AddSpec R RE E G self.add) (s : St) (h : SI R RE E G U s) (c : Con) (hc : R c)
    (himp : ∀ a, Models U a → c.sem a = true) :
    ∃ added s', publicAdd self [c] false s = (.ok added, s') ∧ SI R RE E G U s' ∧ Keep U s s' ∧
      ∀ m ∈ s.fe.models, m ∈ s'.fe.models := by
  have himp' : ∀ a, Models U a → Models [c] a := fun a ha c' hc' => by simp at hc'; subst hc'; exact himp a ha
  obtain ⟨added, s', hrun, hsi, hkeep, hvars⟩ := hadd U s [c] false h (by simpa using hc) (fun _ => himp')
  have hmods : ∀ m ∈ s.fe.models, m ∈ s'.fe.models := fun m hm => hkeep m hm (himp' _ (h.mc.valid m hm))
  refine ⟨added, s', by simpa [publicAdd] using hrun, hsi.congr fun a => ?_, ⟨hvars, fun _ => hmods⟩, hmods⟩
  rw [holdsAll_append]
  cases hU : holdsAll U a
  · rfl
  · have := himp' a ((models_iff_holdsAll U a).mpr hU)
    rw [models_iff_holdsAll] at this
    simp [this]

/-- the constraint ConstraintExpansionMixin adds after `max` / `min` -/
def optKey (isMax signed : Bool) (e : Exp) (m : Int) : BuildKey :=
  if isMax then (if signed then .sle e m else .ule e m) else (if signed then .sge e m else .uge e m)

theorem optKey_exp (isMax signed : Bool) (e : Exp) (m : Int) : (optKey isMax signed e m).exp = e := by
  cases isMax <;> cases signed <;> rfl

theorem optKey_implied (isMax signed : Bool) (e : Exp) (he : ExpWf e) (i : Int) (hopt : IsOpt isMax signed U e i) (a : Asg)
    (ha : Models U a) : (optKey isMax signed e i).sem a = true := by
  have h := hopt.2 (e.val a) ⟨a, ha, rfl⟩
  have hv := he.2 a
  have hw := wrap_lt e.bits i
  cases isMax <;> cases signed <;>
    simp only [optKey, BuildKey.sem, Bool.false_eq_true, ↓reduceIte, decide_eq_true_eq, ge_iff_le, key,
      Nat.mod_eq_of_lt hv, Nat.mod_eq_of_lt hw] at h ⊢ <;> omega

theorem wp_add_implied {self : Ops} (hadd : AddSpec R RE E G self.add) {s : St} (h : SI R RE E G U s) {c : Con} (hc : R c)
    (himp : ∀ a, Models U a → c.sem a = true) {Q : List Con → St → Prop} {X : Err → St → Prop}
    (hQ : ∀ added s', SI R RE E G U s' → Keep U s s' → (∀ m ∈ s.fe.models, m ∈ s'.fe.models) → Q added s') :
    (publicAdd self [c] false).wp Q X s := by
  obtain ⟨added, s', hrun, h', hk, hm⟩ := add_implied hadd s h c hc himp
  rw [M.wp_ok hrun]
  exact hQ added s' h' hk hm

/-- ConstraintExpansionMixin.max / .min: the optimum found is added as a bound -/
theorem expansion_opt_spec (hB : BuildOn R RE E) (hRE : ExpReg RE) {self : Ops} (hadd : AddSpec R RE E G self.add)
    (isMax : Bool) (e : Exp) (he : RE e) (extra : List Con) (signed : Bool) {m : M Int}
    (hsup : SQ R RE E G U (OptGood E isMax signed (U ++ extra) e) (ErrOk E (U ++ extra)) m) :
    SQ R RE E G U (OptGood E isMax signed (U ++ extra) e) (ErrOk E (U ++ extra)) (do
      let i ← m
      if extra.isEmpty then
        let _ ← publicAdd self [E.build (optKey isMax signed e i)] false
      pure i) := by
  intro s h
  rw [M.wp_bind]
  refine (hsup s h).imp (fun i s1 ⟨hg, h1, hk1⟩ => ?_) fun _ _ h => h
  simp only [M.wp_bind, M.wp_ite, List.isEmpty_iff]
  split
  · next hex =>
    subst hex
    obtain ⟨hbR, hbsem, _⟩ := hB (optKey isMax signed e i) (by rw [optKey_exp]; exact he)
    refine wp_add_implied hadd h1 hbR (fun a ha => ?_) fun _ s2 h2 hk2 hm => ?_
    · rw [hbsem]
      exact optKey_implied isMax signed e (hRE.wf e he) i (by simpa using hg.1) a ha
    · exact ⟨⟨hg.1, fun hv => (hg.2 hv).imp fun m hm' => ⟨hm m hm'.1, hm'.2⟩⟩, h2, hk1.trans hk2⟩
  · exact ⟨hg, h1, hk1⟩

/-- ConstraintExpansionMixin.solution: a value found infeasible is excluded -/
theorem expansion_solution_spec (hB : BuildOn R RE E) {self sup : Ops} (hadd : AddSpec R RE E G self.add)
    (e : Exp) (he : RE e) (v : Nat) (hv : v < 2 ^ e.bits) (extra : List Con)
    (hsup : SQ R RE E G U (SolGood (U ++ extra) e v) (ErrOk E (U ++ extra)) (sup.solution e v extra)) :
    SQ R RE E G U (SolGood (U ++ extra) e v) (ErrOk E (U ++ extra))
      ((expansionLayer E self sup).solution e v extra) := by
  intro s h
  simp only [expansionLayer, M.wp_bind]
  refine (hsup s h).imp (fun b s1 ⟨hb, h1, hk1⟩ => ?_) fun _ _ h => h
  simp only [M.wp_ite, M.wp_bind, Bool.and_eq_true, Bool.not_eq_eq_eq_not, Bool.not_true, List.isEmpty_iff]
  split
  · next hcond =>
    obtain ⟨hbf, hnil⟩ := hcond
    subst hnil
    obtain ⟨hbR, hbsem, _⟩ := hB (.ne e v) he
    have hnf : ¬ Feasible U e v := fun hf => by
      have := hb.mpr (by simpa using hf)
      rw [hbf] at this
      cases this
    refine wp_add_implied hadd h1 hbR (fun a ha => ?_) fun _ s2 h2 hk2 _ => ⟨hb, h2, hk1.trans hk2⟩
    rw [hbsem]
    simp only [BuildKey.sem, Nat.mod_eq_of_lt hv, ne_eq, decide_eq_true_eq]
    exact fun heq => hnf ⟨a, ha, heq⟩
  · exact ⟨hb, h1, hk1⟩

end Claripy.Solver

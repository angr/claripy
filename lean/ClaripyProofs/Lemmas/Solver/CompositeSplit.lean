import ClaripyProofs.Lemmas.Solver.CompositeCombine
/-!
For `_reabsorb_solver`: `add` on a BLANK copy (the parts of `split()`) leaves nothing in the five exhausted-marker sets, or the
markers of `_trivial_model_optimization` for the sole constraint `BVS == BVV` (`TrivMarks`, from `child_add_marks`); such markers
are `ConstUnder` the constraint (`trivMarks_const`), whatever models the record holds afterwards: `ModelCacheMixin.split` may
replace the part's models by any valid ones (`mcInv_of_trivMarks`).  Then the loop of `split()` (`split_go_spec`).
-/
namespace Claripy.Solver

variable {R : Con → Prop} {RE : Exp → Prop} {E : Env}

theorem marked_of_opt {fe : Frontend} {isMax signed : Bool} {i : Nat} (hi : i ∈ optFlags isMax signed fe) : Marked fe i := by
  unfold Marked
  cases isMax <;> cases signed <;> simp only [optFlags, Bool.false_eq_true, ↓reduceIte] at hi
  · exact Or.inr (Or.inr (Or.inl hi))
  · exact Or.inr (Or.inr (Or.inr (Or.inr hi)))
  · exact Or.inr (Or.inl hi)
  · exact Or.inr (Or.inr (Or.inr (Or.inl hi)))

def SameMC (fe fe' : Frontend) : Prop :=
  fe'.constraints = fe.constraints ∧ fe'.evalExh = fe.evalExh ∧ fe'.maxExh = fe.maxExh ∧ fe'.minExh = fe.minExh ∧
  fe'.maxSExh = fe.maxSExh ∧ fe'.minSExh = fe.minSExh

theorem TrivMarks.congr {fe fe' : Frontend} (h : SameMC fe fe') (ht : TrivMarks fe) : TrivMarks fe' := by
  obtain ⟨h0, h1, h2, h3, h4, h5⟩ := h
  intro i hi
  unfold Marked at hi
  rw [h1, h2, h3, h4, h5] at hi
  rw [h0]
  exact ht i hi

def TrM {α : Type} (m : M α) : Prop := ∀ s, SameMC s.fe (m s).2.fe

theorem trM_throw {α : Type} (e : Err) : TrM (M.throw e : M α) := fun _ => ⟨rfl, rfl, rfl, rfl, rfl, rfl⟩

theorem complete_restrict_agree (dflt : Var → Nat) (m : PModel) (vars : List Var) (v : Var) (hv : v ∈ vars) :
    (m.restrict vars).complete dflt v = m.complete dflt v := by
  simp only [PModel.complete_apply, PModel.get?_restrict, hv, ↓reduceIte]

section
variable (H : SolverHyps R RE E)
include H

theorem trivMarks_const {fe : Frontend} (ht : TrivMarks fe) (hcR : ∀ c ∈ fe.constraints, R c) {U : List Con}
    (hU : ∀ a, Models U a → Models fe.constraints a) (e : Exp) (he : RE e) (hi : Marked fe e.id) : ConstUnder U e := by
  obtain ⟨c, v, x, hcons, htr⟩ := ht e.id hi
  have hc : c ∈ fe.constraints := by rw [hcons]; simp
  obtain ⟨_, h2⟩ := H.triv c (hcR c hc) v x e.id htr
  obtain ⟨h3, _⟩ := h2 e he rfl
  intro a b ⟨aa, ha, hva⟩ ⟨bb, hb, hvb⟩
  rw [← hva, ← hvb, h3 aa (hU aa ha c hc), h3 bb (hU bb hb c hc)]

theorem mcInv_of_trivMarks {fe : Frontend} (ht : TrivMarks fe) (hcR : ∀ c ∈ fe.constraints, R c) {U : List Con}
    (hU : ∀ a, Models U a → Models fe.constraints a) (hv : ∀ m ∈ fe.models, Models U (m.complete E.dflt)) :
    MCInv RE E U fe := by
  exact ⟨hv, fun e he hi => Or.inl (trivMarks_const H ht hcR hU e he (Or.inl hi)),
    fun isMax signed e he hi => Or.inl (trivMarks_const H ht hcR hU e he (marked_of_opt hi))⟩

def ListOk (Up : List Con) (fe : Frontend) (cl : List Con) : Prop :=
  (∀ a, Models Up a ↔ Models cl a) ∧ (∀ c ∈ cl, ∀ v ∈ c.vars, v ∈ fe.variables) ∧ (∀ v ∈ fe.variables, ∃ c ∈ cl, v ∈ c.vars)

/-- what `split()` of the record `fs` leaves in a part -/
structure PartOk (fs fe : Frontend) : Prop where
  keys : KeysInv fe
  exact : ExactVars fe
  marks : TrivMarks fe
  cons : ∀ c ∈ fe.constraints, c ∈ fs.constraints
  models : ∀ m' ∈ fe.models, ∃ m ∈ fs.models, m' = m.restrict fe.variables

/-- **one part of `split()`**: a blank copy, `add(cl)`, then the models of the whole (valid for the part: its constraints are
constraints of the whole and read the part's variables only) restricted to the part's variables; `w2` is the world with the part -/
theorem split_part_spec (fs : Frontend) (hfv : ∀ m ∈ fs.models, Models fs.constraints (m.complete E.dflt)) (w : World)
    (Us : List (List Con)) (hw : TInvS R RE E Us w) (hre : w.reuse = false) (cl : List Con)
    (hcl : ∀ c ∈ cl, R c ∧ c ∈ fs.constraints) :
    ∃ added w1 w2 Us2,
      runOn { w with fes := w.fes ++ [childBlank E fs] } w.fes.length (publicAdd (childOps E) cl) = (.ok added, w1) ∧
      w2 = { w1 with fes := w1.fes.set w.fes.length { w1.fes.getD w.fes.length {} with models :=
        (fs.models.map fun m => m.restrict (w1.fes.getD w.fes.length {}).variables).foldl listInsert [] } } ∧
      TInvS R RE E Us2 w2 ∧ w2.reuse = false ∧ w2.fes.length = w.fes.length + 1 ∧
      (∀ i, i < w.fes.length → w2.fes.getD i {} = w.fes.getD i {} ∧ Us2.getD i [] = Us.getD i []) ∧
      ((∀ m ∈ fs.models, m.Sorted) → PartOk fs (w2.fes.getD w.fes.length {})) ∧
      ListOk (Us2.getD w.fes.length []) (w2.fes.getD w.fes.length {}) cl := by
  have hclR : ∀ c ∈ cl, R c := fun c hc => (hcl c hc).1
  obtain ⟨hb, hblank, hU0, hold⟩ := child_blank_spec w Us hw hre fs
  have hk : w.fes.length < (w.fes ++ [childBlank E fs]).length := by simp
  obtain ⟨added, w1, hrun, h1, hlen1, hre1, hoth1, hA⟩ := child_add_spec H _ (Us ++ [[]]) hb w.fes.length hk cl hclR
  have hk1 : w.fes.length < w1.fes.length := by rw [hlen1]; exact hk
  rw [hblank] at hA
  have hexact : ExactVars (w1.fes.getD w.fes.length {}) := hA.exact fun _ hv => nomatch hv
  have hmarks : TrivMarks (w1.fes.getD w.fes.length {}) := hA.marks ⟨rfl, rfl, rfl, rfl, rfl⟩
  have harrive := (hA.ids fun i hi => by rcases hi with hi | hi <;> cases hi).2
  have hadded : ∀ c ∈ (w1.fes.getD w.fes.length {}).constraints, c ∈ cl := fun c hc => by
    rw [hA.cons] at hc
    exact hA.sub c (by simpa using hc)
  have hsi1 := h1.each w.fes.length hk1
  have hUk : ((Us ++ [[]]).set w.fes.length ((Us ++ [[]]).getD w.fes.length [] ++ cl)).getD w.fes.length [] = cl := by
    rw [getD_set_self _ _ _ _ (by rw [List.length_append, hw.len]; simp), hU0, List.nil_append]
  have hmem : ∀ m', m' ∈ (fs.models.map fun m => m.restrict (w1.fes.getD w.fes.length {}).variables).foldl listInsert [] ↔
      ∃ m ∈ fs.models, m' = m.restrict (w1.fes.getD w.fes.length {}).variables := by
    intro m'
    rw [mem_foldl_listInsert]
    simp only [List.not_mem_nil, false_or, List.mem_map]
    constructor
    · rintro ⟨m, hm, rfl⟩; exact ⟨m, hm, rfl⟩
    · rintro ⟨m, hm, rfl⟩; exact ⟨m, hm, rfl⟩
  have hvalid : ∀ m ∈ fs.models, Models (w1.fes.getD w.fes.length {}).constraints
      ((m.restrict (w1.fes.getD w.fes.length {}).variables).complete E.dflt) := by
    intro m hm c hc
    have hcw : ConWf c := H.reg.wf c (hsi1.base.dinv.consR c hc)
    have hag : c.sem ((m.restrict (w1.fes.getD w.fes.length {}).variables).complete E.dflt) = c.sem (m.complete E.dflt) :=
      hcw.1 _ _ fun v hv => complete_restrict_agree E.dflt m _ v (hsi1.base.vars c hc v hv)
    rw [hag]
    exact hfv m hm c (hcl c (hadded c hc)).2
  -- the part: the record after `add`, with those models
  let fk : Frontend := { (w1.fes.getD w.fes.length {}) with
    models := (fs.models.map fun m => m.restrict (w1.fes.getD w.fes.length {}).variables).foldl listInsert [] }
  have hmarks' : TrivMarks fk := hmarks.congr ⟨rfl, rfl, rfl, rfl, rfl, rfl⟩
  have hrec : (w1.fes.set w.fes.length fk).getD w.fes.length {} = fk := getD_set_self _ _ _ _ hk1
  refine ⟨added, w1, _, _, hrun, rfl, tinvS_set_cache h1 hk1 fk rfl ?_, hre1.trans hre, by simpa using hlen1, fun i hi => ?_,
    fun hfs => ?_, ?_⟩
  · refine mcInv_of_trivMarks H hmarks' hsi1.base.dinv.consR (fun a ha => (hsi1.base.models_iff a).mpr ha) fun m' hm' => ?_
    obtain ⟨m, hm, rfl⟩ := (hmem m').mp hm'
    exact (hsi1.base.models_iff _).mp (hvalid m hm)
  · show (w1.fes.set w.fes.length fk).getD i {} = _ ∧ _
    rw [getD_set_ne _ _ _ _ _ (Nat.ne_of_gt hi), hoth1 i (Nat.ne_of_lt hi), getD_set_ne _ _ _ _ _ (Nat.ne_of_gt hi)]
    exact hold i hi
  · show PartOk fs ((w1.fes.set w.fes.length fk).getD w.fes.length {})
    rw [hrec]
    refine ⟨fun m' hm' => ?_, exactVars_congr rfl rfl hexact, hmarks', fun c hc => (hcl c (hadded c hc)).2,
      fun m' hm' => (hmem m').mp hm'⟩
    obtain ⟨m, hm, rfl⟩ := (hmem m').mp hm'
    exact ⟨fun kv hkv => mem_restrict hkv, PModel.sorted_restrict (hfs m hm) _⟩
  · show ListOk _ ((w1.fes.set w.fes.length fk).getD w.fes.length {}) cl
    rw [hrec, hUk]
    refine ⟨fun a => Iff.rfl, harrive, fun v hv => ?_⟩
    obtain ⟨c, hc, hvc⟩ := hexact v hv
    exact ⟨c, hadded c hc, hvc⟩

theorem split_go_spec (fs : Frontend)
    (hfv : ∀ m ∈ fs.models, Models fs.constraints (m.complete E.dflt)) :
    ∀ (lists : List (List Con)) (w : World) (Us : List (List Con)) (acc : List Nat), TInvS R RE E Us w → w.reuse = false →
    (∀ cl ∈ lists, ∀ c ∈ cl, R c ∧ c ∈ fs.constraints) →
    ∃ parts w' Us', childSplitWith.go E fs lists w acc = (.ok parts, w') ∧ TInvS R RE E Us' w' ∧ w'.reuse = false ∧
      w.fes.length ≤ w'.fes.length ∧
      (∀ i, i < w.fes.length → w'.fes.getD i {} = w.fes.getD i {} ∧ Us'.getD i [] = Us.getD i []) ∧
      ((∀ m ∈ fs.models, m.Sorted) → ∀ i, w.fes.length ≤ i → i < w'.fes.length → PartOk fs (w'.fes.getD i {})) ∧
      ∃ newParts, parts = acc ++ newParts ∧
        List.Forall₂ (fun p cl => ListOk (Us'.getD p []) (w'.fes.getD p {}) cl) newParts lists ∧
        ∀ p ∈ newParts, w.fes.length ≤ p ∧ p < w'.fes.length := by
  intro lists
  induction lists with
  | nil =>
    intro w Us acc hw hre _
    exact ⟨acc, w, Us, by rw [childSplitWith.go], hw, hre, Nat.le_refl _, fun _ _ => ⟨rfl, rfl⟩,
      fun _ i h1 h2 => absurd h2 (by omega), [], by simp, List.Forall₂.nil, fun _ hp => by cases hp⟩
  | cons cl rest ih =>
    intro w Us acc hw hre hl
    obtain ⟨added, w1, w2, Us2, hrun, hw2, h2, hre2, hlen2, hold, hpart, hlist⟩ :=
      split_part_spec H fs hfv w Us hw hre cl (hl cl (by simp))
    subst hw2
    obtain ⟨parts, w3, Us3, hgo, h3, hre3, hlen3, hfr3, hparts3, newParts, hnp, hfa, hnr⟩ := ih _ Us2
      (acc ++ [w.fes.length]) h2 hre2 (fun cl' hcl' => hl cl' (List.mem_cons_of_mem _ hcl'))
    -- the part made from `cl` is record `w.fes.length`, also at the end
    obtain ⟨g1, g2⟩ := hfr3 w.fes.length (by omega)
    refine ⟨parts, w3, Us3, ?_, h3, hre3, by omega, fun i hi => ?_, fun hfs i h1' h2' => ?_, w.fes.length :: newParts, ?_,
      List.Forall₂.cons (by rw [g1, g2]; exact hlist) hfa, fun p hp => ?_⟩
    · rw [childSplitWith.go, hrun]
      exact hgo
    · exact ⟨(hfr3 i (by omega)).1.trans (hold i hi).1, (hfr3 i (by omega)).2.trans (hold i hi).2⟩
    · by_cases hik : i = w.fes.length
      · rw [hik, g1]; exact hpart hfs
      · exact hparts3 hfs i (by omega) h2'
    · rw [hnp]; simp
    · rcases List.mem_cons.mp hp with rfl | hp
      · exact ⟨Nat.le_refl _, by omega⟩
      · exact ⟨by have := (hnr p hp).1; omega, (hnr p hp).2⟩

end

end Claripy.Solver

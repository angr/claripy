import ClaripyProofs.Lemmas.Solver.Wp
/-!
L1, part 1: the Z3 object operations, `z3_solver_sat`, and `_unsat_core` after an unsatisfiable check.
`wp_z3Check` is the rule through which the L1 algorithms use a check: it assumes nothing of the oracle and hands its answer on;
`OracleExact.sat`/`.unsat` say what the answer of an exact oracle means.  `z3Check_cases` puts the two together as a statement about
the pair `z3Check … s`; the later proofs go through `wp_z3Check`.
-/
namespace Claripy.Solver

def SatBy (cs : List ZCon) (a : Asg) : Prop := ∀ c ∈ cs, c.sem a = true

theorem Query.holds_iff (q : Query) (a : Asg) : q.holds a = true ↔ SatBy q.all a := by
  simp [Query.holds, SatBy, List.all_eq_true]

theorem Query.holds_false_iff (q : Query) (a : Asg) : q.holds a = false ↔ ¬ SatBy q.all a := by
  rw [← Query.holds_iff]; cases q.holds a <;> simp

/-- what an operation on the Z3 object `r` leaves alone: the other objects and the backend flags -/
structure ObjStep (r : Nat) (s s' : St) : Prop where
  len : s'.objs.length = s.objs.length
  other : ∀ i, i ≠ r → s'.objs[i]? = s.objs[i]?
  reuse : s'.reuse = s.reuse
  shared : s'.shared = s.shared

theorem ObjStep.refl (r : Nat) (s : St) : ObjStep r s s := ⟨rfl, fun _ _ => rfl, rfl, rfl⟩

theorem ObjStep.trans {r : Nat} {s s' s'' : St} (h1 : ObjStep r s s') (h2 : ObjStep r s' s'') : ObjStep r s s'' :=
  ⟨h2.len.trans h1.len, fun i hi => (h2.other i hi).trans (h1.other i hi), h2.reuse.trans h1.reuse,
   h2.shared.trans h1.shared⟩

def objAt (s : St) (r : Nat) : Z3Obj := s.objs.getD r {}

theorem objAt_set (s : St) (r : Nat) (o : Z3Obj) (h : r < s.objs.length) :
    objAt { s with objs := s.objs.set r o } r = o := by
  simp [objAt, List.getD, h]

@[simp] theorem getObj_apply (r : Nat) (s : St) : getObj r s = (.ok (objAt s r), s) := rfl

@[simp] theorem setObj_apply (r : Nat) (o : Z3Obj) (s : St) :
    setObj r o s = (.ok (), { s with objs := s.objs.set r o }) := rfl

@[simp] theorem wp_getObj (r : Nat) {Q : Z3Obj → St → Prop} {X : Err → St → Prop} {s : St} :
    (getObj r).wp Q X s ↔ Q (objAt s r) s := Iff.rfl

@[simp] theorem wp_setObj (r : Nat) (o : Z3Obj) {Q : Unit → St → Prop} {X : Err → St → Prop} {s : St} :
    (setObj r o).wp Q X s ↔ Q () { s with objs := s.objs.set r o } := Iff.rfl

@[simp] theorem wp_z3Push (r : Nat) {Q : Unit → St → Prop} {X : Err → St → Prop} {s : St} :
    (z3Push r).wp Q X s ↔ Q () { s with objs := s.objs.set r { objAt s r with frames := [] :: (objAt s r).frames } } := Iff.rfl

@[simp] theorem wp_z3Pop (r : Nat) {Q : Unit → St → Prop} {X : Err → St → Prop} {s : St} :
    (z3Pop r).wp Q X s ↔ Q () { s with objs := s.objs.set r { objAt s r with
      frames := match (objAt s r).frames with | [] => [] | [f] => [f] | _ :: rest => rest } } := Iff.rfl

theorem setObj_step (r : Nat) (o : Z3Obj) (s : St) : ObjStep r s { s with objs := s.objs.set r o } :=
  ⟨by simp, fun i hi => by simp [Ne.symm hi], rfl, rfl⟩

theorem Z3Obj.asserted_addTop (o : Z3Obj) (cs : List ZCon) : (o.addTop cs).asserted = o.asserted ++ cs := by
  unfold Z3Obj.addTop Z3Obj.asserted
  cases h : o.frames with
  | nil => simp
  | cons f rest => simp

theorem Z3Obj.asserted_push (o : Z3Obj) : ({ o with frames := [] :: o.frames } : Z3Obj).asserted = o.asserted := by
  simp [Z3Obj.asserted]

theorem z3Check_eq (E : Env) (r : Nat) (asm : List ZCon) (s : St) :
    z3Check E r asm s =
      (let o := objAt s r
       let q : Query := { asserted := o.asserted, assumptions := asm }
       let ans := E.oracle q s.tick
       let s1 : St := { s with tick := s.tick + 1, qlog := (q, ans) :: s.qlog }
       match ans with
       | .unknown => (.error .giveUp, s1)
       | .unsat core => (.ok none, { s1 with objs := s1.objs.set r { o with lastCore := core } })
       | .sat vals keys => (.ok (some (vals, keys)), { s1 with objs := s1.objs.set r { o with lastCore := [] } })) := by
  simp only [z3Check, bind, M.bind, getObj_apply, M.get_apply, M.modify_apply]
  cases h : E.oracle { asserted := (objAt s r).asserted, assumptions := asm } s.tick <;>
    simp [M.throw, setObj, M.modify, pure, M.pure, M.bind]

/-- a solver check changes, of the state the frontends see, only `lastCore` of the object (and the event counter) -/
structure CheckStep (r : Nat) (s s' : St) : Prop extends ObjStep r s s' where
  frames : (objAt s' r).frames = (objAt s r).frames
  fe : s'.fe = s.fe

theorem objAt_frames_set_lastCore (s : St) (r : Nat) (core : List Nat) (t : Nat) (ql : List (Query × Answer)) :
    (objAt { s with tick := t, qlog := ql, objs := s.objs.set r { objAt s r with lastCore := core } } r).frames
      = (objAt s r).frames := by
  by_cases h : r < s.objs.length
  · simp [objAt, List.getD, h]
  · simp [objAt, List.getD, h]

theorem z3Check_step (s : St) (r : Nat) (q : Query) (ans : Answer) (core : List Nat) :
    CheckStep r s { s with tick := s.tick + 1, qlog := (q, ans) :: s.qlog,
                           objs := s.objs.set r { objAt s r with lastCore := core } } :=
  ⟨⟨by simp, fun i hi => by simp [Ne.symm hi], rfl, rfl⟩, objAt_frames_set_lastCore s r core _ _, rfl⟩

theorem OracleExact.sat {E : Env} (hE : OracleExact E) {A asm : List ZCon} {k : Nat} {vals : List Nat} {keys : List Var}
    (h : E.oracle { asserted := A, assumptions := asm } k = .sat vals keys) :
    PartialModelOf (PModel.ofKeys vals keys) (A ++ asm) ∧ SatBy (A ++ asm) (asgOf vals) := by
  have hx := hE { asserted := A, assumptions := asm } k
  rw [h] at hx
  refine ⟨fun a ha => ?_, (Query.holds_iff _ _).mp (hx (asgOf vals) fun _ _ => rfl)⟩
  exact (Query.holds_iff _ a).mp (hx a fun v hv => ha v _ (by rw [PModel.get?_ofKeys]; simp [hv, asgOf]))

theorem OracleExact.unsat {E : Env} (hE : OracleExact E) {A asm : List ZCon} {k : Nat} {core : List Nat}
    (h : E.oracle { asserted := A, assumptions := asm } k = .unsat core) (a : Asg) : ¬ SatBy (A ++ asm) a := by
  have hx := hE { asserted := A, assumptions := asm } k
  rw [h] at hx
  exact (Query.holds_false_iff _ a).mp (hx a)

theorem wp_z3Check (E : Env) (r : Nat) (asm : List ZCon) {s : St}
    {Q : Option (List Nat × List Var) → St → Prop} {X : Err → St → Prop}
    (hun : ∀ core s', E.oracle { asserted := (objAt s r).asserted, assumptions := asm } s.tick = .unsat core →
      CheckStep r s s' → Q none s')
    (hsat : ∀ vals keys s', E.oracle { asserted := (objAt s r).asserted, assumptions := asm } s.tick = .sat vals keys →
      CheckStep r s s' → Q (some (vals, keys)) s')
    (hgu : ∀ e s', IsGiveUp E e → CheckStep r s s' → X e s') : (z3Check E r asm).wp Q X s := by
  unfold M.wp wp
  rw [z3Check_eq]
  simp only
  cases ho : E.oracle { asserted := (objAt s r).asserted, assumptions := asm } s.tick with
  | unknown => exact hgu _ _ ⟨rfl, _, _, ho⟩ ⟨⟨rfl, fun _ _ => rfl, rfl, rfl⟩, rfl, rfl⟩
  | unsat core => exact hun core _ ho (z3Check_step s r _ _ core)
  | sat vals keys => exact hsat vals keys _ ho (z3Check_step s r _ _ [])

theorem z3Check_cases {E : Env} (hE : OracleExact E) (r : Nat) (asm : List ZCon) (s : St) :
    match z3Check E r asm s with
    | (.ok none, s') => (∀ a, ¬ SatBy ((objAt s r).asserted ++ asm) a) ∧ CheckStep r s s'
    | (.ok (some (vals, keys)), s') =>
        PartialModelOf (PModel.ofKeys vals keys) ((objAt s r).asserted ++ asm) ∧
        SatBy ((objAt s r).asserted ++ asm) (asgOf vals) ∧ CheckStep r s s'
    | (.error e, s') => IsGiveUp E e ∧ CheckStep r s s' := by
  rw [z3Check_eq]
  simp only
  cases ho : E.oracle { asserted := (objAt s r).asserted, assumptions := asm } s.tick with
  | unknown => exact ⟨⟨rfl, _, _, ho⟩, ⟨rfl, fun _ _ => rfl, rfl, rfl⟩, rfl, rfl⟩
  | unsat core => exact ⟨hE.unsat ho, z3Check_step s r _ _ core⟩
  | sat vals keys => exact ⟨(hE.sat ho).1, (hE.sat ho).2, z3Check_step s r _ _ []⟩

def ZCon.isNamed (c : ZCon) : Bool := match c.tag with | .con _ => true | _ => false

def namedBy (asserted : List ZCon) (names : List Nat) : List ZCon :=
  asserted.filter fun c => match c.tag with | .con id => names.contains id | _ => false

/-- **CoreOk** (trusted like OracleExact, validated by the brute-force judge on every recorded core): the assertions
Z3 names in its core, the assertions that carry no name, and the assumptions are jointly unsatisfiable -/
def CoreOk (q : Query) (core : List Nat) : Prop :=
  ∀ a, ¬ (SatBy (namedBy q.asserted core) a ∧ SatBy (q.asserted.filter fun c => !c.isNamed) a ∧ SatBy q.assumptions a)

/-- what `_unsat_core` computes from the object -/
def coreIds (o : Z3Obj) : List Nat :=
  o.asserted.filterMap fun c => match c.tag with
    | .con id => if o.lastCore.contains id then some id else none
    | _ => none

theorem z3UnsatCore_apply (r : Nat) (s : St) : z3UnsatCore r s = (.ok (coreIds (objAt s r)), s) := rfl

theorem mem_coreIds (o : Z3Obj) (i : Nat) : i ∈ coreIds o ↔ (∃ c ∈ o.asserted, c.tag = .con i) ∧ i ∈ o.lastCore := by
  unfold coreIds
  simp only [List.mem_filterMap]
  constructor
  · rintro ⟨c, hc, h⟩
    cases ht : c.tag <;> rw [ht] at h <;> simp only [reduceCtorEq] at h
    rename_i zid
    simp at h
    obtain ⟨h1, rfl⟩ := h
    exact ⟨⟨c, hc, ht⟩, h1⟩
  · rintro ⟨⟨c, hc, ht⟩, hin⟩
    refine ⟨c, hc, ?_⟩
    rw [ht]
    simpa using hin

theorem objAt_set_tq (s : St) (r : Nat) (o : Z3Obj) (t : Nat) (ql : List (Query × Answer)) (hr : r < s.objs.length) :
    objAt { s with tick := t, qlog := ql, objs := s.objs.set r o } r = o := by
  simp [objAt, List.getD, hr]

theorem namedBy_coreIds (o : Z3Obj) : namedBy o.asserted (coreIds o) = namedBy o.asserted o.lastCore := by
  unfold namedBy
  apply List.filter_congr
  intro c hc
  cases ht : c.tag <;> simp only
  rename_i zid
  have := mem_coreIds o zid
  by_cases hin : zid ∈ o.lastCore
  · have h1 : zid ∈ coreIds o := this.mpr ⟨⟨c, hc, ht⟩, hin⟩
    simp [hin, h1]
  · have h1 : zid ∉ coreIds o := fun h => hin (this.mp h).2
    simp [hin, h1]

/-- **unsat core after an unsatisfiable check**: `check(assumptions)` said `unsat`; then `_unsat_core` returns names of
asserted constraints only, and — if Z3's core is a core — what they name is unsatisfiable together with the unnamed
assertions and the assumptions.  The check leaves the assertion frames alone. -/
theorem z3UnsatCore_after_check (E : Env) (r : Nat) (asm : List ZCon) (s : St) (hr : r < s.objs.length) :
    match z3Check E r asm s with
    | (.ok none, s1) =>
        ∃ core, E.oracle { asserted := (objAt s r).asserted, assumptions := asm } s.tick = .unsat core ∧
          (objAt s1 r).frames = (objAt s r).frames ∧
          ∃ ids, z3UnsatCore r s1 = (.ok ids, s1) ∧
            (∀ i ∈ ids, ∃ c ∈ (objAt s r).asserted, c.tag = .con i) ∧
            (CoreOk { asserted := (objAt s r).asserted, assumptions := asm } core →
              ∀ a, ¬ (SatBy (namedBy (objAt s r).asserted ids) a ∧
                      SatBy ((objAt s r).asserted.filter fun c => !c.isNamed) a ∧ SatBy asm a))
    | _ => True := by
  rw [z3Check_eq]
  simp only
  cases hans : E.oracle { asserted := (objAt s r).asserted, assumptions := asm } s.tick with
  | unknown => trivial
  | sat vals keys => trivial
  | unsat core =>
    simp only
    have hobj := objAt_set_tq s r { objAt s r with lastCore := core } (s.tick + 1)
      (({ asserted := (objAt s r).asserted, assumptions := asm }, Answer.unsat core) :: s.qlog) hr
    refine ⟨core, rfl, by rw [hobj], _, z3UnsatCore_apply _ _, ?_, ?_⟩
    · intro i hi
      rw [hobj] at hi
      exact ((mem_coreIds _ i).mp hi).1
    · intro hok a
      rw [hobj]
      have h := namedBy_coreIds { objAt s r with lastCore := core }
      have hasr : ({ objAt s r with lastCore := core } : Z3Obj).asserted = (objAt s r).asserted := rfl
      rw [hasr] at h
      rw [h]
      exact hok a

end Claripy.Solver

import ClaripyProofs.Lemmas.Solver.CompositeUpdate
import ClaripyProofs.Lemmas.Solver.CompositeKeep
/-!
`_reabsorb_solver`, the branch in which the parts of `split()` REPLACE the children (`_owned_solvers.add(p)`, `_store_child(p)` for
every part): the dict `_solvers` afterwards (`storeAll`, `storeAll_get_part`, `storeAll_get_other`).  The parts know pairwise
disjoint variable sets that cover the variables of the merged child, so every merged child disappears from `_solvers`
(`cinv_repartition` with `new = parts`); the constraints WITHOUT variables of the merged child (the `CONCRETE` part of `split()`,
stored under no variable) are lost — harmlessly: the merged child is satisfiable (`_ensure_sat` has run), so they are true.
Both branches of `_reabsorb_solver` then give `ReabsorbPost` (`reabsorb_run`: it runs to its end; `reabsorbFrames`).
-/
namespace Claripy.Solver

variable {R : Con → Prop} {RE : Exp → Prop} {E : Env}

/-- the body of the loop `for p in parts: self._owned_solvers.add(p); self._store_child(p)` -/
def replBody (p : Nat) : CM Unit := do
  CM.modifyC fun c => { c with owned := listInsert c.owned p }
  storeChild p

/-- one round of it on the composite's record (the world does not change) -/
def storeOne (w : World) (p : Nat) (c : Comp) : Comp :=
  { c with owned := listInsert c.owned p,
           solvers := (w.fes.getD p {}).variables.foldl (fun d v => alSet d v p) c.solvers,
           unchecked := listInsert c.unchecked p }

def storeAll (w : World) : List Nat → Comp → Comp
  | [], c => c
  | p :: rest, c => storeAll w rest (storeOne w p c)

theorem replBody_run (p : Nat) (s : CSt) : replBody p s = (.ok (), { s with c := storeOne s.w p s.c }) := rfl

theorem forM_replBody : ∀ (ps : List Nat) (s : CSt), ps.forM replBody s = (.ok (), { s with c := storeAll s.w ps s.c })
  | [], _ => rfl
  | p :: rest, s => by
    show ((do replBody p; rest.forM replBody) : CM Unit) s = _
    simp only [bind, CM.bind, replBody_run]
    rw [forM_replBody rest]
    rfl

theorem storeAll_unsat (w : World) : ∀ (ps : List Nat) (c : Comp), (storeAll w ps c).unsat = c.unsat
  | [], _ => rfl
  | p :: rest, c => by rw [storeAll, storeAll_unsat w rest]; rfl

theorem storeAll_nodup (w : World) : ∀ (ps : List Nat) (c : Comp), (keys c.solvers).Nodup → (keys (storeAll w ps c).solvers).Nodup
  | [], _, h => h
  | p :: rest, c, h => by
    rw [storeAll]
    exact storeAll_nodup w rest _ (keys_foldl_alSet_nodup _ _ _ h)

theorem storeAll_unchecked (w : World) : ∀ (ps : List Nat) (c : Comp) (j : Nat),
    j ∈ (storeAll w ps c).unchecked ↔ j ∈ c.unchecked ∨ j ∈ ps
  | [], _, _ => by simp [storeAll]
  | p :: rest, c, j => by
    rw [storeAll, storeAll_unchecked w rest]
    show j ∈ listInsert c.unchecked p ∨ j ∈ rest ↔ _
    rw [mem_listInsert]
    simp only [List.mem_cons]
    exact or_assoc

theorem storeAll_get_other (w : World) : ∀ (ps : List Nat) (c : Comp) (v : Var), (∀ p ∈ ps, v ∉ (w.fes.getD p {}).variables) →
    alGet? (storeAll w ps c).solvers v = alGet? c.solvers v
  | [], _, _, _ => rfl
  | p :: rest, c, v, h => by
    rw [storeAll, storeAll_get_other w rest _ v (fun q hq => h q (List.mem_cons_of_mem _ hq))]
    show alGet? ((w.fes.getD p {}).variables.foldl (fun d v => alSet d v p) c.solvers) v = _
    rw [alGet?_foldl_alSet, if_neg (h p (by simp))]

theorem storeAll_get_part (w : World) : ∀ (ps : List Nat) (c : Comp),
    ps.Pairwise (fun p q => ∀ v ∈ (w.fes.getD p {}).variables, v ∉ (w.fes.getD q {}).variables) →
    ∀ p ∈ ps, ∀ v ∈ (w.fes.getD p {}).variables, alGet? (storeAll w ps c).solvers v = some p
  | [], _, _, _, hp, _, _ => by cases hp
  | q :: rest, c, hpw, p, hp, v, hv => by
    obtain ⟨h1, h2⟩ := List.pairwise_cons.mp hpw
    rw [storeAll]
    by_cases hpr : p ∈ rest
    · exact storeAll_get_part w rest _ h2 p hpr v hv
    · obtain rfl : p = q := (List.mem_cons.mp hp).resolve_right hpr
      rw [storeAll_get_other w rest _ v (fun r hr => h1 r hr v hv)]
      show alGet? ((w.fes.getD p {}).variables.foldl (fun d v => alSet d v p) c.solvers) v = _
      rw [alGet?_foldl_alSet, if_pos hv]

theorem reabsorb_eq_split {s s1 : CSt} {m t : Nat} {parts : List Nat} (hv : (s.child m).variables ≠ [])
    (ht : alGet? s.c.solvers (minVar (s.child m).variables) = some t) (htm : t ≠ m)
    (hsp : childSplit E m s = (.ok parts, s1)) :
    reabsorb E m s =
      (if (parts.length == (s1.c.solversFor (s.child m).variables).length &&
          parts.all (fun p => !(s1.child p).variables.isEmpty)) = true
       then parts.forM updBody else parts.forM replBody) s1 := by
  unfold reabsorb
  simp only [bind, CM.bind, CM.get]
  have hve : (s.child m).variables.isEmpty = false := by
    cases hx : (s.child m).variables with
    | nil => exact absurd hx hv
    | cons _ _ => rfl
  have hbeq : (t == m) = false := by simpa using htm
  simp only [hve, Bool.false_eq_true, ↓reduceIte, ht, hbeq]
  simp only [CM.bind]
  rw [hsp]
  simp only [CM.get]
  split <;> rfl

section
variable (H : SolverHyps R RE E)
include H

theorem reabsorb_ok {Us : List (List Con)} {s : CSt} (hw : TInvS R RE E Us s.w) (hre : s.w.reuse = false) (m : Nat)
    (hm : m < s.w.fes.length) (hkeys : ∀ v ∈ (s.child m).variables, ∃ t, alGet? s.c.solvers v = some t) :
    ∃ s', reabsorb E m s = (.ok (), s') := by
  by_cases hno : (s.child m).variables = [] ∨ alGet? s.c.solvers (minVar (s.child m).variables) = some m
  · exact ⟨s, reabsorb_noop s m hno⟩
  have hv : (s.child m).variables ≠ [] := fun hv => hno (Or.inl hv)
  obtain ⟨t, ht⟩ := hkeys _ (minVar_mem _ hv)
  have htm : t ≠ m := fun e => hno (Or.inr (e ▸ ht))
  obtain ⟨parts, s1, _, hsp, hc1, _, _, _, _, _, _, _, hpv, _⟩ := childSplit_spec H hw hre m hm
  rw [reabsorb_eq_split hv ht htm hsp]
  split
  · rename_i hcond
    simp only [Bool.and_eq_true, List.all_eq_true] at hcond
    obtain ⟨s2, h2, _⟩ := forM_ok (P := fun s' => s'.c = s.c ∧ ∀ i, (s'.child i).variables = (s1.child i).variables)
      updBody parts s1 ⟨hc1, fun _ => rfl⟩ (by
      intro p hp s' ⟨hcs, hvs⟩
      have hne : (s1.child p).variables ≠ [] := by
        have := hcond.2 p hp
        simpa using this
      obtain ⟨t', ht'⟩ := hkeys _ (hpv p hp _ (minVar_mem _ hne))
      obtain ⟨s'', hu, hcu, hvu⟩ := childUpdate_vars t' p s'
      refine ⟨s'', ?_, hcu.trans hcs, fun i => (hvu i).trans (hvs i)⟩
      simp only [updBody, bind, CM.bind, CM.get, hvs p, hcs, ht', hu])
    exact ⟨s2, h2⟩
  · exact ⟨_, forM_replBody parts s1⟩

end

/-- what `_reabsorb_solver(m)` leaves behind, as far as `check_satisfiability(extra)` needs it: the invariant; the merged child's
variables; the entries of `_solvers` for variables the merged child does not know; and every child of the new partition that shares
a variable with the merged child is implied by the merged constraints -/
structure ReabsorbPost (R : Con → Prop) (RE : Exp → Prop) (E : Env) (U : List Con) (Us Us' : List (List Con)) (s s' : CSt)
    (m : Nat) : Prop where
  inv : CInv R RE E U Us' s'
  unsat : s'.c.unsat = false
  vars : (s'.child m).variables = (s.child m).variables
  keep : ∀ v, v ∉ (s.child m).variables → alGet? s'.c.solvers v = alGet? s.c.solvers v
  sem : ∀ a, Models (Us.getD m []) a → ∀ i ∈ s'.c.solverList,
    (s'.child i).variables.any (s.child m).variables.contains = true → Models (Us'.getD i []) a

/-- **the frame facts of `_reabsorb_solver`**: under the hypotheses of `ReabsorbKeeps`, `ReabsorbPost` -/
def ReabsorbFrames (R : Con → Prop) (RE : Exp → Prop) (E : Env) : Prop :=
  ∀ (U : List Con) (Us : List (List Con)) (s : CSt) (m : Nat), CInv R RE E U Us s → m < s.w.fes.length →
    (∀ v ∈ (s.child m).variables, ∃ t, alGet? s.c.solvers v = some t) →
    (∀ t ∈ s.c.solversFor (s.child m).variables, ∀ v ∈ (s.child t).variables, v ∈ (s.child m).variables) →
    (∀ a, Models (Us.getD m []) a ↔ ∀ t ∈ s.c.solversFor (s.child m).variables, Models (Us.getD t []) a) →
    (∀ t ∈ s.c.solversFor (s.child m).variables, Satisfiable (Us.getD t [])) → s.c.unsat = false →
    ∀ s', reabsorb E m s = (.ok (), s') → ∃ Us', ReabsorbPost R RE E U Us Us' s s' m

theorem any_contains_true {l sv : List Var} : l.any sv.contains = true ↔ ∃ v ∈ l, v ∈ sv := by
  simp [List.any_eq_true]

theorem any_contains_false {l sv : List Var} : l.any sv.contains = false ↔ ∀ v ∈ l, v ∉ sv := by
  simp [List.any_eq_false]

/-- `ReabsorbPost` when the composite's record is the same and the old children keep variables and meaning: where
`_reabsorb_solver` returns at once, and in the branch of `update` -/
theorem reabsorbPost_same {U : List Con} {Us Us1 : List (List Con)} {s s2 : CSt} {m : Nat} (h : CInv R RE E U Us s)
    (h2 : CInv R RE E U Us1 s2) (hc : s2.c = s.c)
    (hv : ∀ i, i < s.w.fes.length → (s2.child i).variables = (s.child i).variables)
    (hU : ∀ i, i < s.w.fes.length → Us1.getD i [] = Us.getD i []) (hm : m < s.w.fes.length)
    (hsem : ∀ a, Models (Us.getD m []) a ↔ ∀ t ∈ s.c.solversFor (s.child m).variables, Models (Us.getD t []) a)
    (hun : s.c.unsat = false) : ReabsorbPost R RE E U Us Us1 s s2 m := by
  refine ⟨h2, by rw [hc]; exact hun, hv m hm, fun v _ => by rw [hc], ?_⟩
  intro a ha i hi hany
  obtain ⟨v, hvi, hvm⟩ := any_contains_true.mp hany
  rw [hc] at hi
  rw [hv i (h.lt_of_mem hi)] at hvi
  rw [hU i (h.lt_of_mem hi)]
  exact (hsem a).mp ha i (h.solversFor_of_var hi hvi hvm)

/-- `ReabsorbFrames` for the branch of `_reabsorb_solver` in which the parts of `split()` replace the children -/
def ReabsorbReplaceFrames (R : Con → Prop) (RE : Exp → Prop) (E : Env) : Prop :=
  ∀ (U : List Con) (Us : List (List Con)) (s : CSt) (m : Nat), CInv R RE E U Us s → m < s.w.fes.length →
    (∀ v ∈ (s.child m).variables, ∃ t, alGet? s.c.solvers v = some t) →
    (∀ t ∈ s.c.solversFor (s.child m).variables, ∀ v ∈ (s.child t).variables, v ∈ (s.child m).variables) →
    (∀ a, Models (Us.getD m []) a ↔ ∀ t ∈ s.c.solversFor (s.child m).variables, Models (Us.getD t []) a) →
    (∀ t ∈ s.c.solversFor (s.child m).variables, Satisfiable (Us.getD t [])) → s.c.unsat = false →
    (s.child m).variables ≠ [] → alGet? s.c.solvers (minVar (s.child m).variables) ≠ some m → ReplaceTaken E m s →
    ∀ s', reabsorb E m s = (.ok (), s') → ∃ Us', ReabsorbPost R RE E U Us Us' s s' m

section
variable (H : SolverHyps R RE E)
include H

theorem reabsorb_run {U : List Con} {Us : List (List Con)} {s : CSt} {m : Nat} (h : CInv R RE E U Us s) (hm : m < s.w.fes.length)
    (hkeys : ∀ v ∈ (s.child m).variables, ∃ t, alGet? s.c.solvers v = some t)
    (hsup : ∀ t ∈ s.c.solversFor (s.child m).variables, ∀ v ∈ (s.child t).variables, v ∈ (s.child m).variables)
    (hsem : ∀ a, Models (Us.getD m []) a ↔ ∀ t ∈ s.c.solversFor (s.child m).variables, Models (Us.getD t []) a)
    (hsat : ∀ t ∈ s.c.solversFor (s.child m).variables, Satisfiable (Us.getD t [])) (hun : s.c.unsat = false) :
    ∃ s' Us', reabsorb E m s = (.ok (), s') ∧ ReabsorbPost R RE E U Us Us' s s' m := by
  by_cases hno : (s.child m).variables = [] ∨ alGet? s.c.solvers (minVar (s.child m).variables) = some m
  · exact ⟨s, Us, reabsorb_noop s m hno, reabsorbPost_same h h rfl (fun _ _ => rfl) (fun _ _ => rfl) hm hsem hun⟩
  have hv : (s.child m).variables ≠ [] := fun hv => hno (Or.inl hv)
  obtain ⟨t, ht⟩ := hkeys _ (minVar_mem _ hv)
  have htm : t ≠ m := fun e => hno (Or.inr (e ▸ ht))
  obtain ⟨parts, s1, Us1, hsp, hc1, hk1, hre1, hlen1, hfr1, hparts1, hp1, hdisj, hpv, hcov, hsemP⟩ :=
    childSplit_spec H h.kids h.reuse m hm
  have hparts1 := hparts1 (h.keysOk m hm)
  have hw1 : WOk R RE E Us1 s1.w := h.wok.extend hk1 (hre1.trans h.reuse.symm)
    (fun i hi => by rw [show s1.w.fes.getD i {} = s.w.fes.getD i {} from (hfr1 i hi).1]; exact ⟨rfl, rfl, rfl⟩)
    (fun i h1 h2 => ⟨(hparts1 i h1 h2).keys, (hparts1 i h1 h2).exact⟩)
  rw [reabsorb_eq_split hv ht htm hsp]
  split
  · -- the branch of `update`
    rename_i hcond
    simp only [Bool.and_eq_true, List.all_eq_true] at hcond
    have hinit : UpdInv R RE E Us1 s.w.fes.length s1 s1 :=
      ⟨rfl, hk1, hre1, rfl, hw1.keysOk, fun _ => ⟨rfl, rfl⟩, fun _ _ => rfl⟩
    obtain ⟨s2, h2, hI2⟩ := forM_ok (P := UpdInv R RE E Us1 s.w.fes.length s1) updBody parts s1 hinit (by
      intro p hp s'' hI
      obtain ⟨hp1', hp2'⟩ := hp1 p hp
      have hpart := hparts1 p hp1' hp2'
      have hne : (s1.child p).variables ≠ [] := by
        have := hcond.2 p hp
        simpa using this
      obtain ⟨t', ht'⟩ := hkeys _ (hpv p hp _ (minVar_mem _ hne))
      obtain ⟨s3, h3, hI3⟩ := childUpdate_step H h m hm hsem hsat hlen1 hfr1 hI p hp1' hpart hne t' ht'
      refine ⟨s3, ?_, hI3⟩
      have hcs : s''.c = s.c := hI.comp.trans hc1
      simp only [updBody, bind, CM.bind, CM.get, (hI.same p).1, hcs, ht', h3])
    have hcs2 : s2.c = s.c := hI2.comp.trans hc1
    have hold : ∀ j, j < s.w.fes.length → (s2.child j).variables = (s.child j).variables :=
      fun j hj => by rw [(hI2.same j).1, (hfr1 j hj).1]
    have hinv2 : CInv R RE E U Us1 { c := s.c, w := s2.w } := by
      refine h.of_world s2.w hI2.kids hI2.reuse hI2.keys ?_ (by rw [hI2.len]; exact hlen1) hold fun j hj a => by rw [(hfr1 j hj).2]
      exact fun j hj => exactVars_congr (hI2.same j).2 (hI2.same j).1 (hw1.exact j (hI2.len ▸ hj))
    refine ⟨s2, Us1, h2, ?_⟩
    rw [show s2 = { c := s.c, w := s2.w } by rw [← hcs2]]
    exact reabsorbPost_same h hinv2 rfl hold (fun j hj => (hfr1 j hj).2) hm hsem hun
  · -- the parts replace the children
    have hcov := hcov (h.exact m hm)
    refine ⟨_, Us1, forM_replBody parts s1, ?_⟩
    rw [hc1]
    have hsi := h.kids.each m hm
    have hltL : ∀ j ∈ s.c.solverList, j < s.w.fes.length := fun _ hj => h.lt_of_mem hj
    -- a model of everything: the constraints without variables of `m` are true
    have hinL : ∀ j ∈ s.c.solversFor (s.child m).variables, j ∈ s.c.solverList := fun _ ht => h.mem_of_solversFor ht
    obtain ⟨a0, ha0, _⟩ := h.joint_model_list H.reg (fun _ => 0) (s.c.solversFor (s.child m).variables) (solversFor_nodup _ _)
      hinL hsat
    have hm0 : Models (s.child m).constraints a0 := (h.child_models hm a0).mpr ((hsem a0).mpr ha0)
    have htriv : ∀ a, ∀ c ∈ (s.child m).constraints, c.vars = [] → c.sem a = true := by
      intro a c hc hcv
      have hcw : ConWf c := H.reg.wf c (hsi.base.dinv.consR c hc)
      rw [hcw.1 a a0 (fun v hvc => by rw [hcv] at hvc; cases hvc)]
      exact hm0 c hc
    obtain ⟨hinv, hlist⟩ := cinv_repartition h (s.child m).variables [] (storeAll s1.w parts s.c) s1.w parts hw1 hlen1
      (storeAll_nodup _ _ _ h.nodup) (fun p hp v hvp => storeAll_get_part _ _ _ hdisj p hp v hvp)
      (fun v hv => storeAll_get_other _ _ _ v hv) (storeAll_unsat _ _ _) (storeAll_unchecked _ _ _) (fun p hp => (hp1 p hp).2)
      (fun p hp v hv => Or.inr (hpv p hp v hv)) (fun t ht v hv => hcov v (hsup t ht v hv))
      (fun a => ((hsemP a (htriv a)).symm.trans ((h.child_models hm a).trans (hsem a))).trans
        ⟨fun hx => ⟨hx, fun _ hc => nomatch hc⟩, fun hx => hx.1⟩)
      (fun i hi _ => ⟨congrArg Frontend.variables (hfr1 i (hltL i hi)).1, fun a => by rw [(hfr1 i (hltL i hi)).2]⟩)
    rw [List.append_nil] at hinv
    refine ⟨hinv, ?_, ?_, fun v hvm => storeAll_get_other _ _ _ v (fun p hp hvp => hvm (hpv p hp v hvp)), ?_⟩
    · show (storeAll s1.w parts s.c).unsat = false
      rw [storeAll_unsat]; exact hun
    · show (s1.child m).variables = _
      rw [(hfr1 m hm).1]
    · intro a ha i hi hany
      obtain ⟨v, hvi, hvm⟩ := any_contains_true.mp hany
      rcases hlist i hi with ⟨hip, hne⟩ | ⟨hil, hin⟩
      · exact ((hsemP a (htriv a)).mp ((h.child_models hm a).mpr ha)) i hip hne
      · have hvi' : v ∈ (s1.child i).variables := hvi
        rw [(hfr1 i (hltL i hil)).1] at hvi'
        exact absurd (h.solversFor_of_var hil hvi' hvm) hin

theorem reabsorbFrames : ReabsorbFrames R RE E := by
  intro U Us s m h hm hkeys hsup hsem hsat hun s' hrun
  obtain ⟨s2, Us', hr, hp⟩ := reabsorb_run H h hm hkeys hsup hsem hsat hun
  rw [hr] at hrun
  cases hrun
  exact ⟨Us', hp⟩

theorem reabsorbReplaceFrames : ReabsorbReplaceFrames R RE E :=
  fun U Us s m h hm hkeys hsup hsem hsat hun _ _ _ => reabsorbFrames H U Us s m h hm hkeys hsup hsem hsat hun

theorem reabsorbFrames_of_replace (_hrep : ReabsorbReplaceFrames R RE E) : ReabsorbFrames R RE E := reabsorbFrames H

theorem reabsorbReplaceKeeps : ReabsorbReplaceKeeps R RE E := by
  intro U Us s m h hm hkeys hsup hsem hsat hun hv hnm hrep s' hrun
  obtain ⟨Us', hp⟩ := reabsorbReplaceFrames H U Us s m h hm hkeys hsup hsem hsat hun hv hnm hrep s' hrun
  exact ⟨Us', hp.inv⟩

theorem reabsorbKeeps : ReabsorbKeeps R RE E := by
  intro U Us s m h hm hkeys hsup hsem hsat hun s' hrun
  obtain ⟨Us', hp⟩ := reabsorbFrames H U Us s m h hm hkeys hsup hsem hsat hun s' hrun
  exact ⟨Us', hp.inv⟩

theorem reabsorbKeeps_of_replace (_hrep : ReabsorbReplaceKeeps R RE E) : ReabsorbKeeps R RE E := reabsorbKeeps H

end

end Claripy.Solver

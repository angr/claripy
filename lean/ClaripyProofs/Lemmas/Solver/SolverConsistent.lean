import ClaripyProofs.Lemmas.Solver.SolverHistory
import Mathlib.Logic.Encodable.Basic
import Mathlib.Logic.Equiv.List
/-!
The hypotheses of the refinement theorem for the caching class (`SolverHyps`) are jointly satisfiable, with a registry that
contains a genuinely constrained variable and a queried expression: an environment whose oracle decides every query some
value of the variable settles, whose `claripy.ULE(e, m)` etc. build exactly what was written (ids = an injective code of the
key), whose simplifier is the identity.
-/
namespace Claripy.Solver

/-- the queried expression: the 3-bit variable 0 -/
def cExp : Exp := { id := 1, bits := 3, vars := [0], val := fun a => a 0 % 8 }

def cFalse : Con := { id := 0, vars := [], sem := fun _ => false, isFalse := true, conc := some false }
/-- a real constraint: `x <= 5` -/
def cCon : Con := { id := 1, vars := [0], sem := fun a => decide (a 0 % 8 ≤ 5) }

/-- `x == 5`, with the shape `_trivial_model_optimization` looks for (`BVS == constant`, the expression `x` has id 1) -/
def cEq : Con := { id := 2, vars := [0], sem := fun a => decide (a 0 = 5), triv := some (0, 5, 1) }

/-- an injective code of the constraints built from `cExp` -/
def keyCode : BuildKey → Nat × Int × List Nat
  | .ule _ m => (0, m, [])
  | .uge _ m => (1, m, [])
  | .sle _ m => (2, m, [])
  | .sge _ m => (3, m, [])
  | .ne _ v => (4, (v : Int), [])
  | .orEq _ vs => (5, 0, vs)

theorem keyCode_inj {k k' : BuildKey} (h : keyCode k = keyCode k') (he : k.exp = k'.exp) : k = k' := by
  cases k <;> cases k' <;> simp_all [keyCode, BuildKey.exp, Int.natCast_inj]

def cBuild (k : BuildKey) : Con := { id := 3 + Encodable.encode (keyCode k), vars := [0], sem := k.sem }

/-- decides every query some value of variable 0 settles; gives up on the others -/
noncomputable def cOracle (q : Query) (_k : Nat) : Answer :=
  open Classical in
  if h : ∃ x : Nat, ∀ a : Asg, a 0 = x → q.holds a = true then .sat [Classical.choose h] [0]
  else if ∀ a : Asg, q.holds a = false then .unsat [] else .unknown

noncomputable def cEnv : Env :=
  { dflt := fun _ => 0, oracle := cOracle, build := cBuild, falseCon := cFalse,
    cheapFalse := fun _ _ _ => false, truth := fun _ _ _ => false, simp := fun cs _ => cs,
    pick := fun all n _ => all.take n }

def cR (c : Con) : Prop := c = cFalse ∨ c = cCon ∨ c = cEq ∨ ∃ k : BuildKey, k.exp = cExp ∧ c = cBuild k
def cRE (e : Exp) : Prop := e = cExp

theorem cBuild_wf (k : BuildKey) (hk : k.exp = cExp) : ConWf (cBuild k) := by
  refine ⟨fun a a' h => ?_, fun h => by simp [cBuild] at h, fun b hb => by simp [cBuild] at hb,
    fun _ _ _ h => by simp [cBuild] at h⟩
  have h0 : a 0 = a' 0 := h 0 (by simp [cBuild])
  cases k <;> simp only [BuildKey.exp] at hk <;> subst hk <;> simp [cBuild, BuildKey.sem, cExp, h0]

/-- the id determines the constraint: the three constants have the ids 0, 1, 2, a built constraint the code of its key -/
theorem cR_id_inj {c c' : Con} (h : cR c) (h' : cR c') (hid : c.id = c'.id) : c = c' := by
  have kind : ∀ {c}, cR c → c.id < 3 ∧ c = [cFalse, cCon, cEq].getD c.id cFalse ∨ ∃ k : BuildKey, k.exp = cExp ∧ c = cBuild k := by
    rintro c (rfl | rfl | rfl | h)
    · exact Or.inl ⟨by decide, rfl⟩
    · exact Or.inl ⟨by decide, rfl⟩
    · exact Or.inl ⟨by decide, rfl⟩
    · exact Or.inr h
  rcases kind h with ⟨hlt, e⟩ | ⟨k, hk, rfl⟩ <;> rcases kind h' with ⟨hlt', e'⟩ | ⟨k', hk', rfl⟩
  · rw [e, e', hid]
  · simp only [cBuild] at hid
    omega
  · simp only [cBuild] at hid
    omega
  · have : Encodable.encode (keyCode k) = Encodable.encode (keyCode k') := by
      simp only [cBuild] at hid
      omega
    rw [keyCode_inj (Encodable.encode_injective this) (hk.trans hk'.symm)]

theorem cFaithful : ∀ c c', cR c → cR c' → c.id = c'.id → ∀ a, c.sem a = c'.sem a :=
  fun c c' h h' hid a => by rw [cR_id_inj h h' hid]

theorem cVarsId : ∀ c c', cR c → cR c' → c.id = c'.id → c.vars = c'.vars :=
  fun c c' h h' hid => by rw [cR_id_inj h h' hid]

theorem cZid : ZidFaithful cR := by
  intro c c' hc hc' hz
  refine cFaithful c c' hc hc' ?_
  rcases hc with rfl | rfl | rfl | ⟨k, _, rfl⟩ <;> rcases hc' with rfl | rfl | rfl | ⟨k', _, rfl⟩ <;> exact hz

theorem cOracle_sat {q : Query} {k : Nat} {vals : List Nat} {keys : List Var} (h : cOracle q k = .sat vals keys) :
    ∃ x, vals = [x] ∧ keys = [0] := by
  unfold cOracle at h
  split at h
  · cases h
    exact ⟨_, rfl, rfl⟩
  · split at h <;> cases h

theorem cHyps : SolverHyps cR cRE cEnv := by
  refine ⟨⟨cFaithful, cVarsId, ?_, ?_, Or.inl rfl, fun _ => rfl⟩, cZid, ?_, fun _ _ _ _ => rfl, fun _ _ _ c hc v hv => ⟨c, hc, hv⟩,
    ⟨fun _ _ _ h => by simp [cEnv] at h, fun _ _ h => by simp [cEnv] at h, fun _ _ h => by simp [cEnv] at h⟩, ?_,
    ⟨?_, ?_, ?_⟩, ⟨?_, ?_⟩, ?_, ?_⟩
  · rintro c (rfl | rfl | rfl | ⟨k, hk, rfl⟩)
    · exact ⟨fun _ _ _ => rfl, fun _ _ => rfl, fun b hb a => by simp [cFalse] at hb ⊢; exact hb,
        fun _ _ _ h => by simp [cFalse] at h⟩
    · exact ⟨fun a a' h => by simp [cCon, h 0 (by simp [cCon])], fun h => by simp [cCon] at h,
        fun b hb => by simp [cCon] at hb, fun _ _ _ h => by simp [cCon] at h⟩
    · refine ⟨fun a a' h => by simp [cEq, h 0 (by simp [cEq])], fun h => by simp [cEq] at h,
        fun b hb => by simp [cEq] at hb, fun v x eid h => ?_⟩
      simp only [cEq, Option.some.injEq, Prod.mk.injEq] at h
      obtain ⟨rfl, rfl, rfl⟩ := h
      exact ⟨rfl, fun _ => rfl⟩
    · exact cBuild_wf k hk
  · intro cs k h c hc; exact h c hc
  · -- the oracle is exact
    intro q k
    show match cOracle q k with
      | .sat vals keys => ∀ a : Asg, (∀ v ∈ keys, a v = asgOf vals v) → q.holds a = true
      | .unsat _ => ∀ a : Asg, q.holds a = false
      | .unknown => True
    unfold cOracle
    by_cases h : ∃ x : Nat, ∀ a : Asg, a 0 = x → q.holds a = true
    · rw [dif_pos h]
      intro a ha
      exact Classical.choose_spec h a (by simpa [asgOf] using ha 0 (by simp))
    · rw [dif_neg h]
      by_cases h2 : ∀ a : Asg, q.holds a = false
      · rw [if_pos h2]; exact h2
      · rw [if_neg h2]; trivial
  · -- the recorded choice
    intro all n k hnd
    refine ⟨?_, by simp [cEnv], ?_⟩
    · simp only [cEnv, subsetB, List.all_eq_true, List.contains_eq_mem, decide_eq_true_eq]
      exact fun x hx => List.mem_of_mem_take hx
    · exact (listUnion_eq_append [] (all.take n) (fun _ _ h => nomatch h) (hnd.sublist (List.take_sublist n all))).trans
        (List.nil_append _)
  · rintro e e' rfl rfl _; exact ⟨rfl, fun _ => rfl⟩
  · rintro e rfl; exact ⟨by simp [cExp], fun a => by simp only [cExp]; omega⟩
  · rintro e rfl a a' h; simp only [cExp]; rw [h 0 (by simp [cExp])]
  · -- the models of `sat` answers determine the registered expression
    rintro q k vals keys hor e rfl
    obtain ⟨x, rfl, rfl⟩ := cOracle_sat (k := k) hor
    simp [cExp, PModel.complete, PModel.ofKeys, PModel.insert, PModel.get?, asgOf]
  · rintro q k vals keys hor e rfl
    obtain ⟨x, rfl, rfl⟩ := cOracle_sat (k := k) hor
    exact ⟨0, by simp [cExp], by simp⟩
  · rintro c (rfl | rfl | rfl | ⟨k, _, rfl⟩) v x eid ht
    · simp [cFalse] at ht
    · simp [cCon] at ht
    · simp only [cEq, Option.some.injEq, Prod.mk.injEq] at ht
      obtain ⟨rfl, rfl, rfl⟩ := ht
      refine ⟨fun a ha => by simp [cEq, ha], ?_⟩
      rintro e rfl _
      exact ⟨fun a ha => by simp only [cEq, decide_eq_true_eq] at ha; simp [cExp, ha],
             fun a ha => by simp [cExp, ha]⟩
    · simp [cBuild] at ht
  · rintro key hk
    exact ⟨Or.inr (Or.inr (Or.inr ⟨key, hk, rfl⟩)), fun _ => rfl, fun v hv => by rw [hk]; simpa [cEnv, cBuild, cExp] using hv⟩

/-- a concrete expression: `BVV(3, 3)` -/
def cThree : Exp := { id := 7, bits := 3, vars := [], val := fun _ => 3, conc := some 3 }

/-- a history in scope on a tree of two solvers: constrain, optimise, branch, enumerate in the child, ask again in the parent -/
def cHist : List (Nat × Op) :=
  [(0, .add [cEq]), (0, .eval cExp 4 []), (0, .add [cCon]), (0, .max cExp [] false), (0, .branch), (1, .eval cExp 10 []), (1, .add [cCon]),
   (0, .min cExp [] true), (1, .solution cExp 7 []), (0, .simplify), (1, .satisfiable [cCon]), (1, .pickle),
   (1, .batchEval [cExp, cThree] 4 []), (0, .downsize), (0, .isTrue cCon [])]

@[simp] theorem cCon_reg : cR cCon := Or.inr (Or.inl rfl)
@[simp] theorem cEq_reg : cR cEq := Or.inr (Or.inr (Or.inl rfl))
@[simp] theorem cRE_cExp : cRE cExp := rfl
@[simp] theorem conWf_cCon : ConWf cCon := cHyps.reg.wf _ cCon_reg
@[simp] theorem cExp_bits : cExp.bits = 3 := rfl
@[simp] theorem cExp_conc : cExp.conc = none := rfl

theorem cHist_ok : HistOkS cR cRE 1 cHist := by
  simp [cHist, HistOkS, InScopeS, cThree]

theorem cHist_reach (k : Nat) :
    TInvS cR cRE cEnv (usersAfterHist [[]] (cHist.take k)) (worldAfter cEnv .Solver (World.init false false) (cHist.take k)) ∧
    (worldAfter cEnv .Solver (World.init false false) (cHist.take k)).fes.length = lenAfter 1 (cHist.take k) :=
  sol_reach cHyps _ _ _ (tinvS_init cR cRE cEnv false)
    (histOkS_append.mp (by rw [List.take_append_drop]; exact cHist_ok : HistOkS cR cRE 1 (cHist.take k ++ cHist.drop k))).1

end Claripy.Solver

/-! Give-ups are inside the hypotheses of the refinement theorems: an oracle that answers `unknown` where another one answered
keeps `SolverHyps` (`OracleExact` and `EvalComplete` only speak about the `sat` / `unsat` answers).  `gEnv` is the consistent
environment above with a backend that gives up on its first checks.
-/
namespace Claripy.Solver

variable {R : Con → Prop} {RE : Exp → Prop} {E : Env}

theorem SolverHyps.giveUpMore (H : SolverHyps R RE E) (o' : Query → Nat → Answer)
    (ho : ∀ q k, o' q k = E.oracle q k ∨ o' q k = .unknown) : SolverHyps R RE { E with oracle := o' } := by
  refine ⟨⟨H.reg.faithful, H.reg.varsId, H.reg.wf, H.reg.simp_closed, H.reg.falseR, H.reg.falseSem⟩, H.zid, ?_, H.simpOn, H.simpVars,
    H.cheap, H.pick, H.expReg, ⟨?_, ?_⟩, H.triv, H.build⟩
  · intro q k
    show match o' q k with
      | .sat vals keys => ∀ a : Asg, (∀ v ∈ keys, a v = asgOf vals v) → q.holds a = true
      | .unsat _ => ∀ a : Asg, q.holds a = false
      | .unknown => True
    rcases ho q k with h | h
    · rw [h]; exact H.oracle q k
    · rw [h]; trivial
  · intro q k vals keys hor e he
    have hor' : o' q k = .sat vals keys := hor
    rcases ho q k with h | h
    · exact H.evalComplete.agree q k vals keys (by rw [← h]; exact hor') e he
    · rw [h] at hor'; cases hor'
  · intro q k vals keys hor e he
    have hor' : o' q k = .sat vals keys := hor
    rcases ho q k with h | h
    · exact H.evalComplete.overlap q k vals keys (by rw [← h]; exact hor') e he
    · rw [h] at hor'; cases hor'

/-- the backend of `cEnv`, giving up on everything it is asked during the first two events of a run -/
noncomputable def gOracle (q : Query) (k : Nat) : Answer := if k < 2 then .unknown else cOracle q k

noncomputable def gEnv : Env := { cEnv with oracle := gOracle }

theorem gHyps : SolverHyps cR cRE gEnv :=
  cHyps.giveUpMore gOracle (fun q k => by unfold gOracle; split <;> simp [cEnv])

theorem gEnv_gaveUp : GaveUp gEnv := ⟨⟨[], []⟩, 0, rfl⟩

/-- ask an empty solver whether it is satisfiable (the backend is asked and gives up), pin `x == 5` (ModelCacheMixin learns the
model without asking Z3), enumerate, branch, ask the branch and the parent what the caches can answer, constrain the branch,
pickle the parent, ask again (the backend answers from its third event on) -/
def gHist : List (Nat × Op) :=
  [(0, .satisfiable []), (0, .add [cEq]), (0, .eval cExp 4 []), (0, .branch), (1, .max cExp [] false), (0, .solution cExp 5 []),
   (1, .add [cCon]), (1, .eval cExp 4 []), (0, .pickle), (0, .min cExp [] true), (1, .satisfiable [cCon])]

theorem gHist_ok : HistOkS cR cRE 1 gHist := by
  simp [gHist, HistOkS, InScopeS]

/-- the first call of `gHist` really ends in the give-up error; the next seven are answered (from the caches) -/
theorem gHist_outputs : (runHist gEnv .Solver (World.init false false) [[]] (gHist.take 8)).map (·.2.2) =
    [.err .giveUp, .cons [2], .vals [5], .newSolver 1, .int 5, .bool true, .cons [1], .vals [5]] := by decide +kernel

end Claripy.Solver

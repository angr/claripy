import ClaripyProofs.Lemmas.Solver.ModelCache
import ClaripyProofs.Lemmas.Solver.CachelessAdd
/-!
The invariant of one frontend of the caching class `Solver` (ModelCacheMixin + SatCacheMixin + ConstraintExpansionMixin +
SimplifyHelperMixin on top of what SolverCacheless has), relative to the constraints `U` its user has added:

  `SI = BInv ∧ MCInv ∧ SCInv`
  * `BInv`  — what the cacheless proof keeps (`CoreInv`: the Z3 object referred to, with what is pending, asserts the
              constraints; the constraints mean `U`; `DInv`: recorded hashes are implied by `U`), plus: the variables of the
              constraints are known (`variables`), and the state was reached by `WStep`s from a marked state (ghost, for the
              heap discipline of trees of solvers);
  * `MCInv` — the model cache (ModelCache.lean);
  * `SCInv` — the cached satisfiability is right.
and the specification of a query every layer of the class is shown to keep: `SQ R RE E G U Good Bad m`, with the result clauses
`EvalGood`, `BatchGood`, `OptGood` (and `SatGood`, `SolGood` of Tree.lean, which the cacheless classes use as well).  `SatSpec`,
`BatchSpec`, `OptSpec`, … say the same of the pair `m s` by a `match`.
-/
namespace Claripy.Solver

/-- the part of the invariant the cacheless class has as well -/
structure BInv (R : Con → Prop) (G : St → Prop) (U : List Con) (s : St) : Prop where
  core : CoreInvG s
  equiv : ∀ a, holdsAll s.fe.constraints a = holdsAll U a
  dinv : DInv R U s
  /-- the frontend knows the variables of its constraints (`_model_hook` keeps those of a model) -/
  vars : ∀ c ∈ s.fe.constraints, ∀ v ∈ c.vars, v ∈ s.fe.variables
  ghost : ∃ s0, G s0 ∧ WStep s0 s
  /-- tracked frontends (`track=True`): the Z3 object referred to asserts conversions of registered constraints only -/
  areg : s.fe.track = true → ∀ r, s.fe.solver = some r → AssertedReg R s r

/-- SatCacheMixin: the cached satisfiability is right -/
def SCInv (U : List Con) (fe : Frontend) : Prop :=
  (fe.cachedSat = some true → Satisfiable U) ∧ (fe.cachedSat = some false → ¬ Satisfiable U)

/-- **invariant of a `Solver` frontend** whose user has added `U` -/
structure SI (R : Con → Prop) (RE : Exp → Prop) (E : Env) (G : St → Prop) (U : List Con) (s : St) : Prop where
  base : BInv R G U s
  mc : MCInv RE E U s.fe
  sc : SCInv U s.fe

variable {R : Con → Prop} {RE : Exp → Prop} {E : Env} {G : St → Prop}

theorem models_congr_of_holdsAll {U U' : List Con} (h : ∀ a, holdsAll U' a = holdsAll U a) (a : Asg) :
    Models U' a ↔ Models U a := by
  rw [models_iff_holdsAll, models_iff_holdsAll, h a]

/-- `BInv` looks at the fields of ConstrainedFrontend / FullFrontend / the deduplicator and at the frames of the Z3 object referred
to only; how the new state was reached is said separately -/
theorem BInv.heap {G' : St → Prop} {U : List Con} {s s' : St} (h : BInv R G U s)
    (hcons : s'.fe.constraints = s.fe.constraints) (htoadd : s'.fe.toAdd = s.fe.toAdd) (hsol : s'.fe.solver = s.fe.solver)
    (htrack : s'.fe.track = s.fe.track) (hhash : s'.fe.hashes = s.fe.hashes) (hwo : s'.fe.woAnnot = s.fe.woAnnot)
    (hvar : s'.fe.variables = s.fe.variables) (hre : s'.reuse = s.reuse)
    (hobj : ∀ r, s.fe.solver = some r → r < s'.objs.length ∧ (objAt s' r).frames = (objAt s r).frames)
    (hghost : ∃ s0, G' s0 ∧ WStep s0 s') : BInv R G' U s' := by
  refine ⟨h.core.heap hcons htoadd hsol hre hobj, ?_, ⟨?_, ?_⟩, ?_, hghost, ?_⟩
  · rw [hcons]; exact h.equiv
  · rw [hcons]; exact h.dinv.consR
  · rw [hhash, hwo]; exact h.dinv.seen
  · rw [hcons, hvar]; exact h.vars
  · intro ht r hr z hz
    rw [htrack] at ht
    rw [hsol] at hr
    have has : (objAt s' r).asserted = (objAt s r).asserted := by simp only [Z3Obj.asserted, (hobj r hr).2]
    rw [has] at hz
    exact h.areg ht r hr z hz

theorem BInv.transfer {U : List Con} {s s' : St} (h : BInv R G U s) (hobjs : s'.objs = s.objs) (hre : s'.reuse = s.reuse)
    (hcons : s'.fe.constraints = s.fe.constraints) (htoadd : s'.fe.toAdd = s.fe.toAdd) (hsol : s'.fe.solver = s.fe.solver)
    (htrack : s'.fe.track = s.fe.track) (hhash : s'.fe.hashes = s.fe.hashes) (hwo : s'.fe.woAnnot = s.fe.woAnnot)
    (hvar : s'.fe.variables = s.fe.variables) (hfin : s'.fe.finalized = s.fe.finalized) : BInv R G U s' := by
  obtain ⟨s0, hg, hw⟩ := h.ghost
  exact h.heap hcons htoadd hsol htrack hhash hwo hvar hre
    (fun r hr => ⟨by rw [hobjs]; exact (h.core.obj r hr).1, by simp only [objAt, hobjs]⟩)
    ⟨s0, hg, hw.trans (WStep.of_fe hobjs hre hsol hfin)⟩

theorem BInv.congr {U U' : List Con} {s : St} (h : BInv R G U s) (heq : ∀ a, holdsAll U' a = holdsAll U a) : BInv R G U' s :=
  ⟨h.core, fun a => by rw [heq a]; exact h.equiv a,
   ⟨h.dinv.consR, fun c hc hi a ha => h.dinv.seen c hc hi a (by rw [← heq a]; exact ha)⟩, h.vars, h.ghost, h.areg⟩

theorem SCInv.congr {U U' : List Con} {fe : Frontend} (h : SCInv U fe) (heq : ∀ a, Models U' a ↔ Models U a) : SCInv U' fe := by
  have hs : Satisfiable U' ↔ Satisfiable U := ⟨fun ⟨a, ha⟩ => ⟨a, (heq a).mp ha⟩, fun ⟨a, ha⟩ => ⟨a, (heq a).mpr ha⟩⟩
  exact ⟨fun hc => hs.mpr (h.1 hc), fun hc hsat => h.2 hc (hs.mp hsat)⟩

theorem SI.congr {U U' : List Con} {s : St} (h : SI R RE E G U s) (heq : ∀ a, holdsAll U' a = holdsAll U a) :
    SI R RE E G U' s :=
  ⟨h.base.congr heq, h.mc.congr (models_congr_of_holdsAll heq), h.sc.congr (models_congr_of_holdsAll heq)⟩

theorem SI.set_fe {U : List Con} {s : St} (h : SI R RE E G U s) (fe' : Frontend)
    (hcons : fe'.constraints = s.fe.constraints) (htoadd : fe'.toAdd = s.fe.toAdd) (hsol : fe'.solver = s.fe.solver)
    (htrack : fe'.track = s.fe.track) (hhash : fe'.hashes = s.fe.hashes) (hwo : fe'.woAnnot = s.fe.woAnnot)
    (hvar : fe'.variables = s.fe.variables) (hfin : fe'.finalized = s.fe.finalized)
    (hmc : MCInv RE E U fe') (hsc : SCInv U fe') : SI R RE E G U { s with fe := fe' } :=
  ⟨h.base.transfer (s' := { s with fe := fe' }) rfl rfl hcons htoadd hsol htrack hhash hwo hvar hfin, hmc, hsc⟩

theorem SI.set_cachedSat {s : St} (h : SI R RE E G U s) (c : Option Bool) (hc : SCInv U { s.fe with cachedSat := c }) :
    SI R RE E G U { s with fe := { s.fe with cachedSat := c } } :=
  h.set_fe _ rfl rfl rfl rfl rfl rfl rfl rfl (h.mc.of_fields rfl) hc

theorem scInv_true {fe : Frontend} (hs : Satisfiable U) : SCInv U { fe with cachedSat := some true } :=
  ⟨fun _ => hs, fun hc => by simp at hc⟩

theorem scInv_false {fe : Frontend} (hs : ¬ Satisfiable U) : SCInv U { fe with cachedSat := some false } :=
  ⟨fun hc => by simp at hc, fun _ => hs⟩

theorem SI.set_tick {U : List Con} {s : St} (h : SI R RE E G U s) (t : Nat) : SI R RE E G U { s with tick := t } :=
  ⟨h.base.transfer (s' := { s with tick := t }) rfl rfl rfl rfl rfl rfl rfl rfl rfl rfl, h.mc, h.sc⟩

theorem BInv.cons_wf {U : List Con} {s : St} (hR : Reg R E) (h : BInv R G U s) : ∀ c ∈ s.fe.constraints, ConWf c :=
  fun c hc => hR.wf c (h.dinv.consR c hc)

theorem BInv.models_iff {U : List Con} {s : St} (h : BInv R G U s) (a : Asg) : Models s.fe.constraints a ↔ Models U a :=
  models_congr_of_holdsAll h.equiv a

/-- the known variables only grow; cached models are only dropped when the constraints have become unsatisfiable -/
structure Keep (U : List Con) (s s' : St) : Prop where
  vars : ∀ v ∈ s.fe.variables, v ∈ s'.fe.variables
  models : Satisfiable U → ∀ m ∈ s.fe.models, m ∈ s'.fe.models

theorem Keep.refl (U : List Con) (s : St) : Keep U s s := ⟨fun _ h => h, fun _ _ h => h⟩

theorem Keep.trans {U : List Con} {s s' s'' : St} (h1 : Keep U s s') (h2 : Keep U s' s'') : Keep U s s'' :=
  ⟨fun v hv => h2.vars v (h1.vars v hv), fun hs m hm => h2.models hs m (h1.models hs m hm)⟩

theorem Keep.of_fe {U : List Con} {s s' : St} (hv : s'.fe.variables = s.fe.variables) (hm : s'.fe.models = s.fe.models) :
    Keep U s s' := ⟨fun v h => by rw [hv]; exact h, fun _ m h => by rw [hm]; exact h⟩

/-- a record that differs from that of a state with the invariant in the fields of ModelCacheMixin only -/
theorem SI.set_cache {s : St} (h : SI R RE E G U s) {fe' : Frontend}
    (hfe : clearFlags { fe' with models := [] } = clearFlags { s.fe with models := [] }) (hmc : MCInv RE E U fe') :
    SI R RE E G U { s with fe := fe' } := by
  have hc : fe'.cachedSat = s.fe.cachedSat := (congrArg Frontend.cachedSat hfe :)
  have hsc : SCInv U fe' := by
    unfold SCInv
    rw [hc]
    exact h.sc
  exact h.set_fe fe' (congrArg Frontend.constraints hfe :) (congrArg Frontend.toAdd hfe :) (congrArg Frontend.solver hfe :)
    (congrArg Frontend.track hfe :) (congrArg Frontend.hashes hfe :) (congrArg Frontend.woAnnot hfe :)
    (congrArg Frontend.variables hfe :) (congrArg Frontend.finalized hfe :) hmc hsc

/-- the same for a record that differs in the markers only: the cached models stay -/
theorem SI.set_flags {s : St} (h : SI R RE E G U s) {fe' : Frontend} (hfe : clearFlags fe' = clearFlags s.fe)
    (hmc : MCInv RE E U fe') : SI R RE E G U { s with fe := fe' } ∧ Keep U s { s with fe := fe' } :=
  ⟨h.set_cache (congrArg (fun fe => { fe with models := [] }) hfe :) hmc,
    Keep.of_fe (congrArg Frontend.variables hfe :) (congrArg Frontend.models hfe :)⟩

/-- what `_add(cs)` does to the fields of ConstrainedFrontend / FullFrontend, at any level of the stack: `new` are the
constraints that were really added -/
structure AddRel (s s' : St) (cs new : List Con) : Prop where
  cons : s'.fe.constraints = s.fe.constraints ++ new
  toAdd : s'.fe.toAdd = s.fe.toAdd ++ new
  solver : s'.fe.solver = s.fe.solver
  track : s'.fe.track = s.fe.track
  fin : s'.fe.finalized = s.fe.finalized
  objs : s'.objs = s.objs
  reuse : s'.reuse = s.reuse
  sub : ∀ c ∈ new, c ∈ cs
  /-- a constraint that was not added had been seen before, or has the id of one that was added -/
  cover : ∀ c ∈ cs, c ∈ new ∨ (c.id ∈ s.fe.hashes ∨ c.id ∈ s.fe.woAnnot) ∨ ∃ c' ∈ new, c'.id = c.id
  vars : ∀ v, v ∈ s'.fe.variables ↔ v ∈ s.fe.variables ∨ ∃ c ∈ new, v ∈ c.vars
  ids : ∀ i, (i ∈ s'.fe.hashes ∨ i ∈ s'.fe.woAnnot) → (i ∈ s.fe.hashes ∨ i ∈ s.fe.woAnnot) ∨ ∃ c ∈ new, c.id = i

def KeepAdd (E : Env) (s s' : St) (cs : List Con) : Prop :=
  ∀ m ∈ s.fe.models, Models cs (m.complete E.dflt) → m ∈ s'.fe.models

/-- `AddRel` is `Added` (CachelessAdd.lean) and what `_add` does to the known variables -/
theorem AddRel.toAdded {s s' : St} {cs new : List Con} (h : AddRel s s' cs new) : Added s s' cs new :=
  ⟨h.cons, h.toAdd, h.solver, h.track, h.objs, h.reuse, h.fin, h.sub, h.ids, h.cover⟩

theorem AddRel.implied {U : List Con} {s s' : St} {cs new : List Con} (hR : Reg R E) (hd : DInv R U s)
    (hcs : ∀ c ∈ cs, R c) (h : AddRel s s' cs new) (a : Asg) (hU : Models U a) (hn : Models new a) : Models cs a :=
  h.toAdded.implied hR hd hcs a hU hn

theorem AddRel.models_iff {U : List Con} {s s' : St} {cs new : List Con} (hR : Reg R E) (hd : DInv R U s)
    (hcs : ∀ c ∈ cs, R c) (h : AddRel s s' cs new) (a : Asg) : Models (U ++ new) a ↔ Models (U ++ cs) a :=
  h.toAdded.models_iff hR hd hcs a

theorem AddRel.unsat_of_false {U : List Con} {s s' : St} {cs new : List Con} (hR : Reg R E) (hd : DInv R U s)
    (hcs : ∀ c ∈ cs, R c) (h : AddRel s s' cs new) (hf : cs.any (·.isFalse) = true) : ¬ Satisfiable (U ++ new) := by
  rintro ⟨a, ha⟩
  obtain ⟨c, hc, hcf⟩ := List.any_eq_true.mp hf
  have := ((h.models_iff hR hd hcs a).mp ha)
  have hca := (models_append.mp this).2 c hc
  rw [(hR.wf c (hcs c hc)).2.1 hcf a] at hca
  exact absurd hca (by simp)

theorem BInv.add {U : List Con} {s s' : St} {cs new : List Con} (hR : Reg R E) (h : BInv R G U s) (hcs : ∀ c ∈ cs, R c)
    (ha : AddRel s s' cs new) : BInv R G (U ++ new) s' := by
  refine ⟨h.core.add ha.cons ha.toAdd ha.solver ha.objs ha.reuse, ?_, h.dinv.add hR hcs ha.toAdded, ?_, ?_, ?_⟩
  · intro a; rw [ha.cons, holdsAll_append, holdsAll_append, h.equiv a]
  · intro c hc v hv
    rw [ha.cons] at hc
    rw [ha.vars]
    rcases List.mem_append.mp hc with hc | hc
    · exact Or.inl (h.vars c hc v hv)
    · exact Or.inr ⟨c, hc, hv⟩
  · obtain ⟨s0, hg, hw⟩ := h.ghost
    exact ⟨s0, hg, hw.trans (WStep.of_fe ha.objs ha.reuse ha.solver ha.fin)⟩
  · intro ht r hr
    rw [ha.track] at ht
    rw [ha.solver] at hr
    have ho : objAt s' r = objAt s r := objAt_of_objs_eq ha.objs r
    intro z hz
    rw [ho] at hz
    exact h.areg ht r hr z hz

/-- the cache holds, for every tuple of the answer, a model that gives each expression whose variables the frontend
knows the value it has in the tuple -/
def CachedAll (RE : Exp → Prop) (E : Env) (fe : Frontend) (asts : List Exp) (ts : List (List Nat)) : Prop :=
  ∀ t ∈ ts, ∃ a : Asg, t = asts.map (·.val a) ∧
    ∀ e ∈ asts, RE e → (∀ v ∈ e.vars, v ∈ fe.variables) → ∃ m ∈ fe.models, e.val (m.complete E.dflt) = e.val a

section specs
variable (R : Con → Prop) (RE : Exp → Prop) (E : Env) (G : St → Prop) (U : List Con)

def SatSpec (extra : List Con) (m : M Bool) : Prop :=
  ∀ s, SI R RE E G U s → match m s with
    | (.ok b, s') => (b = true ↔ Satisfiable (U ++ extra)) ∧ SI R RE E G U s' ∧ Keep U s s'
    | (.error e, s') => IsGiveUp E e ∧ SI R RE E G U s' ∧ Keep U s s'

def BatchSpec (asts : List Exp) (n : Nat) (extra : List Con) (m : M (List (List Nat))) : Prop :=
  ∀ s, SI R RE E G U s → match m s with
    | (.ok ts, s') => TuplesOk (U ++ extra) asts n ts ∧ ts ≠ [] ∧ CachedAll RE E s'.fe asts ts ∧
                      SI R RE E G U s' ∧ Keep U s s'
    | (.error e, s') => ErrOk E (U ++ extra) e ∧ SI R RE E G U s' ∧ Keep U s s'

def EvalSpec (e : Exp) (n : Nat) (extra : List Con) (m : M (List Nat)) : Prop :=
  ∀ s, SI R RE E G U s → match m s with
    | (.ok vs, s') => EvalOk (U ++ extra) e n vs ∧ vs ≠ [] ∧
                      ((∀ x ∈ e.vars, x ∈ s'.fe.variables) → ∀ v ∈ vs, ∃ m ∈ s'.fe.models, e.val (m.complete E.dflt) = v) ∧
                      SI R RE E G U s' ∧ Keep U s s'
    | (.error err, s') => ErrOk E (U ++ extra) err ∧ SI R RE E G U s' ∧ Keep U s s'

def OptSpec (isMax : Bool) (e : Exp) (extra : List Con) (signed : Bool) (m : M Int) : Prop :=
  ∀ s, SI R RE E G U s → match m s with
    | (.ok i, s') => IsOpt isMax signed (U ++ extra) e i ∧
                     ((∀ x ∈ e.vars, x ∈ s.fe.variables) → ∃ m ∈ s'.fe.models, e.val (m.complete E.dflt) = wrap e.bits i) ∧
                     SI R RE E G U s' ∧ Keep U s s'
    | (.error err, s') => ErrOk E (U ++ extra) err ∧ SI R RE E G U s' ∧ Keep U s s'

def SolSpec (e : Exp) (v : Nat) (extra : List Con) (m : M Bool) : Prop :=
  ∀ s, SI R RE E G U s → match m s with
    | (.ok b, s') => (b = true ↔ Feasible (U ++ extra) e v) ∧ SI R RE E G U s' ∧ Keep U s s'
    | (.error err, s') => ErrOk E (U ++ extra) err ∧ SI R RE E G U s' ∧ Keep U s s'

end specs

def AddSpec (R : Con → Prop) (RE : Exp → Prop) (E : Env) (G : St → Prop) (add : List Con → Bool → M (List Con)) : Prop :=
  ∀ (U : List Con) s cs inv, SI R RE E G U s → (∀ c ∈ cs, R c) →
    (inv = false → ∀ a, Models U a → Models cs a) →
    ∃ added s', add cs inv s = (.ok added, s') ∧ SI R RE E G (U ++ cs) s' ∧ KeepAdd E s s' cs ∧
      (∀ v ∈ s.fe.variables, v ∈ s'.fe.variables)

def SimplifySpec (R : Con → Prop) (RE : Exp → Prop) (E : Env) (G : St → Prop) (m : M (List Con)) : Prop :=
  ∀ (U : List Con) s, SI R RE E G U s → ∃ out s', m s = (.ok out, s') ∧ SI R RE E G U s' ∧ Keep U s s'

/-! The five shapes above are `QSpec (SI …) (Keep U)` (Wp.lean) for five result clauses (`satSpec_iff` … `optSpec_iff` below).  The
layers of the class stacks are stated with `SQ`, so that a layer is shown to keep ALL queries by one lemma about an arbitrary one;
the shapes are the form of the ModelCacheMixin theorems of Props/C11.lean and of `filter_opt_spec`. -/

abbrev SQ (R : Con → Prop) (RE : Exp → Prop) (E : Env) (G : St → Prop) (U : List Con) {α : Type}
    (Good : α → St → St → Prop) (Bad : Err → Prop) (m : M α) : Prop :=
  QSpec (SI R RE E G U) (Keep U) Good Bad m

def EvalGood (E : Env) (cs : List Con) (e : Exp) (n : Nat) (vs : List Nat) (_ s' : St) : Prop :=
  EvalOk cs e n vs ∧ vs ≠ [] ∧
    ((∀ x ∈ e.vars, x ∈ s'.fe.variables) → ∀ v ∈ vs, ∃ m ∈ s'.fe.models, e.val (m.complete E.dflt) = v)

def BatchGood (RE : Exp → Prop) (E : Env) (cs : List Con) (asts : List Exp) (n : Nat) (ts : List (List Nat)) (_ s' : St) :
    Prop :=
  TuplesOk cs asts n ts ∧ ts ≠ [] ∧ CachedAll RE E s'.fe asts ts

def OptGood (E : Env) (isMax signed : Bool) (cs : List Con) (e : Exp) (i : Int) (s s' : St) : Prop :=
  IsOpt isMax signed cs e i ∧
    ((∀ x ∈ e.vars, x ∈ s.fe.variables) → ∃ m ∈ s'.fe.models, e.val (m.complete E.dflt) = wrap e.bits i)

section shapes
variable {U : List Con} {extra : List Con}

/- the `match` of a shape and the one inside `wp` are different terms on a run that is not known: split the run -/

theorem satSpec_iff {m : M Bool} : SatSpec R RE E G U extra m ↔
    SQ R RE E G U (SatGood (U ++ extra)) (IsGiveUp E) m :=
  forall₂_congr fun s _ => by
    unfold M.wp wp
    rcases m s with ⟨_ | _, _⟩ <;> exact Iff.rfl

theorem solSpec_iff {e : Exp} {v : Nat} {m : M Bool} : SolSpec R RE E G U e v extra m ↔
    SQ R RE E G U (SolGood (U ++ extra) e v) (ErrOk E (U ++ extra)) m :=
  forall₂_congr fun s _ => by
    unfold M.wp wp
    rcases m s with ⟨_ | _, _⟩ <;> exact Iff.rfl

theorem evalSpec_iff {e : Exp} {n : Nat} {m : M (List Nat)} : EvalSpec R RE E G U e n extra m ↔
    SQ R RE E G U (EvalGood E (U ++ extra) e n) (ErrOk E (U ++ extra)) m :=
  forall₂_congr fun s _ => by
    unfold M.wp wp EvalGood
    rcases m s with ⟨_ | _, _⟩ <;> simp only [and_assoc]

theorem batchSpec_iff {asts : List Exp} {n : Nat} {m : M (List (List Nat))} : BatchSpec R RE E G U asts n extra m ↔
    SQ R RE E G U (BatchGood RE E (U ++ extra) asts n) (ErrOk E (U ++ extra)) m :=
  forall₂_congr fun s _ => by
    unfold M.wp wp BatchGood
    rcases m s with ⟨_ | _, _⟩ <;> simp only [and_assoc]

theorem optSpec_iff {isMax signed : Bool} {e : Exp} {m : M Int} : OptSpec R RE E G U isMax e extra signed m ↔
    SQ R RE E G U (OptGood E isMax signed (U ++ extra) e) (ErrOk E (U ++ extra)) m :=
  forall₂_congr fun s _ => by
    unfold M.wp wp OptGood
    rcases m s with ⟨_ | _, _⟩ <;> simp only [and_assoc]

end shapes

end Claripy.Solver

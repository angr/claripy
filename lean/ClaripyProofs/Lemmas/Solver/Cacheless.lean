import ClaripyProofs.Lemmas.Solver.FullQuery
/-!
The class `SolverCacheless` = ConcreteHandler, EagerResolution, ConstraintFilter, ConstraintDeduplicator,
SimplifySkipper over FullFrontend (MRO from the generated file): every public call keeps the invariant `CLInv` and
answers as the stateless reference demands.  One frontend, untracked, `reuse_z3_solver` off.
-/
namespace Claripy.Solver
open Claripy.Gen.SolverMro

/-- what the methods of this class need from `self` (late binding): eager concrete evaluation and no model hook -/
structure SelfOk (self : Ops) : Prop where
  cc : ∀ c, self.concreteCon c = c.conc
  cv : ∀ e, self.concreteValue e = e.conc
  mh : self.modelHook = fun _ => pure ()

/-- the class seen through `self` inside its own methods (`k + 1` unrollings) -/
def clStage (E : Env) (k : Nat) : Ops := stage E (mro .SolverCacheless) (k + 1)

theorem clStage_ok (E : Env) (k : Nat) : SelfOk (clStage E k) := ⟨fun _ => rfl, fun _ => rfl, rfl⟩

def clSelf (E : Env) : Ops := clStage E 3

theorem hookOk_noop (A : List ZCon) (P : Frontend → Prop) : HookOk (fun _ => (pure () : M Unit)) A P :=
  ⟨fun _ s => ⟨s.fe, rfl⟩, fun _ _ h _ _ => h⟩

theorem filter_eq {self : Ops} (hcc : ∀ c, self.concreteCon c = c.conc) (cs : List Con) :
    constraintFilter self cs =
      if cs.isEmpty then .ok cs
      else if cs.any (fun c => c.conc == some false) then .error .unsat
      else .ok (cs.filter fun c => c.conc != some true) := by
  simp only [constraintFilter, hcc]

theorem filter_spec {self : Ops} (hcc : ∀ c, self.concreteCon c = c.conc) (cs : List Con) (wf : ∀ c ∈ cs, ConWf c) :
    match constraintFilter self cs with
    | .ok ec => (∀ a, Models ec a ↔ Models cs a) ∧ (∀ c ∈ ec, c ∈ cs)
    | .error e => e = .unsat ∧ ∀ a, ¬ Models cs a := by
  rw [filter_eq hcc]
  by_cases h0 : cs.isEmpty = true
  · simp [h0]
  · simp only [h0, Bool.false_eq_true, ↓reduceIte]
    by_cases h1 : cs.any (fun c => c.conc == some false) = true
    · simp only [h1, ↓reduceIte, true_and]
      intro a ha
      obtain ⟨c, hc, hcf⟩ := List.any_eq_true.mp h1
      have := (wf c hc).2.2.1 false (by simpa using hcf) a
      rw [ha c hc] at this
      exact absurd this (by simp)
    · simp only [h1, Bool.false_eq_true, ↓reduceIte]
      refine ⟨fun a => ⟨fun h c hc => ?_, fun h c hc => h c (List.mem_filter.mp hc).1⟩, fun c hc => (List.mem_filter.mp hc).1⟩
      by_cases hct : c.conc = some true
      · exact (wf c hc).2.2.1 true hct a
      · exact h c (List.mem_filter.mpr ⟨hc, by simpa using hct⟩)

/-- `_constraint_filter` in front of anything: the body runs on a sublist of the extra constraints with the same models, or an
extra constraint is concretely false and `UnsatError` is raised on the spot -/
theorem wp_filter {self : Ops} (hcc : ∀ c, self.concreteCon c = c.conc) (extra : List Con) (wf : ∀ c ∈ extra, ConWf c)
    {Q : List Con → St → Prop} {X : Err → St → Prop} {s : St}
    (hok : ∀ ec, (∀ a, Models ec a ↔ Models extra a) → (∀ c ∈ ec, c ∈ extra) → Q ec s)
    (herr : (∀ a, ¬ Models extra a) → X .unsat s) : (liftE (constraintFilter self extra)).wp Q X s := by
  rw [M.wp_liftE]
  have := filter_spec hcc extra wf
  revert this
  cases constraintFilter self extra with
  | ok ec => exact fun h => hok ec h.1 h.2
  | error e =>
    rintro ⟨rfl, h⟩
    exact herr h

/-- what a query may do to the state: the frontend record changes in `_tls.solver` / `_to_add` only; no Z3 object disappears;
the solver reference stays or points to an object created in between; every object that existed keeps its assertion frames,
except the frontend's own solver object while the frontend is not finalized (nobody else refers to that one) -/
structure QStep (s s' : St) : Prop where
  fe : ∃ sol ta, s'.fe = { s.fe with solver := sol, toAdd := ta }
  grow : s.objs.length ≤ s'.objs.length
  solverNew : s'.fe.solver = s.fe.solver ∨ ∃ r, s'.fe.solver = some r ∧ s.objs.length ≤ r
  foreign : ∀ i, i < s.objs.length → (s.fe.solver = some i → s.fe.finalized = true) →
    (objAt s' i).frames = (objAt s i).frames
  reuse : s'.reuse = s.reuse

theorem QStep.refl (s : St) : QStep s s :=
  ⟨⟨s.fe.solver, s.fe.toAdd, rfl⟩, Nat.le_refl _, Or.inl rfl, fun _ _ _ => rfl, rfl⟩

theorem QStep.finalized {s s' : St} (h : QStep s s') : s'.fe.finalized = s.fe.finalized := by
  obtain ⟨sol, ta, hfe⟩ := h.fe
  rw [hfe]

theorem QStep.toW {s s' : St} (h : QStep s s') : WStep s s' :=
  ⟨h.grow, h.solverNew.elim Or.inl (fun h => Or.inr (Or.inr h)), h.foreign, h.reuse, fun hf => by rw [h.finalized]; exact hf⟩

theorem QStep.trans {s s' s'' : St} (h1 : QStep s s') (h2 : QStep s' s'') : QStep s s'' := by
  refine ⟨?_, Nat.le_trans h1.grow h2.grow, ?_, (h1.toW.trans h2.toW).foreign, h2.reuse.trans h1.reuse⟩
  · obtain ⟨sol1, ta1, e1⟩ := h1.fe
    obtain ⟨sol2, ta2, e2⟩ := h2.fe
    exact ⟨sol2, ta2, by rw [e2, e1]⟩
  · rcases h2.solverNew with e | ⟨r, hr, hge⟩
    · rw [e]; exact h1.solverNew
    · exact Or.inr ⟨r, hr, Nat.le_trans h1.grow hge⟩

structure CLInv (G : St → Prop) (U : List Con) (s : St) : Prop where
  core : CoreInv s
  /-- the constraints held mean what the user's constraints mean -/
  equiv : ∀ a, holdsAll s.fe.constraints a = holdsAll U a
  /-- the state was reached by query steps from a state with property `G` (the deduplication invariant, and the
  starting point when several frontends share Z3 objects, are passed here) -/
  ghost : ∃ s0, G s0 ∧ QStep s0 s

variable {G : St → Prop}

theorem coreInv_after_query {s s1 s2 : St} {r : Nat} (h : CoreInv s) (hg : GotSolver s s1 r)
    (hst : L1Step r (fun fe => fe = s1.fe) s1 s2) (hfr : (objAt s2 r).frames = (objAt s1 r).frames) :
    CoreInv s2 ∧ s2.fe.constraints = s.fe.constraints := by
  have hfe : s2.fe = s1.fe := hst.fe rfl
  have hfe1 := hg.fe
  have hcons : s2.fe.constraints = s.fe.constraints := by rw [hfe, hfe1]
  have hcore := CoreInvG.after_query h.noReuse hg hst.toObjStep hfr hcons (by rw [hfe, hfe1]) (by rw [hfe, hfe1])
  exact ⟨⟨hcore.toAdd_sub, hcore.obj, hcore.noReuse, by rw [hfe, hfe1]; exact h.untracked⟩, hcons⟩

theorem qstep_after_query {s s1 s2 : St} {r : Nat} (hg : GotSolver s s1 r)
    (hst : L1Step r (fun fe => fe = s1.fe) s1 s2) (hfr : (objAt s2 r).frames = (objAt s1 r).frames) : QStep s s2 := by
  have hfe : s2.fe = { s.fe with solver := some r, toAdd := [] } := (hst.fe rfl).trans hg.fe
  refine ⟨⟨some r, [], hfe⟩, by rw [hst.len]; exact hg.grow, ?_, hg.foreign hst.toObjStep hfr, by rw [hst.reuse, hg.reuse]⟩
  rw [hfe]
  exact hg.solverNew.imp id fun h2 => ⟨r, rfl, h2⟩

theorem clInv_after_query {U : List Con} {s s1 s2 : St} {r : Nat} (h : CLInv G U s) (hg : GotSolver s s1 r)
    (hst : L1Step r (fun fe => fe = s1.fe) s1 s2) (hfr : (objAt s2 r).frames = (objAt s1 r).frames) : CLInv G U s2 := by
  obtain ⟨hc, hcons⟩ := coreInv_after_query h.core hg hst hfr
  obtain ⟨s0, hg0, hq⟩ := h.ghost
  exact ⟨hc, fun a => by rw [hcons]; exact h.equiv a, ⟨s0, hg0, hq.trans (qstep_after_query hg hst hfr)⟩⟩

/-- SolverCacheless and SolverStrings as a class of FullFrontend queries: no model hook, the record is left alone -/
theorem fullClass_cl {U : List Con} : FullClass (fun _ => pure ()) (CLInv G U) (fun _ _ => True) U (fun fe1 fe => fe = fe1) where
  equiv h := h.equiv
  got h := wp_getSolver h.core fun _ _ hg =>
    ⟨hg, hookOk_noop _ _, rfl, fun _ hst hfr hp => ⟨clInv_after_query h hg ⟨hst, fun _ => hp⟩ hfr, trivial⟩⟩

def GoodCongr {α : Type} (Good : List Con → α → St → St → Prop) : Prop :=
  ∀ {A B : List Con}, (∀ a, Models A a ↔ Models B a) → ∀ {x s s'}, Good A x s s' → Good B x s s'

theorem solGood_congr {e : Exp} {v : Nat} : GoodCongr (fun cs => SolGood cs e v) :=
  fun h _ _ _ hg => hg.trans (feasible_congr h e v)

/-- ConstraintFilterMixin.eval / batch_eval / max / min / solution in front of any query, for any class: the query runs on a
sublist of the extra constraints that has the same models -/
theorem filter_spec_query {E : Env} {α : Type} {self : Ops} (hcc : ∀ c, self.concreteCon c = c.conc) (extra : List Con)
    (wf : ∀ c ∈ extra, ConWf c) {I : St → Prop} {K : St → St → Prop} (hK : ∀ s, K s s) {U : List Con}
    {Good : List Con → α → St → St → Prop} (hG : GoodCongr Good) {body : List Con → M α}
    (hsup : ∀ ec, (∀ c ∈ ec, c ∈ extra) → QSpec I K (Good (U ++ ec)) (ErrOk E (U ++ ec)) (body ec)) :
    QSpec I K (Good (U ++ extra)) (ErrOk E (U ++ extra)) (liftE (constraintFilter self extra) >>= body) := by
  intro s h
  rw [M.wp_bind]
  refine wp_filter hcc extra wf (fun ec hequiv hsub => ?_)
    fun hun => ⟨Or.inl ⟨rfl, fun ⟨a, ha⟩ => hun a (models_append.mp ha).2⟩, h, hK s⟩
  have hiff : ∀ a, Models (U ++ ec) a ↔ Models (U ++ extra) a := fun a => by rw [models_append, models_append, hequiv a]
  exact (hsup ec hsub s h).imp (fun _ _ ⟨hg, h1, hk⟩ => ⟨hG hiff hg, h1, hk⟩)
    fun e _ ⟨he, h1, hk⟩ => ⟨(errOk_congr hiff e).mp he, h1, hk⟩

/-- ConstraintFilterMixin.satisfiable, for any class: a concretely false extra constraint answers `False` -/
theorem filter_satisfiable_spec {E : Env} {self : Ops} (hcc : ∀ c, self.concreteCon c = c.conc) (extra : List Con)
    (wf : ∀ c ∈ extra, ConWf c) {I : St → Prop} {K : St → St → Prop} (hK : ∀ s, K s s) {U : List Con} {body : List Con → M Bool}
    (hsup : ∀ ec, QSpec I K (SatGood (U ++ ec)) (IsGiveUp E) (body ec)) :
    QSpec I K (SatGood (U ++ extra)) (IsGiveUp E)
      (M.tryCatch (liftE (constraintFilter self extra) >>= body) (· == .unsat) (pure false)) := by
  intro s h
  simp only [M.wp_tryCatch, M.wp_bind]
  refine wp_filter hcc extra wf (fun ec hequiv _ => ?_) fun hun => ?_
  · have hiff : ∀ a, Models (U ++ ec) a ↔ Models (U ++ extra) a := fun a => by rw [models_append, models_append, hequiv a]
    refine (hsup ec s h).imp (fun b _ ⟨hb, h1⟩ => ⟨hb.trans (satisfiable_congr hiff), h1⟩) fun e _ hg => ?_
    have hne : (e == Err.unsat) = false := by
      obtain ⟨⟨rfl, _⟩, _⟩ := hg
      rfl
    simpa only [hne, Bool.false_eq_true, ↓reduceIte] using hg
  · simp only [beq_self_eq_true, ↓reduceIte]
    exact ⟨⟨fun hb => by simp at hb, fun ⟨a, ha⟩ => absurd (models_append.mp ha).2 (hun a)⟩, h, hK s⟩

/-- ConstraintFilterMixin.satisfiable over FullFrontend.satisfiable, for any `self` -/
def clSat (E : Env) (self : Ops) (extra : List Con) : M Bool :=
  M.tryCatch (do let ec ← liftE (constraintFilter self extra)
                 let r ← getSolver
                 z3Satisfiable E r (ec.map ZCon.ofCon) self.modelHook) (· == .unsat) (pure false)

theorem clSat_spec {E : Env} (hE : OracleExact E) {self : Ops} (hs : SelfOk self) (U : List Con) (s : St) (h : CLInv G U s)
    (extra : List Con) (wf : ∀ c ∈ extra, ConWf c) :
    Outcome (fun b => b = true ↔ Satisfiable (U ++ extra)) (IsGiveUp E) (CLInv G U) (clSat E self extra) s := by
  obtain ⟨hcc, _, hmh⟩ := hs
  exact (filter_satisfiable_spec hcc extra wf (fun _ => trivial) fun ec =>
    full_satisfiable_q hE (self := self) (sup := frontendBase) (hmh ▸ fullClass_cl) ec).outcome h fun _ _ hb => hb

/-- ConcreteHandlerMixin.eval over ConstraintFilterMixin.eval over FullFrontend.eval -/
def clEval (E : Env) (self : Ops) (e : Exp) (n : Nat) (extra : List Con) : M (List Nat) :=
  match self.concreteValue e with
  | some c => pure [c]
  | none => do
    let ec ← liftE (constraintFilter self extra)
    let r ← getSolver
    let res ← z3BatchEval E r [e] n (ec.map ZCon.ofCon) self.modelHook
    let res := res.map fun t => t.headD 0
    if res.isEmpty then M.throw .unsat else pure res

theorem clEval_spec {E : Env} (hE : OracleExact E) {self : Ops} (hs : SelfOk self) (U : List Con) (s : St) (h : CLInv G U s)
    (e : Exp) (n : Nat) (hn : 1 ≤ n) (extra : List Con) (wf : ∀ c ∈ extra, ConWf c) :
    Outcome (EvalOk (U ++ extra) e n) (ErrOk E (U ++ extra)) (CLInv G U) (clEval E self e n extra) s := by
  obtain ⟨hcc, hcv, hmh⟩ := hs
  unfold Outcome clEval
  rw [hcv e]
  cases hconc : e.conc with
  | some c => exact ⟨by simp only [EvalOk, hconc], h⟩
  | none =>
    exact (filter_spec_query hcc extra wf (fun _ => trivial) (Good := fun cs vs _ _ => EvalOk cs e n vs)
      (fun hiff _ _ _ hv => (evalOk_congr hiff e n _).mp hv) fun ec _ =>
        (full_eval_q hE (self := self) (sup := frontendBase) (hmh ▸ fullClass_cl)
          (hmh ▸ (hookOk_noop [] fun _ => True).toRec) e hconc n hn ec).imp (fun _ _ _ hv => hv.1) fun _ he => he).outcome h
      fun _ _ hv => hv

def clSolution (E : Env) (self : Ops) (e : Exp) (v : Nat) (extra : List Con) : M Bool :=
  match self.concreteValue e with
  | some ce => pure (ce == v)
  | none => do
    let ec ← liftE (constraintFilter self extra)
    let r ← getSolver
    z3Solution E r e v (ec.map ZCon.ofCon) self.modelHook

theorem clSolution_spec {E : Env} (hE : OracleExact E) {self : Ops} (hs : SelfOk self) (U : List Con) (s : St) (h : CLInv G U s)
    (e : Exp) (v : Nat) (hv : v < 2 ^ e.bits) (extra : List Con) (wf : ∀ c ∈ extra, ConWf c) :
    Outcome (fun b => match e.conc with
                      | some c => b = (c == v)
                      | none => (b = true ↔ Feasible (U ++ extra) e v))
      (ErrOk E (U ++ extra)) (CLInv G U) (clSolution E self e v extra) s := by
  obtain ⟨hcc, hcv, hmh⟩ := hs
  unfold Outcome clSolution
  rw [hcv e]
  cases hconc : e.conc with
  | some c => exact ⟨rfl, h⟩
  | none =>
    exact (filter_spec_query hcc extra wf (fun _ => trivial) solGood_congr fun ec _ =>
        (full_solution_q hE (self := self) (sup := frontendBase) (hmh ▸ fullClass_cl) e v hv ec).imp (fun _ _ _ hb => hb)
          fun _ => Or.inr).outcome h fun _ _ hb => hb

def clTruth (E : Env) (self : Ops) (isTrue : Bool) (c : Con) (extra : List Con) : M Bool :=
  match self.concreteCon c with
  | some b => pure (if isTrue then b else !b)
  | none => do
    let _ec ← liftE (constraintFilter self extra)
    let _ ← getSolver
    let s ← M.get
    M.modify fun s => { s with tick := s.tick + 1 }
    pure (E.truth isTrue c s.tick)

theorem clStage_isTrue (E : Env) (k : Nat) : (clStage E (k + 1)).isTrue = clTruth E (clStage E k) true := rfl

theorem clStage_isFalse (E : Env) (k : Nat) : (clStage E (k + 1)).isFalse = clTruth E (clStage E k) false := rfl

/-- `is_true` / `is_false` of every class with ConcreteHandlerMixin and ConstraintFilterMixin (no other mixin overrides them): a
concrete constraint is answered on the spot, else `_constraint_filter`, then FullFrontend's method -/
theorem truth_q {E : Env} (hT : CheapSound E) {hook : PModel → M Unit} {I : St → Prop} {K : St → St → Prop} {U : List Con}
    {P : Frontend → Frontend → Prop} (C : FullClass hook I K U P) (hK : ∀ s, K s s) {self : Ops}
    (hcc : ∀ c, self.concreteCon c = c.conc) (isTrue : Bool) (c : Con) (hc : ConWf c) (extra : List Con)
    (wf : ∀ c ∈ extra, ConWf c) :
    QSpec I K (fun b _ _ => b = true → ∀ a, Models (U ++ extra) a → c.sem a = isTrue) (ErrOk E (U ++ extra))
      (clTruth E self isTrue c extra) := by
  intro s h
  unfold clTruth
  rw [hcc c]
  cases hconc : c.conc with
  | some b =>
    refine ⟨fun hb a _ => ?_, h, hK s⟩
    have := hc.2.2.1 b hconc a
    cases isTrue <;> simp_all
  | none =>
    exact filter_spec_query hcc extra wf hK (Good := fun cs b _ _ => b = true → ∀ a, Models cs a → c.sem a = isTrue)
      (fun hiff _ _ _ hb hbt a ha => hb hbt a ((hiff a).mpr ha))
      (fun ec _ => (full_truth_q hT C isTrue c ec).imp (fun _ _ _ hb => hb) fun _ hf => hf.elim) s h

theorem clTruth_spec {E : Env} (hT : CheapSound E) {self : Ops} (hs : SelfOk self) (U : List Con) (s : St) (h : CLInv G U s)
    (isTrue : Bool) (c : Con) (hc : ConWf c) (extra : List Con) (wf : ∀ c ∈ extra, ConWf c) :
    Outcome (fun b => b = true → ∀ a, Models (U ++ extra) a → c.sem a = isTrue) (ErrOk E (U ++ extra)) (CLInv G U)
      (clTruth E self isTrue c extra) s :=
  (truth_q hT fullClass_cl (fun _ => trivial) (SelfOk.cc hs) isTrue c hc extra wf).outcome h fun _ _ hb => hb

end Claripy.Solver

import ClaripyProofs.Lemmas.Solver.SolverInv
/-!
ModelCacheMixin, part 3: `_add` (the trivial-model optimisation, the re-validation of the cached models against the added
constraints, the clearing of the flags), `simplify`, `branch` / `_copy`, and pickling keep the cache invariant.
-/
namespace Claripy.Solver

variable {R : Con → Prop} {RE : Exp → Prop} {E : Env} {G : St → Prop} {U : List Con}

/-- `_trivial_model_optimization`, when `_add` calls it -/
def trivOptFe (fe : Frontend) : Frontend :=
  if fe.constraints.length == 1 && fe.models.isEmpty then
    match (fe.constraints.headD default).triv with
    | some (v, x, eid) =>
        { fe with models := listInsert fe.models [(v, x)],
                  evalExh := listInsert fe.evalExh eid, maxExh := listInsert fe.maxExh eid,
                  minExh := listInsert fe.minExh eid, maxSExh := listInsert fe.maxSExh eid,
                  minSExh := listInsert fe.minSExh eid }
    | none => fe
  else fe

/-- the re-validation of the cached models against the added constraints -/
def invalFe (E : Env) (cs added : List Con) (fe : Frontend) : Frontend :=
  let fe1 := if cs.any (·.isFalse) then { fe with models := [] } else fe
  if (getModels E fe1 added).length != fe1.models.length then { clearFlags fe1 with models := getModels E fe1 added }
  else fe1

/-- what ModelCacheMixin._add does to the record after `super()._add` returned `added` (non-empty) -/
def mcAfterAddFe (E : Env) (oldVars : List Var) (cs : List Con) (invalidate : Bool) (added : List Con) (fe : Frontend) :
    Frontend :=
  if (added.any fun a => a.vars.any fun v => !oldVars.contains v) || invalidate then invalFe E cs added (trivOptFe fe)
  else trivOptFe fe

/-- the end of `_add`, which the `do` block of the model repeats after each arm of the trivial-model optimisation -/
theorem mcReval_run (E : Env) (cs added : List Con) (c : Bool) (s : St) :
    (do if c then
          if cs.any (·.isFalse) then M.modifyFe fun fe => { fe with models := [] }
          let fe ← M.getFe
          let stillValid := getModels E fe added
          if stillValid.length != fe.models.length then
            M.modifyFe fun fe => { clearFlags fe with models := stillValid }
        pure added : M (List Con)) s =
      (.ok added, { s with fe := if c then invalFe E cs added s.fe else s.fe }) := by
  unfold invalFe
  cases c
  · rfl
  · by_cases hf : cs.any (·.isFalse) = true
    · simp only [hf, ↓reduceIte, M.bind_apply, M.modifyFe_apply, M.getFe_apply]
      split
      · rfl
      · rfl
    · simp only [hf, Bool.false_eq_true, ↓reduceIte, M.bind_apply, M.getFe_apply]
      split
      · rfl
      · rfl

theorem mcAdd_eq (E : Env) (self sup : Ops) (cs : List Con) (invalidate : Bool) (s : St) :
    (modelCacheLayer E self sup).add cs invalidate s =
      if cs.isEmpty then (.ok cs, s)
      else match sup.add cs invalidate s with
        | (.ok added, s') =>
            if added.isEmpty then (.ok added, s')
            else (.ok added, { s' with fe := mcAfterAddFe E s.fe.variables cs invalidate added s'.fe })
        | (.error e, s') => (.error e, s') := by
  dsimp only [modelCacheLayer]
  -- `by_cases` and `rw [if_pos …]`, not `split`: the goal holds the whole program, and `split` simplifies all of it at each step
  by_cases hemp : cs.isEmpty = true
  · rw [if_pos hemp, if_pos hemp]
    rfl
  · rw [if_neg hemp, if_neg hemp, M.bind_apply, M.getFe_apply]
    dsimp only
    rw [M.bind_apply]
    rcases sup.add cs invalidate s with ⟨_ | added, s'⟩
    · rfl
    · dsimp only
      by_cases hae : added.isEmpty = true
      · rw [if_pos hae, if_pos hae]
        rfl
      · rw [if_neg hae, if_neg hae, M.bind_apply, M.getFe_apply]
        unfold mcAfterAddFe trivOptFe
        dsimp only
        by_cases hc : (s'.fe.constraints.length == 1 && s'.fe.models.isEmpty) = true
        · rw [if_pos hc, if_pos hc]
          rcases (s'.fe.constraints.headD default).triv with _ | ⟨v, x, eid⟩
          · exact mcReval_run E cs added _ s'
          · dsimp only
            rw [M.bind_apply, M.modifyFe_apply]
            exact mcReval_run E cs added _ _
        · rw [if_neg hc, if_neg hc]
          exact mcReval_run E cs added _ s'
theorem trivOptFe_fields (fe : Frontend) :
    trivOptFe fe = { fe with models := (trivOptFe fe).models, evalExh := (trivOptFe fe).evalExh,
                             maxExh := (trivOptFe fe).maxExh, minExh := (trivOptFe fe).minExh,
                             maxSExh := (trivOptFe fe).maxSExh, minSExh := (trivOptFe fe).minSExh } := by
  unfold trivOptFe
  split
  · split <;> rfl
  · rfl

theorem trivOptFe_mono (fe : Frontend) : ∀ m ∈ fe.models, m ∈ (trivOptFe fe).models := by
  intro m hm
  unfold trivOptFe
  split
  · split
    · exact (mem_listInsert _ _ _).mpr (Or.inl hm)
    · exact hm
  · exact hm

theorem trivOptFe_half (hT : TrivOk R RE) {U' : List Con} {fe : Frontend} (h : MCInv RE E U fe)
    (himp : ∀ a, Models U' a → Models U a) (hcR : ∀ c ∈ fe.constraints, R c)
    (heq : ∀ a, Models fe.constraints a ↔ Models U' a) : MCHalf RE E U U' (trivOptFe fe) := by
  have hhalf := h.half (U' := U') himp
  unfold trivOptFe
  split
  · next hc =>
    simp only [Bool.and_eq_true, beq_iff_eq, List.isEmpty_iff] at hc
    obtain ⟨hlen, hmod⟩ := hc
    split
    · next v x eid ht =>
      obtain ⟨c, hcs⟩ : ∃ c, fe.constraints = [c] := by
        match hfc : fe.constraints, hlen with
        | [c], _ => exact ⟨c, rfl⟩
      rw [hcs] at ht
      obtain ⟨h1, h2⟩ := hT c (hcR c (by rw [hcs]; simp)) v x eid ht
      have hval : ∀ a, Models U' a → c.sem a = true := fun a ha => (heq a).mpr ha c (by rw [hcs]; simp)
      -- every flagged expression has one value at most: one flagged before because no model was cached, the new one by `TrivOk`
      have hold : ∀ {e : Exp} {P : PModel → Nat → Prop},
          (ConstUnder U' e ∨ ∀ v, Feasible U' e v → ∃ m ∈ fe.models, P m v) → ConstUnder U' e := by
        rintro e P (hc' | hs)
        · exact hc'
        · intro v w hv _
          obtain ⟨m, hm, _⟩ := hs v hv
          rw [hmod] at hm
          cases hm
      have hnew : ∀ e, RE e → e.id = eid → ConstUnder U' e := by
        intro e he hi v w ⟨a, ha, hva⟩ ⟨b, hb, hwb⟩
        obtain ⟨h3, _⟩ := h2 e he hi
        rw [← hva, ← hwb, h3 a (hval a ha), h3 b (hval b hb)]
      refine ⟨fun m hm => ?_, fun e he hi => Or.inl ?_, fun isMax signed e he hi => Or.inl ?_⟩
      · rw [hmod] at hm
        obtain rfl : m = [(v, x)] := by simpa [listInsert] using hm
        refine himp _ ((heq _).mp ?_)
        rw [hcs]
        intro c' hc'
        obtain rfl : c' = c := by simpa using hc'
        exact h1 _ (by simp [PModel.complete, PModel.get?])
      · rcases (mem_listInsert _ _ _).mp hi with hi | hi
        · exact hold (hhalf.evalExh e he hi)
        · exact hnew e he hi
      · have hi' : e.id ∈ optFlags isMax signed fe ∨ e.id = eid := by
          cases isMax <;> cases signed <;> simpa [optFlags, mem_listInsert] using hi
        rcases hi' with hi | hi
        · exact hold (hhalf.opt isMax signed e he hi)
        · exact hnew e he hi
    · exact hhalf
  · exact hhalf

theorem invalFe_fields (E : Env) (cs added : List Con) (fe : Frontend) :
    invalFe E cs added fe = { fe with models := (invalFe E cs added fe).models, evalExh := (invalFe E cs added fe).evalExh,
                                      maxExh := (invalFe E cs added fe).maxExh, minExh := (invalFe E cs added fe).minExh,
                                      maxSExh := (invalFe E cs added fe).maxSExh, minSExh := (invalFe E cs added fe).minSExh } := by
  unfold invalFe
  by_cases hf : cs.any (·.isFalse) = true
  · simp only [hf, ↓reduceIte]
    split <;> rfl
  · simp only [hf, Bool.false_eq_true, ↓reduceIte]
    split <;> rfl

theorem invalFe_inv {U' : List Con} {cs added : List Con} {fe : Frontend} (h : MCHalf RE E U U' fe)
    (hU' : ∀ a, Models U' a ↔ Models U a ∧ Models added a) (hfalse : cs.any (·.isFalse) = true → ¬ Satisfiable U') :
    MCInv RE E U' (invalFe E cs added fe) := by
  unfold invalFe
  by_cases hf : cs.any (·.isFalse) = true
  · simp only [hf, ↓reduceIte]
    have : getModels E { fe with models := [] } added = [] := by simp [getModels]
    simp only [this, List.length_nil, bne_self_eq_false, Bool.false_eq_true, ↓reduceIte]
    exact mcInv_unsat RE E U' _ (hfalse hf) (by simp)
  · simp only [hf, Bool.false_eq_true, ↓reduceIte]
    by_cases hl : ((getModels E fe added).length != fe.models.length) = true
    · rw [if_pos hl]
      refine ⟨?_, ?_, ?_⟩
      · intro m hm
        obtain ⟨hm1, hm2⟩ := (mem_getModels E fe added m).mp hm
        exact (hU' _).mpr ⟨h.valid m hm1, hm2⟩
      · intro e _ hi; simp [clearFlags] at hi
      · intro isMax signed e _ hi
        cases isMax <;> cases signed <;> simp [optFlags, clearFlags] at hi
    · rw [if_neg hl]
      have hl' : ((fe.models.filter fun m => modelSatisfies E m added)).length = fe.models.length := by
        simpa [getModels] using hl
      have hall := List.length_filter_eq_length_iff.1 hl'
      exact h.full fun m hm => (hU' _).mpr ⟨h.valid m hm, (modelSatisfies_iff E m added).mp (hall m hm)⟩

theorem invalFe_keep (hR : Reg R E) {cs added : List Con} (hcs : ∀ c ∈ cs, R c) (hsub : ∀ c ∈ added, c ∈ cs)
    (fe : Frontend) : ∀ m ∈ fe.models, Models cs (m.complete E.dflt) → m ∈ (invalFe E cs added fe).models := by
  intro m hm hmc
  have hma : Models added (m.complete E.dflt) := fun c hc => hmc c (hsub c hc)
  unfold invalFe
  by_cases hf : cs.any (·.isFalse) = true
  · exfalso
    obtain ⟨c, hc, hcf⟩ := List.any_eq_true.mp hf
    have := hmc c hc
    rw [(hR.wf c (hcs c hc)).2.1 hcf _] at this
    exact absurd this (by simp)
  · simp only [hf, Bool.false_eq_true, ↓reduceIte]
    split
    · exact (mem_getModels E fe added m).mpr ⟨hm, hma⟩
    · exact hm

theorem mcAfterAddFe_fields (E : Env) (oldVars : List Var) (cs : List Con) (inv : Bool) (added : List Con) (fe : Frontend) :
    mcAfterAddFe E oldVars cs inv added fe =
      { fe with models := (mcAfterAddFe E oldVars cs inv added fe).models,
                evalExh := (mcAfterAddFe E oldVars cs inv added fe).evalExh,
                maxExh := (mcAfterAddFe E oldVars cs inv added fe).maxExh,
                minExh := (mcAfterAddFe E oldVars cs inv added fe).minExh,
                maxSExh := (mcAfterAddFe E oldVars cs inv added fe).maxSExh,
                minSExh := (mcAfterAddFe E oldVars cs inv added fe).minSExh } := by
  unfold mcAfterAddFe
  split
  · have h1 := invalFe_fields E cs added (trivOptFe fe)
    have h2 := trivOptFe_fields fe
    rw [h1]
    rw [h2]
  · exact trivOptFe_fields fe

/-- what ModelCacheMixin._add assumes of `super()._add` (FullFrontend._add over ConstrainedFrontend._add in every class):
it always returns, reports what it really added, and leaves the fields of the caching mixins alone -/
def LowAdd0 (add : List Con → Bool → M (List Con)) : Prop :=
  ∀ s cs inv, ∃ new s', add cs inv s = (.ok new, s') ∧ AddRel s s' cs new ∧ mcFields s'.fe = mcFields s.fe ∧
    s'.fe.cachedSat = s.fe.cachedSat ∧ s'.fe.hashes = s.fe.hashes

/-- **ModelCacheMixin._add** keeps the cache invariant, for the constraints the user then has.  `invalidate_cache=False`
(ConstraintExpansionMixin) is only sound for constraints the old ones imply — that is the hypothesis `himp`. -/
theorem mc_add_spec (hR : Reg R E) (hT : TrivOk R RE) {self sup : Ops} (hsup : LowAdd0 sup.add) (s : St)
    (hb : BInv R G U s) (hmc : MCInv RE E U s.fe) (cs : List Con) (inv : Bool) (hcs : ∀ c ∈ cs, R c)
    (himp : inv = false → ∀ a, Models U a → Models cs a) :
    ∃ new s', (modelCacheLayer E self sup).add cs inv s = (.ok new, s') ∧ AddRel s s' cs new ∧
      MCInv RE E (U ++ new) s'.fe ∧ KeepAdd E s s' cs ∧ s'.fe.cachedSat = s.fe.cachedSat ∧ s'.fe.hashes = s.fe.hashes := by
  rw [mcAdd_eq]
  by_cases hemp : cs.isEmpty = true
  · have : cs = [] := by simpa using hemp
    subst this
    refine ⟨[], s, by simp, ⟨by simp, by simp, rfl, rfl, rfl, rfl, rfl, by simp, by simp, by simp, fun i h => Or.inl h⟩,
      by simpa using hmc, fun m hm _ => hm, rfl, rfl⟩
  · simp only [hemp, Bool.false_eq_true, ↓reduceIte]
    obtain ⟨new, s1, hrun, hrel, hmcf, hcsat, hhash⟩ := hsup s cs inv
    have f1 := (mcFields_eq hmcf).1
    rw [hrun]
    simp only
    have himpU : ∀ a, Models (U ++ new) a → Models U a := fun a ha => (models_append.mp ha).1
    have hmc1 : MCInv RE E U s1.fe := hmc.of_fields hmcf
    by_cases hne : new.isEmpty = true
    · have : new = [] := by simpa using hne
      subst this
      simp only [List.isEmpty_nil, ↓reduceIte]
      exact ⟨[], s1, rfl, hrel, by simpa using hmc1, fun m hm _ => by rw [f1]; exact hm, hcsat, hhash⟩
    · simp only [hne, Bool.false_eq_true, ↓reduceIte]
      have hfields := mcAfterAddFe_fields E s.fe.variables cs inv new s1.fe
      refine ⟨new, _, rfl, ?_, ?_, ?_, by rw [hfields]; exact hcsat, by rw [hfields]; exact hhash⟩
      · -- the structural relation is not touched
        exact ⟨by rw [hfields]; exact hrel.cons, by rw [hfields]; exact hrel.toAdd, by rw [hfields]; exact hrel.solver,
          by rw [hfields]; exact hrel.track, by rw [hfields]; exact hrel.fin, hrel.objs, hrel.reuse, hrel.sub, hrel.cover,
          by rw [hfields]; exact hrel.vars, by rw [hfields]; exact hrel.ids⟩
      · have hb1 := hb.add hR hcs hrel
        have hhalf := trivOptFe_half (E := E) hT hmc1 himpU hb1.dinv.consR hb1.models_iff
        unfold mcAfterAddFe
        by_cases hnv : ((new.any fun a => a.vars.any fun v => !s.fe.variables.contains v) || inv) = true
        · rw [if_pos hnv]
          exact invalFe_inv hhalf (fun a => models_append) (hrel.unsat_of_false hR hb.dinv hcs)
        · rw [if_neg hnv]
          have hinv : inv = false := by
            cases inv
            · rfl
            · simp at hnv
          refine hhalf.full fun m hm => models_append.mpr ⟨hhalf.valid m hm, fun c hc => ?_⟩
          exact himp hinv _ (hhalf.valid m hm) c (hrel.sub c hc)
      · -- models are only dropped when they violate the added constraints
        intro m hm hmcs
        have hm1 : m ∈ (trivOptFe s1.fe).models := trivOptFe_mono s1.fe m (by rw [f1]; exact hm)
        show m ∈ (mcAfterAddFe E s.fe.variables cs inv new s1.fe).models
        unfold mcAfterAddFe
        split
        · exact invalFe_keep hR hcs hrel.sub _ m hm1 hmcs
        · exact hm1

theorem mcSimplify_eq (E : Env) (self sup : Ops) (s : St) :
    (modelCacheLayer E self sup).simplify s =
      match sup.simplify s with
      | (.ok results, s') =>
          if !results.isEmpty && results.any (·.isFalse) then (.ok results, { s' with fe := { s'.fe with models := [] } })
          else (.ok results, s')
      | (.error e, s') => (.error e, s') := by
  show (do
      let results ← sup.simplify
      if !results.isEmpty && results.any (·.isFalse) then
        M.modifyFe fun fe => { fe with models := [] }
      pure results : M (List Con)) s = _
  simp only [bind, M.bind]
  rcases sup.simplify s with ⟨res, s'⟩
  cases res with
  | error e => rfl
  | ok results =>
    simp only
    split <;> rfl

/-- `simplify` drops all cached models when a literal `false` is among the simplified constraints: they are unsatisfiable
then -/
theorem mcInv_clear_models {fe : Frontend} (hun : ¬ Satisfiable U) : MCInv RE E U { fe with models := [] } :=
  mcInv_unsat RE E U _ hun (by simp)

/-- the copy gets the models and the flags of the original: the invariant goes with them -/
theorem mcInv_copy {fe c : Frontend} (h : MCInv RE E U fe) :
    MCInv RE E U { c with models := fe.models, evalExh := fe.evalExh, maxExh := fe.maxExh, minExh := fe.minExh,
                          maxSExh := fe.maxSExh, minSExh := fe.minSExh } :=
  h.of_fields rfl

/-- unpickling starts with an empty cache -/
theorem mcInv_pickle (fe new : Frontend) : MCInv RE E U (pickleLayer .ModelCacheMixin fe new) :=
  mcInv_init RE E U _ rfl rfl rfl rfl rfl rfl

theorem mcInv_fresh (fe : Frontend) (h : fe = {}) : MCInv RE E U fe := by
  subst h; exact mcInv_init RE E U _ rfl rfl rfl rfl rfl rfl

end Claripy.Solver

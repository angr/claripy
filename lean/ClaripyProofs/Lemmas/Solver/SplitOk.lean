import ClaripyProofs.Lemmas.Solver.SplitInv
/-! The three facts about the result of `_split_constraints`, as propositions. -/
namespace Claripy.Solver

theorem groups_eq_of_mem (varss : List (List Var)) (g h : List Var × List Nat) (hg : g ∈ groupsOf varss) (hh : h ∈ groupsOf varss)
    (w : Var) (hw : w ∈ g.1) (hw' : w ∈ h.1) : g = h := by
  obtain ⟨v, c, hc, rfl⟩ := (mem_groupsOf varss g).mp hg
  obtain ⟨v', c', hc', rfl⟩ := (mem_groupsOf varss h).mp hh
  simp only [mem_sortDedup] at hw hw'
  rw [(splitInv_final varss).part.eq_of_mem hc hc' hw hw']

theorem groups_disjoint (varss : List (List Var)) (g h : List Var × List Nat) (hg : g ∈ groupsOf varss) (hh : h ∈ groupsOf varss)
    (hne : g ≠ h) : ∀ v ∈ g.1, v ∉ h.1 :=
  fun v hv hv' => hne (groups_eq_of_mem varss g h hg hh v hv hv')

theorem groups_index (varss : List (List Var)) (g : List Var × List Nat) (hg : g ∈ groupsOf varss) (i : Nat) (hi : i ∈ g.2) :
    i < varss.length ∧ ∃ vs, varss[i]? = some vs ∧ vs ≠ [] ∧ ∀ w ∈ vs, w ∈ g.1 := by
  obtain ⟨v, c, hc, rfl⟩ := (mem_groupsOf varss g).mp hg
  simp only [mem_sortDedup] at hi ⊢
  exact (splitInv_final varss).idx v c hc i hi

theorem groups_cover_vars (varss : List (List Var)) (g : List Var × List Nat) (hg : g ∈ groupsOf varss) (i : Nat) (hi : i ∈ g.2) :
    ∀ w ∈ varss.getD i [], w ∈ g.1 := by
  obtain ⟨_, vs, hvs, _, hall⟩ := groups_index varss g hg i hi
  rw [List.getD_eq_getElem?_getD, hvs]
  exact hall

def allIdx (varss : List (List Var)) : List Nat := ((groupsOf varss).map (·.2)).flatten ++ concreteOf varss

theorem mem_allIdx (varss : List (List Var)) (i : Nat) : i ∈ allIdx varss ↔ i < varss.length := by
  unfold allIdx
  simp only [List.mem_append, List.mem_flatten, List.mem_map]
  constructor
  · rintro (⟨l, ⟨g, hg, rfl⟩, hi⟩ | hc)
    · exact (groups_index varss g hg i hi).1
    · exact (List.getElem?_eq_some_iff.mp ((mem_concreteOf varss i).mp hc)).1
  · intro hi
    have hvs : varss[i]? = some varss[i] := List.getElem?_eq_getElem hi
    cases hv : varss[i] with
    | nil => right; rw [mem_concreteOf, hvs, hv]
    | cons w rest =>
      obtain ⟨c, hc, hic⟩ := (splitInv_final varss).cover i varss[i] hi hvs w (by rw [hv]; simp)
      exact Or.inl ⟨_, ⟨_, (mem_groupsOf varss _).mpr ⟨w, c, hc, rfl⟩, rfl⟩, (mem_sortDedup _ i).mpr hic⟩

theorem allIdx_nodup (varss : List (List Var)) : (allIdx varss).Nodup := by
  unfold allIdx
  rw [List.nodup_append]
  refine ⟨?_, concreteOf_nodup varss, ?_⟩
  · rw [List.Nodup, List.pairwise_flatten]
    constructor
    · intro l hl
      obtain ⟨g, hg, rfl⟩ := List.mem_map.mp hl
      obtain ⟨v, c, _, rfl⟩ := (mem_groupsOf varss g).mp hg
      exact sortDedup_nodup _
    · rw [List.pairwise_map]
      refine ((groupsOf_spec varss).2).imp_of_mem ?_
      intro g h hg hh hne i hi1 _ hi2 e
      subst e
      obtain ⟨_, vs, hvs, hvne, hall⟩ := groups_index varss g hg i hi1
      obtain ⟨_, vs', hvs', _, hall'⟩ := groups_index varss h hh i hi2
      rw [hvs] at hvs'
      cases hvs'
      obtain ⟨w, rest, rfl⟩ := List.exists_cons_of_ne_nil hvne
      exact hne (groups_eq_of_mem varss g h hg hh w (hall w (by simp)) (hall' w (by simp)))
  · intro i hi j hj hij
    subst hij
    obtain ⟨l, hl, hil⟩ := List.mem_flatten.mp hi
    obtain ⟨g, hg, rfl⟩ := List.mem_map.mp hl
    obtain ⟨_, vs, hvs, hvne, _⟩ := groups_index varss g hg i hil
    have := (mem_concreteOf varss i).mp hj
    rw [hvs] at this
    exact hvne (Option.some.inj this)

theorem allIdx_length (varss : List (List Var)) : (allIdx varss).length = varss.length := by
  have hperm : (allIdx varss).Perm (List.range varss.length) :=
    (List.perm_ext_iff_of_nodup (allIdx_nodup varss) List.nodup_range).mpr
      (fun i => by rw [mem_allIdx, List.mem_range])
  simpa using hperm.length_eq

theorem groups_nonempty (varss : List (List Var)) (g : List Var × List Nat) (hg : g ∈ groupsOf varss) : g.2 ≠ [] := by
  obtain ⟨v, c, hc, rfl⟩ := (mem_groupsOf varss g).mp hg
  obtain ⟨i, rest, hi⟩ := List.exists_cons_of_ne_nil ((splitInv_final varss).ne v c hc)
  exact List.ne_nil_of_mem ((mem_sortDedup c.2 i).mpr (by rw [hi]; exact List.mem_cons_self))

end Claripy.Solver

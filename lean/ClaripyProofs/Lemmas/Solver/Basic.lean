import ClaripyProofs.Lemmas.Util.AddNew
import ClaripyProofs.Lemmas.Util.Assoc
import ClaripyProofs.Lemmas.Util.IntMod
import ClaripyProofs.Lemmas.Util.Pow2
import Claripy.Solver.Spec
/-!
Solver family — hypotheses about the environment (named, listed in the trusted base) and basic lemmas about the
state-and-exception monad and partial models.
-/
namespace Claripy.Solver

@[simp] theorem M.pure_apply (a : α) (s : St) : (pure a : M α) s = (.ok a, s) := rfl
@[simp] theorem M.pure_apply' (a : α) (s : St) : M.pure a s = (.ok a, s) := rfl
theorem M.bind_apply (m : M α) (f : α → M β) (s : St) :
    (m >>= f) s = match m s with | (.ok a, s') => f a s' | (.error e, s') => (.error e, s') := rfl
@[simp] theorem M.get_apply (s : St) : M.get s = (.ok s, s) := rfl
@[simp] theorem M.getFe_apply (s : St) : M.getFe s = (.ok s.fe, s) := rfl
@[simp] theorem M.modify_apply (f : St → St) (s : St) : M.modify f s = (.ok (), f s) := rfl
@[simp] theorem M.modifyFe_apply (f : Frontend → Frontend) (s : St) :
    M.modifyFe f s = (.ok (), { s with fe := f s.fe }) := rfl
@[simp] theorem M.throw_apply (e : Err) (s : St) : (M.throw e : M α) s = (.error e, s) := rfl

def Agrees (a : Asg) (m : PModel) : Prop := ∀ v x, m.get? v = some x → a v = x

/-- what Z3 guarantees of a model it returns: it speaks for the constants the model mentions only -/
def PartialModelOf (m : PModel) (A : List ZCon) : Prop :=
  ∀ a : Asg, Agrees a m → ∀ c ∈ A, c.sem a = true

theorem PartialModelOf.mono {m : PModel} {A B : List ZCon} (h : PartialModelOf m B) (hs : ∀ c ∈ A, c ∈ B) :
    PartialModelOf m A := fun a ha c hc => h a ha c (hs c hc)

theorem find?_snd_of_mem {κ ν : Type} [BEq κ] [LawfulBEq κ] {l : List (κ × ν)} (h : (l.map (·.1)).Nodup) {k : κ} {v : ν}
    (hm : (k, v) ∈ l) : (l.find? fun e => e.1 == k).map (·.2) = some v := by
  induction l with
  | nil => cases hm
  | cons q l ih =>
    rw [List.map_cons, List.nodup_cons] at h
    rw [List.find?_cons]
    rcases List.mem_cons.mp hm with rfl | hm
    · simp
    · have hne : (q.1 == k) = false := beq_eq_false_iff_ne.mpr fun he => h.1 (he ▸ List.mem_map.mpr ⟨(k, v), hm, rfl⟩)
      rw [hne]
      exact ih h.2 hm

/-- a model is read as every other dict of the models is: the first pair with the key -/
theorem PModel.get?_eq (m : PModel) (v : Var) : m.get? v = (m.find? fun p => p.1 == v).map (·.2) := by
  induction m with
  | nil => rfl
  | cons hd tl ih =>
    rw [PModel.get?, List.find?_cons, ih]
    by_cases h : hd.1 = v
    · simp [h]
    · simp [h, beq_eq_false_iff_ne.mpr h]

theorem PModel.get?_insert (m : PModel) (k x v : Nat) :
    (m.insert k x).get? v = if v = k then some x else m.get? v := by
  induction m with
  | nil => simp only [PModel.insert, PModel.get?]; split <;> simp_all [eq_comm]
  | cons hd tl ih =>
    obtain ⟨k', x'⟩ := hd
    simp only [PModel.insert]
    split
    · simp only [PModel.get?]; split <;> simp_all [eq_comm]
    · split
      · rename_i h1 h2; subst h2
        simp only [PModel.get?]; split <;> simp_all [eq_comm]
      · rename_i h1 h2
        simp only [PModel.get?, ih]
        by_cases hv : k' = v
        · subst hv; simp [Ne.symm h2]
        · simp [hv]

theorem PModel.get?_ofKeys_aux (vals : List Nat) (keys : List Var) (acc : PModel) (v : Nat) :
    (keys.foldl (fun m k => PModel.insert m k (vals.getD k 0)) acc).get? v =
      if v ∈ keys then some (vals.getD v 0) else acc.get? v := by
  induction keys generalizing acc with
  | nil => simp
  | cons k ks ih =>
    simp only [List.foldl_cons, ih, PModel.get?_insert, List.mem_cons]
    by_cases h1 : v ∈ ks <;> by_cases h2 : v = k <;> simp [h1, h2]

theorem PModel.get?_ofKeys (vals : List Nat) (keys : List Var) (v : Nat) :
    (PModel.ofKeys vals keys).get? v = if v ∈ keys then some (vals.getD v 0) else none := by
  have := PModel.get?_ofKeys_aux vals keys [] v
  simpa [PModel.ofKeys, PModel.get?] using this

theorem PModel.get?_restrict (m : PModel) (vars : List Var) (v : Nat) :
    (m.restrict vars).get? v = if v ∈ vars then m.get? v else none := by
  rw [PModel.get?_eq, PModel.get?_eq, PModel.restrict, List.find?_filter]
  split
  · next hv =>
    congr 2
    funext p
    by_cases hp : p.1 = v <;> simp [hp, hv]
  · next hv =>
    rw [List.find?_eq_none.mpr, Option.map_none]
    intro p _
    by_cases hp : p.1 = v <;> simp [hp, hv]

/-- a model is a dict (one entry per variable): `PModel.insert` keeps the list strictly sorted by variable -/
def PModel.Sorted (m : PModel) : Prop := (m.map (·.1)).Pairwise (· < ·)

theorem PModel.sorted_nil : PModel.Sorted [] := List.Pairwise.nil

theorem PModel.sorted_single (k x : Nat) : PModel.Sorted [(k, x)] := by simp [PModel.Sorted]

theorem PModel.mem_insert (m : PModel) (k x : Nat) : ∀ p ∈ m.insert k x, p.1 = k ∨ p ∈ m := by
  induction m with
  | nil => intro p hp; simp only [PModel.insert, List.mem_singleton] at hp; subst hp; exact Or.inl rfl
  | cons hd tl ih =>
    obtain ⟨k', x'⟩ := hd
    intro p hp
    simp only [PModel.insert] at hp
    split at hp
    · rcases List.mem_cons.mp hp with rfl | hp
      · exact Or.inl rfl
      · exact Or.inr hp
    · split at hp
      · rcases List.mem_cons.mp hp with rfl | hp
        · exact Or.inl rfl
        · exact Or.inr (List.mem_cons_of_mem _ hp)
      · rcases List.mem_cons.mp hp with rfl | hp
        · exact Or.inr (by simp)
        · rcases ih p hp with h | h
          · exact Or.inl h
          · exact Or.inr (List.mem_cons_of_mem _ h)

theorem PModel.sorted_insert {m : PModel} (h : m.Sorted) (k x : Nat) : (m.insert k x).Sorted := by
  induction m with
  | nil => exact PModel.sorted_single k x
  | cons hd tl ih =>
    obtain ⟨k', x'⟩ := hd
    simp only [PModel.Sorted, List.map_cons, List.pairwise_cons] at h
    obtain ⟨h1, h2⟩ := h
    simp only [PModel.insert]
    split
    · rename_i hlt
      simp only [PModel.Sorted, List.map_cons, List.pairwise_cons]
      refine ⟨?_, h1, h2⟩
      intro a ha
      rcases List.mem_cons.mp ha with rfl | ha
      · exact hlt
      · exact Nat.lt_trans hlt (h1 a ha)
    · split
      · rename_i _ heq
        subst heq
        simp only [PModel.Sorted, List.map_cons, List.pairwise_cons]
        exact ⟨h1, h2⟩
      · rename_i hnlt hne
        simp only [PModel.Sorted, List.map_cons, List.pairwise_cons]
        refine ⟨?_, ih h2⟩
        intro a ha
        obtain ⟨p, hp, rfl⟩ := List.mem_map.mp ha
        rcases PModel.mem_insert tl k x p hp with hk | hk
        · rw [hk]; exact Nat.lt_of_le_of_ne (Nat.le_of_not_lt hnlt) (fun e => hne e.symm)
        · exact h1 p.1 (List.mem_map.mpr ⟨p, hk, rfl⟩)

theorem PModel.sorted_foldl_insert (l : List (Var × Nat)) (acc : PModel) (h : acc.Sorted) :
    (l.foldl (fun acc kv => PModel.insert acc kv.1 kv.2) acc).Sorted := by
  induction l generalizing acc with
  | nil => exact h
  | cons kv rest ih => exact ih _ (PModel.sorted_insert h kv.1 kv.2)

theorem PModel.sorted_ofKeys (vals : List Nat) (keys : List Var) : (PModel.ofKeys vals keys).Sorted := by
  unfold PModel.ofKeys
  have : ∀ acc : PModel, acc.Sorted → (keys.foldl (fun m k => PModel.insert m k (vals.getD k 0)) acc).Sorted := by
    induction keys with
    | nil => intro acc h; exact h
    | cons k ks ih => intro acc h; exact ih _ (PModel.sorted_insert h k _)
  exact this [] PModel.sorted_nil

theorem PModel.sorted_restrict {m : PModel} (h : m.Sorted) (vars : List Var) : (m.restrict vars).Sorted := by
  unfold PModel.Sorted PModel.restrict at *
  exact h.sublist (List.Sublist.map _ List.filter_sublist)

theorem PModel.get?_of_mem {m : PModel} (h : m.Sorted) {k x : Nat} (hm : (k, x) ∈ m) : m.get? k = some x :=
  (PModel.get?_eq m k).trans (find?_snd_of_mem (h.imp Nat.ne_of_lt) hm)

theorem PModel.mem_of_get? {m : PModel} {k x : Nat} (h : m.get? k = some x) : (k, x) ∈ m := by
  obtain ⟨k', hm, hk⟩ := find?_snd_some (p := (· == k)) (PModel.get?_eq m k ▸ h)
  exact eq_of_beq hk ▸ hm

/-- `dict(chain(...))` over a dict: the entries of `m` override those of `acc` -/
theorem PModel.get?_foldl_insert {m : PModel} (h : m.Sorted) (acc : PModel) (v : Nat) :
    (m.foldl (fun acc kv => PModel.insert acc kv.1 kv.2) acc).get? v = (m.get? v).orElse fun _ => acc.get? v := by
  induction m generalizing acc with
  | nil => simp [PModel.get?]
  | cons hd tl ih =>
    obtain ⟨k, x⟩ := hd
    simp only [PModel.Sorted, List.map_cons, List.pairwise_cons] at h
    simp only [List.foldl_cons, ih h.2, PModel.get?_insert, PModel.get?]
    by_cases hkv : k = v
    · subst hkv
      have : PModel.get? tl k = none := by
        cases hg : PModel.get? tl k with
        | none => rfl
        | some y =>
          have hlt : k < k := h.1 k (List.mem_map.mpr ⟨(k, y), PModel.mem_of_get? hg, rfl⟩)
          exact absurd hlt (Nat.lt_irrefl k)
      simp [this]
    · simp [hkv, Ne.symm hkv]

theorem PModel.complete_apply (dflt : Var → Nat) (m : PModel) (v : Nat) :
    m.complete dflt v = (m.get? v).getD (dflt v) := rfl

theorem mem_listInsert {α : Type} [BEq α] [LawfulBEq α] (l : List α) (x y : α) :
    y ∈ listInsert l x ↔ y ∈ l ∨ y = x := by
  unfold listInsert
  split
  · rename_i h
    have : x ∈ l := by simpa using h
    constructor
    · exact Or.inl
    · rintro (h | rfl) <;> assumption
  · simp

theorem mem_foldl_listInsert {α : Type} [BEq α] [LawfulBEq α] (l acc : List α) (x : α) :
    x ∈ l.foldl listInsert acc ↔ x ∈ acc ∨ x ∈ l :=
  mem_foldl_addNew (has := fun acc x => acc.contains x) (fun _ _ h => List.contains_iff_mem.1 h) l acc x

theorem mem_listUnion {α : Type} [BEq α] [LawfulBEq α] (l r : List α) (y : α) :
    y ∈ listUnion l r ↔ y ∈ l ∨ y ∈ r := mem_foldl_listInsert r l y

/-- **OracleExact** (trusted, validated on every recorded exchange): when Z3 answers `sat`, every total
assignment that agrees with the returned model on the constants it mentions satisfies assertions and
assumptions; when it answers `unsat`, no assignment does.  `unknown` may be answered at any time. -/
def OracleExact (E : Env) : Prop :=
  ∀ (q : Query) (k : Nat),
    match E.oracle q k with
    | .sat vals keys => ∀ a : Asg, (∀ v ∈ keys, a v = asgOf vals v) → q.holds a = true
    | .unsat _ => ∀ a : Asg, q.holds a = false
    | .unknown => True

/-- the backend never gives up (C11; dropped for C17) -/
def NoGiveUp (E : Env) : Prop := ∀ q k, E.oracle q k ≠ .unknown

def GaveUp (E : Env) : Prop := ∃ q k, E.oracle q k = .unknown

/-- the only error an L1 algorithm can end with: the one `z3_solver_sat` raises when the backend gave up -/
def IsGiveUp (E : Env) (e : Err) : Prop := e = .giveUp ∧ GaveUp E

theorem IsGiveUp.elim {E : Env} {e : Err} (h : IsGiveUp E e) (hN : NoGiveUp E) : False := by
  obtain ⟨_, q, k, hk⟩ := h
  exact hN q k hk

def ConWf (c : Con) : Prop :=
  (∀ a a' : Asg, (∀ v ∈ c.vars, a v = a' v) → c.sem a = c.sem a') ∧
  (c.isFalse = true → ∀ a, c.sem a = false) ∧
  (∀ b, c.conc = some b → ∀ a, c.sem a = b) ∧
  (∀ v x eid, c.triv = some (v, x, eid) → c.vars = [v] ∧ ∀ a, c.sem a = decide (a v = x))

/-- **BuildExact** (C01): the constraints claripy builds inside the frontends mean what was written -/
def BuildExact (E : Env) : Prop :=
  (∀ key, (E.build key).sem = key.sem ∧ (∀ v ∈ (E.build key).vars, v ∈ key.exp.vars) ∧ ConWf (E.build key)) ∧
  ConWf E.falseCon ∧ E.falseCon.isFalse = true

/-- **SimplifyEquiv** (C09): `claripy.simplify` returns an equivalent conjunction over no new variables -/
def SimplifyEquiv (E : Env) : Prop :=
  ∀ cs k, (∀ a, holdsAll (E.simp cs k) a = holdsAll cs a) ∧
    (∀ c ∈ E.simp cs k, ConWf c ∧ ∀ v ∈ c.vars, ∃ c' ∈ cs, v ∈ c'.vars)

/-- **CheapSound** (C10): a `True` from `claripy.is_false(And(c1, c2))` means the conjunction is unsatisfiable;
a `True` from the backend's `is_true`/`is_false` means valid / unsatisfiable -/
def CheapSound (E : Env) : Prop :=
  (∀ c1 c2 k, E.cheapFalse c1 c2 k = true → ∀ a, ¬ (c1.sem a = true ∧ c2.sem a = true)) ∧
  (∀ c k, E.truth true c k = true → ∀ a, c.sem a = true) ∧
  (∀ c k, E.truth false c k = true → ∀ a, c.sem a = false)

/-- the recorded choice among cached solutions is one the code can make (set iteration order) -/
def PickValid (E : Env) : Prop :=
  ∀ all n k, subsetB (E.pick all n k) all = true ∧ (E.pick all n k).length = min n all.length ∧
    (E.pick all n k).foldl listInsert [] = E.pick all n k

def Op.Wf : Op → Prop
  | .add cs => ∀ c ∈ cs, ConWf c
  | .satisfiable ex | .unsatCore ex => ∀ c ∈ ex, ConWf c
  | .eval e _ ex | .min e ex _ | .max e ex _ | .solution e _ ex => (1 ≤ e.bits ∧ ∀ a, e.val a < 2 ^ e.bits) ∧ ∀ c ∈ ex, ConWf c
  | .batchEval es _ ex => (∀ e ∈ es, 1 ≤ e.bits ∧ ∀ a, e.val a < 2 ^ e.bits) ∧ ∀ c ∈ ex, ConWf c
  | .isTrue c ex | .isFalse c ex => ConWf c ∧ ∀ c ∈ ex, ConWf c
  | _ => True

/-- run a history on the world; each output is paired with the constraints the USER had added to the queried
frontend when the call was made -/
def runHist (E : Env) (cls : SolverClass) :
    World → List (List Con) → List (Nat × Op) → List (List Con × Op × Out)
  | _, _, [] => []
  | w, added, (i, op) :: rest =>
    let (o, w') := step E cls w i op
    let cs := added.getD i []
    let added' := match op with
      | .add new => added.set i (cs ++ new)
      | .branch => added ++ [cs]
      | _ => added
    (match op with | .add new => cs ++ new | _ => cs, op, o) :: runHist E cls w' added' rest

end Claripy.Solver

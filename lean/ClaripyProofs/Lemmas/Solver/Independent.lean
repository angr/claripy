import Claripy.Solver.Structure
import ClaripyProofs.Lemmas.Solver.Basic
/-!
Independence of variable-disjoint constraint sets (what SolverComposite relies on): models can be glued, so
disjoint sets are jointly satisfiable iff each is, and a query about `e` depends only on the component that owns
the variables of `e`.  Last: merge / combine at the level of constraint lists (the model sets are what C15 says).
-/
namespace Claripy.Solver

def varsOf (cs : List Con) : List Var := cs.flatMap (·.vars)

theorem mem_varsOf {cs : List Con} {c : Con} {v : Var} (hc : c ∈ cs) (hv : v ∈ c.vars) : v ∈ varsOf cs :=
  List.mem_flatMap.mpr ⟨c, hc, hv⟩

def DisjointVars (A B : List Con) : Prop := ∀ v, v ∈ varsOf A → v ∉ varsOf B

def glue (V : List Var) (a b : Asg) : Asg := fun v => if v ∈ V then a v else b v

def ExpDep (e : Exp) : Prop := ∀ a a' : Asg, (∀ v ∈ e.vars, a v = a' v) → e.val a = e.val a'

theorem models_of_agree {A : List Con} (hwf : ∀ c ∈ A, ConWf c) {a a' : Asg}
    (hag : ∀ v ∈ varsOf A, a v = a' v) (h : Models A a) : Models A a' := by
  intro c hc
  rw [← (hwf c hc).1 a a' (fun v hv => hag v (mem_varsOf hc hv))]
  exact h c hc

theorem models_append {A B : List Con} {a : Asg} : Models (A ++ B) a ↔ Models A a ∧ Models B a := by
  simp only [Models, List.mem_append]
  exact ⟨fun h => ⟨fun c hc => h c (Or.inl hc), fun c hc => h c (Or.inr hc)⟩,
         fun ⟨h1, h2⟩ c hc => hc.elim (h1 c) (h2 c)⟩

theorem holdsAll_append (A B : List Con) (a : Asg) : holdsAll (A ++ B) a = (holdsAll A a && holdsAll B a) := by
  simp [holdsAll, List.all_append]

theorem models_iff_holdsAll (cs : List Con) (a : Asg) : Models cs a ↔ holdsAll cs a = true := by
  simp [holdsAll, Models, List.all_eq_true]

theorem models_glue {A B : List Con} (wfA : ∀ c ∈ A, ConWf c) (wfB : ∀ c ∈ B, ConWf c) (V : List Var)
    (hVA : ∀ v ∈ varsOf A, v ∈ V) (hVB : ∀ v ∈ varsOf B, v ∉ V) {a b : Asg} (ha : Models A a) (hb : Models B b) :
    Models (A ++ B) (glue V a b) := by
  refine models_append.mpr ⟨models_of_agree wfA (fun v hv => ?_) ha, models_of_agree wfB (fun v hv => ?_) hb⟩
  · simp [glue, hVA v hv]
  · simp [glue, hVB v hv]

theorem satisfiable_append_iff {A B : List Con} (wfA : ∀ c ∈ A, ConWf c) (wfB : ∀ c ∈ B, ConWf c)
    (hd : DisjointVars A B) : Satisfiable (A ++ B) ↔ Satisfiable A ∧ Satisfiable B := by
  constructor
  · rintro ⟨a, ha⟩
    exact ⟨⟨a, (models_append.mp ha).1⟩, ⟨a, (models_append.mp ha).2⟩⟩
  · rintro ⟨⟨a, ha⟩, ⟨b, hb⟩⟩
    exact ⟨glue (varsOf A) a b, models_glue wfA wfB (varsOf A) (fun _ h => h) (fun v hv hv' => hd v hv' hv) ha hb⟩

theorem feasible_component {A B : List Con} (wfA : ∀ c ∈ A, ConWf c) (wfB : ∀ c ∈ B, ConWf c)
    (hd : DisjointVars A B) (e : Exp) (he : ExpDep e) (heB : ∀ v ∈ e.vars, v ∉ varsOf B) (x : Nat) :
    Feasible (A ++ B) e x ↔ Feasible A e x ∧ Satisfiable B := by
  constructor
  · rintro ⟨a, ha, hx⟩
    exact ⟨⟨a, (models_append.mp ha).1, hx⟩, ⟨a, (models_append.mp ha).2⟩⟩
  · rintro ⟨⟨a, ha, hx⟩, ⟨b, hb⟩⟩
    refine ⟨glue (varsOf A ++ e.vars) a b, ?_, ?_⟩
    · refine models_glue wfA wfB _ (fun v hv => List.mem_append_left _ hv) (fun v hv hv' => ?_) ha hb
      rcases List.mem_append.mp hv' with h | h
      · exact hd v h hv
      · exact heB v h hv
    · rw [← hx]
      exact he _ _ (fun v hv => by simp [glue, hv])

theorem isOpt_component {A B : List Con} (wfA : ∀ c ∈ A, ConWf c) (wfB : ∀ c ∈ B, ConWf c)
    (hd : DisjointVars A B) (e : Exp) (he : ExpDep e) (heB : ∀ v ∈ e.vars, v ∉ varsOf B) (hB : Satisfiable B)
    (isMax signed : Bool) (i : Int) : IsOpt isMax signed (A ++ B) e i ↔ IsOpt isMax signed A e i := by
  have hf : ∀ x, Feasible (A ++ B) e x ↔ Feasible A e x := fun x => by
    rw [feasible_component wfA wfB hd e he heB x]; exact ⟨fun h => h.1, fun h => ⟨h, hB⟩⟩
  simp only [IsOpt, hf]

theorem mergeSem_iff (opts : List (Con × List Con)) (a : Asg) :
    mergeSem opts a = true ↔ ∃ o ∈ opts, o.1.sem a = true ∧ Models o.2 a := by
  simp only [mergeSem, List.any_eq_true, Bool.and_eq_true, models_iff_holdsAll]

theorem combineCons_iff (self : List Con) (others : List (List Con)) (a : Asg) :
    Models (combineCons self others) a ↔ Models self a ∧ ∀ o ∈ others, Models o a := by
  simp only [combineCons, models_append]
  refine and_congr_right fun _ => ?_
  simp only [Models, List.mem_flatten]
  exact ⟨fun h o ho c hc => h c ⟨o, ho, hc⟩, fun h c ⟨o, ho, hc⟩ => h o ho c hc⟩

/-- merging with a common ancestor: the ancestor's models that satisfy some condition -/
theorem ancestorMerge_iff (anc : List Con) (conds : List Con) (orc : Con)
    (hor : ∀ a, orc.sem a = conds.any (·.sem a)) (a : Asg) :
    Models (anc ++ [orc]) a ↔ Models anc a ∧ ∃ c ∈ conds, c.sem a = true := by
  rw [models_append]
  refine and_congr_right fun _ => ?_
  simp [Models, hor, List.any_eq_true]

end Claripy.Solver

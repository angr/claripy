import ClaripyProofs.Lemmas.Solver.SolverLayers
import ClaripyProofs.Lemmas.Solver.SolverStack
import ClaripyProofs.Lemmas.Solver.SolverAdd
import ClaripyProofs.Lemmas.Solver.SolverExtremum
/-!
The class `Solver` assembled: what each unrolling of `self` provides (`Ok1` ⊂ `Ok2` ⊂ `Ok3`), and the public methods of the
class (`classOps E .Solver`, five unrollings of `self` over the generated MRO): each call answers as `Judge` allows — or
raises the give-up error, or `UnsatError` on unsatisfiable constraints — and keeps the invariant `SI`.
-/
namespace Claripy.Solver

variable {R : Con → Prop} {RE : Exp → Prop} {E : Env} {G : St → Prop} {U : List Con}

/-- independent of `self`: the callback, eager concrete evaluation, `simplify` -/
structure Ok1 (R : Con → Prop) (RE : Exp → Prop) (E : Env) (G : St → Prop) (o : Ops) : Prop where
  hook : o.modelHook = mcHook
  cc : ∀ c, o.concreteCon c = c.conc
  cv : ∀ e, o.concreteValue e = e.conc
  simp : SimplifySpec R RE E G o.simplify

/-- with a `self` that evaluates concretely: `_add` -/
structure Ok2 (R : Con → Prop) (RE : Exp → Prop) (E : Env) (G : St → Prop) (o : Ops) : Prop extends Ok1 R RE E G o where
  add : AddSpec R RE E G o.add

/-- with a `self` that is `Ok1`: `satisfiable` and `eval` -/
structure Ok3 (R : Con → Prop) (RE : Exp → Prop) (E : Env) (G : St → Prop) (o : Ops) : Prop extends Ok2 R RE E G o where
  sat : ∀ (U : List Con) extra, (∀ c ∈ extra, ConWf c) →
    SQ R RE E G U (SatGood (U ++ extra)) (IsGiveUp E) (o.satisfiable extra)
  eval : ∀ (U : List Con) e n extra, RE e → e.conc = none → 1 ≤ n → (∀ c ∈ extra, ConWf c) →
    SQ R RE E G U (EvalGood E (U ++ extra) e n) (ErrOk E (U ++ extra)) (o.eval e n extra)

/-- the hypotheses about the environment the class `Solver` needs -/
structure SolverHyps (R : Con → Prop) (RE : Exp → Prop) (E : Env) : Prop where
  reg : Reg R E
  zid : ZidFaithful R
  oracle : OracleExact E
  simpOn : SimpOn R E
  simpVars : SimpVars R E
  cheap : CheapSound E
  pick : PickOk E
  expReg : ExpReg RE
  evalComplete : EvalComplete RE E
  triv : TrivOk R RE
  build : BuildOn R RE E

variable (H : SolverHyps R RE E)
include H

theorem sL9_ok1 (self : Ops) : Ok1 R RE E G (sL9 E self) :=
  ⟨rfl, fun _ => rfl, fun _ => rfl, sL9_simplify_spec H.reg H.simpOn H.simpVars self⟩

theorem sL9_add_spec {self : Ops} (hcc : ∀ c, self.concreteCon c = c.conc) : AddSpec R RE E G (sL9 E self).add := by
  have h0 : LowAdd0 (sL2 E self).add := fc_add_low E self self frontendBase
  have h1 : LowAdd1 R RE E G (sL3 E self).add := mc_add_low (self := self) (sup := sL2 E self) H.reg H.triv h0
  have h2 : LowAdd2 R RE E G (sL4 E self).add := satCache_add_low (self := self) (sup := sL3 E self) H.reg H.cheap h1
  have h2' : LowAdd2 R RE E G (sL5 E self).add := skipper_add_low (self := self) (sup := sL4 E self) h2
  have h3 : LowAdd3 R RE E G (sL6 E self).add := dedup_add_low (self := self) (sup := sL5 E self) h2'
  exact filter_add_spec (self := self) (sup := sL6 E self) H.reg hcc h3

theorem sL9_ok2 {self : Ops} (hcc : ∀ c, self.concreteCon c = c.conc) : Ok2 R RE E G (sL9 E self) :=
  { sL9_ok1 H self with add := sL9_add_spec H hcc }

theorem sL9_sat_spec {self : Ops} (hs : Ok1 R RE E G self) (extra : List Con) (wf : ∀ c ∈ extra, ConWf c) :
    SQ R RE E G U (SatGood (U ++ extra)) (IsGiveUp E) ((sL9 E self).satisfiable extra) := by
  refine filter_satisfiable_spec (self := self) (body := (sL6 E self).satisfiable) hs.cc extra wf (Keep.refl U) fun ec => ?_
  refine satCache_satisfiable_spec (self := self) (sup := sL3 E self) ec ?_
  exact mc_satisfiable_spec (self := self) (sup := sL2 E self) ec
    (full_satisfiable_spec (self := self) (sup := constrainedLayer E self frontendBase) H.oracle H.reg H.zid hs.hook ec)

/-- `batch_eval` below the model cache: SimplifyHelperMixin over FullFrontend -/
theorem sL2_batchEval_spec {self : Ops} (hs : Ok1 R RE E G self) (asts : List Exp) (n : Nat) (hn : 1 ≤ n) (extra : List Con) :
    SQ R RE E G U (BatchGood RE E (U ++ extra) asts n) (ErrOk E (U ++ extra)) ((sL2 E self).batchEval asts n extra) :=
  helper_batchEval_spec (self := self) (sup := sL0 E self) hs.simp asts n extra
    (full_batchEval_spec (self := self) (sup := constrainedLayer E self frontendBase) H.oracle H.reg H.zid
      H.evalComplete H.expReg hs.hook asts n hn extra)

theorem sL7_eval_spec {self : Ops} (hs : Ok1 R RE E G self) (e : Exp) (he : RE e) (hc : e.conc = none) (n : Nat) (hn : 1 ≤ n)
    (extra : List Con) (wf : ∀ c ∈ extra, ConWf c) :
    SQ R RE E G U (EvalGood E (U ++ extra) e n) (ErrOk E (U ++ extra)) ((sL7 E self).eval e n extra) := by
  refine filter_spec_query (body := fun ec => (sL6 E self).eval e n ec) hs.cc extra wf (Keep.refl U) evalGood_congr
    fun ec _ => ?_
  refine satCacheQuery_spec (extra := ec) (evalGood_sat hc) ?_
  exact mc_eval_spec (self := self) (sup := sL2 E self) H.pick H.expReg e he hc n hn ec
    fun n' extra' hn' => sL2_batchEval_spec H hs [e] n' hn' extra'

omit H in
theorem sL9_eval_conc_none {self : Ops} (hcv : ∀ e, self.concreteValue e = e.conc) (e : Exp) (hc : e.conc = none) (n : Nat)
    (extra : List Con) : (sL9 E self).eval e n extra = (sL7 E self).eval e n extra := by
  show (match self.concreteValue e with | some c => pure [c] | none => (sL7 E self).eval e n extra) = _
  rw [hcv e, hc]

theorem sL9_ok3 {self : Ops} (hs : Ok1 R RE E G self) : Ok3 R RE E G (sL9 E self) :=
  { sL9_ok2 H hs.cc with
    sat := fun _ extra wf => sL9_sat_spec H hs extra wf
    eval := fun _ e n extra he hc hn wf => by
      rw [sL9_eval_conc_none hs.cv e hc n extra]
      exact sL7_eval_spec H hs e he hc n hn extra wf }

theorem sL7_opt_spec {self : Ops} (hs : Ok3 R RE E G self) (isMax : Bool) (e : Exp) (he : RE e) (hc : e.conc = none)
    (extra : List Con) (signed : Bool) (wf : ∀ c ∈ extra, ConWf c) :
    SQ R RE E G U (OptGood E isMax signed (U ++ extra) e) (ErrOk E (U ++ extra))
      (if isMax then (sL7 E self).max e extra signed else (sL7 E self).min e extra signed) := by
  -- the stack as the generated MRO composes it: filter, SatCache, ModelCache, expansion, helper, FullFrontend
  have hshow : (if isMax then (sL7 E self).max e extra signed else (sL7 E self).min e extra signed) =
      (liftE (constraintFilter self extra) >>= fun ec =>
        satCacheQuery (modelCacheExtremum E (sL2 E self) isMax e ec signed) ec.isEmpty) := by cases isMax <;> rfl
  rw [hshow]
  refine filter_spec_query hs.cc extra wf (Keep.refl U) optGood_congr fun ec hsub => ?_
  have wfec : ∀ c ∈ ec, ConWf c := fun c hc' => wf c (hsub c hc')
  refine satCacheQuery_spec optGood_sat (mc_extremum_spec H.expReg isMax e he ec signed ?_)
  have hshow2 : (if isMax then (sL2 E self).max e ec signed else (sL2 E self).min e ec signed) = (do
      let i ← (do let _ ← self.simplify; fullExtremum E self isMax e ec signed)
      if ec.isEmpty then
        let _ ← publicAdd self [E.build (optKey isMax signed e i)] false
      pure i) := by cases isMax <;> rfl
  rw [hshow2]
  refine expansion_opt_spec H.build H.expReg hs.add isMax e he ec signed ?_
  refine helper_spec_query (Good := OptGood E isMax signed (U ++ ec) e) hs.simp (fun _ _ _ _ => optGood_start) ?_
  exact full_extremum_spec H.oracle H.reg H.zid H.evalComplete H.expReg hs.hook isMax e he hc ec signed (hs.sat U ec wfec)
    (hs.eval U e 2 ec he hc (by omega) wfec)

theorem sL7_solution_spec {self : Ops} (hs : Ok2 R RE E G self) (e : Exp) (he : RE e) (v : Nat)
    (hv : v < 2 ^ e.bits) (extra : List Con) (wf : ∀ c ∈ extra, ConWf c) :
    SQ R RE E G U (SolGood (U ++ extra) e v) (ErrOk E (U ++ extra))
      ((sL7 E self).solution e v extra) := by
  refine filter_spec_query (body := fun ec => (sL6 E self).solution e v ec) hs.cc extra wf (Keep.refl U) solGood_congr
    fun ec _ => ?_
  refine satCache_solution_spec (self := self) (sup := sL3 E self) e v ec ?_
  refine mc_solution_spec (self := self) (sup := sL2 E self) e v ec ?_
  refine expansion_solution_spec (self := self) (sup := sL1 E self) H.build hs.add e he v hv ec ?_
  exact full_solution_spec (self := self) (sup := constrainedLayer E self frontendBase) H.oracle H.reg H.zid hs.hook e v hv ec

end Claripy.Solver

namespace Claripy.Solver

variable {R : Con → Prop} {RE : Exp → Prop} {E : Env} {G : St → Prop} {U : List Con}

section
variable (H : SolverHyps R RE E)
include H

theorem solStage_ok1 (k : Nat) : Ok1 R RE E G (solStage E k) := by
  cases k with
  | zero =>
    rw [solStage_zero]
    exact sL9_ok1 H frontendBase
  | succ k =>
    rw [solStage_eq]
    exact sL9_ok1 H (solStage E k)

theorem solStage_ok3 (k : Nat) : Ok3 R RE E G (solStage E (k + 1)) := by
  rw [solStage_eq]
  exact sL9_ok3 H (solStage_ok1 H k)

theorem sol_satisfiable_top (k : Nat) (extra : List Con) (wf : ∀ c ∈ extra, ConWf c) :
    SQ R RE E G U (SatGood (U ++ extra)) (IsGiveUp E) ((solStage E (k + 1)).satisfiable extra) :=
  (solStage_ok3 H k).sat U extra wf

theorem sol_eval_top (k : Nat) (e : Exp) (he : RE e) (n : Nat) (hn : 1 ≤ n) (extra : List Con) (wf : ∀ c ∈ extra, ConWf c)
    (s : St) (h : SI R RE E G U s) :
    Outcome (EvalOk (U ++ extra) e n) (ErrOk E (U ++ extra)) (SI R RE E G U) ((solStage E (k + 1)).eval e n extra) s := by
  -- ConcreteHandlerMixin on top of the stack
  rw [solStage_eq]
  show Outcome _ _ _
    (match (solStage E k).concreteValue e with | some c => pure [c] | none => (sL7 E (solStage E k)).eval e n extra) s
  rw [(solStage_ok1 (G := G) H k).cv e]
  cases hc : e.conc with
  | some c => exact ⟨by simp [EvalOk, hc], h⟩
  | none => exact (sL7_eval_spec H (solStage_ok1 H k) e he hc n hn extra wf).outcome h fun _ _ h => h.1

theorem sol_opt_top (k : Nat) (isMax : Bool) (e : Exp) (he : RE e) (extra : List Con) (signed : Bool)
    (wf : ∀ c ∈ extra, ConWf c) (s : St) (h : SI R RE E G U s) :
    Outcome (fun i => match e.conc with
                      | some c => i = (c : Int)
                      | none => IsOpt isMax signed (U ++ extra) e i)
      (ErrOk E (U ++ extra)) (SI R RE E G U)
      (if isMax then (solStage E (k + 2)).max e extra signed else (solStage E (k + 2)).min e extra signed) s := by
  have hrun : (if isMax then (solStage E (k + 2)).max e extra signed else (solStage E (k + 2)).min e extra signed) =
      (match (solStage E (k + 1)).concreteValue e with
       | some c => pure (c : Int)
       | none => if isMax then (sL7 E (solStage E (k + 1))).max e extra signed
                 else (sL7 E (solStage E (k + 1))).min e extra signed : M Int) := by
    rw [show solStage E (k + 2) = sL9 E (solStage E (k + 1)) from solStage_eq E (k + 1)]
    cases isMax <;> rfl
  rw [hrun, (solStage_ok1 (G := G) H (k + 1)).cv e]
  cases hc : e.conc with
  | some c => exact ⟨rfl, h⟩
  | none =>
    exact (sL7_opt_spec H (solStage_ok3 (G := G) H k) isMax e he hc extra signed wf).outcome h fun _ _ h => h.1

theorem sol_solution_top (k : Nat) (e : Exp) (he : RE e) (v : Nat) (hv : v < 2 ^ e.bits) (extra : List Con)
    (wf : ∀ c ∈ extra, ConWf c) (s : St) (h : SI R RE E G U s) :
    Outcome (fun b => match e.conc with
                      | some c => b = (c == v)
                      | none => (b = true ↔ Feasible (U ++ extra) e v))
      (ErrOk E (U ++ extra)) (SI R RE E G U) ((solStage E (k + 2)).solution e v extra) s := by
  rw [show solStage E (k + 2) = sL9 E (solStage E (k + 1)) from solStage_eq E (k + 1)]
  show Outcome _ _ _ (match (solStage E (k + 1)).concreteValue e with
    | some ce => pure (ce == v) | none => (sL7 E (solStage E (k + 1))).solution e v extra) s
  rw [(solStage_ok1 (G := G) H (k + 1)).cv e]
  cases hc : e.conc with
  | some c => exact ⟨rfl, h⟩
  | none =>
    exact (sL7_solution_spec H (solStage_ok3 (G := G) H k).toOk2 e he v hv extra wf).outcome h fun _ _ h => h

theorem sol_truth_top (k : Nat) (isTrue : Bool) (c : Con) (hc : ConWf c) (extra : List Con) (wf : ∀ c ∈ extra, ConWf c)
    (s : St) (h : SI R RE E G U s) :
    Outcome (fun b => b = true → ∀ a, Models (U ++ extra) a → c.sem a = isTrue) (ErrOk E (U ++ extra)) (SI R RE E G U)
      (if isTrue then (solStage E (k + 1)).isTrue c extra else (solStage E (k + 1)).isFalse c extra) s := by
  -- no caching mixin overrides these two methods: the program is that of the cacheless classes
  have hrun : (if isTrue then (solStage E (k + 1)).isTrue c extra else (solStage E (k + 1)).isFalse c extra) =
      clTruth E (solStage E k) isTrue c extra := by rw [solStage_eq]; cases isTrue <;> rfl
  rw [hrun]
  exact (truth_q H.cheap (fullClass_si H.reg H.zid) (Keep.refl U) (solStage_ok1 (G := G) H k).cc isTrue c hc extra
    wf).outcome h fun _ _ hb => hb

end

end Claripy.Solver

namespace Claripy.Solver

variable {R : Con → Prop} {RE : Exp → Prop} {E : Env} {G : St → Prop} {U : List Con}

section
variable (H : SolverHyps R RE E)
include H

theorem sL7_batchEval_spec {self : Ops} (hs : Ok1 R RE E G self) (asts : List Exp) (hre : ∀ e ∈ asts, RE e) (n : Nat)
    (hn : 1 ≤ n) (extra : List Con) (wf : ∀ c ∈ extra, ConWf c) :
    SQ R RE E G U (BatchGood RE E (U ++ extra) asts n) (ErrOk E (U ++ extra)) ((sL7 E self).batchEval asts n extra) := by
  refine filter_spec_query (body := fun ec => (sL6 E self).batchEval asts n ec) hs.cc extra wf
    (Keep.refl U) batchGood_congr fun ec _ => ?_
  refine satCacheQuery_spec (extra := ec) batchGood_sat ?_
  exact mc_batchEval_spec (sup := sL2 E self) H.pick H.expReg asts hre n hn ec
    fun n' extra' hn' => sL2_batchEval_spec H hs asts n' hn' extra'

theorem sol_batchEval_top (k : Nat) (es : List Exp) (hre : ∀ e ∈ es, e.conc = none → RE e)
    (hco : ∀ e ∈ es, ∀ c, e.conc = some c → ∀ a, e.val a = c) (n : Nat) (hn : 1 ≤ n) (extra : List Con)
    (wf : ∀ c ∈ extra, ConWf c) (s : St) (h : SI R RE E G U s) :
    Outcome (fun ts => Judge U (.batchEval es n extra) (.tuples ts)) (ErrOk E (U ++ extra)) (SI R RE E G U)
      ((solStage E (k + 1)).batchEval es n extra) s := by
  have hcv := (solStage_ok1 (G := G) H k).cv
  -- ConcreteHandlerMixin.batch_eval: the concrete expressions are taken out, their values put back in
  have hrun : (solStage E (k + 1)).batchEval es n extra = (do
      if (symbolicOf es).isEmpty then pure [(es.map (·.conc)).map (·.getD 0)]
      else do
        let rs ← (sL7 E (solStage E k)).batchEval (symbolicOf es) n extra
        pure (rs.map (mergeConc (es.map (·.conc)))) : M (List (List Nat))) := by
    have hconc : es.map (solStage E k).concreteValue = es.map (·.conc) := List.map_congr_left fun e _ => hcv e
    rw [solStage_eq]
    simp only [sL9, concreteHandlerLayer, hconc, symbolic_eq]
    rfl
  rw [hrun]
  have hall : (symbolicOf es).isEmpty = true ↔ es.all (·.conc.isSome) = true := by
    simp only [symbolicOf, List.isEmpty_iff, List.filter_eq_nil_iff, List.all_eq_true]
    constructor
    · intro h e he; have := h e he; cases hc : e.conc <;> simp_all
    · intro h e he; have := h e he; cases hc : e.conc <;> simp_all
  unfold Outcome
  rw [M.wp_ite]
  split
  · next hemp =>
    refine ⟨?_, h⟩
    show if es.all (·.conc.isSome) then [(es.map (·.conc)).map (·.getD 0)] = [es.map fun e => e.conc.getD 0] else _
    rw [hall.mp hemp, if_pos rfl, List.map_map]
    rfl
  · next hemp =>
    have hnall : ¬ es.all (·.conc.isSome) = true := fun hh => hemp (hall.mpr hh)
    have hsym : ∀ e ∈ symbolicOf es, RE e := by
      intro e he
      obtain ⟨h1, h2⟩ := List.mem_filter.mp he
      exact hre e h1 (by simpa using h2)
    rw [M.wp_bind]
    refine ((sL7_batchEval_spec H (solStage_ok1 (G := G) H k) (symbolicOf es) hsym n hn extra wf).outcome h
      fun _ _ h => h.1).imp
      (fun rs _ ⟨hok, hsi⟩ => ⟨?_, hsi⟩) fun _ _ h => h
    show if es.all (·.conc.isSome) then _ else TuplesOk (U ++ extra) es n (rs.map (mergeConc (es.map (·.conc))))
    rw [if_neg hnall]
    exact tuplesOk_merge (U ++ extra) es n rs hco hok

end

end Claripy.Solver

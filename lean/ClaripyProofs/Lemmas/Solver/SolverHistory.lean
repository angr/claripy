import ClaripyProofs.Lemmas.Solver.SolverTop
/-!
The caching class `Solver`, whole histories over a TREE of branched solvers (tracking or not, `reuse_z3_solver` off): any
sequence of add / satisfiable / eval / batch_eval / min / max / solution / is_true / is_false / simplify / downsize / branch /
pickle round trip on any of the solvers alive (`InScopeS`).  Every answer the MODEL gives — the complete mixin stack composed from the generated MRO (ConcreteHandler,
EagerResolution, ConstraintFilter, ConstraintDeduplicator, SimplifySkipper, SatCache, ModelCache, ConstraintExpansion,
SimplifyHelper, FullFrontend, ConstrainedFrontend) with all its caches — is one `Judge` allows for the constraints the user
has added to THAT solver, or an honest give-up.
-/
namespace Claripy.Solver

variable {R : Con → Prop} {RE : Exp → Prop} {E : Env} {U : List Con}

theorem SI.heap {G : St → Prop} {s s' : St} (h : SI R RE E G U s)
    (hcons : s'.fe.constraints = s.fe.constraints) (htoadd : s'.fe.toAdd = s.fe.toAdd) (hsol : s'.fe.solver = s.fe.solver)
    (htrack : s'.fe.track = s.fe.track) (hhash : s'.fe.hashes = s.fe.hashes) (hwo : s'.fe.woAnnot = s.fe.woAnnot)
    (hvar : s'.fe.variables = s.fe.variables) (hmc : mcFields s'.fe = mcFields s.fe) (hcs : s'.fe.cachedSat = s.fe.cachedSat)
    (hre : s'.reuse = s.reuse)
    (hobj : ∀ r, s.fe.solver = some r → r < s'.objs.length ∧ (objAt s' r).frames = (objAt s r).frames) :
    SI R RE E (fun _ => True) U s' := by
  exact ⟨h.base.heap hcons htoadd hsol htrack hhash hwo hvar hre hobj ⟨s', trivial, WStep.refl s'⟩,
    h.mc.of_fields hmc, by rw [SCInv, hcs]; exact h.sc⟩

theorem SI.unmark {s s' : St} (h : SI R RE E (· = s) U s') : SI R RE E (fun _ => True) U s' ∧ WStep s s' := by
  obtain ⟨s0, rfl, hw⟩ := h.base.ghost
  exact ⟨⟨⟨h.base.core, h.base.equiv, h.base.dinv, h.base.vars, ⟨s', trivial, WStep.refl s'⟩, h.base.areg⟩, h.mc, h.sc⟩, hw⟩

theorem SI.mark {s : St} (h : SI R RE E (fun _ => True) U s) : SI R RE E (· = s) U s :=
  ⟨⟨h.base.core, h.base.equiv, h.base.dinv, h.base.vars, ⟨s, rfl, WStep.refl s⟩, h.base.areg⟩, h.mc, h.sc⟩

/-- the part of the record `SI` reads -/
def solView (fe : Frontend) :=
  (fe.constraints, fe.toAdd, fe.solver, fe.track, fe.hashes, fe.woAnnot, fe.variables, mcFields fe, fe.cachedSat)

theorem si_heapLocal (R : Con → Prop) (RE : Exp → Prop) (E : Env) : HeapLocal (SI R RE E (fun _ => True)) solView where
  solver h := by simp only [solView, Prod.mk.injEq] at h; exact h.2.2.1
  lt h hr := (h.base.core.obj _ hr).1
  heap h hv hre hobj := by
    simp only [solView, Prod.mk.injEq] at hv
    obtain ⟨h1, h2, h3, h4, h5, h6, h7, h8, h9⟩ := hv
    exact h.heap h1 h2 h3 h4 h5 h6 h7 h8 h9 hre hobj

/-- `WInv (SI R RE E fun _ => True)` spelled out (`TInvS.toW`, `WInv.toS`) -/
structure TInvS (R : Con → Prop) (RE : Exp → Prop) (E : Env) (Us : List (List Con)) (w : World) : Prop where
  len : Us.length = w.fes.length
  each : ∀ i, i < w.fes.length → SI R RE E (fun _ => True) (Us.getD i []) (stOfI w i)
  share : ∀ i j r, i < w.fes.length → j < w.fes.length → i ≠ j →
    (w.fes.getD i {}).solver = some r → (w.fes.getD j {}).solver = some r → (w.fes.getD i {}).finalized = true

theorem TInvS.toW {Us : List (List Con)} {w : World} (h : TInvS R RE E Us w) : WInv (SI R RE E (fun _ => True)) Us w :=
  ⟨h.len, h.each, h.share⟩

theorem WInv.toS {Us : List (List Con)} {w : World} (h : WInv (SI R RE E (fun _ => True)) Us w) : TInvS R RE E Us w :=
  ⟨h.len, h.each, h.share⟩

theorem TInvS.solver_lt {Us : List (List Con)} {w : World} (hw : TInvS R RE E Us w) {j r : Nat}
    (hj : j < w.fes.length) (hr : (w.fes.getD j {}).solver = some r) : r < w.objs.length :=
  ((hw.each j hj).base.core.obj r hr).1

theorem tinvS_step {Us : List (List Con)} {w : World} (hw : TInvS R RE E Us w) {i : Nat} (hi : i < w.fes.length)
    {s' : St} {U' : List Con} (hws : WStep (stOfI w i) s') (hf : SI R RE E (fun _ => True) U' s') :
    TInvS R RE E (Us.set i U') (wOfI w i s') := (winv_step (si_heapLocal R RE E) hw.toW hi hws hf).toS

theorem tinvS_step_same {Us : List (List Con)} {w : World} (hw : TInvS R RE E Us w) {i : Nat} (hi : i < w.fes.length)
    {s' : St} (hws : WStep (stOfI w i) s') (hf : SI R RE E (fun _ => True) (Us.getD i []) s') :
    TInvS R RE E Us (wOfI w i s') := (winv_step_same (si_heapLocal R RE E) hw.toW hi hws hf).toS

/-- the copy made by `branch` joins the world: it refers to the same Z3 object as its (finalized) parent and carries the
parent's caches -/
theorem tinvS_append {Us : List (List Con)} {w : World} (hw : TInvS R RE E Us w) {i : Nat} (hi : i < w.fes.length)
    (hfin : (w.fes.getD i {}).finalized = true) (c : Frontend) (hview : solView c = solView (w.fes.getD i {}))
    (hcfin : c.finalized = true) : TInvS R RE E (Us ++ [Us.getD i []]) { w with fes := w.fes ++ [c] } :=
  (winv_append (si_heapLocal R RE E) hw.toW hi hfin c hview hcfin).toS

theorem tinvS_init (R : Con → Prop) (RE : Exp → Prop) (E : Env) (track : Bool) :
    TInvS R RE E [[]] (World.init track false) := by
  refine ⟨rfl, fun i hi => ?_, fun i j r hi hj hij => ?_⟩
  · obtain rfl : i = 0 := Nat.lt_one_iff.mp hi
    exact ⟨⟨⟨fun _ _ => rfl, fun r hr => (nomatch hr), rfl⟩, fun _ => rfl,
      ⟨fun c hc => (nomatch hc), fun c _ hi => (nomatch hi)⟩,
      fun c hc => (nomatch hc), ⟨_, trivial, WStep.refl _⟩,
      fun _ r hr => (nomatch hr)⟩,
      mcInv_init RE E _ _ rfl rfl rfl rfl rfl rfl, ⟨fun hc => (nomatch hc), fun hc => (nomatch hc)⟩⟩
  · exact absurd (Nat.lt_one_iff.mp hi ▸ Nat.lt_one_iff.mp hj ▸ rfl) hij
/-- the public `add` of a class whose `_add` keeps the invariant: it never raises (no layer consults the backend while
adding), and the world keeps its invariant -/
theorem tinvS_add {Us : List (List Con)} {w : World} (hw : TInvS R RE E Us w) {i : Nat} (hi : i < w.fes.length) {o : Ops}
    (hadd : AddSpec R RE E (· = stOfI w i) o.add) (cs : List Con) (hcs : ∀ c ∈ cs, R c) :
    (∃ ids, (outOf (fun added => Out.cons (added.map (·.id))) (runOn w i (publicAdd o cs))).1 = .cons ids) ∧
    TInvS R RE E (Us.set i (Us.getD i [] ++ cs))
      (outOf (fun added => Out.cons (added.map (·.id))) (runOn w i (publicAdd o cs))).2 := by
  have h0 := (hw.each i hi).mark
  obtain ⟨added, s', hrun, hsi⟩ : ∃ added s', publicAdd o cs true (stOfI w i) = (.ok added, s') ∧
      SI R RE E (· = stOfI w i) (Us.getD i [] ++ cs) s' := by
    unfold publicAdd
    split
    · rename_i hemp
      rw [List.isEmpty_iff.mp hemp, List.append_nil]
      exact ⟨[], _, rfl, h0⟩
    · obtain ⟨added, s', hrun, hsi, _, _⟩ := hadd (Us.getD i []) (stOfI w i) cs true h0 hcs (fun hf => by cases hf)
      exact ⟨added, s', hrun, hsi⟩
  rw [runOn_eq, hrun]
  obtain ⟨h1, hq⟩ := hsi.unmark
  exact ⟨⟨_, rfl⟩, tinvS_step hw hi hq h1⟩

end Claripy.Solver

namespace Claripy.Solver

variable {R : Con → Prop} {RE : Exp → Prop} {E : Env}

/-- the calls the theorem covers and what is assumed of their arguments: added constraints come from the registry `R`,
queried expressions from the registry `RE`, extra constraints are well formed, `eval` asks for at least one value,
`solution` gets a value in range -/
def InScopeS (R : Con → Prop) (RE : Exp → Prop) : Op → Prop
  | .add cs => ∀ c ∈ cs, R c
  | .satisfiable ex => ∀ c ∈ ex, ConWf c
  | .eval e n ex => RE e ∧ 1 ≤ n ∧ ∀ c ∈ ex, ConWf c
  | .batchEval es n ex => (∀ e ∈ es, (e.conc = none → RE e) ∧ ∀ c, e.conc = some c → ∀ a, e.val a = c) ∧ 1 ≤ n ∧
      ∀ c ∈ ex, ConWf c
  | .min e ex _ | .max e ex _ => RE e ∧ ∀ c ∈ ex, ConWf c
  | .solution e v ex => RE e ∧ v < 2 ^ e.bits ∧ ∀ c ∈ ex, ConWf c
  | .isTrue c ex | .isFalse c ex => ConWf c ∧ ∀ c ∈ ex, ConWf c
  | .simplify | .downsize | .branch | .pickle => True
  | _ => False

theorem mem_foldl_ids (cs : List Con) (acc : List Nat) (i : Nat) :
    i ∈ cs.foldl (fun acc c => listInsert acc c.id) acc ↔ i ∈ acc ∨ ∃ c ∈ cs, c.id = i := by
  rw [← List.foldl_map (f := Con.id) (g := listInsert) (l := cs) (init := acc), mem_foldl_listInsert, List.mem_map]

/-- `pickle.loads(pickle.dumps(solver))` keeps `SI = BInv ∧ MCInv ∧ SCInv`: the Z3 object is dropped, the model cache starts
empty, `constraints_wo_annotations` is rebuilt from the constraints, the rest survives (`__getstate__` / `__setstate__` layer
by layer; SolverCompositeChild restores the same record) -/
theorem si_pickle {G : St → Prop} {U : List Con} (hR : Reg R E) {s : St} (h : SI R RE E G U s) :
    SI R RE E G U { s with fe := pickleRestore (Claripy.Gen.SolverMro.mro .Solver) s.fe } := by
  refine ⟨⟨⟨fun _ _ => rfl, fun r hr => (nomatch hr), h.base.core.noReuse⟩, h.base.equiv, ⟨h.base.dinv.consR, ?_⟩, h.base.vars,
    ?_, fun _ r hr => (nomatch hr)⟩, mcInv_init RE E U _ rfl rfl rfl rfl rfl rfl, h.sc⟩
  · intro x hx hi a ha
    have hi' : x.id ∈ s.fe.hashes ∨ x.id ∈ s.fe.constraints.foldl (fun acc c => listInsert acc c.id) [] := hi
    rcases hi' with hi' | hi'
    · exact h.base.dinv.seen x hx (Or.inl hi') a ha
    · rcases (mem_foldl_ids _ _ _).mp hi' with hi' | ⟨x', hx', hid⟩
      · simp at hi'
      · rw [hR.faithful x x' hx (h.base.dinv.consR x' hx') hid.symm a]
        have : holdsAll s.fe.constraints a = true := by rw [h.base.equiv a]; exact ha
        exact (models_iff_holdsAll _ a).mpr this x' hx'
  · obtain ⟨s0, hg, hw⟩ := h.base.ghost
    exact ⟨s0, hg, hw.trans ⟨Nat.le_refl _, Or.inr (Or.inl rfl), fun _ _ _ => rfl, rfl, fun hf => hf⟩⟩

theorem tinvS_pickle {Us : List (List Con)} {w : World} (hw : TInvS R RE E Us w) {i : Nat} (hi : i < w.fes.length)
    {pmro : List LayerName}
    (hsi : SI R RE E (· = stOfI w i) (Us.getD i []) { stOfI w i with fe := pickleRestore pmro (w.fes.getD i {}) }) :
    TInvS R RE E Us { w with fes := w.fes.set i (pickleRestore pmro (w.fes.getD i {})) } := by
  obtain ⟨h1, hq⟩ := hsi.unmark
  exact tinvS_step_same hw hi hq h1

def HistOkS (R : Con → Prop) (RE : Exp → Prop) : Nat → List (Nat × Op) → Prop
  | _, [] => True
  | n, (i, op) :: rest => i < n ∧ InScopeS R RE op ∧ HistOkS R RE (match op with | .branch => n + 1 | _ => n) rest

/-- `branch` on solver `i`: a new solver with index = the number of solvers so far, inheriting the constraint list AND the
caches of its parent -/
theorem sol_step_branch (w : World) (Us : List (List Con)) (hw : TInvS R RE E Us w) (i : Nat) (hi : i < w.fes.length) :
    (step E .Solver w i .branch).1 = .newSolver w.fes.length ∧
    TInvS R RE E (Us ++ [Us.getD i []]) (step E .Solver w i .branch).2 := by
  obtain ⟨h1, h2⟩ := winv_branch (si_heapLocal R RE E) (E := E) (cls := .Solver) (fun _ => rfl)
    (fun _ => ⟨_, rfl, rfl, rfl⟩) hw.toW hi
  exact ⟨h1, h2.toS⟩

section
variable (H : SolverHyps R RE E)
include H

theorem sol_callOk : CallOk E .Solver (SI R RE E fun _ => True) (InScopeS R RE) := by
  intro U s op hop hc h0
  replace h0 := h0.mark
  have hcls : classOps E .Solver = solStage E 4 := rfl
  rw [hcls]
  cases op with
  | satisfiable extra =>
    exact ((sol_satisfiable_top H 3 extra hop).outcome h0 fun _ _ h => h).call (fun _ h => h) (fun e h => Or.inr ⟨e, rfl, h⟩) fun _ => SI.unmark
  | eval e n extra =>
    exact (sol_eval_top H 3 e hop.1 n hop.2.1 extra hop.2.2 _ h0).query id fun _ => SI.unmark
  | batchEval es n extra =>
    exact (sol_batchEval_top H 3 es (fun e he => (hop.1 e he).1) (fun e he => (hop.1 e he).2) n hop.2.1 extra hop.2.2 _ h0).query id
      fun _ => SI.unmark
  | min e extra signed =>
    exact (sol_opt_top H 2 false e hop.1 extra signed hop.2 _ h0).query id fun _ => SI.unmark
  | max e extra signed =>
    exact (sol_opt_top H 2 true e hop.1 extra signed hop.2 _ h0).query id fun _ => SI.unmark
  | solution e v extra =>
    exact (sol_solution_top H 2 e hop.1 v hop.2.1 extra hop.2.2 _ h0).query id fun _ => SI.unmark
  | isTrue c extra =>
    exact (sol_truth_top H 3 true c hop.1 extra hop.2 _ h0).query id fun _ => SI.unmark
  | isFalse c extra =>
    exact (sol_truth_top H 3 false c hop.1 extra hop.2 _ h0).query id fun _ => SI.unmark
  | unsatCore extra => exact hop.elim
  | simplify =>
    obtain ⟨out, s', hrun, hsi, _⟩ := (solStage_ok1 H 4).simp U s h0
    exact wp_call_ok hrun ⟨trivial, hsi.unmark⟩
  | downsize => exact wp_call_ok (m := (solStage E 4).downsize) (b := ()) rfl ⟨trivial, (solDownsize_spec s h0).1.unmark⟩
  | add cs => cases hc
  | branch => cases hc
  | pickle => cases hc

theorem sol_step (w : World) (Us : List (List Con)) (hw : TInvS R RE E Us w) (i : Nat) (hi : i < w.fes.length)
    (op : Op) (hop : InScopeS R RE op) :
    JudgeOrGiveUp E (usersAfter (Us.getD i []) op) op (step E .Solver w i op).1 ∧
    TInvS R RE E (usersAll Us i op) (step E .Solver w i op).2 := by
  cases op with
  | add cs =>
    obtain ⟨⟨ids, hids⟩, hw'⟩ := tinvS_add hw hi (solStage_ok3 H 3).add cs hop
    exact ⟨Or.inl (by rw [show (step E .Solver w i (.add cs)).1 = .cons ids from hids]; trivial), hw'⟩
  | branch =>
    obtain ⟨h1, h2⟩ := sol_step_branch (E := E) w Us hw i hi
    exact ⟨Or.inl (by rw [h1]; trivial), h2⟩
  | pickle => exact ⟨Or.inl trivial, tinvS_pickle hw hi (si_pickle H.reg (hw.each i hi).mark)⟩
  | _ => exact (winv_call (si_heapLocal R RE E) (sol_callOk H) hw.toW hi _ hop rfl).imp id WInv.toS

theorem sol_hist_giveup (hist : List (Nat × Op)) (w : World) (Us : List (List Con)) (hw : TInvS R RE E Us w)
    (hok : HistOkS R RE w.fes.length hist) : ∀ x ∈ runHist E .Solver w Us hist, JudgeOrGiveUp E x.1 x.2.1 x.2.2 :=
  hist_of_step (W := TInvS R RE E) (Sc := InScopeS R RE) (Ok := HistOkS R RE) (fun h => h.len) (fun h => h) (sol_step H)
    hist w Us hw hok

end

end Claripy.Solver

/-! The invariant `TInvS` holds in every world a history in scope reaches (whatever the backend did on the way — answers,
`UnsatError`s, give-ups), histories compose, and a call on one solver leaves the constraint list every OTHER solver is judged
by alone.  These are the shapes C14 (isolation), C17 (after a give-up) and C18 (after a pickle round trip) are stated in. -/
namespace Claripy.Solver

variable {R : Con → Prop} {RE : Exp → Prop} {E : Env}

def worldAfter (E : Env) (cls : SolverClass) : World → List (Nat × Op) → World
  | w, [] => w
  | w, (i, op) :: rest => worldAfter E cls (step E cls w i op).2 rest

def usersAfterHist : List (List Con) → List (Nat × Op) → List (List Con)
  | Us, [] => Us
  | Us, (i, op) :: rest => usersAfterHist (usersAll Us i op) rest

theorem runHist_append (E : Env) (cls : SolverClass) (h1 h2 : List (Nat × Op)) : ∀ (w : World) (Us : List (List Con)),
    runHist E cls w Us (h1 ++ h2) =
      runHist E cls w Us h1 ++ runHist E cls (worldAfter E cls w h1) (usersAfterHist Us h1) h2 := by
  induction h1 with
  | nil => intro w Us; rfl
  | cons io rest ih =>
    obtain ⟨i, op⟩ := io
    intro w Us
    rw [List.cons_append, runHist_cons', runHist_cons', ih]
    rfl

theorem usersAll_other (Us : List (List Con)) (i : Nat) (op : Op) (j : Nat) (hj : j ≠ i) (hlt : j < Us.length) :
    (usersAll Us i op).getD j [] = Us.getD j [] := by
  cases op <;> simp only [usersAll]
  case add cs => exact getD_set_ne _ _ _ _ _ (Ne.symm hj)
  case branch => exact getD_append_left' _ _ _ _ hlt

def nAfter (n : Nat) : Op → Nat
  | .branch => n + 1
  | _ => n

def lenAfter (n : Nat) (hist : List (Nat × Op)) : Nat := hist.foldl (fun n io => nAfter n io.2) n

theorem histOkS_cons {n i : Nat} {op : Op} {rest : List (Nat × Op)} :
    HistOkS R RE n ((i, op) :: rest) ↔ i < n ∧ InScopeS R RE op ∧ HistOkS R RE (nAfter n op) rest := by
  cases op <;> rfl

theorem histOkS_append {n : Nat} {h1 h2 : List (Nat × Op)} :
    HistOkS R RE n (h1 ++ h2) ↔ HistOkS R RE n h1 ∧ HistOkS R RE (lenAfter n h1) h2 := by
  induction h1 generalizing n with
  | nil => simp [HistOkS, lenAfter]
  | cons io rest ih =>
    obtain ⟨i, op⟩ := io
    simp only [List.cons_append, histOkS_cons, lenAfter, List.foldl_cons, and_assoc]
    rw [ih]
    rfl

section
variable (H : SolverHyps R RE E)
include H

theorem sol_step_length (w : World) (Us : List (List Con)) (hw : TInvS R RE E Us w) (i : Nat) (hi : i < w.fes.length)
    (op : Op) (hop : InScopeS R RE op) :
    (step E .Solver w i op).2.fes.length = nAfter w.fes.length op := by
  have hl := (sol_step H w Us hw i hi op hop).2.len
  rw [usersAll_length, hw.len] at hl
  rw [← hl]
  cases op <;> rfl

/-- `add` never raises (no layer of the class consults the backend while adding) -/
theorem sol_step_add_out (w : World) (Us : List (List Con)) (hw : TInvS R RE E Us w) (i : Nat) (hi : i < w.fes.length)
    (cs : List Con) (hop : InScopeS R RE (.add cs)) : ∃ ids, (step E .Solver w i (.add cs)).1 = .cons ids :=
  (tinvS_add hw hi (solStage_ok3 H 3).add cs hop).1

/-- a call that ends in an error leaves every user's constraint list as it was: only `add` and `branch` change them, and
they never raise -/
theorem sol_error_users (w : World) (Us : List (List Con)) (hw : TInvS R RE E Us w) (i : Nat) (hi : i < w.fes.length)
    (op : Op) (hop : InScopeS R RE op) (err : Err) (he : (step E .Solver w i op).1 = .err err) :
    usersAll Us i op = Us ∧ nAfter w.fes.length op = w.fes.length := by
  cases op
  case add cs =>
    obtain ⟨ids, hids⟩ := sol_step_add_out H w Us hw i hi cs hop
    rw [hids] at he; cases he
  case branch =>
    rw [(sol_step_branch (E := E) w Us hw i hi).1] at he; cases he
  all_goals exact ⟨rfl, rfl⟩

theorem sol_reach (hist : List (Nat × Op)) : ∀ (w : World) (Us : List (List Con)), TInvS R RE E Us w →
    HistOkS R RE w.fes.length hist →
    TInvS R RE E (usersAfterHist Us hist) (worldAfter E .Solver w hist) ∧
    (worldAfter E .Solver w hist).fes.length = lenAfter w.fes.length hist := by
  induction hist with
  | nil => intro w Us hw _; exact ⟨hw, rfl⟩
  | cons io rest ih =>
    obtain ⟨i, op⟩ := io
    intro w Us hw hok
    obtain ⟨hi, hop, hrest⟩ := histOkS_cons.mp hok
    have hl := sol_step_length H w Us hw i hi op hop
    have := ih _ _ (sol_step H w Us hw i hi op hop).2 (by rw [hl]; exact hrest)
    refine ⟨this.1, ?_⟩
    show (worldAfter E .Solver (step E .Solver w i op).2 rest).fes.length = _
    rw [this.2, hl]
    rfl

end

end Claripy.Solver

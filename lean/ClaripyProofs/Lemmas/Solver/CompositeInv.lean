import Claripy.Solver.Composite
import ClaripyProofs.Lemmas.Solver.CompositeWp
import ClaripyProofs.Lemmas.Solver.SolverChildHistory
import ClaripyProofs.Lemmas.Solver.SplitAlist
/-!
What SolverComposite's bookkeeping needs of its children, on top of the invariant `TInvS` (SolverHistory.lean) that every call on a child keeps (`ch_step`, SolverChildHistory.lean): the copy-on-write
`_claim` (`claim_run`), a blank copy of the template, and the properties of a child's record it relies on besides (`KeysInv`,
`ExactVars`, `IdsInv`, `TrivMarks`).  The invariant `CInv`: the children that `_solvers` points to hold variable-disjoint constraint
sets whose conjunction is what the user added; it reads of those children only their variables and the meaning of their constraint
lists, and ONE lemma, `cinv_repartition`, re-establishes it when children are replaced by others.  At the end the statements
`ChildFoot` (proved in CompositeFoot.lean) and `Merged`, `CombineSpec` (proved in CompositeCombine.lean).
-/
namespace Claripy.Solver

variable {R : Con → Prop} {RE : Exp → Prop} {E : Env}

section
open Claripy.Gen.SolverMro

/-- the cached models of a frontend mention variables of that frontend only (`_model_hook` restricts the Z3 model to
`self.variables`; the trivial model is about the variable of the constraint), and they are dicts: one entry per variable
(`PModel.Sorted`; the models come from `_generic_model` through `_model_hook`, from the trivial-constraint shortcut, from
`ModelCache.combine`, or are restrictions / selections of cached ones) -/
def KeysInv (fe : Frontend) : Prop := ∀ m ∈ fe.models, (∀ kv ∈ m, kv.1 ∈ fe.variables) ∧ m.Sorted

/-- every known variable occurs in a constraint (true as long as nothing was simplified away) -/
def ExactVars (fe : Frontend) : Prop := ∀ v ∈ fe.variables, ∃ c ∈ fe.constraints, v ∈ c.vars

/-- the ids the deduplication has recorded are ids of held constraints (true of a blank copy, kept by `add`) -/
def IdsInv (fe : Frontend) : Prop := ∀ i, (i ∈ fe.hashes ∨ i ∈ fe.woAnnot) → ∃ c ∈ fe.constraints, c.id = i

def Marked (fe : Frontend) (i : Nat) : Prop :=
  i ∈ fe.evalExh ∨ i ∈ fe.maxExh ∨ i ∈ fe.minExh ∨ i ∈ fe.maxSExh ∨ i ∈ fe.minSExh

def NoMarks (fe : Frontend) : Prop :=
  fe.evalExh = [] ∧ fe.maxExh = [] ∧ fe.minExh = [] ∧ fe.maxSExh = [] ∧ fe.minSExh = []

/-- every marker is the one `_trivial_model_optimization` sets for the sole constraint of the record -/
def TrivMarks (fe : Frontend) : Prop := ∀ i, Marked fe i → ∃ c v x, fe.constraints = [c] ∧ c.triv = some (v, x, i)

theorem NoMarks.not_marked {fe : Frontend} (h : NoMarks fe) (i : Nat) : ¬ Marked fe i := by
  obtain ⟨h1, h2, h3, h4, h5⟩ := h
  unfold Marked
  rw [h1, h2, h3, h4, h5]
  simp

theorem NoMarks.trivMarks {fe : Frontend} (h : NoMarks fe) : TrivMarks fe := fun i hi => absurd hi (h.not_marked i)

theorem childOps_eq (E : Env) : childOps E = chStage E 4 := rfl

theorem childBlank_eq (E : Env) (self : Frontend) : childBlank E self = { track := self.track } := by
  rw [childBlank, childOps_eq, chStage_eq]
  rfl

theorem runOn_getD_ne {α : Type} (w : World) (i : Nat) (m : M α) (j : Nat) (hj : j ≠ i) :
    (runOn w i m).2.fes.getD j {} = w.fes.getD j {} := by
  simp only [runOn]; exact getD_set_ne _ _ _ _ _ (Ne.symm hj)

theorem runOn_getD_self {α : Type} (w : World) (i : Nat) (m : M α) (hi : i < w.fes.length) :
    (runOn w i m).2.fes.getD i {} = (m (stOfI w i)).2.fe := by
  simp only [runOn]; exact getD_set_self _ _ _ _ hi

theorem set_cv (l : List Frontend) (i : Nat) (fe : Frontend)
    (hfe : fe.constraints = (l.getD i {}).constraints ∧ fe.variables = (l.getD i {}).variables) (k : Nat) :
    ((l.set i fe).getD k {}).constraints = (l.getD k {}).constraints ∧ ((l.set i fe).getD k {}).variables = (l.getD k {}).variables := by
  by_cases hk : i = k
  · subst hk
    by_cases hl : i < l.length
    · rw [getD_set_self _ _ _ _ hl]; exact hfe
    · rw [List.set_eq_of_length_le (Nat.le_of_not_lt hl)]; exact ⟨rfl, rfl⟩
  · rw [getD_set_ne _ _ _ _ _ hk]; exact ⟨rfl, rfl⟩

def FinRel (fe fe' : Frontend) : Prop := { fe' with finalized := true } = { fe with finalized := true }

theorem FinRel.cons {fe fe' : Frontend} (h : FinRel fe fe') : fe'.constraints = fe.constraints := congrArg (·.constraints) h
theorem FinRel.vars {fe fe' : Frontend} (h : FinRel fe fe') : fe'.variables = fe.variables := congrArg (·.variables) h
theorem FinRel.models {fe fe' : Frontend} (h : FinRel fe fe') : fe'.models = fe.models := congrArg (·.models) h

/-- what a copy made by `branch()` shares with the original, as far as the bookkeeping looks -/
structure CopyOf (fe fe' : Frontend) : Prop where
  cons : fe'.constraints = fe.constraints
  vars : fe'.variables = fe.variables
  models : fe'.models = fe.models
  hashes : fe'.hashes = fe.hashes
  woAnnot : fe'.woAnnot = fe.woAnnot

theorem CopyOf.refl (fe : Frontend) : CopyOf fe fe := ⟨rfl, rfl, rfl, rfl, rfl⟩

theorem claim_run (s : CSt) (j : Nat) :
    (claim E j).wp
      (fun k s' =>
        ((k = j ∧ j ∈ s.c.owned ∧ s' = s) ∨
         (k = s.w.fes.length ∧ j ∉ s.c.owned ∧ s'.c = { s.c with owned := listInsert s.c.owned k } ∧
          step E .SolverCompositeChild s.w j .branch = (.newSolver s.w.fes.length, s'.w) ∧
          s'.w.fes.length = s.w.fes.length + 1)) ∧
        (∀ i, i < s.w.fes.length → FinRel (s.child i) (s'.child i) ∧ (i ≠ j → s'.child i = s.child i)) ∧
        CopyOf (s.child j) (s'.child k) ∧ s'.w.reuse = s.w.reuse)
      (fun _ _ => False) s := by
  unfold claim
  rw [CM.wp_bind, CM.wp_get, CM.wp_ite]
  split
  · rename_i ho
    exact ⟨Or.inl ⟨rfl, by simpa using ho, rfl⟩, fun i _ => ⟨rfl, fun _ => rfl⟩, CopyOf.refl _, rfl⟩
  rename_i ho
  obtain ⟨c, hst, hcons, hvars, hmod, hhash, hwo⟩ := ch_branch_eq E s.w j
  have hlen : (s.w.fes.set j { s.w.fes.getD j {} with finalized := true }).length = s.w.fes.length := List.length_set ..
  have hfin : ∀ i, i < s.w.fes.length → FinRel (s.child i)
      ((s.w.fes.set j { s.w.fes.getD j {} with finalized := true } ++ [c]).getD i {}) ∧ (i ≠ j →
      (s.w.fes.set j { s.w.fes.getD j {} with finalized := true } ++ [c]).getD i {} = s.child i) := fun i hi => by
    rw [getD_append_left' _ _ _ _ (by rw [hlen]; exact hi)]
    by_cases hij : i = j
    · subst hij; rw [getD_set_self _ _ _ _ hi]; exact ⟨rfl, fun h => absurd rfl h⟩
    · rw [getD_set_ne _ _ _ _ _ (Ne.symm hij)]; exact ⟨rfl, fun _ => rfl⟩
  have hrun : childBranch E j s = (.ok s.w.fes.length,
      { s with w := { s.w with fes := s.w.fes.set j { s.w.fes.getD j {} with finalized := true } ++ [c] } }) := by
    simp only [childBranch, hst]
  rw [CM.wp_bind, CM.wp_ok hrun, CM.wp_bind, CM.wp_modifyC, CM.wp_pure]
  refine ⟨Or.inr ⟨rfl, by simpa using ho, rfl, hst, by simp⟩, hfin, ?_, rfl⟩
  show CopyOf _ ((_ ++ [c]).getD _ {})
  rw [← hlen, getD_append_last]
  exact ⟨hcons, hvars, hmod, hhash, hwo⟩

theorem si_blank (w : World) (hre : w.reuse = false) (track : Bool) :
    SI R RE E (fun _ => True) []
      { fe := { track := track }, objs := w.objs, reuse := w.reuse, shared := w.shared, tick := w.tick, qlog := w.qlog } := by
  refine ⟨⟨⟨fun _ _ => rfl, fun r hr => ?_, hre⟩, fun _ => rfl, ⟨fun c hc => ?_, fun c _ hi => ?_⟩,
      fun c hc => ?_, ⟨_, trivial, WStep.refl _⟩, fun _ r hr => ?_⟩,
      mcInv_init RE E _ _ rfl rfl rfl rfl rfl rfl, ⟨fun hc => ?_, fun hc => ?_⟩⟩
  · cases hr
  · cases hc
  · rcases hi with hi | hi <;> cases hi
  · cases hc
  · cases hr
  · cases hc
  · cases hc

/-- `template.blank_copy()`, and the start of `combine` / `split` -/
theorem child_blank_spec (w : World) (Us : List (List Con)) (hw : TInvS R RE E Us w) (hre : w.reuse = false) (self : Frontend) :
    TInvS R RE E (Us ++ [[]]) { w with fes := w.fes ++ [childBlank E self] } ∧
    (w.fes ++ [childBlank E self]).getD w.fes.length {} = { track := self.track } ∧ (Us ++ [[]]).getD w.fes.length [] = [] ∧
    ∀ i, i < w.fes.length → (w.fes ++ [childBlank E self]).getD i {} = w.fes.getD i {} ∧ (Us ++ [[]]).getD i [] = Us.getD i [] := by
  rw [childBlank_eq]
  exact ⟨(winv_append_fresh hw.toW _ [] (si_blank w hre self.track) rfl).toS, getD_append_last _ _ _,
    by rw [← hw.len]; exact getD_append_last _ _ _,
    fun i hi => ⟨getD_append_left' _ _ _ _ hi, getD_append_left' _ _ _ _ (by rw [hw.len]; exact hi)⟩⟩

end

theorem reorderFront_spec {α : Type} [BEq α] [LawfulBEq α] (mt : α → List Nat → Bool) (l : List α) :
    ∀ (p : List (List Nat)) (acc : List α), (∀ x ∈ acc, x ∈ l) → acc.Nodup →
      (∀ x ∈ reorderFront mt l p acc, x ∈ l) ∧ (reorderFront mt l p acc).Nodup := by
  intro p
  induction p with
  | nil => intro acc h1 h2; exact ⟨h1, h2⟩
  | cons k ks ih =>
    intro acc h1 h2
    unfold reorderFront
    simp only [List.foldl_cons]
    cases hf : l.find? (fun x => mt x k && !acc.contains x) with
    | none => exact ih acc h1 h2
    | some x =>
      have hx := List.find?_some hf
      have hxl := List.mem_of_find?_eq_some hf
      simp only [Bool.and_eq_true, Bool.not_eq_true', List.contains_eq_mem, decide_eq_false_iff_not] at hx
      refine ih (acc ++ [x]) ?_ ?_
      · intro y hy
        rcases List.mem_append.mp hy with hy | hy
        · exact h1 y hy
        · simp only [List.mem_singleton] at hy; subst hy; exact hxl
      · rw [List.nodup_append]
        refine ⟨h2, by simp, ?_⟩
        intro a ha b hb
        simp only [List.mem_singleton] at hb
        subst hb
        intro e; subst e; exact hx.2 ha

theorem mem_reorderBy {α : Type} [BEq α] [LawfulBEq α] (mt : α → List Nat → Bool) (p : List (List Nat)) (l : List α) (x : α) :
    x ∈ reorderBy mt p l ↔ x ∈ l := by
  obtain ⟨h1, _⟩ := reorderFront_spec mt l p [] (fun _ h => by cases h) List.nodup_nil
  unfold reorderBy
  generalize reorderFront mt l p [] = front at h1
  simp only [List.mem_append, List.mem_filter]
  constructor
  · rintro (h | h)
    · exact h1 x h
    · exact h.1
  · intro hx
    by_cases hf : x ∈ front
    · exact Or.inl hf
    · exact Or.inr ⟨hx, by simpa using hf⟩

theorem nodup_reorderBy {α : Type} [BEq α] [LawfulBEq α] (mt : α → List Nat → Bool) (p : List (List Nat)) (l : List α)
    (hl : l.Nodup) : (reorderBy mt p l).Nodup := by
  obtain ⟨_, h2⟩ := reorderFront_spec mt l p [] (fun _ h => by cases h) List.nodup_nil
  unfold reorderBy
  generalize reorderFront mt l p [] = front at h2
  rw [List.nodup_append]
  refine ⟨h2, hl.sublist List.filter_sublist, ?_⟩
  intro a ha b hb e
  subst e
  have := (List.mem_filter.mp hb).2
  simp only [Bool.not_eq_true', List.contains_eq_mem, decide_eq_false_iff_not] at this
  exact this ha

theorem mem_solverList (c : Comp) (j : Nat) : j ∈ c.solverList ↔ ∃ v, (v, j) ∈ c.solvers := by
  unfold Comp.solverList
  rw [mem_foldl_listInsert]
  simp only [List.not_mem_nil, false_or, List.mem_map]
  constructor
  · rintro ⟨p, hp, rfl⟩; exact ⟨p.1, hp⟩
  · rintro ⟨v, hv⟩; exact ⟨(v, j), hv, rfl⟩

theorem mem_solverList' (c : Comp) (hk : (keys c.solvers).Nodup) (j : Nat) :
    j ∈ c.solverList ↔ ∃ v, alGet? c.solvers v = some j := by
  rw [mem_solverList]
  constructor
  · rintro ⟨v, hv⟩; exact ⟨v, alGet?_of_mem _ hk (v, j) hv⟩
  · rintro ⟨v, hv⟩; exact ⟨v, mem_of_alGet? _ _ _ hv⟩

theorem mem_solversFor_acc (c : Comp) (names : List Var) (acc : List Nat) (j : Nat) :
    j ∈ names.foldl c.solversForStep acc ↔
      j ∈ acc ∨ ∃ n ∈ names, alGet? c.solvers n = some j := by
  induction names generalizing acc with
  | nil => simp
  | cons n ns ih =>
    simp only [List.foldl_cons, ih, List.mem_cons, exists_eq_or_imp, Comp.solversForStep]
    cases hn : alGet? c.solvers n with
    | none => simp
    | some t =>
      simp only [mem_listInsert, Option.some.injEq]
      constructor
      · rintro ((h | rfl) | h)
        · exact Or.inl h
        · exact Or.inr (Or.inl rfl)
        · exact Or.inr (Or.inr h)
      · rintro (h | h | h)
        · exact Or.inl (Or.inl h)
        · exact Or.inl (Or.inr h.symm)
        · exact Or.inr h

theorem mem_solversFor (c : Comp) (names : List Var) (j : Nat) :
    j ∈ c.solversFor names ↔ ∃ n ∈ names, alGet? c.solvers n = some j := by
  unfold Comp.solversFor
  rw [mem_solversFor_acc]
  simp

/-- **the bookkeeping invariant** of a composite whose user has added `U`; `Us j` is the constraint list child `j` answers for -/
structure CInv (R : Con → Prop) (RE : Exp → Prop) (E : Env) (U : List Con) (Us : List (List Con)) (s : CSt) : Prop where
  /-- every child satisfies the invariant of `C11_child_refines` for its own constraints -/
  kids : TInvS R RE E Us s.w
  reuse : s.w.reuse = false
  keysOk : ∀ j, j < s.w.fes.length → KeysInv (s.child j)
  exact : ∀ j, j < s.w.fes.length → ExactVars (s.child j)
  /-- `_solvers` is a dict -/
  nodup : (keys s.c.solvers).Nodup
  map : ∀ v j, alGet? s.c.solvers v = some j → j < s.w.fes.length ∧ v ∈ (s.child j).variables
  /-- a child the dict points to is pointed to by ALL its variables -/
  cover : ∀ v j, alGet? s.c.solvers v = some j → ∀ u ∈ (s.child j).variables, alGet? s.c.solvers u = some j
  sem : s.c.unsat = false → ∀ a, Models U a ↔ ∀ j ∈ s.c.solverList, Models (Us.getD j []) a
  unsatOk : s.c.unsat = true → ¬ Satisfiable U
  checked : ∀ j ∈ s.c.solverList, j ∉ s.c.unchecked → Satisfiable (Us.getD j [])

theorem CInv.owner {U : List Con} {Us : List (List Con)} {s : CSt} (h : CInv R RE E U Us s) {j : Nat}
    (hj : j ∈ s.c.solverList) {v : Var} (hv : v ∈ (s.child j).variables) : alGet? s.c.solvers v = some j := by
  obtain ⟨u, hu⟩ := (mem_solverList' _ h.nodup j).mp hj
  exact h.cover u j hu v hv

theorem CInv.disjoint {U : List Con} {Us : List (List Con)} {s : CSt} (h : CInv R RE E U Us s) {i j : Nat}
    (hi : i ∈ s.c.solverList) (hj : j ∈ s.c.solverList) (hij : i ≠ j) :
    ∀ v ∈ (s.child i).variables, v ∉ (s.child j).variables :=
  fun v hv hv' => hij (Option.some.inj ((h.owner hi hv).symm.trans (h.owner hj hv')))

theorem CInv.lt_of_mem {U : List Con} {Us : List (List Con)} {s : CSt} (h : CInv R RE E U Us s) {j : Nat}
    (hj : j ∈ s.c.solverList) : j < s.w.fes.length := by
  obtain ⟨v, hv⟩ := (mem_solverList' _ h.nodup j).mp hj
  exact (h.map v j hv).1

theorem CInv.mem_of_solversFor {U : List Con} {Us : List (List Con)} {s : CSt} (h : CInv R RE E U Us s) {names : List Var}
    {t : Nat} (ht : t ∈ s.c.solversFor names) : t ∈ s.c.solverList := by
  obtain ⟨n, _, hn⟩ := (mem_solversFor _ _ _).mp ht
  exact (mem_solverList' _ h.nodup t).mpr ⟨n, hn⟩

theorem CInv.solversFor_of_var {U : List Con} {Us : List (List Con)} {s : CSt} (h : CInv R RE E U Us s) {names : List Var}
    {t : Nat} (ht : t ∈ s.c.solverList) {v : Var} (hv : v ∈ (s.child t).variables) (hn : v ∈ names) : t ∈ s.c.solversFor names :=
  (mem_solversFor _ _ _).mpr ⟨v, hn, h.owner ht hv⟩

theorem CInv.child_vars {U : List Con} {Us : List (List Con)} {s : CSt} (h : CInv R RE E U Us s) {j : Nat}
    (hj : j < s.w.fes.length) : ∀ c ∈ (s.child j).constraints, ∀ v ∈ c.vars, v ∈ (s.child j).variables :=
  (h.kids.each j hj).base.vars

theorem CInv.child_models {U : List Con} {Us : List (List Con)} {s : CSt} (h : CInv R RE E U Us s) {j : Nat}
    (hj : j < s.w.fes.length) (a : Asg) : Models (s.child j).constraints a ↔ Models (Us.getD j []) a :=
  (h.kids.each j hj).base.models_iff a

/-- the part of `CInv` (and of `Merged`) that speaks of the world of children alone -/
structure WOk (R : Con → Prop) (RE : Exp → Prop) (E : Env) (Us : List (List Con)) (w : World) : Prop where
  kids : TInvS R RE E Us w
  reuse : w.reuse = false
  keysOk : ∀ j, j < w.fes.length → KeysInv (w.fes.getD j {})
  exact : ∀ j, j < w.fes.length → ExactVars (w.fes.getD j {})

theorem CInv.wok {U : List Con} {Us : List (List Con)} {s : CSt} (h : CInv R RE E U Us s) : WOk R RE E Us s.w :=
  ⟨h.kids, h.reuse, h.keysOk, h.exact⟩

theorem keysInv_congr {fe fe' : Frontend} (hm : fe'.models = fe.models) (hv : fe'.variables = fe.variables) (h : KeysInv fe) :
    KeysInv fe' := by
  intro m hmm; rw [hv]; rw [hm] at hmm; exact h m hmm

theorem exactVars_congr {fe fe' : Frontend} (hc : fe'.constraints = fe.constraints) (hv : fe'.variables = fe.variables)
    (h : ExactVars fe) : ExactVars fe' := by
  intro v hvv; rw [hc]; rw [hv] at hvv; exact h v hvv

/-- a world that grew (`blank_copy`, `branch`, `combine`, `split` all make worlds of this kind) -/
theorem WOk.extend {Us Us' : List (List Con)} {w w' : World} (h : WOk R RE E Us w) (hk : TInvS R RE E Us' w')
    (hre : w'.reuse = w.reuse)
    (hold : ∀ i, i < w.fes.length → (w'.fes.getD i {}).constraints = (w.fes.getD i {}).constraints ∧
      (w'.fes.getD i {}).variables = (w.fes.getD i {}).variables ∧ (w'.fes.getD i {}).models = (w.fes.getD i {}).models)
    (hnew : ∀ i, w.fes.length ≤ i → i < w'.fes.length → KeysInv (w'.fes.getD i {}) ∧ ExactVars (w'.fes.getD i {})) :
    WOk R RE E Us' w' := by
  refine ⟨hk, hre.trans h.reuse, fun i hi => ?_, fun i hi => ?_⟩
  · by_cases hil : i < w.fes.length
    · exact keysInv_congr (hold i hil).2.2 (hold i hil).2.1 (h.keysOk i hil)
    · exact (hnew i (Nat.le_of_not_lt hil) hi).1
  · by_cases hil : i < w.fes.length
    · exact exactVars_congr (hold i hil).1 (hold i hil).2.1 (h.exact i hil)
    · exact (hnew i (Nat.le_of_not_lt hil) hi).2

theorem mem_varsOf_iff {cs : List Con} {v : Var} : v ∈ varsOf cs ↔ ∃ c ∈ cs, v ∈ c.vars := by
  simp [varsOf, List.mem_flatMap]

theorem CInv.child_agree (hR : Reg R E) {U : List Con} {Us : List (List Con)} {s : CSt} (h : CInv R RE E U Us s) {j : Nat}
    (hj : j < s.w.fes.length) {a a' : Asg} (hag : ∀ v ∈ (s.child j).variables, a v = a' v)
    (ha : Models (s.child j).constraints a) : Models (s.child j).constraints a' := by
  refine models_of_agree ((h.kids.each j hj).base.cons_wf hR) (fun v hv => ?_) ha
  obtain ⟨c, hc, hvc⟩ := mem_varsOf_iff.mp hv
  exact hag v (h.child_vars hj c hc v hvc)

theorem forall_kids_of_frame {P : Frontend → Prop} {w w' : World} {j : Nat} (hlen : w'.fes.length = w.fes.length)
    (hoth : ∀ i, i ≠ j → w'.fes.getD i {} = w.fes.getD i {}) (hall : ∀ i, i < w.fes.length → P (w.fes.getD i {}))
    (hj : P (w'.fes.getD j {})) : ∀ i, i < w'.fes.length → P (w'.fes.getD i {}) := by
  intro i hi
  by_cases hij : i = j
  · rw [hij]; exact hj
  · rw [hoth i hij]; exact hall i (hlen ▸ hi)

/-- a world in which one record changed (a call of child `j`, or its caches set) -/
theorem WOk.of_frame {Us Us' : List (List Con)} {w w' : World} (h : WOk R RE E Us w) {j : Nat} (hk : TInvS R RE E Us' w')
    (hre : w'.reuse = w.reuse) (hlen : w'.fes.length = w.fes.length) (hoth : ∀ i, i ≠ j → w'.fes.getD i {} = w.fes.getD i {})
    (hkeys : KeysInv (w'.fes.getD j {})) (hex : ExactVars (w'.fes.getD j {})) : WOk R RE E Us' w' :=
  ⟨hk, hre.trans h.reuse, forall_kids_of_frame hlen hoth h.keysOk hkeys, forall_kids_of_frame hlen hoth h.exact hex⟩

theorem exactVars_add {fe fe' : Frontend} {added : List Con} (hcons : fe'.constraints = fe.constraints ++ added)
    (hvars : ∀ v, v ∈ fe'.variables ↔ v ∈ fe.variables ∨ ∃ c ∈ added, v ∈ c.vars) (h : ExactVars fe) : ExactVars fe' := by
  intro v hv
  rw [hcons]
  rcases (hvars v).mp hv with hv | ⟨c, hc, hvc⟩
  · obtain ⟨c, hc, hvc⟩ := h v hv
    exact ⟨c, List.mem_append_left _ hc, hvc⟩
  · exact ⟨c, List.mem_append_right _ hc, hvc⟩

/-- asking the oracle for an iteration order only moves the event counter -/
theorem TInvS.set_tick {Us : List (List Con)} {w : World} (h : TInvS R RE E Us w) (t : Nat) : TInvS R RE E Us { w with tick := t } :=
  ⟨h.len, fun i hi => (h.each i hi).set_tick t, h.share⟩

theorem CInv.set_tick {U : List Con} {Us : List (List Con)} {s : CSt} (h : CInv R RE E U Us s) (t : Nat) :
    CInv R RE E U Us { s with w := { s.w with tick := t } } :=
  { h with kids := h.kids.set_tick t }

/-- `_unchecked_solvers.clear()` once every child is known to be satisfiable -/
theorem CInv.clear_unchecked {U : List Con} {Us : List (List Con)} {s : CSt} (h : CInv R RE E U Us s)
    (hall : ∀ j ∈ s.c.solverList, Satisfiable (Us.getD j [])) : CInv R RE E U Us { s with c := { s.c with unchecked := [] } } :=
  { h with checked := fun j hj _ => hall j hj }

theorem solverList_congr {c c' : Comp} (h : c'.solvers = c.solvers) : c'.solverList = c.solverList := by
  unfold Comp.solverList; rw [h]

theorem orderOracle_run {α : Type} [BEq α] (E : Env) (mt : α → List Nat → Bool) (keys : List (List Nat)) (l : List α) (s : CSt) :
    orderOracle E mt keys l s =
      (.ok (reorderBy mt (E.pick keys keys.length s.w.tick) l), { s with w := { s.w with tick := s.w.tick + 1 } }) := rfl

theorem orderChildren_spec (l : List Nat) (s : CSt) :
    (orderChildren E l).wp
      (fun o s' => (∀ j, j ∈ o ↔ j ∈ l) ∧ (l.Nodup → o.Nodup) ∧ ∃ t, s' = { s with w := { s.w with tick := t } })
      (fun _ _ => False) s :=
  ⟨mem_reorderBy _ _ _, nodup_reorderBy _ _ _, _, rfl⟩

theorem cinv_init (R : Con → Prop) (RE : Exp → Prop) (E : Env) (track : Bool) :
    CInv R RE E [] [] { c := { track := track }, w := { fes := [] } } := by
  refine ⟨⟨rfl, fun i hi => (by cases hi), fun i j r hi => (by cases hi)⟩, rfl, fun j hj => (by cases hj),
    fun j hj => (by cases hj), List.nodup_nil, fun v j h => (by cases h), fun v j h => (by cases h), fun _ a => ?_,
    fun h => (by cases h), fun j hj => (by cases hj)⟩
  simp [Models, Comp.solverList]

/-- the composite's record after `_store_child(j)` (and with the `_owned_solvers` of the moment) -/
def Comp.stored (c : Comp) (vars : List Var) (j : Nat) (owned : List Nat) : Comp :=
  { c with solvers := vars.foldl (fun d v => alSet d v j) c.solvers, unchecked := listInsert c.unchecked j, owned := owned }

/-- **the partition changes**: the children owning a variable of `V` are replaced by the children `new` (those of them that know a
variable), which together hold the constraints of the replaced ones and `cs`; the dict afterwards points the variables of the
new children to them and is as before elsewhere; every new child is unchecked.  `_store_child` after a merge (`new = [j']`:
`cinv_install`) and the replacement of children by the parts of `split()` in `_reabsorb_solver` (`new = parts`, `cs = []`) are
instances. -/
theorem cinv_repartition {U : List Con} {Us Us2 : List (List Con)} {s : CSt} (h : CInv R RE E U Us s) (V : List Var)
    (cs : List Con) (c2 : Comp) (w2 : World) (new : List Nat) (hw : WOk R RE E Us2 w2)
    (hlen : s.w.fes.length ≤ w2.fes.length)
    (hnd : (keys c2.solvers).Nodup)
    (hgetN : ∀ p ∈ new, ∀ v ∈ (w2.fes.getD p {}).variables, alGet? c2.solvers v = some p)
    (hgetO : ∀ v, (∀ p ∈ new, v ∉ (w2.fes.getD p {}).variables) → alGet? c2.solvers v = alGet? s.c.solvers v)
    (hunsat : c2.unsat = s.c.unsat) (hunch : ∀ j, j ∈ c2.unchecked ↔ j ∈ s.c.unchecked ∨ j ∈ new)
    (hlt : ∀ p ∈ new, p < w2.fes.length)
    (hsub : ∀ p ∈ new, ∀ v ∈ (w2.fes.getD p {}).variables, (∃ t ∈ s.c.solversFor V, v ∈ (s.child t).variables) ∨ v ∈ V)
    (hsup : ∀ t ∈ s.c.solversFor V, ∀ v ∈ (s.child t).variables, ∃ p ∈ new, v ∈ (w2.fes.getD p {}).variables)
    (hsem : ∀ a, (∀ p ∈ new, (w2.fes.getD p {}).variables ≠ [] → Models (Us2.getD p []) a) ↔
      (∀ t ∈ s.c.solversFor V, Models (Us.getD t []) a) ∧ Models cs a)
    (hframe : ∀ i ∈ s.c.solverList, i ∉ s.c.solversFor V → (w2.fes.getD i {}).variables = (s.child i).variables ∧
      ∀ a, Models (Us2.getD i []) a ↔ Models (Us.getD i []) a) :
    CInv R RE E (U ++ cs) Us2 { c := c2, w := w2 } ∧
    ∀ t ∈ c2.solverList, (t ∈ new ∧ (w2.fes.getD t {}).variables ≠ []) ∨ (t ∈ s.c.solverList ∧ t ∉ s.c.solversFor V) := by
  have hmemO := fun t => mem_solverList' _ h.nodup t
  have hmemN := fun t => mem_solverList' _ hnd t
  -- an entry of the new dict: of a new child, or an old entry of a child outside the replaced ones, in a variable no new child knows
  have hG : ∀ v t, alGet? c2.solvers v = some t → (t ∈ new ∧ v ∈ (w2.fes.getD t {}).variables) ∨
      (alGet? s.c.solvers v = some t ∧ t ∈ s.c.solverList ∧ t ∉ s.c.solversFor V ∧
        (w2.fes.getD t {}).variables = (s.child t).variables ∧ ∀ a, Models (Us2.getD t []) a ↔ Models (Us.getD t []) a) := by
    intro v t hvt
    by_cases hv : ∃ p ∈ new, v ∈ (w2.fes.getD p {}).variables
    · obtain ⟨p, hp, hvp⟩ := hv
      rw [hgetN p hp v hvp] at hvt
      cases hvt
      exact Or.inl ⟨hp, hvp⟩
    · have hv' : ∀ p ∈ new, v ∉ (w2.fes.getD p {}).variables := fun p hp hvp => hv ⟨p, hp, hvp⟩
      rw [hgetO v hv'] at hvt
      have htl := (hmemO t).mpr ⟨v, hvt⟩
      have hts : t ∉ s.c.solversFor V := fun ht => by
        obtain ⟨p, hp, hvp⟩ := hsup t ht v (h.map v t hvt).2
        exact hv' p hp hvp
      exact Or.inr ⟨hvt, htl, hts, hframe t htl hts⟩
  -- a child outside the replaced ones shares no variable with a new child
  have hfar : ∀ t, t ∈ s.c.solverList → t ∉ s.c.solversFor V → ∀ u ∈ (s.child t).variables,
      ∀ p ∈ new, u ∉ (w2.fes.getD p {}).variables := by
    intro t ht hts u hu p hp hup
    rcases hsub p hp u hup with ⟨t', ht', hut'⟩ | hn
    · rw [Option.some.inj ((h.owner ht hu).symm.trans (h.owner (h.mem_of_solversFor ht') hut'))] at hts
      exact hts ht'
    · exact hts (h.solversFor_of_var ht hu hn)
  have hkeep : ∀ t, t ∈ s.c.solverList → t ∉ s.c.solversFor V → t ∈ c2.solverList := by
    intro t ht hts
    obtain ⟨v, hv⟩ := (hmemO t).mp ht
    exact (hmemN t).mpr ⟨v, by rw [hgetO v (hfar t ht hts v (h.map v t hv).2)]; exact hv⟩
  have hnewIn : ∀ p ∈ new, (w2.fes.getD p {}).variables ≠ [] → p ∈ c2.solverList := by
    intro p hp hne
    obtain ⟨v, hv⟩ := List.exists_mem_of_ne_nil _ hne
    exact (hmemN p).mpr ⟨v, hgetN p hp v hv⟩
  refine ⟨⟨hw.kids, hw.reuse, hw.keysOk, hw.exact, hnd, ?_, ?_, ?_, ?_, ?_⟩, fun t ht => ?_⟩
  ·
    intro v t hvt
    rcases hG v t hvt with ⟨hp, hvp⟩ | ⟨hvo, _, _, hrec, _⟩
    · exact ⟨hlt t hp, hvp⟩
    · show _ ∧ v ∈ (w2.fes.getD t {}).variables
      rw [hrec]
      exact ⟨Nat.lt_of_lt_of_le (h.map v t hvo).1 hlen, (h.map v t hvo).2⟩
  ·
    intro v t hvt u hu
    have hu' : u ∈ (w2.fes.getD t {}).variables := hu
    rcases hG v t hvt with ⟨hp, _⟩ | ⟨hvo, htl, hts, hrec, _⟩
    · exact hgetN t hp u hu'
    · rw [hrec] at hu'
      show alGet? c2.solvers u = some t
      rw [hgetO u (hfar t htl hts u hu')]
      exact h.cover v t hvo u hu'
  ·
    intro hun a
    have hun' : s.c.unsat = false := by rw [← hunsat]; exact hun
    rw [models_append, h.sem hun' a]
    constructor
    · rintro ⟨hall, hcs⟩ t ht
      obtain ⟨v, hvt⟩ := (hmemN t).mp ht
      rcases hG v t hvt with ⟨hp, hvp⟩ | ⟨_, htl, _, _, hU⟩
      · exact (hsem a).mpr ⟨fun t' ht' => hall t' (h.mem_of_solversFor ht'), hcs⟩ t hp (List.ne_nil_of_mem hvp)
      · exact (hU a).mpr (hall t htl)
    · intro hall
      have hj := (hsem a).mp fun p hp hne => hall p (hnewIn p hp hne)
      refine ⟨fun t ht => ?_, hj.2⟩
      by_cases hts : t ∈ s.c.solversFor V
      · exact hj.1 t hts
      · have := hall t (hkeep t ht hts)
        exact ((hframe t ht hts).2 a).mp this
  ·
    intro hun ⟨a, ha⟩
    exact h.unsatOk (by rw [← hunsat]; exact hun) ⟨a, (models_append.mp ha).1⟩
  ·
    intro t ht hnu
    have hnu' : t ∉ c2.unchecked := hnu
    rw [hunch] at hnu'
    obtain ⟨v, hvt⟩ := (hmemN t).mp ht
    rcases hG v t hvt with ⟨hp, _⟩ | ⟨_, htl, _, _, hU⟩
    · exact (hnu' (Or.inr hp)).elim
    · obtain ⟨a, ha⟩ := h.checked t htl fun hc => hnu' (Or.inl hc)
      exact ⟨a, (hU a).mpr ha⟩
  · obtain ⟨v, hvt⟩ := (hmemN t).mp ht
    rcases hG v t hvt with ⟨hp, hvp⟩ | ⟨_, htl, hts, _⟩
    · exact Or.inl ⟨hp, List.ne_nil_of_mem hvp⟩
    · exact Or.inr ⟨htl, hts⟩

theorem CInv.transfer {U : List Con} {Us Us2 : List (List Con)} {s : CSt} (h : CInv R RE E U Us s) (c2 : Comp) (w2 : World)
    (hs : c2.solvers = s.c.solvers) (hu : c2.unsat = s.c.unsat) (hun : c2.unchecked = s.c.unchecked)
    (hk : TInvS R RE E Us2 w2) (hre : w2.reuse = false)
    (hkeys : ∀ j, j < w2.fes.length → KeysInv (w2.fes.getD j {}))
    (hex : ∀ j, j < w2.fes.length → ExactVars (w2.fes.getD j {}))
    (hlen : s.w.fes.length ≤ w2.fes.length)
    (hv : ∀ j ∈ s.c.solverList, (w2.fes.getD j {}).variables = (s.child j).variables)
    (hU : ∀ j ∈ s.c.solverList, ∀ a, Models (Us2.getD j []) a ↔ Models (Us.getD j []) a) :
    CInv R RE E U Us2 { c := c2, w := w2 } := by
  -- nobody is replaced: no name, no new child
  have hno : ∀ t, t ∉ s.c.solversFor [] := fun _ => List.not_mem_nil
  have := (cinv_repartition h [] [] c2 w2 [] ⟨hk, hre, hkeys, hex⟩ hlen (by rw [hs]; exact h.nodup)
    (fun _ hp => nomatch hp) (fun v _ => by rw [hs]) hu
    (fun j => by rw [hun]; exact ⟨Or.inl, fun hj => hj.resolve_right (fun hp => nomatch hp)⟩)
    (fun _ hp => nomatch hp) (fun _ hp => nomatch hp) (fun t ht => absurd ht (hno t))
    (fun a => ⟨fun _ => ⟨fun t ht => absurd ht (hno t), fun _ hc => nomatch hc⟩, fun _ _ hp _ => nomatch hp⟩)
    (fun i hi _ => ⟨hv i hi, hU i hi⟩)).1
  rwa [List.append_nil] at this

theorem CInv.of_world {U : List Con} {Us Us2 : List (List Con)} {s : CSt} (h : CInv R RE E U Us s) (w2 : World)
    (hk : TInvS R RE E Us2 w2) (hre : w2.reuse = false)
    (hkeys : ∀ j, j < w2.fes.length → KeysInv (w2.fes.getD j {}))
    (hex : ∀ j, j < w2.fes.length → ExactVars (w2.fes.getD j {}))
    (hlen : s.w.fes.length ≤ w2.fes.length)
    (hv : ∀ j, j < s.w.fes.length → (w2.fes.getD j {}).variables = (s.child j).variables)
    (hU : ∀ j, j < s.w.fes.length → ∀ a, Models (Us2.getD j []) a ↔ Models (Us.getD j []) a) :
    CInv R RE E U Us2 { c := s.c, w := w2 } := by
  have hltL : ∀ j ∈ s.c.solverList, j < s.w.fes.length := fun _ hj => h.lt_of_mem hj
  exact h.transfer s.c w2 rfl rfl rfl hk hre hkeys hex hlen (fun j hj => hv j (hltL j hj)) (fun j hj => hU j (hltL j hj))

theorem CInv.of_wok {U : List Con} {Us Us2 : List (List Con)} {s : CSt} (h : CInv R RE E U Us s) {w2 : World}
    (hw : WOk R RE E Us2 w2) (hlen : s.w.fes.length ≤ w2.fes.length)
    (hv : ∀ j, j < s.w.fes.length → (w2.fes.getD j {}).variables = (s.child j).variables)
    (hU : ∀ j, j < s.w.fes.length → ∀ a, Models (Us2.getD j []) a ↔ Models (Us.getD j []) a) :
    CInv R RE E U Us2 { c := s.c, w := w2 } := h.of_world w2 hw.kids hw.reuse hw.keysOk hw.exact hlen hv hU

/-- **`_store_child(j')` re-establishes the invariant** after the children owning one of `names` were merged into child `j'` and
`cs` was added to it -/
theorem cinv_install {U : List Con} {Us Us2 : List (List Con)} {s : CSt} (h : CInv R RE E U Us s) (names : List Var)
    (cs : List Con) (w2 : World) (owned2 : List Nat) (j' : Nat) (hw : WOk R RE E Us2 w2)
    (hlen : s.w.fes.length ≤ w2.fes.length) (hj' : j' < w2.fes.length)
    (hsub : ∀ v ∈ (w2.fes.getD j' {}).variables, (∃ t ∈ s.c.solversFor names, v ∈ (s.child t).variables) ∨ v ∈ names)
    (hsup : ∀ t ∈ s.c.solversFor names, ∀ v ∈ (s.child t).variables, v ∈ (w2.fes.getD j' {}).variables)
    (hne : (w2.fes.getD j' {}).variables ≠ [])
    (hsem : ∀ a, Models (Us2.getD j' []) a ↔ (∀ t ∈ s.c.solversFor names, Models (Us.getD t []) a) ∧ Models cs a)
    (hframe : ∀ i ∈ s.c.solverList, i ∉ s.c.solversFor names → w2.fes.getD i {} = s.child i ∧ Us2.getD i [] = Us.getD i []) :
    CInv R RE E (U ++ cs) Us2 { c := s.c.stored (w2.fes.getD j' {}).variables j' owned2, w := w2 } := by
  have hget : ∀ v, alGet? (s.c.stored (w2.fes.getD j' {}).variables j' owned2).solvers v =
      if v ∈ (w2.fes.getD j' {}).variables then some j' else alGet? s.c.solvers v := fun v => alGet?_foldl_alSet _ _ _ v
  refine (cinv_repartition h names cs (s.c.stored (w2.fes.getD j' {}).variables j' owned2) w2 [j'] hw hlen
    (keys_foldl_alSet_nodup _ _ _ h.nodup) ?_ ?_ rfl ?_ (by simpa using hj') (by simpa using hsub)
    (fun t ht v hv => ⟨j', List.mem_singleton.mpr rfl, hsup t ht v hv⟩) ?_
    (fun i hi his => ⟨congrArg Frontend.variables (hframe i hi his).1, fun a => by rw [(hframe i hi his).2]⟩)).1
  · intro p hp v hv
    rw [List.mem_singleton.mp hp] at hv ⊢
    rw [hget, if_pos hv]
  · intro v hv
    rw [hget, if_neg (hv j' (List.mem_singleton.mpr rfl))]
  · intro j
    show j ∈ listInsert s.c.unchecked j' ↔ _
    rw [mem_listInsert, List.mem_singleton]
  · intro a
    constructor
    · intro hp
      exact (hsem a).mp (hp j' (List.mem_singleton.mpr rfl) hne)
    · intro hq p hp _
      rw [List.mem_singleton.mp hp]
      exact (hsem a).mpr hq


def FootQ (s s' : St) : Prop :=
  s'.fe.variables = s.fe.variables ∧ s'.fe.constraints = s.fe.constraints ∧ (KeysInv s.fe → KeysInv s'.fe)

/-- **footprint of the class SolverCompositeChild**: its queries never touch `variables` / `constraints`, and every model it
caches is over its own variables (`_model_hook` restricts the model Z3 returns to `self.variables`; `_add` only drops
models or records the trivial one).  Proved in CompositeFoot.lean (`childFoot`). -/
structure ChildFoot (R : Con → Prop) (RE : Exp → Prop) (E : Env) : Prop where
  add : ∀ (G : St → Prop) (U : List Con) cs s, (∀ c ∈ cs, R c) → SI R RE E G U s → KeysInv s.fe →
    KeysInv (publicAdd (childOps E) cs true s).2.fe
  checkSat : ∀ (G : St → Prop) (U : List Con) ex s, SI R RE E G U s → FootQ s (childCheckSat E ex s).2
  eval : ∀ (G : St → Prop) (U : List Con) e n ex s, SI R RE E G U s → FootQ s ((childOps E).eval e n ex s).2

/-- what `_solver_for_names(names)` hands back: a child `m` (one of the old ones, or a new one) holding exactly the constraints
of the children that own one of the names -/
structure Merged (R : Con → Prop) (RE : Exp → Prop) (E : Env) (Us Us1 : List (List Con)) (s s1 : CSt) (names : List Var)
    (m : Nat) : Prop where
  comp : s1.c = s.c
  kids : TInvS R RE E Us1 s1.w
  reuse : s1.w.reuse = false
  keysOk : ∀ j, j < s1.w.fes.length → KeysInv (s1.child j)
  exact : ∀ j, j < s1.w.fes.length → ExactVars (s1.child j)
  len : s.w.fes.length ≤ s1.w.fes.length
  frame : ∀ i, i < s.w.fes.length → s1.child i = s.child i ∧ Us1.getD i [] = Us.getD i []
  lt : m < s1.w.fes.length
  sub : ∀ v ∈ (s1.child m).variables, ∃ t ∈ s.c.solversFor names, v ∈ (s.child t).variables
  sup : ∀ t ∈ s.c.solversFor names, ∀ v ∈ (s.child t).variables, v ∈ (s1.child m).variables
  sem : ∀ a, Models (Us1.getD m []) a ↔ ∀ t ∈ s.c.solversFor names, Models (Us.getD t []) a
  old : m < s.w.fes.length → m ∈ s.c.solversFor names
  fresh : s.c.solversFor names = [] → (s1.child m).hashes = [] ∧ (s1.child m).woAnnot = []

theorem Merged.wok {Us Us1 : List (List Con)} {s s1 : CSt} {names : List Var} {m : Nat} (h : Merged R RE E Us Us1 s s1 names m) :
    WOk R RE E Us1 s1.w := ⟨h.kids, h.reuse, h.keysOk, h.exact⟩

/-- the merged child is a NEW record `fe` (the next index), the old records are as they were: what is left to show about it -/
theorem Merged.of_new {U : List Con} {Us Us1 : List (List Con)} {s : CSt} (h : CInv R RE E U Us s) {w1 : World}
    {names : List Var} (hk : TInvS R RE E Us1 w1) (hre : w1.reuse = false) (hlen : w1.fes.length = s.w.fes.length + 1)
    (hfr : ∀ i, i < s.w.fes.length → w1.fes.getD i {} = s.child i ∧ Us1.getD i [] = Us.getD i [])
    {fe : Frontend} (hfe : w1.fes.getD s.w.fes.length {} = fe) (hkeys : KeysInv fe) (hex : ExactVars fe)
    (hsub : ∀ v ∈ fe.variables, ∃ t ∈ s.c.solversFor names, v ∈ (s.child t).variables)
    (hsup : ∀ t ∈ s.c.solversFor names, ∀ v ∈ (s.child t).variables, v ∈ fe.variables)
    (hsem : ∀ a, Models (Us1.getD s.w.fes.length []) a ↔ ∀ t ∈ s.c.solversFor names, Models (Us.getD t []) a)
    (hfresh : s.c.solversFor names = [] → fe.hashes = [] ∧ fe.woAnnot = []) :
    Merged R RE E Us Us1 s { s with w := w1 } names s.w.fes.length := by
  subst hfe
  have hw := h.wok.extend hk (hre.trans h.reuse.symm)
    (fun i hi => by rw [(hfr i hi).1]; exact ⟨rfl, rfl, rfl⟩)
    (fun i h1 h2 => by
      have : i = s.w.fes.length := by omega
      rw [this]; exact ⟨hkeys, hex⟩)
  exact ⟨rfl, hk, hre, hw.keysOk, hw.exact, by rw [hlen]; exact Nat.le_succ _, hfr,
    by rw [hlen]; exact Nat.lt_succ_self _, hsub, hsup, hsem, fun hlt => absurd hlt (Nat.lt_irrefl _), hfresh⟩

/-- what `combine` must deliver when several children own names (proved separately: `combineSpec`) -/
def CombineSpec (R : Con → Prop) (RE : Exp → Prop) (E : Env) : Prop :=
  ∀ (U : List Con) (Us : List (List Con)) (s : CSt), CInv R RE E U Us s → ∀ (names : List Var) (j : Nat) (rest : List Nat),
    rest ≠ [] → (j :: rest).Nodup → (∀ t, t ∈ j :: rest ↔ t ∈ s.c.solversFor names) →
    ∃ Us1 s1, childCombine E j rest s = (.ok s.w.fes.length, s1) ∧ Merged R RE E Us Us1 s s1 names s.w.fes.length

/-- `Merged` looks at the composite's record and the list of children only: the event counter may have moved before -/
theorem Merged.of_tick {Us Us1 : List (List Con)} {s s1 : CSt} {names : List Var} {m : Nat} (t : Nat)
    (hm : Merged R RE E Us Us1 { s with w := { s.w with tick := t } } s1 names m) : Merged R RE E Us Us1 s s1 names m :=
  { hm with }

end Claripy.Solver

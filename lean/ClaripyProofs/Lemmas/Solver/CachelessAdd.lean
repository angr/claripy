import ClaripyProofs.Lemmas.Solver.Cacheless
/-!
`_add`, `simplify`, `downsize` of the cacheless classes, and the deduplication invariant.  `_add` and `simplify` are specified
mixin by mixin over an arbitrary `super()`, so that SolverCacheless and SolverStrings (the same stack without SimplifySkipper) are
two compositions of the same lemmas.
-/
namespace Claripy.Solver

abbrev CLInv0 (U : List Con) (s : St) : Prop := CLInv (fun _ => True) U s

/-- **Registry** (hash-consing, C06): among the constraints a run can see — the user's, `false`, the simplifier's
output — equal ids mean equal meaning and equal variable sets (the id is the hash of the AST); all of them are well formed -/
structure Reg (R : Con → Prop) (E : Env) : Prop where
  faithful : ∀ c c', R c → R c' → c.id = c'.id → ∀ a, c.sem a = c'.sem a
  /-- one AST, one variable set (used by the composite: a constraint `combine` drops as a duplicate brings no new variable) -/
  varsId : ∀ c c', R c → R c' → c.id = c'.id → c.vars = c'.vars
  wf : ∀ c, R c → ConWf c
  simp_closed : ∀ cs k, (∀ c ∈ cs, R c) → ∀ c ∈ E.simp cs k, R c
  falseR : R E.falseCon
  falseSem : ∀ a, E.falseCon.sem a = false

/-- deduplication invariant: every constraint whose id was recorded (`_constraint_hashes`,
`constraints_wo_annotations`) is implied by what the user added -/
structure DInv (R : Con → Prop) (U : List Con) (s : St) : Prop where
  consR : ∀ c ∈ s.fe.constraints, R c
  seen : ∀ c, R c → (c.id ∈ s.fe.hashes ∨ c.id ∈ s.fe.woAnnot) → ∀ a, holdsAll U a = true → c.sem a = true

theorem constrainedAddLoop_spec (cs : List Con) :
    ∀ (fe : Frontend) (added : List Con),
      ∃ new, (constrainedAddLoop cs fe added).2 = added ++ new ∧
        (constrainedAddLoop cs fe added).1 =
          { fe with constraints := fe.constraints ++ new,
                    woAnnot := (constrainedAddLoop cs fe added).1.woAnnot,
                    «variables» := (constrainedAddLoop cs fe added).1.variables } ∧
        (∀ c ∈ new, c ∈ cs) ∧
        (∀ i, i ∈ (constrainedAddLoop cs fe added).1.woAnnot ↔ i ∈ fe.woAnnot ∨ ∃ c ∈ new, c.id = i) ∧
        (∀ c ∈ cs, c ∈ new ∨ c.id ∈ fe.woAnnot ∨ ∃ c' ∈ new, c'.id = c.id) ∧
        (∀ v, v ∈ (constrainedAddLoop cs fe added).1.variables ↔ v ∈ fe.variables ∨ ∃ c ∈ new, v ∈ c.vars) := by
  induction cs with
  | nil =>
    intro fe added
    exact ⟨[], by simp [constrainedAddLoop], by simp [constrainedAddLoop], by simp, by simp [constrainedAddLoop], by simp,
      by simp [constrainedAddLoop]⟩
  | cons con rest ih =>
    intro fe added
    unfold constrainedAddLoop
    by_cases hc : fe.woAnnot.contains con.id = true
    · simp only [hc, ↓reduceIte]
      obtain ⟨new, h1, h2, h3, h4, h5, h6⟩ := ih fe added
      refine ⟨new, h1, h2, fun c hc' => List.mem_cons_of_mem _ (h3 c hc'), h4, ?_, h6⟩
      intro c hcm
      rcases List.mem_cons.mp hcm with rfl | hcm
      · exact Or.inr (Or.inl (by simpa using hc))
      · exact h5 c hcm
    · simp only [hc, Bool.false_eq_true, ↓reduceIte]
      obtain ⟨new, h1, h2, h3, h4, h5, h6⟩ := ih
        { fe with woAnnot := listInsert fe.woAnnot con.id, constraints := fe.constraints ++ [con],
                  «variables» := listUnion fe.variables con.vars } (added ++ [con])
      refine ⟨con :: new, by rw [h1]; simp, ?_, ?_, ?_, ?_, ?_⟩
      · rw [h2]; simp
      · intro c hc'
        rcases List.mem_cons.mp hc' with rfl | hc'
        · exact List.mem_cons_self
        · exact List.mem_cons_of_mem _ (h3 c hc')
      · intro i
        simp only [h4 i, mem_listInsert, List.mem_cons, exists_eq_or_imp, or_assoc]
        rw [eq_comm]
      · intro c hcm
        rcases List.mem_cons.mp hcm with rfl | hcm
        · exact Or.inl List.mem_cons_self
        · rcases h5 c hcm with h | h | ⟨c', hc', hid⟩
          · exact Or.inl (List.mem_cons_of_mem _ h)
          · rcases (mem_listInsert _ _ _).mp h with h | h
            · exact Or.inr (Or.inl h)
            · exact Or.inr (Or.inr ⟨con, List.mem_cons_self, h.symm⟩)
          · exact Or.inr (Or.inr ⟨c', List.mem_cons_of_mem _ hc', hid⟩)
      · intro v
        simp only [h6 v, mem_listUnion, List.mem_cons, exists_eq_or_imp, or_assoc]

/-- what `_add(ec)` does to the record, at any level of the stack: `new` are the constraints that were really added -/
structure Added (s s' : St) (ec new : List Con) : Prop where
  cons : s'.fe.constraints = s.fe.constraints ++ new
  toAdd : s'.fe.toAdd = s.fe.toAdd ++ new
  solver : s'.fe.solver = s.fe.solver
  track : s'.fe.track = s.fe.track
  objs : s'.objs = s.objs
  reuse : s'.reuse = s.reuse
  fin : s'.fe.finalized = s.fe.finalized
  sub : ∀ c ∈ new, c ∈ ec
  ids : ∀ i, (i ∈ s'.fe.hashes ∨ i ∈ s'.fe.woAnnot) → (i ∈ s.fe.hashes ∨ i ∈ s.fe.woAnnot) ∨ ∃ c ∈ new, c.id = i
  cover : ∀ c ∈ ec, c ∈ new ∨ (c.id ∈ s.fe.hashes ∨ c.id ∈ s.fe.woAnnot) ∨ ∃ c' ∈ new, c'.id = c.id

/-- what ConstraintFilterMixin._add hands down: the constraints without the concretely true ones, or — when one is
concretely false — everything but literal `false`, and `false` -/
def filteredOf (E : Env) (self : Ops) (cs : List Con) : List Con :=
  match constraintFilter self cs with
  | .ok ec => ec
  | .error _ => (cs.filter fun c => c.id != E.falseCon.id) ++ [E.falseCon]

theorem filtered_equiv {E : Env} {R : Con → Prop} (hR : Reg R E) {self : Ops} (hcc : ∀ c, self.concreteCon c = c.conc)
    (cs : List Con) (hcs : ∀ c ∈ cs, R c) :
    (∀ c ∈ filteredOf E self cs, R c) ∧ ∀ a, holdsAll (filteredOf E self cs) a = holdsAll cs a := by
  have hfs := filter_spec hcc cs (fun c hc => hR.wf c (hcs c hc))
  unfold filteredOf
  cases hf : constraintFilter self cs with
  | ok ec =>
    rw [hf] at hfs
    refine ⟨fun c hc => hcs c (hfs.2 c hc), fun a => ?_⟩
    rw [Bool.eq_iff_iff, ← models_iff_holdsAll, ← models_iff_holdsAll]
    exact hfs.1 a
  | error err =>
    rw [hf] at hfs
    simp only
    refine ⟨?_, fun a => ?_⟩
    · intro c hc
      rcases List.mem_append.mp hc with hc | hc
      · exact hcs c (List.mem_filter.mp hc).1
      · simp only [List.mem_singleton] at hc; subst hc; exact hR.falseR
    · have h2 : holdsAll cs a = false := by
        have := hfs.2 a
        rw [models_iff_holdsAll] at this
        simpa using this
      rw [h2, holdsAll_append]
      simp [holdsAll, hR.falseSem a]

/-- a change of the frontend record that leaves the Z3 objects alone (add, simplify, downsize) -/
structure MStep (s s' : St) : Prop where
  objs : s'.objs = s.objs
  solver : s'.fe.solver = s.fe.solver ∨ s'.fe.solver = none
  reuse : s'.reuse = s.reuse
  fin : s.fe.finalized = true → s'.fe.finalized = true

theorem MStep.refl (s : St) : MStep s s := ⟨rfl, Or.inl rfl, rfl, id⟩

/-- the invariants depend on the user's constraints only through what they mean -/
theorem CLInv.congr {G : St → Prop} {U U' : List Con} {s : St} (h : CLInv G U s)
    (heq : ∀ a, holdsAll U' a = holdsAll U a) : CLInv G U' s :=
  ⟨h.core, fun a => by rw [heq a]; exact h.equiv a, h.ghost⟩

theorem DInv.congr {R : Con → Prop} {U U' : List Con} {s : St} (hd : DInv R U s)
    (heq : ∀ a, holdsAll U' a = holdsAll U a) : DInv R U' s :=
  ⟨hd.consR, fun c hc hi a ha => hd.seen c hc hi a (by rw [← heq a]; exact ha)⟩

theorem Added.implied {E : Env} {R : Con → Prop} {U : List Con} {s s' : St} {ec new : List Con} (hR : Reg R E)
    (hd : DInv R U s) (hec : ∀ c ∈ ec, R c) (h : Added s s' ec new) (a : Asg) (hU : Models U a) (hn : Models new a) :
    Models ec a := by
  intro c hc
  rcases h.cover c hc with hin | hseen | ⟨c', hc', hid⟩
  · exact hn c hin
  · exact hd.seen c (hec c hc) hseen a ((models_iff_holdsAll U a).mp hU)
  · rw [hR.faithful c c' (hec c hc) (hec c' (h.sub c' hc')) hid.symm a]
    exact hn c' hc'

theorem Added.models_iff {E : Env} {R : Con → Prop} {U : List Con} {s s' : St} {ec new : List Con} (hR : Reg R E)
    (hd : DInv R U s) (hec : ∀ c ∈ ec, R c) (h : Added s s' ec new) (a : Asg) : Models (U ++ new) a ↔ Models (U ++ ec) a := by
  rw [models_append, models_append]
  exact and_congr_right fun hU => ⟨h.implied hR hd hec a hU, fun he c hc => he c (h.sub c hc)⟩

theorem DInv.add {E : Env} {R : Con → Prop} {U : List Con} {s s' : St} {ec new : List Con} (hR : Reg R E)
    (hd : DInv R U s) (hec : ∀ c ∈ ec, R c) (h : Added s s' ec new) : DInv R (U ++ new) s' := by
  refine ⟨fun c hc => ?_, fun c hc hi a ha => ?_⟩
  · rw [h.cons] at hc
    exact (List.mem_append.mp hc).elim (hd.consR c) fun hc => hec c (h.sub c hc)
  · rw [holdsAll_append, Bool.and_eq_true] at ha
    rcases h.ids c.id hi with hold | ⟨c', hc', hid⟩
    · exact hd.seen c hc hold a ha.1
    · rw [hR.faithful c c' hc (hec c' (h.sub c' hc')) hid.symm a]
      exact (models_iff_holdsAll new a).mpr ha.2 c' hc'

theorem added_inv {E : Env} {R : Con → Prop} (hR : Reg R E) {U : List Con} {s s' : St} {ec new : List Con}
    (h : CLInv0 U s) (hd : DInv R U s) (hecR : ∀ c ∈ ec, R c) (had : Added s s' ec new) :
    CLInv0 (U ++ ec) s' ∧ DInv R (U ++ ec) s' ∧ MStep s s' := by
  have heq : ∀ a, holdsAll (U ++ ec) a = holdsAll (U ++ new) a := fun a => by
    rw [Bool.eq_iff_iff, ← models_iff_holdsAll, ← models_iff_holdsAll]
    exact (had.models_iff hR hd hecR a).symm
  have hcore := h.core.toG.add had.cons had.toAdd had.solver had.objs had.reuse
  refine ⟨⟨⟨hcore.toAdd_sub, hcore.obj, hcore.noReuse, by rw [had.track]; exact h.core.untracked⟩, fun a => ?_,
    ⟨_, trivial, QStep.refl _⟩⟩, (hd.add hR hecR had).congr heq,
    ⟨had.objs, Or.inl had.solver, had.reuse, fun hf => by rw [had.fin]; exact hf⟩⟩
  rw [heq a, had.cons, holdsAll_append, holdsAll_append, h.equiv a]

/-- full invariant of one frontend of a cacheless class whose user has added `U` -/
def FInv (R : Con → Prop) (U : List Con) (s : St) : Prop := CLInv0 U s ∧ DInv R U s

theorem FInv.congr {R : Con → Prop} {U U' : List Con} {s : St} (h : FInv R U s)
    (heq : ∀ a, holdsAll U' a = holdsAll U a) : FInv R U' s := ⟨h.1.congr heq, h.2.congr heq⟩

theorem full_add_run (E : Env) (self self' base : Ops) (cs : List Con) (inv : Bool) (s : St) :
    ∃ new wo vs, (fullLayer E self (constrainedLayer E self' base)).add cs inv s =
        (.ok new, { s with fe := { s.fe with constraints := s.fe.constraints ++ new, toAdd := s.fe.toAdd ++ new,
                                             woAnnot := wo, «variables» := vs } }) ∧
      (∀ c ∈ new, c ∈ cs) ∧ (∀ i, i ∈ wo ↔ i ∈ s.fe.woAnnot ∨ ∃ c ∈ new, c.id = i) ∧
      (∀ c ∈ cs, c ∈ new ∨ c.id ∈ s.fe.woAnnot ∨ ∃ c' ∈ new, c'.id = c.id) ∧
      (∀ v, v ∈ vs ↔ v ∈ s.fe.variables ∨ ∃ c ∈ new, v ∈ c.vars) := by
  obtain ⟨new, h1, h2, h3, h4, h5, h6⟩ := constrainedAddLoop_spec cs s.fe []
  refine ⟨new, _, _, ?_, h3, h4, h5, h6⟩
  show (Except.ok (constrainedAddLoop cs s.fe []).2,
    { s with fe := { (constrainedAddLoop cs s.fe []).1 with
                     toAdd := (constrainedAddLoop cs s.fe []).1.toAdd ++ (constrainedAddLoop cs s.fe []).2 } }) = _
  rw [h1, h2]
  rfl

/-- what ConstraintDeduplicatorMixin._add assumes of `super()._add`: it does not raise, reports what it did to the record and
leaves `_constraint_hashes` alone -/
def LowAddC (add : List Con → Bool → M (List Con)) : Prop :=
  ∀ cs inv s, (add cs inv).wp (fun new s' => Added s s' cs new ∧ s'.fe.hashes = s.fe.hashes) (fun _ _ => False) s

theorem full_add_c (E : Env) (self self' base : Ops) : LowAddC (fullLayer E self (constrainedLayer E self' base)).add := by
  intro cs inv s
  obtain ⟨new, wo, vs, hrun, hsub, hwo, hcov, _⟩ := full_add_run E self self' base cs inv s
  rw [M.wp_ok hrun]
  exact ⟨⟨rfl, rfl, rfl, rfl, rfl, rfl, rfl, hsub,
    fun i hi => hi.elim (fun h => Or.inl (Or.inl h)) fun h => ((hwo i).mp h).imp Or.inr id,
    fun c hc => (hcov c hc).imp id fun h => h.imp Or.inr id⟩, rfl⟩

/-- SimplifySkipperMixin._add: what `super()._add` did, and `simplified` reset when something was added -/
theorem skipper_add_c {self sup : Ops} (hsup : LowAddC sup.add) : LowAddC (skipperLayer self sup).add := by
  intro cs inv s
  simp only [skipperLayer, M.wp_bind]
  refine (hsup cs inv s).imp (fun new s1 ⟨h, hh⟩ => ?_) fun _ _ h => h
  have hb : ∀ b, Added s { s1 with fe := { s1.fe with simplified := b } } cs new ∧ s1.fe.hashes = s.fe.hashes := fun _ =>
    ⟨⟨h.cons, h.toAdd, h.solver, h.track, h.objs, h.reuse, h.fin, h.sub, h.ids, h.cover⟩, hh⟩
  simp only [M.wp_bind, M.wp_ite, M.wp_modifyFe]
  split
  · exact hb false
  · exact hb s1.fe.simplified

/-- ConstraintDeduplicatorMixin._add: constraints whose hash is recorded are not handed down; the hashes of those really added
are recorded -/
theorem dedupAdd_spec {self sup : Ops} (hsup : LowAddC sup.add) (ec : List Con) (inv : Bool) (s : St) :
    ((dedupLayer self sup).add ec inv).wp (fun new s' => Added s s' ec new) (fun _ _ => False) s := by
  simp only [dedupLayer, M.wp_bind, M.wp_getFe, M.wp_ite]
  have hkept : ∀ c ∈ ec, c.id ∉ s.fe.hashes → c ∈ ec.filter fun c => !s.fe.hashes.contains c.id :=
    fun c hc hh => List.mem_filter.mpr ⟨hc, by simpa using hh⟩
  split
  · next hf =>
    rw [List.isEmpty_iff.mp hf] at hkept ⊢
    refine ⟨by simp, by simp, rfl, rfl, rfl, rfl, rfl, by simp, fun i h => Or.inl h, fun c hc => Or.inr (Or.inl (Or.inl ?_))⟩
    exact Classical.byContradiction fun hh => List.not_mem_nil (hkept c hc hh)
  · refine (hsup _ inv s).imp (fun new s1 ⟨h, hh⟩ => ?_) fun _ _ h => h
    simp only [M.wp_modifyFe]
    refine ⟨h.cons, h.toAdd, h.solver, h.track, h.objs, h.reuse, h.fin, fun c hc => (List.mem_filter.mp (h.sub c hc)).1, ?_, ?_⟩
    · intro i hi
      rcases hi with hi | hi
      · rcases (mem_listUnion _ _ i).mp hi with hi | hi
        · exact Or.inl (Or.inl (hh ▸ hi))
        · obtain ⟨c, hc, rfl⟩ := List.mem_map.mp hi
          exact Or.inr ⟨c, hc, rfl⟩
      · exact h.ids i (Or.inr hi)
    · intro c hc
      by_cases hin : c.id ∈ s.fe.hashes
      · exact Or.inr (Or.inl (Or.inl hin))
      · exact h.cover c (hkept c hc hin)

def AddC (R : Con → Prop) (add : List Con → Bool → M (List Con)) : Prop :=
  ∀ (U : List Con) s cs inv, FInv R U s → (∀ c ∈ cs, R c) →
    (add cs inv).wp (fun _ s' => FInv R (U ++ cs) s' ∧ MStep s s') (fun _ _ => False) s

/-- ConstraintFilterMixin._add: nothing when there is nothing to add or nothing is left of it, else `super()._add` of the
filtered list -/
theorem wp_filter_add {E : Env} {self sup : Ops} (cs : List Con) (inv : Bool) {Q : List Con → St → Prop} {X : Err → St → Prop}
    {s : St} (hnil : cs = [] ∨ filteredOf E self cs = [] → Q [] s)
    (hsup : (sup.add (filteredOf E self cs) inv).wp Q X s) : ((filterLayer E self sup).add cs inv).wp Q X s := by
  show (if cs.isEmpty then pure [] else if !(filteredOf E self cs).isEmpty then sup.add (filteredOf E self cs) inv else pure []
    : M (List Con)).wp Q X s
  simp only [M.wp_ite]
  split
  · next hemp => exact hnil (Or.inl (List.isEmpty_iff.mp hemp))
  · split
    · exact hsup
    · next hece => exact hnil (Or.inr (by simpa using hece))

theorem filter_add_c {E : Env} {R : Con → Prop} (hR : Reg R E) {self sup : Ops} (hs : SelfOk self)
    (hsup : ∀ ec inv s, (sup.add ec inv).wp (fun new s' => Added s s' ec new) (fun _ _ => False) s) :
    AddC R (filterLayer E self sup).add := by
  intro U s cs inv h hcs
  obtain ⟨hecR, hecEq⟩ := filtered_equiv hR (SelfOk.cc hs) cs hcs
  have hU : ∀ a, holdsAll (U ++ cs) a = holdsAll (U ++ filteredOf E self cs) a := fun a => by
    rw [holdsAll_append, holdsAll_append, hecEq a]
  refine wp_filter_add cs inv (fun hn => ⟨h.congr fun a => ?_, MStep.refl s⟩)
    ((hsup _ inv s).imp (fun new s' had => ?_) fun _ _ h => h)
  · rcases hn with rfl | hn
    · rw [List.append_nil]
    · rw [hU a, hn, List.append_nil]
  · obtain ⟨h1, h2, hm⟩ := added_inv hR h.1 h.2 hecR had
    exact ⟨FInv.congr ⟨h1, h2⟩ hU, hm⟩

theorem clAdd_spec {E : Env} {R : Con → Prop} (hR : Reg R E) (k : Nat) : AddC R (clStage E (k + 1)).add :=
  filter_add_c hR (clStage_ok E k) (dedupAdd_spec (self := clStage E k)
    (skipper_add_c (self := clStage E k) (full_add_c E (clStage E k) (clStage E k) frontendBase)))

/-- `Frontend.add` in front of an `_add` that returns at once on the empty list, as ConstraintFilterMixin's does -/
theorem publicAdd_eq {o : Ops} (h : ∀ inv, o.add [] inv = pure []) (cs : List Con) (inv : Bool) :
    publicAdd o cs inv = o.add cs inv := by
  unfold publicAdd
  split
  · next hc => rw [List.isEmpty_iff.mp hc, h]
  · rfl

/-- **SimplifyEquiv on the registry** (C09): on constraints of the registry `claripy.simplify` returns an equivalent
conjunction (that its output is in the registry again is `Reg.simp_closed`) -/
def SimpOn (R : Con → Prop) (E : Env) : Prop :=
  ∀ cs k, (∀ c ∈ cs, R c) → ∀ a, holdsAll (E.simp cs k) a = holdsAll cs a

/-- recording the ids of constraints equivalent to `U` keeps the deduplication invariant -/
theorem seen_union {E : Env} {R : Con → Prop} {U : List Con} (hR : Reg R E) {s : St} (hd : DInv R U s) (cons : List Con)
    (hcR : ∀ c ∈ cons, R c) (heq : ∀ a, holdsAll cons a = holdsAll U a) :
    ∀ c, R c → (c.id ∈ listUnion s.fe.hashes (cons.map (·.id)) ∨ c.id ∈ s.fe.woAnnot) →
      ∀ a, holdsAll U a = true → c.sem a = true := by
  intro c hc hi a ha
  rcases hi with hi | hi
  · rcases (mem_listUnion _ _ _).mp hi with hi | hi
    · exact hd.seen c hc (Or.inl hi) a ha
    · obtain ⟨c', hc', hid⟩ := List.mem_map.mp hi
      rw [hR.faithful c c' hc (hcR c' hc') hid.symm a]
      have : holdsAll cons a = true := by rw [heq a]; exact ha
      exact (models_iff_holdsAll cons a).mpr this c' hc'
  · exact hd.seen c hc (Or.inr hi) a ha

/-! Above ConstrainedFrontend every layer's `simplify` returns registered constraints that mean what the user's constraints mean,
does not raise, keeps the invariant and leaves the Z3 objects alone; each mixin is shown to hand this on. -/

def SimpC (R : Con → Prop) (m : M (List Con)) : Prop :=
  ∀ (U : List Con) s, FInv R U s →
    m.wp (fun out s' => (∀ c ∈ out, R c) ∧ (∀ a, holdsAll out a = holdsAll U a) ∧ FInv R U s' ∧ MStep s s')
      (fun _ _ => False) s

theorem FInv.reset {R : Con → Prop} {U : List Con} {s : St} (h : FInv R U s) (out : List Con) (hoR : ∀ c ∈ out, R c)
    (hoeq : ∀ a, holdsAll out a = holdsAll U a) (t : Nat) :
    FInv R U { s with tick := t, fe := { s.fe with constraints := out, solver := none, toAdd := [] } } :=
  ⟨⟨⟨fun _ _ => rfl, fun _ hr => (nomatch hr), h.1.core.noReuse, h.1.core.untracked⟩, hoeq, ⟨_, trivial, QStep.refl _⟩⟩,
   ⟨hoR, h.2.seen⟩⟩

theorem full_simplify_c {E : Env} {R : Con → Prop} (hR : Reg R E) (hS : SimpOn R E) (self self' base : Ops) :
    SimpC R (fullLayer E self (constrainedLayer E self' base)).simplify := by
  intro U s h
  simp only [fullLayer, constrainedLayer, M.wp_bind, M.wp_getFe, M.wp_ite, M.wp_get, M.wp_modify, M.wp_modifyFe]
  split
  · exact ⟨h.2.consR, h.1.equiv, h.reset _ h.2.consR h.1.equiv s.tick, rfl, Or.inr rfl, rfl, id⟩
  · have hoR := hR.simp_closed _ s.tick h.2.consR
    have hoeq : ∀ a, holdsAll (E.simp s.fe.constraints s.tick) a = holdsAll U a := fun a => by
      rw [hS _ _ h.2.consR a, h.1.equiv a]
    exact ⟨hoR, hoeq, h.reset _ hoR hoeq (s.tick + 1), rfl, Or.inr rfl, rfl, id⟩

/-- SimplifySkipperMixin.simplify: nothing to do when nothing was added since the last time -/
theorem skipper_simplify_c {R : Con → Prop} {self sup : Ops} (hsup : SimpC R sup.simplify) :
    SimpC R (skipperLayer self sup).simplify := by
  intro U s h
  simp only [skipperLayer, M.wp_bind, M.wp_getFe, M.wp_ite, M.wp_modifyFe]
  split
  · exact ⟨h.2.consR, h.1.equiv, h, MStep.refl s⟩
  · have h' : FInv R U { s with fe := { s.fe with simplified := true } } :=
      ⟨⟨⟨h.1.core.toAdd_sub, h.1.core.obj, h.1.core.noReuse, h.1.core.untracked⟩, h.1.equiv, ⟨_, trivial, QStep.refl _⟩⟩,
       ⟨h.2.consR, h.2.seen⟩⟩
    exact (hsup U _ h').imp (fun _ _ ⟨hoR, hoeq, h1, hm⟩ => ⟨hoR, hoeq, h1, hm.objs, hm.solver, hm.reuse, hm.fin⟩)
      fun _ _ h => h

theorem FInv.add_hashes {E : Env} {R : Con → Prop} {U : List Con} {s : St} (hR : Reg R E) (h : FInv R U s) (out : List Con)
    (hoR : ∀ c ∈ out, R c) (hoeq : ∀ a, holdsAll out a = holdsAll U a) :
    FInv R U { s with fe := { s.fe with hashes := listUnion s.fe.hashes (out.map (·.id)) } } :=
  ⟨⟨⟨h.1.core.toAdd_sub, h.1.core.obj, h.1.core.noReuse, h.1.core.untracked⟩, h.1.equiv, ⟨_, trivial, QStep.refl _⟩⟩,
   ⟨h.2.consR, seen_union hR h.2 out hoR hoeq⟩⟩

theorem dedup_simplify_c {E : Env} {R : Con → Prop} (hR : Reg R E) {self sup : Ops} (hsup : SimpC R sup.simplify) :
    SimpC R (dedupLayer self sup).simplify := by
  intro U s h
  simp only [dedupLayer, M.wp_bind, M.wp_modifyFe]
  exact (hsup U s h).imp (fun out _ ⟨hoR, hoeq, h1, hm⟩ =>
    ⟨hoR, hoeq, h1.add_hashes hR out hoR hoeq, hm.objs, hm.solver, hm.reuse, hm.fin⟩) fun _ _ h => h

theorem clSimplify_spec {E : Env} {R : Con → Prop} (hR : Reg R E) (hS : SimpOn R E) (k : Nat) :
    SimpC R (clStage E (k + 1)).simplify :=
  dedup_simplify_c hR (self := clStage E k)
    (skipper_simplify_c (self := clStage E k) (full_simplify_c hR hS (clStage E k) (clStage E k) frontendBase))

/-- FullFrontend.downsize (the mixins of this class do not override it) -/
def clDownsizeSt (s : St) : St := { s with fe := { s.fe with solver := none, toAdd := [] } }

theorem clDownsize_spec {R : Con → Prop} (U : List Con) (s : St) (h : CLInv0 U s) (hd : DInv R U s) :
    CLInv0 U (clDownsizeSt s) ∧ DInv R U (clDownsizeSt s) :=
  FInv.reset ⟨h, hd⟩ _ hd.consR h.equiv s.tick

theorem clDownsize_mstep (s : St) : MStep s (clDownsizeSt s) := ⟨rfl, Or.inr rfl, rfl, id⟩

end Claripy.Solver

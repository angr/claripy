import ClaripyProofs.Lemmas.Solver.Extrema
/-!
L1, part 4: which models the solver-object algorithms hand to the model callback, read off `z3BatchEval_run` and
`z3Extrema_run` for a callback of which only `HookRec` is known.  `_batch_eval` calls it with the model of every tuple it
returns; `_extrema` with a model that attains the optimum it returns (unless the optimum is the bound the search started
from).  ModelCacheMixin relies on this when it flags an expression as exhausted.
-/
namespace Claripy.Solver

variable {E : Env} {hook : PModel → M Unit} {H : List Nat → List Var → Frontend → Prop}

theorem z3BatchEval_hooked (hh : HookRec hook H) (r : Nat) (exprs : List Exp) (n : Nat) (extra : List ZCon) (s : St) :
    match z3BatchEval E r exprs n extra hook s with
    | (.ok ts, s') => ∀ t ∈ ts, Recorded E H s'.fe (fun vals => t = exprs.map fun e => e.val (asgOf vals))
    | (.error _, _) => True :=
  wp.elim (z3BatchEval E r exprs n extra hook s) (z3BatchEval_run (E := E) (hh.toOk []) hh r exprs n extra s)
    (fun _ _ h => h.1) fun _ _ _ => trivial

theorem z3Extrema_hooked (hE : OracleExact E) (hh : HookRec hook H) (r : Nat) (isMax : Bool) (e : Exp)
    (extra : List ZCon) (signed : Bool) (he : ExpWf e) (s : St) (_ : loOf signed e.bits ≤ hiOf signed e.bits) :
    match z3Extrema E r isMax e extra signed hook s with
    | (.ok i, s') =>
        i = (if isMax then loOf signed e.bits else hiOf signed e.bits) ∨
        Recorded E H s'.fe (fun vals => SatBy ((objAt s r).asserted ++ extra) (asgOf vals) ∧
          (if isMax then i ≤ keyOf signed e (asgOf vals) else keyOf signed e (asgOf vals) ≤ i))
    | (.error _, _) => True :=
  wp.elim (z3Extrema E r isMax e extra signed hook s) (z3Extrema_run hE (hh.toOk []) hh r isMax e extra signed he s (by simp))
    (fun _ _ h => h.2.2.2.2) fun _ _ _ => trivial

end Claripy.Solver

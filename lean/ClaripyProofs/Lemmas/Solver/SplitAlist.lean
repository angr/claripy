import Claripy.Solver.Structure
import ClaripyProofs.Lemmas.Solver.Basic
import ClaripyProofs.Lemmas.Util.InsertSort
/-!
Association lists as `_split_constraints` uses its two dicts, and the sorted de-duplication of the result.
-/
namespace Claripy.Solver

variable {β : Type}

theorem alGet?_nil (k : Var) : alGet? ([] : List (Var × β)) k = none := rfl

theorem alGet?_cons (p : Var × β) (d : List (Var × β)) (k : Var) :
    alGet? (p :: d) k = if p.1 == k then some p.2 else alGet? d k := by
  unfold alGet?
  rw [List.find?_cons]
  split <;> simp_all

theorem alGet?_append (d e : List (Var × β)) (k : Var) : alGet? (d ++ e) k = (alGet? d k).or (alGet? e k) := by
  unfold alGet?
  rw [List.find?_append, Option.map_or]

theorem alGet?_isSome (d : List (Var × β)) (k : Var) : (alGet? d k).isSome = d.any fun p => p.1 == k := by
  rw [Bool.eq_iff_iff, List.any_eq_true, alGet?, Option.isSome_map, List.find?_isSome]

theorem alGet?_alSet (d : List (Var × β)) (k : Var) (x : β) (k' : Var) :
    alGet? (alSet d k x) k' = if k' = k then some x else alGet? d k' := by
  have hk := alGet?_isSome d k
  unfold alSet
  split
  · rename_i h
    rw [h] at hk
    -- the overwritten entry keeps its key, so a lookup finds the entry at the same place
    have hf : ((fun p : Var × β => p.1 == k') ∘ fun p => if p.1 == k then (k, x) else p) = fun p => p.1 == k' := by
      funext p
      simp only [Function.comp]
      split <;> simp_all
    unfold alGet? at hk ⊢
    rw [List.find?_map, hf, Option.map_map]
    cases hq : d.find? fun p => p.1 == k' with
    | none =>
      have : k' ≠ k := by rintro rfl; simp [hq] at hk
      simp [this]
    | some q =>
      have := List.find?_some hq
      by_cases hkk : k' = k <;> simp_all
  · rename_i h
    rw [alGet?_append, alGet?_cons, alGet?_nil]
    by_cases hkk : k' = k
    · subst hkk
      rw [Option.not_isSome_iff_eq_none.mp (hk ▸ h : ¬(alGet? d k').isSome = true)]
      simp
    · simp [hkk, Ne.symm hkk]
theorem alGet?_foldl_alSet (cv : List Var) (x : β) (d : List (Var × β)) (k' : Var) :
    alGet? (cv.foldl (fun d v => alSet d v x) d) k' = if k' ∈ cv then some x else alGet? d k' := by
  induction cv generalizing d with
  | nil => simp
  | cons v vs ih =>
    simp only [List.foldl_cons, ih, alGet?_alSet, List.mem_cons]
    by_cases h1 : k' ∈ vs
    · simp [h1]
    · by_cases h2 : k' = v
      · simp [h2]
      · simp [h1, h2]

def keys (d : List (Var × β)) : List Var := d.map (·.1)

theorem keys_alSet_nodup (d : List (Var × β)) (k : Var) (x : β) (h : (keys d).Nodup) : (keys (alSet d k x)).Nodup := by
  unfold alSet
  split
  · have : keys (d.map fun p => if p.1 == k then (k, x) else p) = keys d := by
      unfold keys
      rw [List.map_map]
      apply List.map_congr_left
      intro p _
      simp only [Function.comp]
      split
      · rename_i hp
        have : p.1 = k := by simpa using hp
        exact this.symm
      · rfl
    rw [this]; exact h
  · rename_i hk
    unfold keys at *
    rw [List.map_append, List.nodup_append]
    refine ⟨h, by simp, ?_⟩
    intro a ha b hb
    simp only [List.map_cons, List.map_nil, List.mem_singleton] at hb
    subst hb
    intro hab
    subst hab
    apply hk
    simp only [List.any_eq_true]
    obtain ⟨p, hp, rfl⟩ := List.mem_map.mp ha
    exact ⟨p, hp, by simp⟩

theorem keys_foldl_alSet_nodup (cv : List Var) (x : β) (d : List (Var × β)) (h : (keys d).Nodup) :
    (keys (cv.foldl (fun d v => alSet d v x) d)).Nodup := by
  induction cv generalizing d with
  | nil => exact h
  | cons v vs ih => exact ih _ (keys_alSet_nodup d v x h)

theorem alGet?_of_mem (d : List (Var × β)) (h : (keys d).Nodup) (p : Var × β) (hp : p ∈ d) : alGet? d p.1 = some p.2 :=
  find?_snd_of_mem h hp

theorem mem_of_alGet? (d : List (Var × β)) (k : Var) (x : β) (h : alGet? d k = some x) : (k, x) ∈ d := by
  obtain ⟨k', hm, hk⟩ := find?_snd_some (p := (· == k)) h
  exact eq_of_beq hk ▸ hm

end Claripy.Solver

namespace Claripy.Solver

theorem mem_insertSorted (x y : Nat) (l : List Nat) : y ∈ insertSorted x l ↔ y = x ∨ y ∈ l := by
  induction l with
  | nil => simp [insertSorted]
  | cons z zs ih =>
    simp only [insertSorted]
    split
    · simp
    · split
      · rename_i h; subst h; simp
      · simp only [List.mem_cons, ih]
        exact or_left_comm

theorem insertSorted_sorted (x : Nat) (l : List Nat) (h : l.Pairwise (· < ·)) : (insertSorted x l).Pairwise (· < ·) := by
  induction l with
  | nil => simp [insertSorted]
  | cons z zs ih =>
    simp only [insertSorted]
    have hz := List.pairwise_cons.mp h
    split
    · rename_i hxz
      refine List.pairwise_cons.mpr ⟨?_, h⟩
      intro a ha
      rcases List.mem_cons.mp ha with rfl | ha
      · exact hxz
      · exact Nat.lt_trans hxz (hz.1 a ha)
    · split
      · exact h
      · rename_i h1 h2
        refine List.pairwise_cons.mpr ⟨?_, ih hz.2⟩
        intro a ha
        rcases (mem_insertSorted x a zs).mp ha with rfl | ha
        · omega
        · exact hz.1 a ha

theorem mem_sortDedup (l : List Nat) (y : Nat) : y ∈ sortDedup l ↔ y ∈ l :=
  (mem_foldl_ins (fun x l y => mem_insertSorted x y l) l [] y).trans (by simp)

theorem sortDedup_sorted (l : List Nat) : (sortDedup l).Pairwise (· < ·) := by
  unfold sortDedup
  suffices h : ∀ acc : List Nat, acc.Pairwise (· < ·) → (l.foldl (fun acc x => insertSorted x acc) acc).Pairwise (· < ·) from
    h [] .nil
  induction l with
  | nil => exact fun _ h => h
  | cons x xs ih => exact fun acc h => ih _ (insertSorted_sorted x acc h)

theorem sortDedup_nodup (l : List Nat) : (sortDedup l).Nodup :=
  (sortDedup_sorted l).imp (fun h => Nat.ne_of_lt h)

end Claripy.Solver

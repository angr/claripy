import ClaripyProofs.Lemmas.Solver.ModelCacheAdd
/-!
`_add` through the whole stack of the class `Solver`:
ConstraintFilter → ConstraintDeduplicator → SimplifySkipper → SatCache → ModelCache → FullFrontend → ConstrainedFrontend.
-/
namespace Claripy.Solver

variable {R : Con → Prop} {RE : Exp → Prop} {E : Env} {G : St → Prop} {U : List Con}

theorem fc_add_low (E : Env) (self self' base : Ops) : LowAdd0 (fullLayer E self (constrainedLayer E self' base)).add := by
  intro s cs inv
  obtain ⟨new, wo, vs, hrun, hsub, hwo, hcov, hvs⟩ := full_add_run E self self' base cs inv s
  exact ⟨new, _, hrun, ⟨rfl, rfl, rfl, rfl, rfl, rfl, rfl, hsub, fun c hc => (hcov c hc).imp id fun h => h.imp Or.inr id, hvs,
    fun i hi => hi.elim (fun h => Or.inl (Or.inl h)) fun h => ((hwo i).mp h).imp Or.inr id⟩, rfl, rfl, rfl⟩

/-- what SatCacheMixin._add assumes of `super()._add` -/
def LowAdd1 (R : Con → Prop) (RE : Exp → Prop) (E : Env) (G : St → Prop) (add : List Con → Bool → M (List Con)) : Prop :=
  ∀ (U : List Con) s cs inv, BInv R G U s → MCInv RE E U s.fe → (∀ c ∈ cs, R c) →
    (inv = false → ∀ a, Models U a → Models cs a) →
    ∃ new s', add cs inv s = (.ok new, s') ∧ AddRel s s' cs new ∧ MCInv RE E (U ++ new) s'.fe ∧ KeepAdd E s s' cs ∧
      s'.fe.cachedSat = s.fe.cachedSat ∧ s'.fe.hashes = s.fe.hashes

theorem mc_add_low (hR : Reg R E) (hT : TrivOk R RE) {self sup : Ops} (hsup : LowAdd0 sup.add) :
    LowAdd1 R RE E G (modelCacheLayer E self sup).add :=
  fun _ s cs inv hb hmc hcs himp => mc_add_spec hR hT hsup s hb hmc cs inv hcs himp

theorem cheapScan_spec (E : Env) (a : Con) : ∀ (cons : List Con) (s : St),
    ∃ res t', cheapScan E a cons s = (.ok res, { s with tick := t' }) ∧
      ∀ con, res = some con → con ∈ cons ∧ ∃ k, E.cheapFalse con a k = true := by
  intro cons
  induction cons with
  | nil => intro s; exact ⟨none, s.tick, rfl, by simp⟩
  | cons c rest ih =>
    intro s
    simp only [cheapScan, bind, M.bind, M.get_apply, M.modify_apply]
    by_cases hc : E.cheapFalse c a s.tick = true
    · simp only [hc, ↓reduceIte, pure, M.pure]
      exact ⟨some c, s.tick + 1, rfl, fun con h => by simp at h; subst h; exact ⟨by simp, _, hc⟩⟩
    · simp only [hc, Bool.false_eq_true, ↓reduceIte]
      obtain ⟨res, t', hrun, hres⟩ := ih { s with tick := s.tick + 1 }
      exact ⟨res, t', hrun, fun con h => ⟨List.mem_cons_of_mem _ (hres con h).1, (hres con h).2⟩⟩

/-- the contradiction scan: touches the event counter and the cached core only; `True` means the constraints (which
contain `added`) have no model -/
theorem satCacheAddScan_spec (hT : CheapSound E) (added : List Con) (hwf : ∀ c ∈ added, ConWf c) (s : St) :
    ∃ b t' core, satCacheAddScan E added s = (.ok b, { s with tick := t', fe := { s.fe with cachedCore := core } }) ∧
      (b = true → ∀ a, Models s.fe.constraints a → Models added a → False) := by
  unfold satCacheAddScan
  by_cases hemp : added.isEmpty = true
  · simp only [hemp, ↓reduceIte, pure, M.pure]
    exact ⟨false, s.tick, s.fe.cachedCore, rfl, by simp⟩
  · simp only [hemp, Bool.false_eq_true, ↓reduceIte]
    by_cases hf : added.any (·.isFalse) = true
    · simp only [hf, ↓reduceIte, pure, M.pure]
      refine ⟨true, s.tick, s.fe.cachedCore, rfl, fun _ a _ ha => ?_⟩
      obtain ⟨c, hc, hcf⟩ := List.any_eq_true.mp hf
      have := ha c hc
      rw [(hwf c hc).2.1 hcf a] at this
      exact absurd this (by simp)
    · simp only [hf, Bool.false_eq_true, ↓reduceIte]
      match added, hemp, hf with
      | [], _, _ => exact ⟨false, s.tick, s.fe.cachedCore, rfl, by simp⟩
      | [a0], _, _ =>
        simp only [bind, M.bind, M.getFe_apply]
        by_cases hl : s.fe.constraints.length < 5
        · simp only [hl, ↓reduceIte]
          obtain ⟨res, t', hrun, hres⟩ := cheapScan_spec E a0 s.fe.constraints s
          simp only [M.bind, hrun]
          cases res with
          | none => exact ⟨false, t', s.fe.cachedCore, rfl, by simp⟩
          | some con =>
            simp only [pure]
            refine ⟨true, t', some [con, a0], rfl, fun _ a hca haa => ?_⟩
            obtain ⟨hin, k, hk⟩ := hres con rfl
            exact hT.1 con a0 k hk a ⟨hca con hin, haa a0 (by simp)⟩
        · simp only [hl, ↓reduceIte, pure, M.pure]
          exact ⟨false, s.tick, s.fe.cachedCore, rfl, by simp⟩
      | _ :: _ :: _, _, _ => exact ⟨false, s.tick, s.fe.cachedCore, rfl, by simp⟩

/-- what the deduplicator assumes of `super()._add` -/
def LowAdd2 (R : Con → Prop) (RE : Exp → Prop) (E : Env) (G : St → Prop) (add : List Con → Bool → M (List Con)) : Prop :=
  ∀ (U : List Con) s cs inv, SI R RE E G U s → (∀ c ∈ cs, R c) →
    (inv = false → ∀ a, Models U a → Models cs a) →
    ∃ new s', add cs inv s = (.ok new, s') ∧ AddRel s s' cs new ∧ MCInv RE E (U ++ new) s'.fe ∧ SCInv (U ++ new) s'.fe ∧
      KeepAdd E s s' cs ∧ s'.fe.hashes = s.fe.hashes

/-- the fields `_add` describes are not those of the caching mixins -/
theorem AddRel.of_fe {s s1 s2 : St} {cs new : List Con} (h : AddRel s s1 cs new) (hobjs : s2.objs = s1.objs)
    (hre : s2.reuse = s1.reuse) (hcons : s2.fe.constraints = s1.fe.constraints) (htoadd : s2.fe.toAdd = s1.fe.toAdd)
    (hsol : s2.fe.solver = s1.fe.solver) (htrack : s2.fe.track = s1.fe.track) (hfin : s2.fe.finalized = s1.fe.finalized)
    (hvar : s2.fe.variables = s1.fe.variables) (hhash : s2.fe.hashes = s1.fe.hashes) (hwo : s2.fe.woAnnot = s1.fe.woAnnot) :
    AddRel s s2 cs new :=
  ⟨hcons.trans h.cons, htoadd.trans h.toAdd, hsol.trans h.solver, htrack.trans h.track, hfin.trans h.fin, hobjs.trans h.objs,
   hre.trans h.reuse, h.sub, h.cover, fun v => by rw [hvar]; exact h.vars v, fun i => by rw [hhash, hwo]; exact h.ids i⟩

theorem satCache_add_low (hR : Reg R E) (hT : CheapSound E) {self sup : Ops} (hsup : LowAdd1 R RE E G sup.add) :
    LowAdd2 R RE E G (satCacheLayer E self sup).add := by
  intro U s cs inv h hcs himp
  obtain ⟨new, s1, hrun, hrel, hmc1, hkeep, hcsat, hhash⟩ := hsup U s cs inv h.base h.mc hcs himp
  obtain ⟨b, t', core, hscan, hb⟩ := satCacheAddScan_spec hT new (fun c hc => hR.wf c (hcs c (hrel.sub c hc))) s1
  have hequiv : ∀ a, Models s1.fe.constraints a ↔ Models (U ++ new) a := fun a => by
    rw [hrel.cons, models_append, models_append, h.base.models_iff a]
  refine wp.ok ?_
  simp only [satCacheLayer, M.wp_bind, M.wp_ok hrun, M.wp_ok hscan, M.wp_ite, M.wp_modifyFe]
  -- whatever the scan found, only `cachedSat`, `cachedCore` and the event counter differ from `s1`
  have rest : ∀ c, SCInv (U ++ new) { s1.fe with cachedCore := core, cachedSat := c } →
      AddRel s { s1 with tick := t', fe := { s1.fe with cachedCore := core, cachedSat := c } } cs new ∧
      MCInv RE E (U ++ new) { s1.fe with cachedCore := core, cachedSat := c } ∧
      SCInv (U ++ new) { s1.fe with cachedCore := core, cachedSat := c } ∧
      KeepAdd E s { s1 with tick := t', fe := { s1.fe with cachedCore := core, cachedSat := c } } cs ∧
      s1.fe.hashes = s.fe.hashes :=
    fun c hsc => ⟨hrel.of_fe rfl rfl rfl rfl rfl rfl rfl rfl rfl rfl, hmc1.of_fields rfl, hsc,
      fun m hm hmc => hkeep m hm hmc, hhash⟩
  split
  · next hbt =>
    exact rest _ ⟨fun hc => by simp at hc, fun _ ⟨a, ha⟩ => hb hbt a ((hequiv a).mpr ha) (models_append.mp ha).2⟩
  · split
    · exact rest _ ⟨fun hc => by simp at hc, fun hc => by simp at hc⟩
    · next hct =>
      refine rest _ ⟨fun hc => absurd (by simpa using hc) hct, fun hc ⟨a, ha⟩ => ?_⟩
      rw [hcsat] at hc
      exact h.sc.2 hc ⟨a, (models_append.mp ha).1⟩

/-- SimplifySkipperMixin._add: what `super()._add` did, and `simplified` reset when something was added -/
theorem skipper_add_wp {self sup : Ops} {cs new : List Con} {inv : Bool} {s s1 : St} (hrun : sup.add cs inv s = (.ok new, s1))
    {Q : List Con → St → Prop} {X : Err → St → Prop} (hQ : ∀ b, Q new { s1 with fe := { s1.fe with simplified := b } }) :
    ((skipperLayer self sup).add cs inv).wp Q X s := by
  simp only [skipperLayer, M.wp_bind, M.wp_ok hrun, M.wp_ite, M.wp_modifyFe]
  split
  · exact hQ false
  · exact hQ s1.fe.simplified

theorem AddRel.set_simplified {s s1 : St} {cs new : List Con} (h : AddRel s s1 cs new) (b : Bool) :
    AddRel s { s1 with fe := { s1.fe with simplified := b } } cs new :=
  h.of_fe rfl rfl rfl rfl rfl rfl rfl rfl rfl rfl

theorem skipper_add_low1 {self sup : Ops} (hsup : LowAdd1 R RE E G sup.add) : LowAdd1 R RE E G (skipperLayer self sup).add := by
  intro U s cs inv hb hmc hcs himp
  obtain ⟨new, s1, hrun, hrel, hmc1, hkeep, hcsat, hhash⟩ := hsup U s cs inv hb hmc hcs himp
  exact wp.ok (skipper_add_wp hrun fun b => ⟨hrel.set_simplified b, hmc1.of_fields rfl,
    fun m hm hmc' => hkeep m hm hmc', hcsat, hhash⟩)

theorem skipper_add_low {self sup : Ops} (hsup : LowAdd2 R RE E G sup.add) : LowAdd2 R RE E G (skipperLayer self sup).add := by
  intro U s cs inv h hcs himp
  obtain ⟨new, s1, hrun, hrel, hmc1, hsc1, hkeep, hhash⟩ := hsup U s cs inv h hcs himp
  exact wp.ok (skipper_add_wp hrun fun b => ⟨hrel.set_simplified b, hmc1.of_fields rfl, hsc1,
    fun m hm hmc => hkeep m hm hmc, hhash⟩)

/-- what the constraint filter assumes of `super()._add` -/
def LowAdd3 (R : Con → Prop) (RE : Exp → Prop) (E : Env) (G : St → Prop) (add : List Con → Bool → M (List Con)) : Prop :=
  ∀ (U : List Con) s cs inv, SI R RE E G U s → (∀ c ∈ cs, R c) →
    (inv = false → ∀ a, Models U a → Models cs a) →
    ∃ new s', add cs inv s = (.ok new, s') ∧ AddRel s s' cs new ∧ MCInv RE E (U ++ new) s'.fe ∧ SCInv (U ++ new) s'.fe ∧
      KeepAdd E s s' cs

theorem AddRel.refl_nil (s : St) (cs : List Con) (h : ∀ c ∈ cs, c.id ∈ s.fe.hashes ∨ c.id ∈ s.fe.woAnnot) :
    AddRel s s cs [] :=
  ⟨by simp, by simp, rfl, rfl, rfl, rfl, rfl, by simp, fun c hc => Or.inr (Or.inl (h c hc)), by simp, fun i hi => Or.inl hi⟩

theorem dedup_add_low {self sup : Ops} (hsup : LowAdd2 R RE E G sup.add) : LowAdd3 R RE E G (dedupLayer self sup).add := by
  intro U s cs inv h hcs himp
  refine wp.ok ?_
  simp only [dedupLayer, M.wp_bind, M.wp_getFe, M.wp_ite]
  split
  · next hf =>
    have hnil : (cs.filter fun c => !s.fe.hashes.contains c.id) = [] := by simpa using hf
    rw [hnil]
    refine ⟨AddRel.refl_nil s cs ?_, by simpa using h.mc, by simpa using h.sc, fun m hm _ => hm⟩
    intro c hc
    left
    by_cases hcon : c.id ∈ s.fe.hashes
    · exact hcon
    · have : c ∈ (cs.filter fun c => !s.fe.hashes.contains c.id) := List.mem_filter.mpr ⟨hc, by simpa using hcon⟩
      rw [hnil] at this
      simp at this
  · next hf =>
    have hfsub : ∀ c ∈ (cs.filter fun c => !s.fe.hashes.contains c.id), c ∈ cs := fun c hc => (List.mem_filter.mp hc).1
    obtain ⟨new, s1, hrun, hrel, hmc1, hsc1, hkeep, hhash⟩ := hsup U s _ inv h (fun c hc => hcs c (hfsub c hc))
      (fun hi a ha c hc => himp hi a ha c (hfsub c hc))
    simp only [M.wp_ok hrun, M.wp_modifyFe]
    refine ⟨?_, hmc1.of_fields rfl, hsc1, ?_⟩
    · refine ⟨hrel.cons, hrel.toAdd, hrel.solver, hrel.track, hrel.fin, hrel.objs, hrel.reuse,
        fun c hc => hfsub c (hrel.sub c hc), ?_, hrel.vars, ?_⟩
      · intro c hc
        by_cases hh : c.id ∈ s.fe.hashes
        · exact Or.inr (Or.inl (Or.inl hh))
        · exact hrel.cover c (List.mem_filter.mpr ⟨hc, by simpa using hh⟩)
      · intro i hi
        rcases hi with hi | hi
        · rcases (mem_listUnion _ _ i).mp hi with hi | hi
          · exact Or.inl (Or.inl (by rw [← hhash]; exact hi))
          · right
            obtain ⟨c, hc, rfl⟩ := List.mem_map.mp hi
            exact ⟨c, hc, rfl⟩
        · exact hrel.ids i (Or.inr hi)
    · intro m hm hmcs
      exact hkeep m hm (fun c hc => hmcs c (hfsub c hc))

theorem si_of_added (hR : Reg R E) {U : List Con} {s s' : St} {ec cs new : List Con} (h : SI R RE E G U s)
    (hec : ∀ c ∈ ec, R c) (heq : ∀ a, holdsAll ec a = holdsAll cs a) (hrel : AddRel s s' ec new)
    (hmc : MCInv RE E (U ++ new) s'.fe) (hsc : SCInv (U ++ new) s'.fe) : SI R RE E G (U ++ cs) s' := by
  have hsi : SI R RE E G (U ++ new) s' := ⟨h.base.add hR hec hrel, hmc, hsc⟩
  refine hsi.congr fun a => ?_
  have h1 := hrel.models_iff hR h.base.dinv hec a
  rw [models_iff_holdsAll, models_iff_holdsAll] at h1
  have h2 : holdsAll (U ++ ec) a = holdsAll (U ++ cs) a := by rw [holdsAll_append, holdsAll_append, heq a]
  cases hx : holdsAll (U ++ cs) a <;> cases hy : holdsAll (U ++ new) a <;> simp_all

theorem filter_add_spec (hR : Reg R E) {self sup : Ops} (hcc : ∀ c, self.concreteCon c = c.conc)
    (hsup : LowAdd3 R RE E G sup.add) : AddSpec R RE E G (filterLayer E self sup).add := by
  intro U s cs inv h hcs himp
  obtain ⟨hecR, hecEq⟩ := filtered_equiv hR hcc cs hcs
  refine wp.ok (wp_filter_add cs inv (fun hn => ⟨h.congr fun a => ?_, fun m hm _ => hm, fun v hv => hv⟩) ?_)
  · rcases hn with rfl | hn
    · rw [List.append_nil]
    · rw [holdsAll_append, ← hecEq a, hn, holdsAll_nil, Bool.and_true]
  · have himp' : inv = false → ∀ a, Models U a → Models (filteredOf E self cs) a := by
      intro hi a ha
      rw [models_iff_holdsAll, hecEq a, ← models_iff_holdsAll]
      exact himp hi a ha
    obtain ⟨new, s1, hrun, hrel, hmc1, hsc1, hkeep⟩ := hsup U s _ inv h hecR himp'
    rw [M.wp_ok hrun]
    refine ⟨si_of_added hR h hecR hecEq hrel hmc1 hsc1, fun m hm hmcs => hkeep m hm ?_, fun v hv => (hrel.vars v).mpr (Or.inl hv)⟩
    rw [models_iff_holdsAll, hecEq, ← models_iff_holdsAll]
    exact hmcs

end Claripy.Solver

import ClaripyProofs.Lemmas.Solver.CachelessHistory
/-!
The class `SolverStrings` = ConcreteHandler, ConstraintFilter, ConstraintDeduplicator, EagerResolution over FullFrontend (MRO
from the generated file; bit-vector alphabets — string-theory answers are L0): the queries are literally those of
SolverCacheless, `_add` and `simplify` lack the SimplifySkipper step.  Whole histories over trees of branched solvers, with
the same world invariant `TInv`.
-/
namespace Claripy.Solver
open Claripy.Gen.SolverMro

/-- the class seen through `self` inside its own methods (`k + 1` unrollings) -/
def stStage (E : Env) (k : Nat) : Ops := stage E (mro .SolverStrings) (k + 1)

theorem stStage_ok (E : Env) (k : Nat) : SelfOk (stStage E k) := ⟨fun _ => rfl, fun _ => rfl, rfl⟩

theorem stAdd_spec {E : Env} {R : Con → Prop} (hR : Reg R E) (k : Nat) : AddC R (stStage E (k + 1)).add :=
  filter_add_c hR (stStage_ok E k)
    (dedupAdd_spec (self := stStage E k) (full_add_c E (stStage E k) (stStage E k) frontendBase))

/-- `simplify()` of SolverStrings (no skipper: it always simplifies) -/
theorem stSimplify_spec {E : Env} {R : Con → Prop} (hR : Reg R E) (hS : SimpOn R E) (k : Nat) :
    SimpC R (stStage E (k + 1)).simplify :=
  dedup_simplify_c hR (self := stStage E k) (full_simplify_c hR hS (stStage E k) (stStage E k) frontendBase)

theorem strings_class {E : Env} {R : Con → Prop} (hR : Reg R E) (hS : SimpOn R E) :
    CLClass R E (classOps E .SolverStrings) (stStage E 3) (stStage E 2) where
  ok := stStage_ok E 3
  ok' := stStage_ok E 2
  selfSat := rfl
  selfEval := rfl
  satisfiable := rfl
  eval := rfl
  max := rfl
  min := rfl
  solution := rfl
  isTrue := rfl
  isFalse := rfl
  downsize _ := rfl
  addNil _ := rfl
  add := stAdd_spec hR 3
  simplify := stSimplify_spec hR hS 3
  branch _ := ⟨_, rfl, rfl, rfl⟩

section
variable {E : Env} {R : Con → Prop} (hR : Reg R E) (hE : OracleExact E) (hS : SimpOn R E) (hT : CheapSound E)
include hR hE hS hT

theorem st_step (w : World) (Us : List (List Con)) (hw : TInv R Us w) (i : Nat) (hi : i < w.fes.length)
    (op : Op) (hop : InScope R op) :
    JudgeOrGiveUp E (usersAfter (Us.getD i []) op) op (step E .SolverStrings w i op).1 ∧
    TInv R (usersAll Us i op) (step E .SolverStrings w i op).2 :=
  clc_step (strings_class hR hS) hE hT w Us hw i hi op hop

theorem st_hist_giveup (hist : List (Nat × Op)) (w : World) (Us : List (List Con)) (hw : TInv R Us w)
    (hok : HistOk R w.fes.length hist) :
    ∀ x ∈ runHist E .SolverStrings w Us hist, JudgeOrGiveUp E x.1 x.2.1 x.2.2 :=
  clc_hist_giveup (strings_class hR hS) hE hT hist w Us hw hok

end

end Claripy.Solver

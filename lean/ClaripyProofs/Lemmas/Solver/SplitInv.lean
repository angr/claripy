import ClaripyProofs.Lemmas.Solver.SplitAlist
/-!
The loop of `_split_constraints`: after the first `k` conjuncts, the two dicts describe a partition of the variables seen
into classes, every class knows exactly the conjuncts whose variables it holds.
-/
namespace Claripy.Solver

def optUnion (acc : List Nat) : Option (List Nat) → List Nat
  | some s => listUnion acc s
  | none => acc

theorem mem_optUnion {γ : Type} (acc : List Nat) (o : Option γ) (f : γ → List Nat) (y : Nat) :
    y ∈ optUnion acc (o.map f) ↔ y ∈ acc ∨ ∃ c, o = some c ∧ y ∈ f c := by
  cases o <;> simp [optUnion, mem_listUnion]

theorem mem_foldl_union {γ : Type} (m : Var → Option γ) (f : γ → List Nat) (vars : List Var) (init : List Nat) (y : Nat) :
    y ∈ vars.foldl (fun acc v => optUnion acc ((m v).map f)) init ↔ y ∈ init ∨ ∃ v ∈ vars, ∃ c, m v = some c ∧ y ∈ f c := by
  induction vars generalizing init with
  | nil => simp
  | cons v vs ih => simp [ih, mem_optUnion, or_assoc]

/-- `connected_variables` of one iteration -/
def stepCv (st : SplitSt) (vars : List Var) : List Var :=
  vars.foldl (fun acc v => optUnion acc (alGet? st.vc v)) (vars.foldl listInsert [])
/-- `connected_constraints` of one iteration -/
def stepCs (st : SplitSt) (n : Nat) (vars : List Var) : List Nat :=
  vars.foldl (fun acc v => optUnion acc (alGet? st.cc v)) [n]

theorem splitStep_eq (st : SplitSt) (n : Nat) (vars : List Var) :
    splitStep st n vars =
      { vc := (stepCv st vars).foldl (fun d v => alSet d v (stepCv st vars)) st.vc,
        cc := (stepCv st vars).foldl (fun d v => alSet d v (stepCs st n vars)) st.cc } := rfl

theorem vc_splitStep (st : SplitSt) (n : Nat) (vars : List Var) (u : Var) :
    alGet? (splitStep st n vars).vc u = if u ∈ stepCv st vars then some (stepCv st vars) else alGet? st.vc u := by
  rw [splitStep_eq]; exact alGet?_foldl_alSet _ _ _ _

theorem cc_splitStep (st : SplitSt) (n : Nat) (vars : List Var) (u : Var) :
    alGet? (splitStep st n vars).cc u = if u ∈ stepCv st vars then some (stepCs st n vars) else alGet? st.cc u := by
  rw [splitStep_eq]; exact alGet?_foldl_alSet _ _ _ _

/-- A map from variables to blocks is a partition: a variable lies in its block, and every member of a block is mapped
to that block. -/
def PartMap {γ : Type} (mem : γ → List Var) (m : Var → Option γ) : Prop :=
  ∀ v c, m v = some c → v ∈ mem c ∧ ∀ u ∈ mem c, m u = some c

theorem PartMap.eq_of_mem {γ : Type} {mem : γ → List Var} {m : Var → Option γ} (h : PartMap mem m) {v v' w : Var} {c c' : γ}
    (hv : m v = some c) (hv' : m v' = some c') (hw : w ∈ mem c) (hw' : w ∈ mem c') : c = c' :=
  Option.some.inj (((h v c hv).2 w hw).symm.trans ((h v' c' hv').2 w hw'))

/-- overwriting the members of a block that absorbs every class it meets keeps the partition -/
theorem PartMap.setBlock {γ : Type} {mem : γ → List Var} {m m' : Var → Option γ} (h : PartMap mem m) (b : γ)
    (hm' : ∀ v, m' v = if v ∈ mem b then some b else m v)
    (habs : ∀ v c, m v = some c → v ∈ mem b → ∀ u ∈ mem c, u ∈ mem b) : PartMap mem m' := by
  intro v c hv
  rw [hm'] at hv
  split at hv
  · rename_i hvb
    cases hv
    exact ⟨hvb, fun u hu => by rw [hm', if_pos hu]⟩
  · rename_i hvb
    obtain ⟨hvc, hall⟩ := h v c hv
    refine ⟨hvc, fun u hu => ?_⟩
    rw [hm', if_neg fun hub => hvb (habs u c (hall u hu) hub v hvc)]
    exact hall u hu

/-- the two dicts read as one: the class of a variable and the conjuncts of that class -/
def pairOf (st : SplitSt) (v : Var) : Option (List Var × List Nat) :=
  (alGet? st.vc v).bind fun S => (alGet? st.cc v).map fun C => (S, C)

theorem pairOf_eq_some {st : SplitSt} {v : Var} {c : List Var × List Nat} :
    pairOf st v = some c ↔ alGet? st.vc v = some c.1 ∧ alGet? st.cc v = some c.2 := by
  unfold pairOf
  cases alGet? st.vc v <;> cases alGet? st.cc v <;> simp [Prod.ext_iff]

theorem pairOf_splitStep (st : SplitSt) (n : Nat) (vars : List Var) (u : Var) :
    pairOf (splitStep st n vars) u =
      if u ∈ stepCv st vars then some (stepCv st vars, stepCs st n vars) else pairOf st u := by
  unfold pairOf
  rw [vc_splitStep, cc_splitStep]
  split <;> rfl

structure SplitInv (all : List (List Var)) (k : Nat) (st : SplitSt) : Prop where
  vcKeys : (keys st.vc).Nodup
  dom : ∀ v, (alGet? st.vc v).isSome = (alGet? st.cc v).isSome
  part : PartMap (·.1) (pairOf st)
  ne : ∀ v c, pairOf st v = some c → c.2 ≠ []
  idx : ∀ v c, pairOf st v = some c → ∀ i ∈ c.2, i < k ∧ ∃ vs, all[i]? = some vs ∧ vs ≠ [] ∧ ∀ w ∈ vs, w ∈ c.1
  cover : ∀ i vs, i < k → all[i]? = some vs → ∀ w ∈ vs, ∃ c, pairOf st w = some c ∧ i ∈ c.2

theorem splitInv_init (all : List (List Var)) : SplitInv all 0 {} where
  vcKeys := List.nodup_nil
  dom := fun _ => rfl
  part := fun _ _ h => nomatch h
  ne := fun _ _ h => nomatch h
  idx := fun _ _ h => nomatch h
  cover := fun _ _ h => nomatch h

namespace SplitInv
variable {all : List (List Var)} {k : Nat} {st : SplitSt} (inv : SplitInv all k st)
include inv

theorem vc_eq (v : Var) : alGet? st.vc v = (pairOf st v).map (·.1) := by
  have := inv.dom v
  cases h1 : alGet? st.vc v <;> cases h2 : alGet? st.cc v <;> simp_all [pairOf]

theorem cc_eq (v : Var) : alGet? st.cc v = (pairOf st v).map (·.2) := by
  have := inv.dom v
  cases h1 : alGet? st.vc v <;> cases h2 : alGet? st.cc v <;> simp_all [pairOf]

theorem mem_stepCv (vars : List Var) (u : Var) :
    u ∈ stepCv st vars ↔ u ∈ vars ∨ ∃ v ∈ vars, ∃ c, pairOf st v = some c ∧ u ∈ c.1 := by
  unfold stepCv
  simp only [inv.vc_eq]
  rw [mem_foldl_union, mem_foldl_listInsert, List.mem_nil_iff, false_or]

theorem mem_stepCs (n : Nat) (vars : List Var) (i : Nat) :
    i ∈ stepCs st n vars ↔ i = n ∨ ∃ v ∈ vars, ∃ c, pairOf st v = some c ∧ i ∈ c.2 := by
  unfold stepCs
  simp only [inv.cc_eq]
  rw [mem_foldl_union, List.mem_singleton]

/-- a class that meets the new connected set is inside it -/
theorem absorb (vars : List Var) (w : Var) (c : List Var × List Nat) (hw : pairOf st w = some c)
    (hwc : w ∈ stepCv st vars) : ∀ u ∈ c.1, u ∈ stepCv st vars := by
  intro u hu
  rcases (inv.mem_stepCv vars w).mp hwc with hv | ⟨v, hv, c', hc', hwc'⟩
  · exact (inv.mem_stepCv vars u).mpr (Or.inr ⟨w, hv, c, hw, hu⟩)
  · cases inv.part.eq_of_mem hw hc' (inv.part w c hw).1 hwc'
    exact (inv.mem_stepCv vars u).mpr (Or.inr ⟨v, hv, c, hc', hu⟩)

end SplitInv

theorem splitInv_step {all k st} (inv : SplitInv all k st) (vars : List Var) (hk : all[k]? = some vars) :
    SplitInv all (k + 1) (splitStep st k vars) where
  vcKeys := by rw [splitStep_eq]; exact keys_foldl_alSet_nodup _ _ _ inv.vcKeys
  dom := by
    intro v
    rw [vc_splitStep, cc_splitStep]
    split
    · rfl
    · exact inv.dom v
  part := inv.part.setBlock (stepCv st vars, stepCs st k vars) (pairOf_splitStep st k vars) (inv.absorb vars)
  ne := by
    intro v c h
    rw [pairOf_splitStep] at h
    split at h
    · cases h
      exact List.ne_nil_of_mem ((inv.mem_stepCs k vars k).mpr (Or.inl rfl))
    · exact inv.ne v c h
  idx := by
    intro v c h i hi
    rw [pairOf_splitStep] at h
    split at h
    · rename_i hv
      cases h
      rcases (inv.mem_stepCs k vars i).mp hi with rfl | ⟨v', hv', c', hc', hi'⟩
      · refine ⟨by omega, vars, hk, ?_, fun w hw => (inv.mem_stepCv vars w).mpr (Or.inl hw)⟩
        rintro rfl
        cases hv
      · obtain ⟨hlt, vs, hvs, hne, hall⟩ := inv.idx v' c' hc' i hi'
        exact ⟨by omega, vs, hvs, hne, fun w hw => (inv.mem_stepCv vars w).mpr (Or.inr ⟨v', hv', c', hc', hall w hw⟩)⟩
    · obtain ⟨hlt, rest⟩ := inv.idx v c h i hi
      exact ⟨by omega, rest⟩
  cover := by
    intro i vs hi hvs w hw
    by_cases hik : i = k
    · subst hik
      rw [hk] at hvs
      cases hvs
      exact ⟨_, by rw [pairOf_splitStep, if_pos ((inv.mem_stepCv vars w).mpr (Or.inl hw))],
        (inv.mem_stepCs i vars i).mpr (Or.inl rfl)⟩
    · obtain ⟨c, hc, hic⟩ := inv.cover i vs (by omega) hvs w hw
      by_cases hwc : w ∈ stepCv st vars
      · refine ⟨_, by rw [pairOf_splitStep, if_pos hwc], (inv.mem_stepCs k vars i).mpr (Or.inr ?_)⟩
        rcases (inv.mem_stepCv vars w).mp hwc with hv | ⟨v, hv, c', hc', hwc'⟩
        · exact ⟨w, hv, c, hc, hic⟩
        · cases inv.part.eq_of_mem hc hc' (inv.part w c hc).1 hwc'
          exact ⟨v, hv, c, hc', hic⟩
      · exact ⟨c, by rw [pairOf_splitStep, if_neg hwc]; exact hc, hic⟩

theorem splitInv_loop (all : List (List Var)) : ∀ (rest : List (List Var)) (k : Nat) (st : SplitSt),
    (∀ j vs, rest[j]? = some vs → all[k + j]? = some vs) → SplitInv all k st →
    SplitInv all (k + rest.length) ((rest.zipIdx k).foldl (fun st p => splitStep st p.2 p.1) st)
  | [], k, st, _, inv => by simpa using inv
  | vars :: rest, k, st, hall, inv => by
    simp only [List.zipIdx_cons, List.foldl_cons, List.length_cons]
    have h0 : all[k]? = some vars := by simpa using hall 0 vars (by simp)
    have := splitInv_loop all rest (k + 1) (splitStep st k vars)
      (fun j vs hj => by
        have := hall (j + 1) vs (by simpa using hj)
        rw [show k + 1 + j = k + (j + 1) by omega]; exact this)
      (splitInv_step inv vars h0)
    rw [show k + (rest.length + 1) = k + 1 + rest.length by omega]
    exact this

def finalSt (varss : List (List Var)) : SplitSt := (varss.zipIdx).foldl (fun st p => splitStep st p.2 p.1) {}

theorem splitInv_final (varss : List (List Var)) : SplitInv varss varss.length (finalSt varss) := by
  have := splitInv_loop varss varss 0 {} (fun j vs h => by simpa using h) (splitInv_init varss)
  simpa [finalSt] using this

end Claripy.Solver

/-! The result of `_split_constraints`: the groups read off the final dicts are pairwise variable-disjoint, contain every
conjunct exactly once (those without variables in the CONCRETE group), and each conjunct's variables lie in its group.
-/
namespace Claripy.Solver

theorem dedupFold_spec {α γ : Type} [BEq γ] [LawfulBEq γ] (f : α → γ) (l : List α) (acc : List γ) (hacc : acc.Nodup) :
    (∀ g, g ∈ l.foldl (fun acc p => if acc.contains (f p) then acc else acc ++ [f p]) acc ↔ g ∈ acc ∨ ∃ p ∈ l, f p = g) ∧
    (l.foldl (fun acc p => if acc.contains (f p) then acc else acc ++ [f p]) acc).Nodup := by
  rw [show l.foldl (fun acc p => if acc.contains (f p) then acc else acc ++ [f p]) acc =
    (l.map f).foldl (fun acc x => if acc.contains x then acc else acc ++ [x]) acc from
      (List.foldl_map (f := f) (g := fun acc x => if acc.contains x then acc else acc ++ [x]) (l := l) (init := acc)).symm]
  exact ⟨fun g => (mem_foldl_addNew (fun _ _ h => List.contains_iff_mem.1 h) _ acc g).trans (by simp [List.mem_map]),
    nodup_foldl_addNew (fun _ _ h => List.contains_iff_mem.2 h) _ acc hacc⟩

/-- the group of an entry of `variable_connections` -/
def groupOf (st : SplitSt) (p : Var × List Var) : List Var × List Nat :=
  (sortDedup p.2, sortDedup ((alGet? st.cc p.1).getD []))

def groupsOf (varss : List (List Var)) : List (List Var × List Nat) :=
  (finalSt varss).vc.foldl (fun (acc : List (List Var × List Nat)) p =>
    if acc.contains (groupOf (finalSt varss) p) then acc else acc ++ [groupOf (finalSt varss) p]) []

def concreteOf (varss : List (List Var)) : List Nat :=
  (varss.zipIdx).filterMap fun p => if p.1.isEmpty then some p.2 else none

theorem splitConstraints_eq (varss : List (List Var)) : splitConstraints varss = (groupsOf varss, concreteOf varss) := rfl

theorem groupsOf_spec (varss : List (List Var)) :
    (∀ g, g ∈ groupsOf varss ↔ ∃ p ∈ (finalSt varss).vc, groupOf (finalSt varss) p = g) ∧ (groupsOf varss).Nodup := by
  have := dedupFold_spec (groupOf (finalSt varss)) (finalSt varss).vc [] List.nodup_nil
  refine ⟨fun g => ?_, this.2⟩
  have h := this.1 g
  simp only [List.not_mem_nil, false_or] at h
  exact h

theorem entry_pair (varss : List (List Var)) (p : Var × List Var) (hp : p ∈ (finalSt varss).vc) :
    ∃ C, pairOf (finalSt varss) p.1 = some (p.2, C) ∧ groupOf (finalSt varss) p = (sortDedup p.2, sortDedup C) := by
  have inv := splitInv_final varss
  have h1 := alGet?_of_mem _ inv.vcKeys p hp
  rw [inv.vc_eq, Option.map_eq_some_iff] at h1
  obtain ⟨⟨S, C⟩, hc, rfl⟩ := h1
  exact ⟨C, hc, by rw [groupOf, (pairOf_eq_some.mp hc).2]; rfl⟩

theorem mem_groupsOf (varss : List (List Var)) (g : List Var × List Nat) :
    g ∈ groupsOf varss ↔ ∃ v c, pairOf (finalSt varss) v = some c ∧ g = (sortDedup c.1, sortDedup c.2) := by
  rw [(groupsOf_spec varss).1]
  constructor
  · rintro ⟨p, hp, rfl⟩
    obtain ⟨C, hC, hg⟩ := entry_pair varss p hp
    exact ⟨p.1, _, hC, hg⟩
  · rintro ⟨v, c, hc, rfl⟩
    obtain ⟨hS, hC⟩ := pairOf_eq_some.mp hc
    exact ⟨(v, c.1), mem_of_alGet? _ v c.1 hS, by rw [groupOf, hC]; rfl⟩

theorem group_index (varss : List (List Var)) (p : Var × List Var) (hp : p ∈ (finalSt varss).vc) (i : Nat)
    (hi : i ∈ (groupOf (finalSt varss) p).2) :
    i < varss.length ∧ ∃ vs, varss[i]? = some vs ∧ vs ≠ [] ∧ ∀ w ∈ vs, w ∈ p.2 := by
  obtain ⟨C, hC, hg⟩ := entry_pair varss p hp
  rw [hg, mem_sortDedup] at hi
  exact (splitInv_final varss).idx p.1 _ hC i hi

theorem mem_concreteOf (varss : List (List Var)) (i : Nat) : i ∈ concreteOf varss ↔ varss[i]? = some [] := by
  unfold concreteOf
  simp only [List.mem_filterMap]
  constructor
  · rintro ⟨⟨vs, j⟩, hm, hf⟩
    have := List.mem_zipIdx_iff_getElem?.mp hm
    simp only at this hf
    split at hf
    · rename_i he
      cases hf
      have : vs = [] := by simpa using he
      subst this
      assumption
    · cases hf
  · intro h
    exact ⟨([], i), List.mem_zipIdx_iff_getElem?.mpr h, by simp⟩

theorem concreteOf_nodup (varss : List (List Var)) : (concreteOf varss).Nodup := by
  have hsub : (concreteOf varss).Sublist (varss.zipIdx.map (·.2)) := by
    unfold concreteOf
    induction varss.zipIdx with
    | nil => exact .slnil
    | cons p ps ih =>
      rw [List.filterMap_cons, List.map_cons]
      split
      · exact ih.cons _
      · rename_i b hb
        split at hb
        · cases hb
          exact ih.cons_cons _
        · cases hb
  exact hsub.nodup (by rw [List.zipIdx_map_snd]; exact List.nodup_range' ..)

end Claripy.Solver

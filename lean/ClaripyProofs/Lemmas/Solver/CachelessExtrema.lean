import ClaripyProofs.Lemmas.Solver.Cacheless
/-!
`min` / `max` of SolverCacheless: ConcreteHandler, ConstraintFilter, then FullFrontend.min/max —
`self.satisfiable`, `self.eval(e, 2)`, narrowing by the two values, `_extrema`.
-/
namespace Claripy.Solver

def clExtremum (E : Env) (self : Ops) (isMax : Bool) (e : Exp) (extra : List Con) (signed : Bool) : M Int :=
  match self.concreteValue e with
  | some c => pure (c : Int)
  | none => do
    let ec ← liftE (constraintFilter self extra)
    fullExtremum E self isMax e ec signed

theorem clExtremum_spec {G : St → Prop} {E : Env} (hE : OracleExact E) {self self' : Ops} (hs : SelfOk self) (hs' : SelfOk self')
    (hsat : self.satisfiable = clSat E self') (hev : self.eval = clEval E self')
    (U : List Con) (s : St) (h : CLInv G U s) (isMax : Bool) (e : Exp) (he : ExpWf e)
    (extra : List Con) (wf : ∀ c ∈ extra, ConWf c) (signed : Bool) :
    Outcome (fun i => match e.conc with
                      | some c => i = (c : Int)
                      | none => IsOpt isMax signed (U ++ extra) e i)
      (ErrOk E (U ++ extra)) (CLInv G U) (clExtremum E self isMax e extra signed) s := by
  obtain ⟨hcc, hcv, hmh⟩ := hs
  unfold Outcome clExtremum
  rw [hcv e]
  cases hconc : e.conc with
  | some c => exact ⟨rfl, h⟩
  | none =>
    -- `self.satisfiable` and `self.eval` are the public methods of the class, one unrolling down
    exact (filter_spec_query hcc extra wf (fun _ => trivial) (Good := fun cs i _ _ => IsOpt isMax signed cs e i)
      (fun hiff _ _ _ hopt => (isOpt_congr hiff isMax signed e _).mp hopt) fun ec hsub =>
        (full_extremum_q hE (hmh ▸ fullClass_cl) (hmh ▸ (hookOk_noop [] fun _ => True).toRec) (fun _ _ => trivial) isMax e he
          hconc ec signed (W := fun _ _ => True) (fun _ _ _ => trivial)
          (hsat ▸ QSpec.of_outcome fun s h => clSat_spec hE hs' U s h ec fun c hc => wf c (hsub c hc))
          ((hev ▸ QSpec.of_outcome fun s h => clEval_spec hE hs' U s h e 2 (by omega) ec fun c hc => wf c (hsub c hc)).imp
            (fun _ _ _ hv => ⟨hv, fun _ _ => trivial⟩) fun _ he => he)).imp (fun _ _ _ hopt => hopt.1) fun _ he => he).outcome h
      fun _ _ hopt => hopt

end Claripy.Solver

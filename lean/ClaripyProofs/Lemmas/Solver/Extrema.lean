import ClaripyProofs.Lemmas.Solver.L1
/-!
L1, part 3: the binary search `_extrema` returns the optimum in the requested signedness, and a model that attains it has been
handed to the callback.  First the bit-pattern arithmetic the search needs: two's complement reading, Z3's coercion of Python
ints.  Then the loop once, for any invariant `J lo hi fe` of the two bounds and the record (`extremaLoop_inv`: the width bounds
the number of rounds); the bracket `lo ≤ opt ≤ hi` and "the bound that moved is witnessed by a recorded model" are two instances,
and `z3Extrema_run` joins them.
-/
namespace Claripy.Solver

def loOf (signed : Bool) (bits : Nat) : Int := if signed then -((2 ^ (bits - 1) : Nat) : Int) else 0
def hiOf (signed : Bool) (bits : Nat) : Int :=
  if signed then ((2 ^ (bits - 1) : Nat) : Int) - 1 else ((2 ^ bits : Nat) : Int) - 1

theorem wrap_of_nonneg (b : Nat) (m : Int) (h0 : 0 ≤ m) (h1 : m < ((2 ^ b : Nat) : Int)) : ((wrap b m : Nat) : Int) = m :=
  toNat_emod_of_nonneg h0 h1

theorem wrap_of_neg (b : Nat) (m : Int) (h0 : m < 0) (h1 : -((2 ^ b : Nat) : Int) ≤ m) :
    ((wrap b m : Nat) : Int) = m + ((2 ^ b : Nat) : Int) := toNat_emod_of_neg h0 h1

theorem wrap_lt (b : Nat) (m : Int) : wrap b m < 2 ^ b := toNat_emod_lt m b

theorem key_unsigned (b v : Nat) (hv : v < 2 ^ b) : key false b v = (v : Int) := by
  simp [key, Nat.mod_eq_of_lt hv]

theorem key_signed (b v : Nat) (hb : 1 ≤ b) (hv : v < 2 ^ b) :
    key true b v = if v < 2 ^ (b - 1) then (v : Int) else (v : Int) - ((2 ^ b : Nat) : Int) := by
  have : b ≠ 0 := by omega
  simp [key, toSigned, this, Nat.mod_eq_of_lt hv]

theorem key_range (signed : Bool) (b v : Nat) (hb : 1 ≤ b) (hv : v < 2 ^ b) :
    loOf signed b ≤ key signed b v ∧ key signed b v ≤ hiOf signed b := by
  have hP := two_pow_half b hb
  cases signed
  · rw [key_unsigned b v hv]; simp only [loOf, hiOf, Bool.false_eq_true, ↓reduceIte]; omega
  · rw [key_signed b v hb hv]; simp only [loOf, hiOf, ↓reduceIte]
    split <;> omega

theorem key_wrap (signed : Bool) (b : Nat) (m : Int) (hb : 1 ≤ b) (h0 : loOf signed b ≤ m) (h1 : m ≤ hiOf signed b) :
    key signed b (wrap b m) = m := by
  have hP := two_pow_half b hb
  have hw := wrap_lt b m
  cases signed
  · simp only [loOf, hiOf, Bool.false_eq_true, ↓reduceIte] at h0 h1
    rw [key_unsigned _ _ hw, wrap_of_nonneg b m h0 (by omega)]
  · simp only [loOf, hiOf, ↓reduceIte] at h0 h1
    rw [key_signed _ _ hb hw]
    by_cases hm : 0 ≤ m
    · have := wrap_of_nonneg b m hm (by omega)
      split <;> omega
    · have := wrap_of_neg b m (by omega) (by omega)
      split <;> omega

theorem key_inj (signed : Bool) (b v w : Nat) (hb : 1 ≤ b) (hv : v < 2 ^ b) (hw : w < 2 ^ b)
    (h : key signed b v = key signed b w) : v = w := by
  have hP := two_pow_half b hb
  cases signed
  · rw [key_unsigned _ _ hv, key_unsigned _ _ hw] at h; omega
  · rw [key_signed _ _ hb hv, key_signed _ _ hb hw] at h
    split at h <;> split at h <;> omega

def ExpWf (e : Exp) : Prop := 1 ≤ e.bits ∧ ∀ a, e.val a < 2 ^ e.bits

theorem geSem_iff (signed : Bool) (e : Exp) (m : Int) (a : Asg) (he : ExpWf e)
    (h0 : loOf signed e.bits ≤ m) (h1 : m ≤ hiOf signed e.bits) :
    geSem signed e m a = true ↔ m ≤ key signed e.bits (e.val a) := by
  have hk := key_wrap signed e.bits m he.1 h0 h1
  cases signed
  · simp only [geSem, Bool.false_eq_true, ↓reduceIte, decide_eq_true_eq, ge_iff_le]
    rw [key_unsigned _ _ (he.2 a)]
    rw [key_unsigned _ _ (wrap_lt _ _)] at hk
    omega
  · simp only [geSem, ↓reduceIte, decide_eq_true_eq, ge_iff_le]
    simp only [key, ↓reduceIte] at hk ⊢
    rw [hk]

theorem leSem_iff (signed : Bool) (e : Exp) (m : Int) (a : Asg) (he : ExpWf e)
    (h0 : loOf signed e.bits ≤ m) (h1 : m ≤ hiOf signed e.bits) :
    leSem signed e m a = true ↔ key signed e.bits (e.val a) ≤ m := by
  have hk := key_wrap signed e.bits m he.1 h0 h1
  cases signed
  · simp only [leSem, Bool.false_eq_true, ↓reduceIte, decide_eq_true_eq]
    rw [key_unsigned _ _ (he.2 a)]
    rw [key_unsigned _ _ (wrap_lt _ _)] at hk
    omega
  · simp only [leSem, ↓reduceIte, decide_eq_true_eq]
    simp only [key, ↓reduceIte] at hk ⊢
    rw [hk]

theorem eqCon_iff (signed : Bool) (e : Exp) (m : Int) (a : Asg) (he : ExpWf e)
    (h0 : loOf signed e.bits ≤ m) (h1 : m ≤ hiOf signed e.bits) :
    (eqCon e m).sem a = true ↔ key signed e.bits (e.val a) = m := by
  have hk := key_wrap signed e.bits m he.1 h0 h1
  simp only [eqCon, decide_eq_true_eq]
  constructor
  · intro h; rw [h]; exact hk
  · intro h
    exact key_inj signed e.bits _ _ he.1 (he.2 a) (wrap_lt _ _) (by rw [h, hk])

theorem rangeCon_iff (signed : Bool) (e : Exp) (lo hi : Int) (a : Asg) (he : ExpWf e)
    (h0 : loOf signed e.bits ≤ lo) (h1 : lo ≤ hiOf signed e.bits)
    (h2 : loOf signed e.bits ≤ hi) (h3 : hi ≤ hiOf signed e.bits) :
    (rangeCon signed e lo hi).sem a = true ↔ lo ≤ key signed e.bits (e.val a) ∧ key signed e.bits (e.val a) ≤ hi := by
  simp only [rangeCon, Bool.and_eq_true, geSem_iff signed e lo a he h0 h1, leSem_iff signed e hi a he h2 h3]

def Bracket (isMax : Bool) (cs : List ZCon) (K : Asg → Int) (lo hi : Int) : Prop :=
  if isMax then (∀ a, SatBy cs a → K a ≤ hi) ∧ (∃ a, SatBy cs a ∧ lo ≤ K a)
  else (∀ a, SatBy cs a → lo ≤ K a) ∧ (∃ a, SatBy cs a ∧ K a ≤ hi)

theorem satBy_assume (A extra : List ZCon) (c : ZCon) (a : Asg) :
    SatBy (A ++ (extra ++ [c])) a ↔ SatBy (A ++ extra) a ∧ c.sem a = true := by
  rw [← List.append_assoc, SatBy.append]
  simp [SatBy]

def probeCon (isMax signed : Bool) (e : Exp) (lo hi : Int) : ZCon :=
  if isMax then rangeCon signed e ((lo + hi) / 2) hi else rangeCon signed e lo ((lo + hi) / 2)

theorem probeCon_iff (isMax signed : Bool) (e : Exp) (lo hi : Int) (a : Asg) (he : ExpWf e)
    (h0 : loOf signed e.bits ≤ lo) (h1 : hi ≤ hiOf signed e.bits) (hgt : 1 < hi - lo) :
    (probeCon isMax signed e lo hi).sem a = true ↔
      if isMax then (lo + hi) / 2 ≤ key signed e.bits (e.val a) ∧ key signed e.bits (e.val a) ≤ hi
      else lo ≤ key signed e.bits (e.val a) ∧ key signed e.bits (e.val a) ≤ (lo + hi) / 2 := by
  cases isMax
  · exact rangeCon_iff signed e lo ((lo + hi) / 2) a he h0 (by omega) (by omega) (by omega)
  · exact rangeCon_iff signed e ((lo + hi) / 2) hi a he (by omega) (by omega) (by omega) h1

abbrev keyOf (signed : Bool) (e : Exp) (a : Asg) : Int := key signed e.bits (e.val a)

section
variable {E : Env} {hook : PModel → M Unit} {A : List ZCon} {P : Frontend → Prop}
  {H : List Nat → List Var → Frontend → Prop}

/-- the search loop, for an invariant `J` given by what a round does to it: `hsat` when the probed half holds a model (which the
callback has then recorded), `huns` when it holds none.  `A0` is what the object asserts throughout. -/
theorem extremaLoop_inv (hE : OracleExact E) (hh : HookOk hook A P) (hr : HookRec hook H) (r : Nat) (isMax : Bool) (e : Exp)
    (extra : List ZCon) (signed : Bool) (A0 : List ZCon) (hA : ∀ c ∈ A, c ∈ A0) (J : Int → Int → Frontend → Prop)
    (hsat : ∀ lo hi fe fe' vals keys, 1 < hi - lo → J lo hi fe → (∀ v k, H v k fe → H v k fe') → H vals keys fe' →
      (∃ q k, E.oracle q k = .sat vals keys) → SatBy (A0 ++ (extra ++ [probeCon isMax signed e lo hi])) (asgOf vals) →
      if isMax then J ((lo + hi) / 2) hi fe' else J lo ((lo + hi) / 2) fe')
    (huns : ∀ lo hi fe, 1 < hi - lo → J lo hi fe → (∀ a, ¬ SatBy (A0 ++ (extra ++ [probeCon isMax signed e lo hi])) a) →
      if isMax then J lo ((lo + hi) / 2) fe else J ((lo + hi) / 2) hi fe) :
    ∀ (fuel : Nat) (lo hi : Int) (s : St), (objAt s r).asserted = A0 → J lo hi s.fe →
      (extremaLoop E r isMax e extra signed hook fuel lo hi).wp
        (fun p s' => (hi - lo ≤ ((2 ^ fuel : Nat) : Int) → p.2 - p.1 ≤ 1) ∧ J p.1 p.2 s'.fe ∧ HookStep H r s s' ∧
          (P s.fe → P s'.fe) ∧ (objAt s' r).frames = (objAt s r).frames)
        (fun err s' => IsGiveUp E err ∧ HookStep H r s s' ∧ (P s.fe → P s'.fe) ∧
          (objAt s' r).frames = (objAt s r).frames) s := by
  intro fuel
  induction fuel with
  | zero =>
    intro lo hi s _ hJ
    exact ⟨fun hd => by simpa using hd, hJ, HookStep.refl r s, id, rfl⟩
  | succ fuel ih =>
    intro lo hi s hA0 hJ
    simp only [extremaLoop, M.wp_ite]
    split
    · next hgt =>
      have hpow : ((2 ^ (fuel + 1) : Nat) : Int) = 2 * ((2 ^ fuel : Nat) : Int) := by rw [Nat.pow_succ]; omega
      -- the rest of the search, from a later state `s1` and a bracket of half the width
      have next : ∀ lo' hi' s1, HookStep H r s s1 → (P s.fe → P s1.fe) → (objAt s1 r).frames = (objAt s r).frames →
          J lo' hi' s1.fe → (hi - lo ≤ ((2 ^ (fuel + 1) : Nat) : Int) → hi' - lo' ≤ ((2 ^ fuel : Nat) : Int)) →
          (extremaLoop E r isMax e extra signed hook fuel lo' hi').wp
            (fun p s' => (hi - lo ≤ ((2 ^ (fuel + 1) : Nat) : Int) → p.2 - p.1 ≤ 1) ∧ J p.1 p.2 s'.fe ∧
              HookStep H r s s' ∧ (P s.fe → P s'.fe) ∧ (objAt s' r).frames = (objAt s r).frames)
            (fun err s' => IsGiveUp E err ∧ HookStep H r s s' ∧ (P s.fe → P s'.fe) ∧
              (objAt s' r).frames = (objAt s r).frames) s1 :=
        fun lo' hi' s1 hst hP hfr hJ' hd' =>
          (ih lo' hi' s1 (by rw [← hA0]; simp only [Z3Obj.asserted, hfr]) hJ').imp
            (fun _ _ ⟨h1, h2, h3, h4, h5⟩ => ⟨fun hd => h1 (hd' hd), h2, hst.trans h3, fun h => h4 (hP h), h5.trans hfr⟩)
            fun _ _ ⟨h1, h3, h4, h5⟩ => ⟨h1, hst.trans h3, fun h => h4 (hP h), h5.trans hfr⟩
      simp only [M.wp_bind]
      refine wp_z3Check E r _ (fun core s1 hora hc => ?_) (fun vals keys s1 hora hc => ?_)
        fun err s1 he hc => ⟨he, hc.toHook, fun h => hc.fe ▸ h, hc.frames⟩
      · have := huns lo hi s.fe hgt hJ (by rw [← hA0]; exact hE.unsat hora)
        cases isMax
        · exact next _ _ s1 hc.toHook (fun h => hc.fe ▸ h) hc.frames (hc.fe ▸ this) (by omega)
        · exact next _ _ s1 hc.toHook (fun h => hc.fe ▸ h) hc.frames (hc.fe ▸ this) (by omega)
      · obtain ⟨hp, hsat'⟩ := hE.sat hora
        simp only [M.wp_bind]
        refine wp_hookRec hh hr r vals keys fun s2 hst hobjs hrec hpres => ?_
        have hfr2 : (objAt s2 r).frames = (objAt s r).frames := by rw [objAt_of_objs_eq hobjs r, hc.frames]
        have hP2 : P s.fe → P s2.fe := fun h =>
          hpres (hp.mono fun c hc' => List.mem_append_left _ (by rw [hA0]; exact hA c hc')) (hc.fe ▸ h)
        have := hsat lo hi s.fe s2.fe vals keys hgt hJ (fun v k h => hst.keep v k (hc.fe ▸ h)) hrec
          ⟨_, _, hora⟩ (by rw [← hA0]; exact hsat')
        cases isMax
        · exact next _ _ s2 (hc.toHook.trans hst) hP2 hfr2 this (by omega)
        · exact next _ _ s2 (hc.toHook.trans hst) hP2 hfr2 this (by omega)
    · exact ⟨fun _ => by omega, hJ, HookStep.refl r s, id, rfl⟩

theorem extremaLoop_spec (hE : OracleExact E) (hh : HookOk hook A P) (r : Nat) (isMax : Bool) (e : Exp) (extra : List ZCon)
    (signed : Bool) (he : ExpWf e) (fuel : Nat) (lo hi : Int) (s : St) (hA : ∀ c ∈ A, c ∈ (objAt s r).asserted)
    (h0 : loOf signed e.bits ≤ lo) (h1 : hi ≤ hiOf signed e.bits) (hle : lo ≤ hi) (hd : hi - lo ≤ ((2 ^ fuel : Nat) : Int))
    (hb : Bracket isMax ((objAt s r).asserted ++ extra) (fun a => key signed e.bits (e.val a)) lo hi) :
    (extremaLoop E r isMax e extra signed hook fuel lo hi).wp
      (fun p s' => loOf signed e.bits ≤ p.1 ∧ p.2 ≤ hiOf signed e.bits ∧ p.1 ≤ p.2 ∧ p.2 - p.1 ≤ 1 ∧
        Bracket isMax ((objAt s r).asserted ++ extra) (fun a => key signed e.bits (e.val a)) p.1 p.2 ∧
        L1Step r P s s' ∧ (objAt s' r).frames = (objAt s r).frames)
      (fun err s' => IsGiveUp E err ∧ L1Step r P s s' ∧ (objAt s' r).frames = (objAt s r).frames) s := by
  refine (extremaLoop_inv hE hh hh.toRec r isMax e extra signed _ hA
    (fun lo hi _ => loOf signed e.bits ≤ lo ∧ hi ≤ hiOf signed e.bits ∧ lo ≤ hi ∧
      Bracket isMax ((objAt s r).asserted ++ extra) (fun a => key signed e.bits (e.val a)) lo hi)
    ?hsat ?huns fuel lo hi s rfl ⟨h0, h1, hle, hb⟩).imp
    (fun p s' ⟨k1, ⟨a, b, c, d⟩, k3, kp, k4⟩ => ⟨a, b, c, k1 hd, d, ⟨k3.toObjStep, kp⟩, k4⟩)
    fun _ _ ⟨k1, k3, kp, k4⟩ => ⟨k1, ⟨k3.toObjStep, kp⟩, k4⟩
  case hsat =>
    -- a model in the probed half: it is the new witness
    intro lo hi _ _ vals _ hgt ⟨g0, g1, _, gb⟩ _ _ _ hs
    have hw := (satBy_assume _ _ _ (asgOf vals)).mp hs
    have hc := (probeCon_iff isMax signed e lo hi (asgOf vals) he g0 g1 hgt).mp hw.2
    cases isMax
    · simp only [Bracket, Bool.false_eq_true, ↓reduceIte] at gb hc ⊢
      exact ⟨g0, by omega, by omega, gb.1, asgOf vals, hw.1, hc.2⟩
    · simp only [Bracket, ↓reduceIte] at gb hc ⊢
      exact ⟨by omega, g1, by omega, gb.1, asgOf vals, hw.1, hc.1⟩
  case huns =>
    -- nothing in the probed half: the bound moves to the middle
    intro lo hi _ hgt ⟨g0, g1, _, gb⟩ hun
    have hnone : ∀ a, SatBy ((objAt s r).asserted ++ extra) a →
        ¬ (if isMax then (lo + hi) / 2 ≤ key signed e.bits (e.val a) ∧ key signed e.bits (e.val a) ≤ hi
           else lo ≤ key signed e.bits (e.val a) ∧ key signed e.bits (e.val a) ≤ (lo + hi) / 2) :=
      fun a ha hca => hun a ((satBy_assume _ _ _ a).mpr ⟨ha, (probeCon_iff isMax signed e lo hi a he g0 g1 hgt).mpr hca⟩)
    cases isMax
    · simp only [Bracket, Bool.false_eq_true, ↓reduceIte] at gb hnone ⊢
      exact ⟨by omega, g1, by omega, fun a ha => by have := gb.1 a ha; have := hnone a ha; omega, gb.2⟩
    · simp only [Bracket, ↓reduceIte] at gb hnone ⊢
      exact ⟨g0, by omega, by omega, fun a ha => by have := gb.1 a ha; have := hnone a ha; omega, gb.2⟩

theorem extremaLoop_recorded (hE : OracleExact E) (hh : HookOk hook A P) (hr : HookRec hook H) (r : Nat) (isMax : Bool)
    (e : Exp) (extra : List ZCon) (signed : Bool) (he : ExpWf e) (fuel : Nat) (lo hi : Int) (s : St)
    (hA : ∀ c ∈ A, c ∈ (objAt s r).asserted) (h0 : loOf signed e.bits ≤ lo) (h1 : hi ≤ hiOf signed e.bits) (hle : lo ≤ hi) :
    (extremaLoop E r isMax e extra signed hook fuel lo hi).wp
      (fun p s' =>
        ((if isMax then p.1 = lo else p.2 = hi) ∨
          Recorded E H s'.fe (fun vals => SatBy ((objAt s r).asserted ++ extra) (asgOf vals) ∧
            (if isMax then p.1 ≤ keyOf signed e (asgOf vals) else keyOf signed e (asgOf vals) ≤ p.2))) ∧
        loOf signed e.bits ≤ p.1 ∧ p.2 ≤ hiOf signed e.bits ∧ p.1 ≤ p.2 ∧
        HookStep H r s s' ∧ (P s.fe → P s'.fe) ∧ (objAt s' r).frames = (objAt s r).frames)
      (fun err s' => IsGiveUp E err ∧ HookStep H r s s' ∧ (P s.fe → P s'.fe) ∧
        (objAt s' r).frames = (objAt s r).frames) s := by
  refine (extremaLoop_inv hE hh hr r isMax e extra signed _ hA
    (fun l h fe => loOf signed e.bits ≤ l ∧ h ≤ hiOf signed e.bits ∧ l ≤ h ∧
      ((if isMax then l = lo else h = hi) ∨
        Recorded E H fe (fun vals => SatBy ((objAt s r).asserted ++ extra) (asgOf vals) ∧
          (if isMax then l ≤ keyOf signed e (asgOf vals) else keyOf signed e (asgOf vals) ≤ h))))
    ?hsat ?huns fuel lo hi s rfl ⟨h0, h1, hle, Or.inl (by split <;> rfl)⟩).imp
    (fun p s' ⟨_, ⟨a, b, c, d⟩, k⟩ => ⟨d, a, b, c, k⟩) fun _ _ h => h
  case hsat =>
    -- the model found is recorded and witnesses the bound that moves
    intro l h _ fe' vals keys hgt ⟨g0, g1, _, _⟩ _ hrec ⟨q, k, hora⟩ hs
    have hw := (satBy_assume _ _ _ (asgOf vals)).mp hs
    have hc := (probeCon_iff isMax signed e l h (asgOf vals) he g0 g1 hgt).mp hw.2
    cases isMax
    · simp only [Bool.false_eq_true, ↓reduceIte] at hc ⊢
      exact ⟨g0, by omega, by omega, Or.inr ⟨vals, keys, q, k, hora, ⟨hw.1, hc.2⟩, hrec⟩⟩
    · simp only [↓reduceIte] at hc ⊢
      exact ⟨by omega, g1, by omega, Or.inr ⟨vals, keys, q, k, hora, ⟨hw.1, hc.1⟩, hrec⟩⟩
  case huns =>
    -- the other bound moves: what is known of this one stays
    intro l h _ hgt ⟨g0, g1, _, gr⟩ _
    cases isMax
    · simp only [Bool.false_eq_true, ↓reduceIte] at gr ⊢
      exact ⟨by omega, g1, by omega, gr⟩
    · simp only [↓reduceIte] at gr ⊢
      exact ⟨g0, by omega, by omega, gr⟩

end

def IsOptZ (isMax signed : Bool) (cs : List ZCon) (e : Exp) (i : Int) : Prop :=
  loOf signed e.bits ≤ i ∧ i ≤ hiOf signed e.bits ∧
  (∃ a, SatBy cs a ∧ key signed e.bits (e.val a) = i) ∧
  ∀ a, SatBy cs a → if isMax then key signed e.bits (e.val a) ≤ i else i ≤ key signed e.bits (e.val a)

/-- `_extrema`: over an exact oracle the binary search returns the optimum in the requested signedness if the query is
satisfiable; a model that attains the answer has been recorded, unless the answer is the bound the search started from; the
frames of the solver object are untouched (also when the backend gives up).  The two facts about the loop are the two instances
of the walk, joined by `wp.and`. -/
theorem z3Extrema_run {E : Env} {hook : PModel → M Unit} {A : List ZCon} {P : Frontend → Prop}
    {H : List Nat → List Var → Frontend → Prop} (hE : OracleExact E) (hh : HookOk hook A P) (hr : HookRec hook H) (r : Nat)
    (isMax : Bool) (e : Exp) (extra : List ZCon) (signed : Bool) (he : ExpWf e) (s : St)
    (hA : ∀ c ∈ A, c ∈ (objAt s r).asserted) :
    (z3Extrema E r isMax e extra signed hook).wp
      (fun i s' => ((∃ a, SatBy ((objAt s r).asserted ++ extra) a) → IsOptZ isMax signed ((objAt s r).asserted ++ extra) e i) ∧
        HookStep H r s s' ∧ (P s.fe → P s'.fe) ∧ (objAt s' r).frames = (objAt s r).frames ∧
        (i = (if isMax then loOf signed e.bits else hiOf signed e.bits) ∨
          Recorded E H s'.fe (fun vals => SatBy ((objAt s r).asserted ++ extra) (asgOf vals) ∧
            (if isMax then i ≤ keyOf signed e (asgOf vals) else keyOf signed e (asgOf vals) ≤ i))))
      (fun err s' => IsGiveUp E err ∧ HookStep H r s s' ∧ (P s.fe → P s'.fe) ∧
        (objAt s' r).frames = (objAt s r).frames) s := by
  have hP := two_pow_half e.bits he.1
  have hP2 : 2 ^ (e.bits + 1) = 2 * 2 ^ e.bits := by rw [Nat.pow_succ, Nat.mul_comm]
  have hrange : ∀ a, loOf signed e.bits ≤ key signed e.bits (e.val a) ∧ key signed e.bits (e.val a) ≤ hiOf signed e.bits :=
    fun a => key_range signed e.bits (e.val a) he.1 (he.2 a)
  have hle0 : loOf signed e.bits ≤ hiOf signed e.bits := by have := hrange (fun _ => 0); omega
  have hb0 : (∃ a, SatBy ((objAt s r).asserted ++ extra) a) →
      Bracket isMax ((objAt s r).asserted ++ extra) (fun a => key signed e.bits (e.val a))
        (loOf signed e.bits) (hiOf signed e.bits) := by
    rintro ⟨a0, ha0⟩
    unfold Bracket
    split
    · exact ⟨fun a _ => (hrange a).2, a0, ha0, (hrange a0).1⟩
    · exact ⟨fun a _ => (hrange a).1, a0, ha0, (hrange a0).2⟩
  have hd0 : hiOf signed e.bits - loOf signed e.bits ≤ ((2 ^ (e.bits + 1) : Nat) : Int) := by
    cases signed <;> simp only [loOf, hiOf, Bool.false_eq_true, ↓reduceIte] <;> omega
  unfold z3Extrema
  have hlo0 : (if signed = true then -((2 ^ (e.bits - 1) : Nat) : Int) else 0) = loOf signed e.bits := rfl
  have hhi0 : (if signed = true then ((2 ^ (e.bits - 1) : Nat) : Int) - 1 else ((2 ^ e.bits : Nat) : Int) - 1) = hiOf signed e.bits := rfl
  rw [hlo0, hhi0, M.wp_bind]
  refine ((wp.of_imp fun hs => extremaLoop_spec hE hh r isMax e extra signed he _ _ _ s hA (Int.le_refl _) (Int.le_refl _)
      hle0 hd0 (hb0 hs)).and
    (extremaLoop_recorded hE hh hr r isMax e extra signed he _ _ _ s hA (Int.le_refl _) (Int.le_refl _) hle0)).imp ?_
    fun _ _ h => h.2
  rintro ⟨lo, hi⟩ s1 ⟨hopt, hrec1, g0, g1, gle, hst1, hP1, hfr1⟩
  have has1 : (objAt s1 r).asserted = (objAt s r).asserted := by simp only [Z3Obj.asserted, hfr1]
  have hin0 : loOf signed e.bits ≤ (if isMax = true then hi else lo) := by split <;> omega
  have hin1 : (if isMax = true then hi else lo) ≤ hiOf signed e.bits := by split <;> omega
  have heq : ∀ a, (eqCon e (if isMax = true then hi else lo)).sem a = true ↔
      key signed e.bits (e.val a) = (if isMax = true then hi else lo) := fun a => eqCon_iff signed e _ a he hin0 hin1
  simp only [M.wp_bind]
  refine wp_z3Check E r _ (fun core s2 hora hc => ?_) (fun vals keys s2 hora hc => ?_)
    fun err s2 hg hc => ⟨hg, hst1.trans hc.toHook, fun h => hc.fe ▸ hP1 h, by rw [hc.frames, hfr1]⟩
  · -- the last probe fails: the other end of the bracket is the optimum, and the loop has recorded its witness
    rw [has1] at hora
    have hnone : ∀ a, SatBy ((objAt s r).asserted ++ extra) a → key signed e.bits (e.val a) ≠ (if isMax = true then hi else lo) :=
      fun a ha hk => hE.unsat hora a ((satBy_assume _ _ _ a).mpr ⟨ha, (heq a).mpr hk⟩)
    refine ⟨fun hs => ?_, hst1.trans hc.toHook, fun h => hc.fe ▸ hP1 h, by rw [hc.frames, hfr1],
      by rw [hc.fe]; cases isMax <;> exact hrec1⟩
    obtain ⟨-, -, -, gd, gb, -⟩ := hopt hs
    cases isMax
    · simp only [IsOptZ, Bracket, Bool.false_eq_true, ↓reduceIte] at hnone gb ⊢
      obtain ⟨hall, a, ha, hak⟩ := gb
      exact ⟨by omega, g1, ⟨a, ha, by have := hall a ha; have := hnone a ha; omega⟩,
        fun a' ha' => by have := hall a' ha'; have := hnone a' ha'; omega⟩
    · simp only [IsOptZ, Bracket, ↓reduceIte] at hnone gb ⊢
      obtain ⟨hall, a, ha, hak⟩ := gb
      exact ⟨g0, by omega, ⟨a, ha, by have := hall a ha; have := hnone a ha; omega⟩,
        fun a' ha' => by have := hall a' ha'; have := hnone a' ha'; omega⟩
  · -- the last probe succeeds: its model attains the optimum and is recorded
    rw [has1] at hora
    obtain ⟨hp, hsat2⟩ := hE.sat hora
    simp only [M.wp_bind]
    refine wp_hookRec hh hr r vals keys fun s3 hst hobjs hrec3 hpres => ?_
    have hw := (satBy_assume _ _ _ (asgOf vals)).mp hsat2
    have hwk := (heq _).mp hw.2
    refine ⟨fun hs => ?_, (hst1.trans hc.toHook).trans hst,
      fun h => hpres (hp.mono fun c hc' => List.mem_append_left _ (hA c hc')) (hc.fe ▸ hP1 h),
      by rw [objAt_of_objs_eq hobjs, hc.frames, hfr1], Or.inr ⟨vals, keys, _, _, hora, ⟨hw.1, ?_⟩, hrec3⟩⟩
    · obtain ⟨-, -, -, gd, gb, -⟩ := hopt hs
      cases isMax
      · simp only [IsOptZ, Bracket, Bool.false_eq_true, ↓reduceIte] at hwk gb ⊢
        exact ⟨g0, by omega, ⟨asgOf vals, hw.1, hwk⟩, fun a' ha' => gb.1 a' ha'⟩
      · simp only [IsOptZ, Bracket, ↓reduceIte] at hwk gb ⊢
        exact ⟨by omega, g1, ⟨asgOf vals, hw.1, hwk⟩, fun a' ha' => gb.1 a' ha'⟩
    · cases isMax
      · simp only [Bool.false_eq_true, ↓reduceIte] at hwk ⊢
        exact Int.le_of_eq hwk
      · simp only [↓reduceIte] at hwk ⊢
        exact Int.le_of_eq hwk.symm

end Claripy.Solver

import ClaripyProofs.Lemmas.Solver.SolverChild
import ClaripyProofs.Lemmas.Solver.SolverHistory
/-!
SolverCompositeChild, whole histories over trees of branched solvers: the world invariant `TInvS` of the class `Solver`.
-/
namespace Claripy.Solver
open Claripy.Gen.SolverMro

variable {R : Con → Prop} {RE : Exp → Prop} {E : Env}

/-- calls in scope for the child class: there is no ConcreteHandlerMixin, so queried expressions are symbolic (the composite
parent answers the concrete ones itself) -/
def InScopeC (R : Con → Prop) (RE : Exp → Prop) : Op → Prop
  | .add cs => ∀ c ∈ cs, R c
  | .satisfiable _ => True
  | .eval e n _ => RE e ∧ e.conc = none ∧ 1 ≤ n
  | .batchEval es n _ => es ≠ [] ∧ (∀ e ∈ es, RE e ∧ e.conc = none) ∧ 1 ≤ n
  | .min e _ _ | .max e _ _ => RE e ∧ e.conc = none
  | .solution e v _ => e.conc = none ∧ v < 2 ^ e.bits
  | .isTrue _ _ | .isFalse _ _ => True
  | .simplify | .downsize | .branch | .pickle => True
  | _ => False

def HistOkC (R : Con → Prop) (RE : Exp → Prop) : Nat → List (Nat × Op) → Prop
  | _, [] => True
  | n, (i, op) :: rest => i < n ∧ InScopeC R RE op ∧ HistOkC R RE (match op with | .branch => n + 1 | _ => n) rest

theorem chStage_hook (E : Env) (k : Nat) : (chStage E k).modelHook = mcHook := by
  cases k <;> rfl

/-- `branch` of the child class: the parent is finalized, and the copy that joins the world has the parent's fields -/
theorem ch_branch_eq (E : Env) (w : World) (j : Nat) :
    ∃ c : Frontend, step E .SolverCompositeChild w j .branch =
        (.newSolver w.fes.length, { w with fes := w.fes.set j { w.fes.getD j {} with finalized := true } ++ [c] }) ∧
      c.constraints = (w.fes.getD j {}).constraints ∧ c.variables = (w.fes.getD j {}).variables ∧
      c.models = (w.fes.getD j {}).models ∧ c.hashes = (w.fes.getD j {}).hashes ∧ c.woAnnot = (w.fes.getD j {}).woAnnot := by
  obtain ⟨c, hrun, hc⟩ : ∃ c, (do let fe ← M.getFe; (chStage E 4).copy ((chStage E 4).blankCopy fe {}) : M Frontend) (stOfI w j) =
        (.ok c, { stOfI w j with fe := { (stOfI w j).fe with finalized := true } }) ∧
      c.constraints = (stOfI w j).fe.constraints ∧ c.variables = (stOfI w j).fe.variables ∧
      c.models = (stOfI w j).fe.models ∧ c.hashes = (stOfI w j).fe.hashes ∧ c.woAnnot = (stOfI w j).fe.woAnnot :=
    ⟨_, rfl, rfl, rfl, rfl, rfl, rfl⟩
  have hstep : step E .SolverCompositeChild w j .branch =
      (match runOn w j (do let fe ← M.getFe; (chStage E 4).copy ((chStage E 4).blankCopy fe {})) with
       | (.ok c, w') => (.newSolver w'.fes.length, { w' with fes := w'.fes ++ [c] })
       | (.error e, w') => (.err e, w')) := rfl
  refine ⟨c, ?_, hc⟩
  rw [hstep, runOn_eq, hrun]
  show (Out.newSolver (w.fes.set j _).length, _) = _
  rw [List.length_set]
  rfl

theorem all_isSome_false {es : List Exp} (hne : es ≠ []) (h : ∀ e ∈ es, e.conc = none) :
    es.all (·.conc.isSome) = false := by
  obtain ⟨e, rest, rfl⟩ := List.exists_cons_of_ne_nil hne
  simp [h e (by simp)]

theorem ch_step_branch (w : World) (Us : List (List Con)) (hw : TInvS R RE E Us w) (i : Nat) (hi : i < w.fes.length) :
    (step E .SolverCompositeChild w i .branch).1 = .newSolver w.fes.length ∧
    TInvS R RE E (Us ++ [Us.getD i []]) (step E .SolverCompositeChild w i .branch).2 := by
  obtain ⟨h1, h2⟩ := winv_branch (si_heapLocal R RE E) (E := E) (cls := .SolverCompositeChild) (fun _ => rfl)
    (fun _ => ⟨_, rfl, rfl, rfl⟩) hw.toW hi
  exact ⟨h1, h2.toS⟩

section
variable (H : SolverHyps R RE E)
include H

theorem ch_callOk : CallOk E .SolverCompositeChild (SI R RE E fun _ => True) (InScopeC R RE) := by
  intro U s op hop hc h0
  replace h0 := h0.mark
  have hcls : classOps E .SolverCompositeChild = cL4 E (chStage E 3) := chStage_eq E 3
  rw [hcls]
  have hh3 := chStage_hook E 3
  have hok3 : ChOk R RE E (· = s) (chStage E 3) := chStage_eq E 2 ▸ cL4_chOk H (chStage_hook E 2)
  cases op with
  | satisfiable extra =>
    exact ((cL4_sat_spec H hh3 extra).outcome h0 fun _ _ h => h).call (fun _ h => h) (fun e h => Or.inr ⟨e, rfl, h⟩) fun _ => SI.unmark
  | eval e n extra =>
    exact ((cL4_eval_spec H hh3 e hop.1 hop.2.1 n hop.2.2 extra).outcome h0 fun _ _ h => h.1).query id
      fun _ => SI.unmark
  | batchEval es n extra =>
    refine ((cL4_batchEval_spec H hh3 es (fun e he => (hop.2.1 e he).1) n hop.2.2 extra).outcome h0
      fun _ _ h => h.1).call
      (fun ts h => ?_) (fun _ h => errOk_judge h id) fun _ => SI.unmark
    show if es.all (·.conc.isSome) then ts = [es.map fun e => e.conc.getD 0] else TuplesOk (U ++ extra) es n ts
    rw [all_isSome_false hop.1 (fun e he => (hop.2.1 e he).2)]
    exact h
  | min e extra signed =>
    refine ((cL4_opt_spec H hok3 false e hop.1 hop.2 extra signed).outcome h0 fun _ _ h => h.1).call
      (fun v h => ?_) (fun _ h => errOk_judge h id) fun _ => SI.unmark
    show match e.conc with | some c => v = (c : Int) | none => IsOpt false signed (U ++ extra) e v
    rw [hop.2]
    exact h
  | max e extra signed =>
    refine ((cL4_opt_spec H hok3 true e hop.1 hop.2 extra signed).outcome h0 fun _ _ h => h.1).call
      (fun v h => ?_) (fun _ h => errOk_judge h id) fun _ => SI.unmark
    show match e.conc with | some c => v = (c : Int) | none => IsOpt true signed (U ++ extra) e v
    rw [hop.2]
    exact h
  | solution e v extra =>
    refine ((cL4_solution_spec H hh3 e v hop.2 extra).outcome h0 fun _ _ h => h).call (fun b h => ?_) (fun _ h => errOk_judge h id)
      fun _ => SI.unmark
    show match e.conc with | some c => b = (c == v) | none => (b = true ↔ Feasible (U ++ extra) e v)
    rw [hop.1]
    exact h
  | isTrue c extra => exact (cL4_truth_spec H (chStage E 3) true c extra _ h0).query id fun _ => SI.unmark
  | isFalse c extra => exact (cL4_truth_spec H (chStage E 3) false c extra _ h0).query id fun _ => SI.unmark
  | unsatCore extra => exact hop.elim
  | simplify =>
    obtain ⟨out, s', hrun, hsi, _⟩ := cL4_simplify_spec H.reg H.simpOn H.simpVars (chStage E 3) U s h0
    exact wp_call_ok hrun ⟨trivial, hsi.unmark⟩
  | downsize =>
    exact wp_call_ok (m := (cL4 E (chStage E 3)).downsize) (b := ()) rfl ⟨trivial, (solDownsize_spec s h0).1.unmark⟩
  | add cs => cases hc
  | branch => cases hc
  | pickle => cases hc

theorem ch_step (w : World) (Us : List (List Con)) (hw : TInvS R RE E Us w) (i : Nat) (hi : i < w.fes.length)
    (op : Op) (hop : InScopeC R RE op) :
    JudgeOrGiveUp E (usersAfter (Us.getD i []) op) op (step E .SolverCompositeChild w i op).1 ∧
    TInvS R RE E (usersAll Us i op) (step E .SolverCompositeChild w i op).2 := by
  cases op with
  | add cs =>
    obtain ⟨⟨ids, hids⟩, hw'⟩ := tinvS_add hw hi (o := chStage E 4)
      (chStage_eq E 3 ▸ cL4_add_spec H.reg H.triv H.cheap (chStage E 3)) cs hop
    exact ⟨Or.inl (by rw [show (step E .SolverCompositeChild w i (.add cs)).1 = .cons ids from hids]; trivial), hw'⟩
  | branch =>
    obtain ⟨h1, h2⟩ := ch_step_branch (E := E) w Us hw i hi
    exact ⟨Or.inl (by rw [h1]; trivial), h2⟩
  | pickle =>
    exact ⟨Or.inl trivial, tinvS_pickle (pmro := mro .SolverCompositeChild) hw hi (si_pickle H.reg (hw.each i hi).mark)⟩
  | _ => exact (winv_call (si_heapLocal R RE E) (ch_callOk H) hw.toW hi _ hop rfl).imp id WInv.toS

theorem ch_hist_giveup (hist : List (Nat × Op)) (w : World) (Us : List (List Con)) (hw : TInvS R RE E Us w)
    (hok : HistOkC R RE w.fes.length hist) :
    ∀ x ∈ runHist E .SolverCompositeChild w Us hist, JudgeOrGiveUp E x.1 x.2.1 x.2.2 :=
  hist_of_step (W := TInvS R RE E) (Sc := InScopeC R RE) (Ok := HistOkC R RE) (fun h => h.len) (fun h => h) (ch_step H)
    hist w Us hw hok

end

end Claripy.Solver

import ClaripyProofs.Lemmas.Solver.CompositeInv
import ClaripyProofs.Lemmas.Solver.World
/-!
The footprint of the class SolverCompositeChild (`ChildFoot`): its queries leave `variables` and `constraints` alone and cache
only models over `variables`; `add` keeps the cached models within the variables.  For the queries no invariant is involved: ONE
walk through the Z3 algorithms, `FullFrontend._get_solver` and the query methods of FullFrontend, ModelCacheMixin, SatCacheMixin
shows that each has the footprint from EVERY state (`TrQ`, an instance of `FeRel.Tr`); late binding is by induction on the
unrolling depth.  For `add`: what it may leave in the caches, from any state (`AddCaches`), and, under the invariant, everything
the bookkeeping needs to know of the record afterwards (`ChildAdded`); the layers above ModelCacheMixin change only their own
fields in `_add` (`auxRel`).  At the end the weaker reading "constraints and variables stay" of the same walk: `KeepsCV` for one
method, `OpsKeeps` for a class, `ChildKeeps` / `childKeeps` for the child class and `check_satisfiability`.
-/
namespace Claripy.Solver

variable {R : Con → Prop} {RE : Exp → Prop} {E : Env}

def MV (fe fe' : Frontend) : Prop :=
  fe'.models = fe.models ∧ fe'.variables = fe.variables ∧ fe'.constraints = fe.constraints

theorem MV.refl (fe : Frontend) : MV fe fe := ⟨rfl, rfl, rfl⟩

theorem mem_restrict {m : PModel} {vars : List Var} {kv : Var × Nat} (h : kv ∈ m.restrict vars) : kv.1 ∈ vars := by
  unfold PModel.restrict at h
  have := (List.mem_filter.mp h).2
  simpa using this

theorem keysInv_mcHookFe (m : PModel) (hd : m.Sorted) (fe : Frontend) (h : KeysInv fe) : KeysInv (mcHookFe m fe) := by
  unfold mcHookFe
  split
  · exact h
  · intro m' hm'
    rcases (mem_listInsert _ _ _).mp hm' with hm' | rfl
    · exact h m' hm'
    · exact ⟨fun kv hkv => mem_restrict hkv, PModel.sorted_restrict hd _⟩

theorem evalExh_fold_mv (asts : List Exp) : ∀ fe : Frontend,
    MV fe (asts.foldl (fun fe e => if subsetB e.vars fe.variables then { fe with evalExh := listInsert fe.evalExh e.id } else fe) fe) := by
  induction asts with
  | nil => intro fe; exact MV.refl fe
  | cons e es ih =>
    intro fe
    simp only [List.foldl_cons]
    split
    · exact ih _
    · exact ih _

/-- a reflexive, transitive relation on frontend records: what a method may do to the record it runs on -/
structure FeRel where
  rel : Frontend → Frontend → Prop
  refl : ∀ fe, rel fe fe
  trans : ∀ {a b c}, rel a b → rel b c → rel a c

namespace FeRel

/-- from every state, `m` leaves a record related by `F` to the one it started on -/
def Tr (F : FeRel) {α : Type} (m : M α) : Prop := ∀ s, F.rel s.fe (m s).2.fe

variable {F : FeRel}

theorem tr_pure {α : Type} (a : α) : F.Tr (pure a : M α) := fun _ => F.refl _
theorem tr_throw {α : Type} (e : Err) : F.Tr (M.throw e : M α) := fun _ => F.refl _
theorem tr_get : F.Tr M.get := fun _ => F.refl _
theorem tr_getFe : F.Tr M.getFe := fun _ => F.refl _
theorem tr_modify (f : St → St) (hf : ∀ s, F.rel s.fe (f s).fe) : F.Tr (M.modify f) := hf
theorem tr_modifyFe (f : Frontend → Frontend) (hf : ∀ fe, F.rel fe (f fe)) : F.Tr (M.modifyFe f) := fun s => hf s.fe

theorem pres_bind {P : Frontend → Prop} (hP : ∀ fe fe', F.rel fe fe' → P fe → P fe') {α β : Type} {m : M α} {f : α → M β}
    {s : St} (h1 : P (m s).2.fe) (h2 : ∀ a, F.Tr (f a)) : P ((m >>= f) s).2.fe := by
  show P (M.bind m f s).2.fe
  unfold M.bind
  revert h1
  generalize m s = res
  obtain ⟨r, s1⟩ := res
  cases r with
  | ok a => exact hP _ _ (h2 a s1)
  | error e => exact id

theorem tr_bind {α β : Type} {m : M α} {f : α → M β} (h1 : F.Tr m) (h2 : ∀ a, F.Tr (f a)) : F.Tr (m >>= f) :=
  fun s => pres_bind (P := F.rel s.fe) (fun _ _ h p => F.trans p h) (h1 s) h2

theorem tr_ite {α : Type} (c : Prop) [Decidable c] {a b : M α} (ha : F.Tr a) (hb : F.Tr b) : F.Tr (if c then a else b) := by
  split
  · exact ha
  · exact hb

theorem tr_tryCatch {α : Type} {m : M α} {p : Err → Bool} {hd : M α} (h1 : F.Tr m) (h2 : F.Tr hd) :
    F.Tr (M.tryCatch m p hd) := by
  intro s
  have a := h1 s
  unfold M.tryCatch
  cases hr : m s with
  | mk r s1 =>
    rw [hr] at a
    cases r with
    | ok x => exact a
    | error e =>
      dsimp only
      split
      · exact F.trans a (h2 s1)
      · exact a

theorem tr_tryFinally {α : Type} {m : M α} {fin : M Unit} (h1 : F.Tr m) (h2 : F.Tr fin) : F.Tr (M.tryFinally m fin) := by
  intro s
  have a := h1 s
  unfold M.tryFinally
  cases hr : m s with
  | mk r s1 =>
    rw [hr] at a
    have b := F.trans a (h2 s1)
    cases r <;> dsimp only <;> cases hf : fin s1 with
    | mk r2 s2 =>
      rw [hf] at b
      cases r2 <;> exact b

end FeRel

open FeRel

/-- `FootQ`, as a relation on the records -/
def footRel : FeRel where
  rel fe fe' := fe'.variables = fe.variables ∧ fe'.constraints = fe.constraints ∧ (KeysInv fe → KeysInv fe')
  refl _ := ⟨rfl, rfl, id⟩
  trans h1 h2 := ⟨h2.1.trans h1.1, h2.2.1.trans h1.2.1, fun h => h2.2.2 (h1.2.2 h)⟩

/-- `m` has the footprint of a query of the child class, from every state -/
abbrev TrQ {α : Type} (m : M α) : Prop := footRel.Tr m

theorem footRel_of_mv {fe fe' : Frontend} (h : MV fe fe') : footRel.rel fe fe' :=
  ⟨h.2.1, h.2.2, fun hk => keysInv_congr h.1 h.2.1 hk⟩

theorem trQ_modify (f : St → St) (hf : ∀ s, MV s.fe (f s).fe) : TrQ (M.modify f) := fun s => footRel_of_mv (hf s)
theorem trQ_modifyFe (f : Frontend → Frontend) (hf : ∀ fe, MV fe (f fe)) : TrQ (M.modifyFe f) :=
  fun s => footRel_of_mv (hf s.fe)

theorem trQ_getObj (r : Nat) : TrQ (getObj r) := fun _ => footRel.refl _
theorem trQ_setObj (r : Nat) (o : Z3Obj) : TrQ (setObj r o) := fun _ => footRel_of_mv (MV.refl _)
theorem trQ_newObj : TrQ newObj := fun _ => footRel_of_mv (MV.refl _)

theorem trQ_backendSolver : TrQ backendSolver :=
  tr_bind tr_get fun _ => tr_ite _
    (tr_bind trQ_newObj fun _ => tr_ite _ (tr_bind (trQ_modify _ fun _ => MV.refl _) fun _ => tr_pure _) (tr_pure _))
    (tr_bind (trQ_setObj _ _) fun _ => tr_pure _)

theorem trQ_cloneSolver (r : Nat) : TrQ (cloneSolver r) :=
  tr_bind (trQ_getObj r) fun _ _ => footRel_of_mv (MV.refl _)

theorem trQ_z3Add (r : Nat) (cs : List ZCon) (track : Bool) : TrQ (z3Add r cs track) :=
  tr_bind (trQ_getObj r) fun _ => tr_ite _ (trQ_setObj _ _) (trQ_setObj _ _)

theorem trQ_z3Push (r : Nat) : TrQ (z3Push r) := tr_bind (trQ_getObj r) fun _ => trQ_setObj _ _

theorem trQ_z3Pop (r : Nat) : TrQ (z3Pop r) := tr_bind (trQ_getObj r) fun _ => trQ_setObj _ _

theorem trQ_z3Check (E : Env) (r : Nat) (as : List ZCon) : TrQ (z3Check E r as) := by
  unfold z3Check
  refine tr_bind (trQ_getObj r) fun o => tr_bind tr_get fun s => tr_bind (trQ_modify _ fun _ => MV.refl _) fun _ => ?_
  split
  · exact tr_throw _
  · exact tr_bind (trQ_setObj _ _) fun _ => tr_pure _
  · exact tr_bind (trQ_setObj _ _) fun _ => tr_pure _

def HookQ (hook : PModel → M Unit) : Prop := ∀ m, m.Sorted → TrQ (hook m)

theorem HookQ.ofKeys {hook : PModel → M Unit} (h : HookQ hook) (vals : List Nat) (keys : List Var) :
    TrQ (hook (PModel.ofKeys vals keys)) := h _ (PModel.sorted_ofKeys vals keys)

theorem trQ_z3Satisfiable (E : Env) (r : Nat) (extra : List ZCon) {hook : PModel → M Unit} (hh : HookQ hook) :
    TrQ (z3Satisfiable E r extra hook) :=
  tr_bind (trQ_z3Check E r extra) fun
    | none => tr_pure _
    | some (_, _) => tr_bind (hh.ofKeys _ _) fun _ => tr_pure _

theorem trQ_batchEvalLoop (E : Env) (r : Nat) (exprs : List Exp) (extra : List ZCon) {hook : PModel → M Unit} (hh : HookQ hook) :
    ∀ (rem : Nat) (acc : List (List Nat)), TrQ (batchEvalLoop E r exprs extra hook rem acc)
  | 0, _ => tr_pure _
  | rem + 1, _ =>
    tr_bind (trQ_z3Check E r extra) fun
      | none => tr_pure _
      | some (_, _) => tr_bind (hh.ofKeys _ _) fun _ =>
          tr_ite _ (tr_bind (trQ_getObj r) fun _ => tr_bind (trQ_setObj _ _) fun _ => trQ_batchEvalLoop E r exprs extra hh rem _)
            (trQ_batchEvalLoop E r exprs extra hh rem _)

theorem trQ_z3BatchEval (E : Env) (r : Nat) (exprs : List Exp) (n : Nat) (extra : List ZCon) {hook : PModel → M Unit}
    (hh : HookQ hook) : TrQ (z3BatchEval E r exprs n extra hook) :=
  have hrun : TrQ (M.tryFinally (batchEvalLoop E r exprs extra hook n []) (if n > 1 then z3Pop r else pure ())) :=
    tr_tryFinally (trQ_batchEvalLoop E r exprs extra hh n []) (tr_ite _ (trQ_z3Pop r) (tr_pure _))
  tr_ite _ (tr_bind (trQ_z3Push r) fun _ => hrun) hrun

theorem trQ_extremaLoop (E : Env) (r : Nat) (isMax : Bool) (e : Exp) (extra : List ZCon) (signed : Bool) {hook : PModel → M Unit}
    (hh : HookQ hook) : ∀ (fuel : Nat) (lo hi : Int), TrQ (extremaLoop E r isMax e extra signed hook fuel lo hi)
  | 0, _, _ => tr_pure _
  | fuel + 1, _, _ =>
    tr_ite _
      (tr_bind (trQ_z3Check E r _) fun
        | some (_, _) => tr_bind (hh.ofKeys _ _) fun _ =>
            tr_ite _ (trQ_extremaLoop E r isMax e extra signed hh fuel _ _) (trQ_extremaLoop E r isMax e extra signed hh fuel _ _)
        | none => tr_ite _ (trQ_extremaLoop E r isMax e extra signed hh fuel _ _) (trQ_extremaLoop E r isMax e extra signed hh fuel _ _))
      (tr_pure _)

theorem trQ_z3Extrema (E : Env) (r : Nat) (isMax : Bool) (e : Exp) (extra : List ZCon) (signed : Bool) {hook : PModel → M Unit}
    (hh : HookQ hook) : TrQ (z3Extrema E r isMax e extra signed hook) :=
  tr_bind (trQ_extremaLoop E r isMax e extra signed hh _ _ _) fun (_, _) =>
    tr_bind (trQ_z3Check E r _) fun
      | some (_, _) => tr_bind (hh.ofKeys _ _) fun _ => tr_pure _
      | none => tr_pure _

theorem trQ_addConstraints : TrQ addConstraints :=
  tr_bind tr_getFe fun _ => tr_bind (trQ_z3Add _ _ _) fun _ => trQ_modifyFe _ fun _ => MV.refl _

/-- `_get_solver` writes `_tls.solver` and (through `_add_constraints`) `_to_add`; the record is read again after each of its
three steps, so each continuation is treated on its own -/
theorem trQ_getSolver : TrQ getSolver := by
  have hset : ∀ r : Nat, TrQ (M.modifyFe fun fe => { fe with solver := some r }) := fun _ => trQ_modifyFe _ fun _ => MV.refl _
  unfold getSolver
  refine tr_bind tr_getFe fun fe => ?_
  extract_lets last reuse pending install
  have hlast : ∀ u, TrQ (last u) := fun _ => tr_bind tr_getFe fun _ => tr_pure _
  have hreuse : ∀ u, TrQ (reuse u) := fun _ => tr_bind tr_get fun _ => tr_ite _
    (tr_bind trQ_backendSolver fun _ => tr_bind (hset _) fun _ => tr_bind trQ_addConstraints hlast) (hlast ())
  have hpending : ∀ u, TrQ (pending u) := fun _ => tr_bind tr_getFe fun _ => tr_ite _ (tr_bind trQ_addConstraints hreuse) (hreuse ())
  have hinstall : ∀ r, TrQ (install r) := fun _ => tr_bind (hset _) fun _ => tr_bind trQ_addConstraints hpending
  exact tr_ite _ (tr_bind trQ_backendSolver hinstall) (tr_ite _
    (tr_bind tr_get fun _ => tr_ite _ (tr_bind trQ_backendSolver hinstall) (tr_bind (trQ_cloneSolver _) hinstall))
    (hpending ()))

theorem trQ_fullExtremum (E : Env) {self : Ops} (hsat : ∀ ex, TrQ (self.satisfiable ex)) (heval : ∀ e n ex, TrQ (self.eval e n ex))
    (hh : HookQ self.modelHook) (isMax : Bool) (e : Exp) (extra : List Con) (signed : Bool) :
    TrQ (fullExtremum E self isMax e extra signed) := by
  unfold fullExtremum
  refine tr_bind (hsat _) fun _ => ?_
  extract_lets rest
  have hrest : ∀ u, TrQ (rest u) := fun _ => tr_bind (heval _ _ _) fun
    | [] => tr_throw _
    | [_] => tr_pure _
    | _ :: _ :: _ => tr_bind trQ_getSolver fun _ => trQ_z3Extrema E _ _ _ _ _ hh
  exact tr_ite _ (tr_bind (tr_throw _) hrest) (hrest ())

structure OpsFoot (o : Ops) : Prop where
  satisfiable : ∀ ex, TrQ (o.satisfiable ex)
  eval : ∀ e n ex, TrQ (o.eval e n ex)
  batchEval : ∀ es n ex, TrQ (o.batchEval es n ex)
  max : ∀ e ex sg, TrQ (o.max e ex sg)
  min : ∀ e ex sg, TrQ (o.min e ex sg)
  solution : ∀ e v ex, TrQ (o.solution e v ex)
  isTrue : ∀ c ex, TrQ (o.isTrue c ex)
  isFalse : ∀ c ex, TrQ (o.isFalse c ex)
  modelHook : HookQ o.modelHook

theorem opsFoot_full (E : Env) (self sup : Ops) (h : OpsFoot self) : OpsFoot (fullLayer E self sup) where
  satisfiable _ := tr_bind trQ_getSolver fun _ => trQ_z3Satisfiable E _ _ h.modelHook
  eval _ _ _ := tr_bind trQ_getSolver fun _ => tr_bind (trQ_z3BatchEval E _ _ _ _ h.modelHook) fun _ =>
    tr_ite _ (tr_throw _) (tr_pure _)
  batchEval _ _ _ := tr_bind trQ_getSolver fun _ => tr_bind (trQ_z3BatchEval E _ _ _ _ h.modelHook) fun _ =>
    tr_ite _ (tr_throw _) (tr_pure _)
  max := trQ_fullExtremum E h.satisfiable h.eval h.modelHook true
  min := trQ_fullExtremum E h.satisfiable h.eval h.modelHook false
  solution _ _ _ := tr_bind trQ_getSolver fun _ => trQ_z3Satisfiable E _ _ h.modelHook
  isTrue _ _ := tr_bind trQ_getSolver fun _ => tr_bind tr_get fun _ => tr_bind (trQ_modify _ fun _ => MV.refl _) fun _ => tr_pure _
  isFalse _ _ := tr_bind trQ_getSolver fun _ => tr_bind tr_get fun _ => tr_bind (trQ_modify _ fun _ => MV.refl _) fun _ => tr_pure _
  modelHook _ _ := tr_pure _

theorem trQ_getBatchSolutions (E : Env) (asts : List Exp) (n : Nat) (extra : List Con) : TrQ (getBatchSolutions E asts n extra) :=
  tr_bind tr_get fun _ => tr_bind (trQ_modify _ fun _ => MV.refl _) fun _ => tr_ite _ (tr_pure _) (tr_throw _)

theorem trQ_modelCacheBatchEval (E : Env) {sup : Ops} (hsup : ∀ es n ex, TrQ (sup.batchEval es n ex)) (asts : List Exp) (n : Nat)
    (extra : List Con) : TrQ (modelCacheBatchEval E sup asts n extra) :=
  tr_bind (trQ_getBatchSolutions E asts n extra) fun _ => tr_bind tr_getFe fun _ => tr_ite _ (tr_pure _)
    (tr_bind (tr_tryCatch (hsup _ _ _) (tr_ite _ (tr_throw _) (tr_pure _))) fun _ =>
      tr_ite _ (tr_bind (trQ_modifyFe _ (evalExh_fold_mv asts)) fun _ => tr_pure _) (tr_pure _))

theorem trQ_modelCacheExtremum (E : Env) {sup : Ops} (hmax : ∀ e ex sg, TrQ (sup.max e ex sg)) (hmin : ∀ e ex sg, TrQ (sup.min e ex sg))
    (isMax : Bool) (e : Exp) (extra : List Con) (signed : Bool) : TrQ (modelCacheExtremum E sup isMax e extra signed) := by
  unfold modelCacheExtremum
  refine tr_bind tr_getFe fun fe => ?_
  dsimp only
  split
  · exact tr_pure _
  · have hflag : ∀ (f : Frontend → Frontend) (m : Int), (∀ fe, MV fe (f fe)) →
        TrQ (if (extra.isEmpty && subsetB e.vars fe.variables) = true then do M.modifyFe f; pure m else pure m) :=
      fun f m hf => tr_ite _ (tr_bind (trQ_modifyFe f hf) fun _ => tr_pure _) (tr_pure _)
    refine tr_ite _ (tr_bind (hmax _ _ _) fun m => hflag _ m fun fe => ?_) (tr_bind (hmin _ _ _) fun m => hflag _ m fun fe => ?_) <;>
      cases isMax <;> cases signed <;> exact MV.refl _

theorem hookQ_mcHook : HookQ mcHook := fun m hd s => by
  rw [mcHook_apply]
  have hv := congrArg Frontend.variables (noModels_mcHookFe m s.fe)
  have hc := congrArg Frontend.constraints (noModels_mcHookFe m s.fe)
  exact ⟨hv, hc, keysInv_mcHookFe m hd s.fe⟩

theorem opsFoot_modelCache (E : Env) (self sup : Ops) (h : OpsFoot sup) : OpsFoot (modelCacheLayer E self sup) where
  satisfiable _ := tr_bind tr_getFe fun _ => tr_ite _ (tr_pure _) (h.satisfiable _)
  eval _ _ _ := tr_bind (trQ_modelCacheBatchEval E h.batchEval _ _ _) fun _ => tr_pure _
  batchEval := trQ_modelCacheBatchEval E h.batchEval
  max := trQ_modelCacheExtremum E h.max h.min true
  min := trQ_modelCacheExtremum E h.max h.min false
  solution _ _ _ := tr_bind tr_getFe fun _ => tr_ite _ (tr_pure _) (h.solution _ _ _)
  isTrue := h.isTrue
  isFalse := h.isFalse
  modelHook := hookQ_mcHook

theorem trQ_satCacheQuery {α : Type} {m : M α} (hm : TrQ m) (b : Bool) : TrQ (satCacheQuery m b) :=
  tr_bind tr_getFe fun _ => tr_ite _ (tr_throw _)
    (tr_bind (tr_tryCatch hm (tr_ite _ (tr_bind (trQ_modifyFe _ fun _ => MV.refl _) fun _ => tr_throw _) (tr_throw _))) fun _ =>
      tr_bind (trQ_modifyFe _ fun _ => MV.refl _) fun _ => tr_pure _)

theorem opsFoot_satCache (E : Env) (self sup : Ops) (h : OpsFoot sup) : OpsFoot (satCacheLayer E self sup) where
  satisfiable _ := tr_bind tr_getFe fun _ => tr_ite _ (tr_pure _) (tr_ite _ (tr_pure _)
    (tr_bind (h.satisfiable _) fun _ => tr_ite _ (tr_bind (trQ_modifyFe _ fun _ => MV.refl _) fun _ => tr_pure _) (tr_pure _)))
  eval _ _ _ := trQ_satCacheQuery (h.eval _ _ _) _
  batchEval _ _ _ := trQ_satCacheQuery (h.batchEval _ _ _) _
  max _ _ _ := trQ_satCacheQuery (h.max _ _ _) _
  min _ _ _ := trQ_satCacheQuery (h.min _ _ _) _
  solution _ _ _ := tr_bind tr_getFe fun _ => tr_ite _ (tr_throw _)
    (tr_bind (tr_tryCatch (h.solution _ _ _) (tr_ite _ (tr_bind (trQ_modifyFe _ fun _ => MV.refl _) fun _ => tr_throw _) (tr_throw _)))
      fun _ => tr_ite _ (tr_bind (trQ_modifyFe _ fun _ => MV.refl _) fun _ => tr_pure _) (tr_pure _))
  isTrue := h.isTrue
  isFalse := h.isFalse
  modelHook := h.modelHook

/-- SimplifySkipperMixin and ConstraintDeduplicatorMixin inherit the queries -/
theorem opsFoot_skipper (self sup : Ops) (h : OpsFoot sup) : OpsFoot (skipperLayer self sup) := ⟨h.1, h.2, h.3, h.4, h.5, h.6, h.7, h.8, h.9⟩

theorem opsFoot_dedup (self sup : Ops) (h : OpsFoot sup) : OpsFoot (dedupLayer self sup) := ⟨h.1, h.2, h.3, h.4, h.5, h.6, h.7, h.8, h.9⟩

theorem opsFoot_base : OpsFoot frontendBase :=
  ⟨fun _ => tr_throw _, fun _ _ _ => tr_throw _, fun _ _ _ => tr_throw _, fun _ _ _ => tr_throw _, fun _ _ _ => tr_throw _,
   fun _ _ _ => tr_throw _, fun _ _ => tr_throw _, fun _ _ => tr_throw _, fun _ _ => tr_pure _⟩

theorem opsFoot_cL4 (E : Env) (self : Ops) (h : OpsFoot self) : OpsFoot (cL4 E self) :=
  opsFoot_dedup _ _ (opsFoot_satCache E _ _ (opsFoot_skipper _ _ (opsFoot_modelCache E _ _ (opsFoot_full E self _ h))))

/-- late binding: induction on the unrolling depth -/
theorem opsFoot_chStage (E : Env) : ∀ k, OpsFoot (chStage E k)
  | 0 => (show chStage E 0 = cL4 E frontendBase from compose_child E frontendBase) ▸ opsFoot_cL4 E _ opsFoot_base
  | k + 1 => chStage_eq E k ▸ opsFoot_cL4 E _ (opsFoot_chStage E k)

theorem opsFoot_childOps (E : Env) : OpsFoot (childOps E) := opsFoot_chStage E 4

theorem trQ_childCheckSat (E : Env) (extra : List Con) : TrQ (childCheckSat E extra) := by
  unfold childCheckSat
  refine tr_bind tr_getFe fun fe => tr_ite _ (tr_pure _) (tr_ite _ (tr_pure _) ?_)
  cases hsc : checkSatShortcut fe extra with
  | some m =>
    have hd : m.Sorted := by
      unfold checkSatShortcut at hsc
      split at hsc
      · split at hsc
        · cases hsc; exact PModel.sorted_single _ _
        · cases hsc; exact PModel.sorted_single _ _
        · cases hsc
      · cases hsc
    exact tr_bind ((opsFoot_childOps E).modelHook m hd) fun _ => tr_pure _
  | none => exact tr_bind trQ_getSolver fun _ => trQ_z3Satisfiable E _ _ (opsFoot_childOps E).modelHook

def FootSpec (R : Con → Prop) (RE : Exp → Prop) (E : Env) (G : St → Prop) (U : List Con) {α : Type} (m : M α) : Prop :=
  ∀ s, SI R RE E G U s → FootQ s (m s).2

theorem FeRel.Tr.footSpec {G : St → Prop} {U : List Con} {α : Type} {m : M α} (h : TrQ m) : FootSpec R RE E G U m := fun s _ => h s

theorem trivOptFe_cases (fe : Frontend) : trivOptFe fe = fe ∨ ∃ c v x eid, fe.constraints = [c] ∧ c.triv = some (v, x, eid) ∧
    trivOptFe fe = { fe with models := listInsert fe.models [(v, x)],
                             evalExh := listInsert fe.evalExh eid, maxExh := listInsert fe.maxExh eid,
                             minExh := listInsert fe.minExh eid, maxSExh := listInsert fe.maxSExh eid,
                             minSExh := listInsert fe.minSExh eid } := by
  unfold trivOptFe
  split
  · rename_i hc
    split
    · rename_i v x eid htr
      have hlen : fe.constraints.length = 1 := by
        simp only [Bool.and_eq_true, beq_iff_eq] at hc; exact hc.1
      obtain ⟨c, hcons⟩ := List.length_eq_one_iff.mp hlen
      rw [hcons] at htr
      exact Or.inr ⟨c, v, x, eid, hcons, htr, rfl⟩
    · exact Or.inl rfl
  · exact Or.inl rfl

/-- the record changes in fields of SimplifySkipperMixin, SatCacheMixin and ConstraintDeduplicatorMixin only: what the layers
above ModelCacheMixin do in `_add` -/
def auxRel : FeRel where
  rel fe fe' := ∃ sm cs cc hs, fe' = { fe with simplified := sm, cachedSat := cs, cachedCore := cc, hashes := hs }
  refl fe := ⟨fe.simplified, fe.cachedSat, fe.cachedCore, fe.hashes, rfl⟩
  trans := by
    rintro a b c ⟨_, _, _, _, rfl⟩ ⟨sm, cs, cc, hs, rfl⟩
    exact ⟨sm, cs, cc, hs, rfl⟩

theorem cheapScan_aux (E : Env) (a : Con) : ∀ l : List Con, auxRel.Tr (cheapScan E a l)
  | [] => tr_pure _
  | c :: rest => by
    unfold cheapScan
    refine tr_bind tr_get fun s0 => tr_bind (tr_modify _ fun _ => auxRel.refl _) fun _ => ?_
    exact tr_ite _ (tr_pure _) (cheapScan_aux E a rest)

theorem satCacheAddScan_aux (E : Env) (added : List Con) : auxRel.Tr (satCacheAddScan E added) := by
  unfold satCacheAddScan
  refine tr_ite _ (tr_pure _) (tr_ite _ (tr_pure _) ?_)
  split
  · refine tr_bind tr_getFe fun fe => tr_ite _ ?_ (tr_pure _)
    refine tr_bind (cheapScan_aux E _ _) fun r => ?_
    cases r with
    | none => exact tr_pure _
    | some con => exact tr_bind (tr_modifyFe _ fun fe => ⟨_, _, _, _, rfl⟩) fun _ => tr_pure _
  · exact tr_pure _

/-- **`_add` of SolverCompositeChild above ModelCacheMixin** (SimplifySkipperMixin, SatCacheMixin, ConstraintDeduplicatorMixin): what
ModelCacheMixin's `_add` establishes for every sublist of the constraints, and what `auxRel` preserves, holds after the whole `_add` -/
theorem cL4_add_of_mc {P : Frontend → Prop} (hP : ∀ fe fe', auxRel.rel fe fe' → P fe → P fe') (self : Ops) (cs : List Con)
    (inv : Bool) (s : St) (h0 : P s.fe) (hmc : ∀ cs', (∀ c ∈ cs', c ∈ cs) → P ((cL1 E self).add cs' inv s).2.fe) :
    P ((cL4 E self).add cs inv s).2.fe := by
  -- SimplifySkipperMixin, SatCacheMixin
  have hsk : ∀ cs', (∀ c ∈ cs', c ∈ cs) → P ((cL3 E self).add cs' inv s).2.fe := by
    intro cs' hcs'
    show P ((do
        let added ← (do
          let added ← (cL1 E self).add cs' inv
          if !added.isEmpty then M.modifyFe fun fe => { fe with simplified := false }
          pure added : M (List Con))
        let foundUnsat ← satCacheAddScan E added
        if foundUnsat then M.modifyFe fun fe => { fe with cachedSat := some false }
        else M.modifyFe fun fe => if fe.cachedSat == some true then { fe with cachedSat := none } else fe
        pure added : M (List Con)) s).2.fe
    refine pres_bind hP (pres_bind hP (hmc cs' hcs') fun added => ?_) fun added => ?_
    · exact tr_ite _ (tr_bind (tr_modifyFe _ fun fe => ⟨_, _, _, _, rfl⟩) fun _ => tr_pure _) (tr_pure _)
    · refine tr_bind (satCacheAddScan_aux E added) fun found => tr_ite _
        (tr_bind (tr_modifyFe _ fun fe => ⟨_, _, _, _, rfl⟩) fun _ => tr_pure _)
        (tr_bind (tr_modifyFe _ fun fe => ?_) fun _ => tr_pure _)
      split
      · exact ⟨_, _, _, _, rfl⟩
      · exact auxRel.refl fe
  -- ConstraintDeduplicatorMixin
  show P ((do
      let fe ← M.getFe
      let filtered := cs.filter fun c => !fe.hashes.contains c.id
      if filtered.isEmpty then pure filtered
      else do
        let added ← (cL3 E self).add filtered inv
        M.modifyFe fun fe => { fe with hashes := listUnion fe.hashes (added.map (·.id)) }
        pure added : M (List Con)) s).2.fe
  simp only [bind, M.bind, M.getFe_apply]
  split
  · exact h0
  · refine pres_bind hP (m := (cL3 E self).add (cs.filter fun c => !s.fe.hashes.contains c.id) inv)
      (hsk _ (fun c hc => (List.mem_filter.mp hc).1)) fun added => ?_
    exact tr_bind (tr_modifyFe _ fun fe => ⟨_, _, _, _, rfl⟩) fun _ => tr_pure _

/-- what `_add` may leave in the caches of ModelCacheMixin, from any state: what was there, and the model `{v: x}` and the markers
that `_trivial_model_optimization` records for a sole constraint `v == x` -/
structure AddCaches (fe fe' : Frontend) : Prop where
  models : ∀ m ∈ fe'.models, m ∈ fe.models ∨ ∃ c v x eid, fe'.constraints = [c] ∧ c.triv = some (v, x, eid) ∧ m = [(v, x)]
  marks : ∀ i, Marked fe' i → Marked fe i ∨ ∃ c v x, fe'.constraints = [c] ∧ c.triv = some (v, x, i)

theorem AddCaches.of_fields {fe fe' : Frontend} (h : mcFields fe' = mcFields fe) : AddCaches fe fe' := by
  obtain ⟨hm, h1, h2, h3, h4, h5⟩ := mcFields_eq h
  refine ⟨fun m hmm => Or.inl (hm ▸ hmm), fun i hi => Or.inl ?_⟩
  unfold Marked at hi ⊢
  rwa [h1, h2, h3, h4, h5] at hi

theorem AddCaches.of_aux {a fe fe' : Frontend} (hr : auxRel.rel fe fe') (h : AddCaches a fe) : AddCaches a fe' := by
  obtain ⟨_, _, _, _, rfl⟩ := hr
  exact ⟨h.models, h.marks⟩

theorem AddCaches.trivOpt {a fe : Frontend} (h : AddCaches a fe) : AddCaches a (trivOptFe fe) := by
  rcases trivOptFe_cases fe with he | ⟨c, v, x, eid, hcons, htr, he⟩
  · rw [he]; exact h
  rw [he]
  refine ⟨fun m hm => ?_, fun i hi => ?_⟩
  · rcases (mem_listInsert _ _ _).mp hm with hm | rfl
    · exact h.models m hm
    · exact Or.inr ⟨c, v, x, eid, hcons, htr, rfl⟩
  · by_cases hie : i = eid
    · exact Or.inr ⟨c, v, x, hcons, hie ▸ htr⟩
    · refine h.marks i ?_
      unfold Marked at hi ⊢
      simpa only [mem_listInsert, hie, or_false] using hi

/-- the re-validation of the cached models drops models and, with them, all markers -/
theorem AddCaches.inval (E : Env) (cs added : List Con) {a fe : Frontend} (h : AddCaches a fe) :
    AddCaches a (invalFe E cs added fe) := by
  have h1 : AddCaches a (if cs.any (·.isFalse) then { fe with models := [] } else fe) := by
    split
    · exact ⟨fun _ hm => (nomatch hm), h.marks⟩
    · exact h
  revert h1
  unfold invalFe
  generalize (if cs.any (·.isFalse) then { fe with models := [] } else fe) = fe1
  intro h1
  dsimp only
  split
  · exact ⟨fun m hm => h1.models m ((mem_getModels E fe1 added m).mp hm).1,
      fun i hi => absurd hi (NoMarks.not_marked ⟨rfl, rfl, rfl, rfl, rfl⟩ i)⟩
  · exact h1

/-- **`_add` of SolverCompositeChild**: one walk of ModelCacheMixin's `_add` over FullFrontend / ConstrainedFrontend -/
theorem cL4_add_caches (self : Ops) (cs : List Con) (inv : Bool) (s : St) : AddCaches s.fe ((cL4 E self).add cs inv s).2.fe := by
  refine cL4_add_of_mc (fun _ _ => AddCaches.of_aux) self cs inv s (.of_fields rfl) fun cs' _ => ?_
  show AddCaches s.fe ((modelCacheLayer E self (cL0 E self)).add cs' inv s).2.fe
  rw [mcAdd_eq]
  split
  · exact .of_fields rfl
  · obtain ⟨new, s1, hrun, -, hmcf, -, -⟩ := fc_add_low E self self frontendBase s cs' inv
    have hrun' : (cL0 E self).add cs' inv s = (.ok new, s1) := hrun
    rw [hrun']
    dsimp only
    have h1 : AddCaches s.fe s1.fe := .of_fields hmcf
    split
    · exact h1
    · show AddCaches s.fe (mcAfterAddFe E s.fe.variables cs' inv new s1.fe)
      unfold mcAfterAddFe
      split
      · exact h1.trivOpt.inval E cs' new
      · exact h1.trivOpt

theorem child_add_caches (cs : List Con) (s : St) : AddCaches s.fe (publicAdd (childOps E) cs true s).2.fe := by
  unfold publicAdd
  split
  · exact .of_fields rfl
  · rw [childOps_eq, chStage_eq]
    exact cL4_add_caches (chStage E 3) cs true s

theorem child_add_marks (cs : List Con) (s : St) (h0 : NoMarks s.fe) :
    TrivMarks (publicAdd (childOps E) cs true s).2.fe :=
  fun i hi => ((child_add_caches cs s).marks i hi).resolve_left (h0.not_marked i)

structure ChildAdded (cs added : List Con) (fe fe' : Frontend) : Prop where
  cons : fe'.constraints = fe.constraints ++ added
  sub : ∀ c ∈ added, c ∈ cs
  vars : ∀ v, v ∈ fe'.variables ↔ v ∈ fe.variables ∨ ∃ c ∈ added, v ∈ c.vars
  keys : KeysInv fe → KeysInv fe'
  exact : ExactVars fe → ExactVars fe'
  /-- every variable of `cs` arrives: a constraint the deduplication drops has the id, hence the variables (`Reg.varsId`), of
  one that is held -/
  ids : IdsInv fe → IdsInv fe' ∧ ∀ c ∈ cs, ∀ v ∈ c.vars, v ∈ fe'.variables
  marks : NoMarks fe → TrivMarks fe'

theorem child_extremum_foot {G : St → Prop} {U : List Con} (isMax : Bool) (e : Exp) (extra : List Con) (signed : Bool) :
    FootSpec R RE E G U (if isMax then (childOps E).max e extra signed else (childOps E).min e extra signed) :=
  (tr_ite _ ((opsFoot_childOps E).max e extra signed) ((opsFoot_childOps E).min e extra signed)).footSpec

section
variable (H : SolverHyps R RE E)
include H

theorem child_add_run {G : St → Prop} {U : List Con} (s : St) (h : SI R RE E G U s) (cs : List Con) (hcs : ∀ c ∈ cs, R c) :
    ∃ added s', publicAdd (childOps E) cs true s = (.ok added, s') ∧ SI R RE E G (U ++ cs) s' ∧
      ChildAdded cs added s.fe s'.fe := by
  have hcache := child_add_caches (E := E) cs s
  obtain ⟨added, s', hrun, hsi, hrel⟩ : ∃ added s', publicAdd (childOps E) cs true s = (.ok added, s') ∧
      SI R RE E G (U ++ cs) s' ∧ AddRel s s' cs added := by
    by_cases hemp : cs.isEmpty = true
    · have hnil : cs = [] := by simpa using hemp
      subst hnil
      exact ⟨[], s, rfl, by rwa [List.append_nil], AddRel.refl_nil s [] fun _ hc => nomatch hc⟩
    · obtain ⟨new, s1, hrun, hrel, hmc1, hsc1, _⟩ := cL4_add_low H.reg H.triv H.cheap (chStage E 3) U s cs true h hcs (fun hf => by cases hf)
      refine ⟨new, s1, ?_, si_of_added H.reg h hcs (fun _ => rfl) hrel hmc1 hsc1, hrel⟩
      rw [← hrun]
      simp [publicAdd, hemp, childOps_eq, chStage_eq]
  rw [hrun] at hcache
  refine ⟨added, s', hrun, hsi, hrel.cons, hrel.sub, hrel.vars, fun hk m hm => ?_, exactVars_add hrel.cons hrel.vars,
    fun hids => ⟨fun i hi => ?_, fun c hc v hv => ?_⟩, fun h0 i hi => (hcache.marks i hi).resolve_left (h0.not_marked i)⟩
  · -- a cached model was cached before (the variables only grow) or is the trivial one, about the variable of the sole constraint
    rcases hcache.models m hm with hm | ⟨c, v, x, eid, hcons, htr, rfl⟩
    · exact ⟨fun kv hkv => (hrel.vars kv.1).mpr (Or.inl ((hk m hm).1 kv hkv)), (hk m hm).2⟩
    · have hc : c ∈ s'.fe.constraints := by rw [hcons]; simp
      have hvars := ((H.reg.wf c (hsi.base.dinv.consR c hc)).2.2.2 v x eid htr).1
      refine ⟨fun kv hkv => ?_, PModel.sorted_single _ _⟩
      rw [List.mem_singleton.mp hkv]
      exact hsi.base.vars c hc v (by rw [hvars]; simp)
  · rcases hrel.ids i hi with hi | ⟨c, hc, hci⟩
    · obtain ⟨c, hc, hci⟩ := hids i hi
      exact ⟨c, by rw [hrel.cons]; exact List.mem_append_left _ hc, hci⟩
    · exact ⟨c, by rw [hrel.cons]; exact List.mem_append_right _ hc, hci⟩
  · rcases hrel.cover c hc with hin | hseen | ⟨c', hc', hid⟩
    · exact (hrel.vars v).mpr (Or.inr ⟨c, hin, hv⟩)
    · obtain ⟨c'', hc'', hid⟩ := hids c.id hseen
      have hveq := H.reg.varsId c'' c (h.base.dinv.consR c'' hc'') (hcs c hc) hid
      exact (hrel.vars v).mpr (Or.inl (h.base.vars c'' hc'' v (by rw [hveq]; exact hv)))
    · have hveq := H.reg.varsId c' c (hcs c' (hrel.sub c' hc')) (hcs c hc) hid
      exact (hrel.vars v).mpr (Or.inr ⟨c', hc', by rw [hveq]; exact hv⟩)

theorem child_add_spec (w : World) (Us : List (List Con)) (hw : TInvS R RE E Us w) (j : Nat) (hj : j < w.fes.length)
    (cs : List Con) (hcs : ∀ c ∈ cs, R c) :
    ∃ added w', runOn w j (publicAdd (childOps E) cs) = (.ok added, w') ∧
      TInvS R RE E (Us.set j (Us.getD j [] ++ cs)) w' ∧ w'.fes.length = w.fes.length ∧ w'.reuse = w.reuse ∧
      (∀ i, i ≠ j → w'.fes.getD i {} = w.fes.getD i {}) ∧ ChildAdded cs added (w.fes.getD j {}) (w'.fes.getD j {}) := by
  obtain ⟨added, s', hrun, hsi, hA⟩ := child_add_run H (stOfI w j) (hw.each j hj).mark cs hcs
  obtain ⟨h1, hq⟩ := hsi.unmark
  have hother := fun i (hi : i ≠ j) => runOn_getD_ne w j (publicAdd (childOps E) cs) i hi
  have hself := runOn_getD_self w j (publicAdd (childOps E) cs) hj
  have hlen := runOn_fes_length w j (publicAdd (childOps E) cs)
  rw [runOn_eq, hrun] at hother hself hlen
  refine ⟨added, _, by rw [runOn_eq, hrun], tinvS_step hw hj hq h1, hlen, rfl, hother, ?_⟩
  rw [hself]
  exact hA

theorem childFoot : ChildFoot R RE E :=
  ⟨fun _ _ cs s hcs h hk => by
      obtain ⟨_, _, hrun, _, hA⟩ := child_add_run H s h cs hcs
      rw [hrun]
      exact hA.keys hk,
   fun _ _ ex s _ => trQ_childCheckSat E ex s,
   fun _ _ e n ex s _ => (opsFoot_childOps E).eval e n ex s⟩

theorem child_batchEval_foot {G : St → Prop} {U : List Con} (es : List Exp) (n : Nat) (extra : List Con) :
    FootSpec R RE E G U ((childOps E).batchEval es n extra) :=
  ((opsFoot_childOps E).batchEval es n extra).footSpec

theorem child_solution_foot {G : St → Prop} {U : List Con} (e : Exp) (v : Nat) (extra : List Con) :
    FootSpec R RE E G U ((childOps E).solution e v extra) :=
  ((opsFoot_childOps E).solution e v extra).footSpec

theorem child_truth_foot {G : St → Prop} {U : List Con} (isT : Bool) (c : Con) (extra : List Con) :
    FootSpec R RE E G U (if isT then (childOps E).isTrue c extra else (childOps E).isFalse c extra) :=
  (tr_ite _ ((opsFoot_childOps E).isTrue c extra) ((opsFoot_childOps E).isFalse c extra)).footSpec

end

def KeepsCV {α : Type} (m : M α) : Prop :=
  ∀ s, (m s).2.fe.constraints = s.fe.constraints ∧ (m s).2.fe.variables = s.fe.variables

theorem FeRel.Tr.keepsCV {α : Type} {m : M α} (h : TrQ m) : KeepsCV m := fun s => ⟨(h s).2.1, (h s).1⟩

theorem keeps_getSolver : KeepsCV getSolver := trQ_getSolver.keepsCV

theorem keeps_modify (f : St → St) (hf : ∀ s, (f s).fe.constraints = s.fe.constraints ∧ (f s).fe.variables = s.fe.variables) :
    KeepsCV (M.modify f) := fun s => hf s

structure OpsKeeps (o : Ops) : Prop where
  satisfiable : ∀ ex, KeepsCV (o.satisfiable ex)
  eval : ∀ e n ex, KeepsCV (o.eval e n ex)
  batchEval : ∀ es n ex, KeepsCV (o.batchEval es n ex)
  max : ∀ e ex sg, KeepsCV (o.max e ex sg)
  min : ∀ e ex sg, KeepsCV (o.min e ex sg)
  solution : ∀ e v ex, KeepsCV (o.solution e v ex)
  isTrue : ∀ c ex, KeepsCV (o.isTrue c ex)
  isFalse : ∀ c ex, KeepsCV (o.isFalse c ex)
  modelHook : ∀ m, KeepsCV (o.modelHook m)

theorem keeps_mcHook (m : PModel) : KeepsCV (mcHook m) := fun s => by
  rw [mcHook_apply]
  have hc := congrArg Frontend.constraints (noModels_mcHookFe m s.fe)
  have hv := congrArg Frontend.variables (noModels_mcHookFe m s.fe)
  exact ⟨hc, hv⟩

theorem opsKeeps_chStage (E : Env) (k : Nat) : OpsKeeps (chStage E k) :=
  have h := opsFoot_chStage E k
  ⟨fun _ => (h.satisfiable _).keepsCV, fun _ _ _ => (h.eval _ _ _).keepsCV, fun _ _ _ => (h.batchEval _ _ _).keepsCV,
   fun _ _ _ => (h.max _ _ _).keepsCV, fun _ _ _ => (h.min _ _ _).keepsCV, fun _ _ _ => (h.solution _ _ _).keepsCV,
   fun _ _ => (h.isTrue _ _).keepsCV, fun _ _ => (h.isFalse _ _).keepsCV, fun m => chStage_hook E k ▸ keeps_mcHook m⟩

theorem keeps_childCheckSat (E : Env) (extra : List Con) : KeepsCV (childCheckSat E extra) := (trQ_childCheckSat E extra).keepsCV

/-- **the query methods of class SolverCompositeChild never write `constraints` / `variables`** (no invariant involved) -/
structure ChildKeeps (E : Env) : Prop where
  checkSat : ∀ ex, KeepsCV (childCheckSat E ex)
  eval : ∀ e n ex, KeepsCV ((childOps E).eval e n ex)
  batchEval : ∀ es n ex, KeepsCV ((childOps E).batchEval es n ex)
  max : ∀ e ex sg, KeepsCV ((childOps E).max e ex sg)
  min : ∀ e ex sg, KeepsCV ((childOps E).min e ex sg)
  solution : ∀ e v ex, KeepsCV ((childOps E).solution e v ex)
  isTrue : ∀ c ex, KeepsCV ((childOps E).isTrue c ex)
  isFalse : ∀ c ex, KeepsCV ((childOps E).isFalse c ex)

theorem childKeeps (E : Env) : ChildKeeps E :=
  have hO := opsKeeps_chStage E 4
  ⟨keeps_childCheckSat E, hO.eval, hO.batchEval, hO.max, hO.min, hO.solution, hO.isTrue, hO.isFalse⟩

theorem z3Extrema_l1 (hE : OracleExact E) {hook : PModel → M Unit} {P : Frontend → Prop} (hh : HookOk hook [] P) (r : Nat)
    (isMax : Bool) (e : Exp) (extra : List ZCon) (signed : Bool) (s : St) :
    L1Step r P s (z3Extrema E r isMax e extra signed hook s).2 := by
  refine (wp.fst_snd (A := fun _ => True) (?_ : (z3Extrema E r isMax e extra signed hook).wp
    (fun _ s' => True ∧ L1Step r P s s') (fun _ s' => True ∧ L1Step r P s s') s)).2
  unfold z3Extrema
  rw [M.wp_bind]
  -- the search loop, with the trivial invariant
  refine (extremaLoop_inv hE hh hh.toRec r isMax e extra signed (objAt s r).asserted (fun _ hc => nomatch hc)
    (fun _ _ _ => True) (fun _ _ _ _ _ _ _ _ _ _ _ _ => by split <;> trivial) (fun _ _ _ _ _ _ => by split <;> trivial)
    (e.bits + 1) _ _ s rfl trivial).imp (fun p s1 g => ?_) fun _ _ g => ⟨trivial, g.2.1.toObjStep, g.2.2.1⟩
  have hl : L1Step r P s s1 := ⟨g.2.2.1.toObjStep, g.2.2.2.1⟩
  show M.wp _ _ _ s1
  rw [M.wp_bind]
  refine wp_z3Check E r _ (fun _ s2 _ hc => ⟨trivial, hl.trans (hc.toL1 P)⟩) (fun vals keys s2 ho hc => ?_)
    (fun _ s2 _ hc => ⟨trivial, hl.trans (hc.toL1 P)⟩)
  show M.wp _ _ _ s2
  rw [M.wp_bind]
  refine wp_hookRec hh hh.toRec r vals keys fun s3 hst _ _ hp => ?_
  exact ⟨trivial, (hl.trans (hc.toL1 P)).trans ⟨hst.toObjStep, hp fun _ _ _ hc' => nomatch hc'⟩⟩

end Claripy.Solver

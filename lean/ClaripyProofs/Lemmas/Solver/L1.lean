import ClaripyProofs.Lemmas.Solver.Z3Obj
/-!
L1, part 2: `_satisfiable` and `_batch_eval`.
`hook` is the model callback; all that is assumed about it is `HookOk`: it only touches the frontend record,
never fails, and preserves a frontend predicate `P` when handed a partial model of the assertions `A` — a dict
(`PModel.Sorted`: the models `_generic_model` builds have one entry per constant) — and, where the statement speaks of the
models handed over, `HookRec`: it records them.  Each algorithm has one statement in `wp` form (`*_run`) about its answer and
about the recorded models; for the loop of `_batch_eval` it is `batchEvalLoop_run` (`batchEvalLoop_spec` is its answer half alone).  Props/C11.lean
states the answer halves of the algorithms about the pair `m s`.
-/
namespace Claripy.Solver

structure HookOk (hook : PModel → M Unit) (A : List ZCon) (P : Frontend → Prop) : Prop where
  frame : ∀ m s, ∃ fe', hook m s = (.ok (), { s with fe := fe' })
  pres : ∀ m s, P s.fe → PartialModelOf m A → m.Sorted → P (hook m s).2.fe

/-- what an L1 algorithm may change: the object `r` (its frames are described separately), the frontend record only
through the hook (so `P` is preserved) -/
structure L1Step (r : Nat) (P : Frontend → Prop) (s s' : St) : Prop extends ObjStep r s s' where
  fe : P s.fe → P s'.fe

theorem L1Step.refl (r : Nat) (P : Frontend → Prop) (s : St) : L1Step r P s s := ⟨ObjStep.refl r s, id⟩

theorem L1Step.trans {r : Nat} {P : Frontend → Prop} {s s' s'' : St} (h1 : L1Step r P s s') (h2 : L1Step r P s' s'') :
    L1Step r P s s'' := ⟨h1.toObjStep.trans h2.toObjStep, fun h => h2.fe (h1.fe h)⟩

theorem CheckStep.toL1 {r : Nat} {s s' : St} (h : CheckStep r s s') (P : Frontend → Prop) : L1Step r P s s' :=
  ⟨h.toObjStep, fun hp => by rw [h.fe]; exact hp⟩

theorem HookOk.step {hook : PModel → M Unit} {A : List ZCon} {P : Frontend → Prop} (hh : HookOk hook A P)
    (m : PModel) (s : St) (r : Nat) (hm : PartialModelOf m A) (hd : m.Sorted) :
    (hook m s).1 = .ok () ∧ L1Step r P s (hook m s).2 ∧ (hook m s).2.objs = s.objs := by
  obtain ⟨fe', h⟩ := hh.frame m s
  have hp := hh.pres m s
  rw [h] at hp ⊢
  exact ⟨rfl, ⟨⟨rfl, fun _ _ => rfl, rfl, rfl⟩, fun hP => hp hP hm hd⟩, rfl⟩

theorem objAt_of_objs_eq {s s' : St} (h : s'.objs = s.objs) (r : Nat) : objAt s' r = objAt s r := by
  simp [objAt, h]

/-- a callback that records: `H vals keys fe` — the model of the answer `sat vals keys` has been recorded in `fe` -/
structure HookRec (hook : PModel → M Unit) (H : List Nat → List Var → Frontend → Prop) : Prop where
  frame : ∀ m s, ∃ fe', hook m s = (.ok (), { s with fe := fe' })
  record : ∀ vals keys s, H vals keys (hook (PModel.ofKeys vals keys) s).2.fe
  mono : ∀ vals keys m s, H vals keys s.fe → H vals keys (hook m s).2.fe

theorem HookRec.toOk {hook : PModel → M Unit} {H : List Nat → List Var → Frontend → Prop} (h : HookRec hook H)
    (A : List ZCon) : HookOk hook A (fun _ => True) := ⟨h.frame, fun _ _ _ _ _ => trivial⟩

theorem HookOk.toRec {hook : PModel → M Unit} {A : List ZCon} {P : Frontend → Prop} (h : HookOk hook A P) :
    HookRec hook (fun _ _ _ => True) := ⟨h.frame, fun _ _ _ => trivial, fun _ _ _ _ _ => trivial⟩

def Recorded (E : Env) (H : List Nat → List Var → Frontend → Prop) (fe : Frontend) (W : List Nat → Prop) : Prop :=
  ∃ vals keys q k, E.oracle q k = .sat vals keys ∧ W vals ∧ H vals keys fe

theorem Recorded.mono {E : Env} {hook : PModel → M Unit} {H : List Nat → List Var → Frontend → Prop} (hh : HookRec hook H)
    {fe : Frontend} {W : List Nat → Prop} (h : Recorded E H fe W) (m : PModel) (s : St) (hs : s.fe = fe) :
    Recorded E H (hook m s).2.fe W := by
  obtain ⟨vals, keys, q, k, h1, h2, h3⟩ := h
  exact ⟨vals, keys, q, k, h1, h2, hh.mono vals keys m s (hs ▸ h3)⟩

section
variable {E : Env} {hook : PModel → M Unit} {A : List ZCon} {P : Frontend → Prop}
  {H : List Nat → List Var → Frontend → Prop}

/-- what an L1 algorithm changes of the state and keeps of the record, whatever the oracle answers -/
structure HookStep (H : List Nat → List Var → Frontend → Prop) (r : Nat) (s s' : St) : Prop extends ObjStep r s s' where
  keep : ∀ vals keys, H vals keys s.fe → H vals keys s'.fe

theorem HookStep.refl (r : Nat) (s : St) : HookStep H r s s := ⟨ObjStep.refl r s, fun _ _ h => h⟩

theorem HookStep.trans {r : Nat} {s s' s'' : St} (h1 : HookStep H r s s') (h2 : HookStep H r s' s'') : HookStep H r s s'' :=
  ⟨h1.toObjStep.trans h2.toObjStep, fun v k h => h2.keep v k (h1.keep v k h)⟩

theorem CheckStep.toHook {r : Nat} {s s' : St} (h : CheckStep r s s') : HookStep H r s s' :=
  ⟨h.toObjStep, fun _ _ hH => h.fe ▸ hH⟩

theorem HookStep.setObj (r : Nat) (o : Z3Obj) (s : St) : HookStep H r s { s with objs := s.objs.set r o } :=
  ⟨setObj_step r o s, fun _ _ h => h⟩

theorem wp_hookRec (hh : HookOk hook A P) (hr : HookRec hook H) (r : Nat) (vals : List Nat) (keys : List Var) {s : St}
    {Q : Unit → St → Prop} {X : Err → St → Prop}
    (hQ : ∀ s', HookStep H r s s' → s'.objs = s.objs → H vals keys s'.fe →
      (PartialModelOf (PModel.ofKeys vals keys) A → P s.fe → P s'.fe) → Q () s') :
    (hook (PModel.ofKeys vals keys)).wp Q X s := by
  obtain ⟨fe', hf⟩ := hr.frame (PModel.ofKeys vals keys) s
  have hrec := hr.record vals keys s
  have hmono := fun v k => hr.mono v k (PModel.ofKeys vals keys) s
  have hpres := hh.pres (PModel.ofKeys vals keys) s
  rw [hf] at hrec hmono hpres
  exact (wp_ok hf).mpr (hQ _ ⟨⟨rfl, fun _ _ => rfl, rfl, rfl⟩, hmono⟩ rfl hrec
    fun hm hp => hpres hp hm (PModel.sorted_ofKeys vals keys))

theorem z3Satisfiable_run (hE : OracleExact E) (hh : HookOk hook A P) (r : Nat) (extra : List ZCon) (s : St)
    (hA : ∀ c ∈ A, c ∈ (objAt s r).asserted) :
    (z3Satisfiable E r extra hook).wp
      (fun b s' => (b = true ↔ ∃ a, SatBy ((objAt s r).asserted ++ extra) a) ∧ L1Step r P s s' ∧
        (objAt s' r).frames = (objAt s r).frames)
      (fun e s' => IsGiveUp E e ∧ L1Step r P s s' ∧ (objAt s' r).frames = (objAt s r).frames) s := by
  unfold z3Satisfiable
  rw [M.wp_bind]
  refine wp_z3Check E r extra (fun core s1 hora hc => ?_) (fun vals keys s1 hora hc => ?_)
    fun e s1 he hc => ⟨he, hc.toL1 P, hc.frames⟩
  · exact ⟨⟨fun hb => by simp at hb, fun ⟨a, ha⟩ => absurd ha (hE.unsat hora a)⟩, hc.toL1 P, hc.frames⟩
  · obtain ⟨hp, hsat⟩ := hE.sat hora
    rw [M.wp_bind]
    refine wp_hookRec hh hh.toRec r vals keys fun s2 hst hobjs _ hpres =>
      ⟨⟨fun _ => ⟨asgOf vals, hsat⟩, fun _ => rfl⟩, (hc.toL1 P).trans ⟨hst.toObjStep, hpres ?_⟩, ?_⟩
    · exact hp.mono fun c hc => List.mem_append_left _ (hA c hc)
    · rw [objAt_of_objs_eq hobjs]; exact hc.frames

end

def Realises (cs : List ZCon) (exprs : List Exp) (t : List Nat) : Prop :=
  ∃ a, SatBy cs a ∧ exprs.map (·.val a) = t

theorem notAll_sem (exprs : List Exp) (rv : List Nat) (a : Asg) (hl : rv.length = exprs.length) :
    ((exprs.zip rv).all fun ev => decide (ev.1.val a = ev.2)) = true ↔ exprs.map (·.val a) = rv := by
  induction exprs generalizing rv with
  | nil => cases rv <;> simp_all
  | cons e es ih =>
    cases rv with
    | nil => simp at hl
    | cons v vs =>
      simp only [List.length_cons, Nat.add_right_cancel_iff] at hl
      simp [ih vs hl]

theorem blocking_sem (exprs : List Exp) (rv : List Nat) (a : Asg) (hl : rv.length = exprs.length) :
    (blocking exprs rv).sem a = true ↔ exprs.map (·.val a) ≠ rv := by
  unfold blocking
  split
  · simp
  · simp only [Bool.not_eq_eq_eq_not, Bool.not_true, ne_eq]
    rw [← notAll_sem exprs rv a hl]
    simp

theorem SatBy.append {A B : List ZCon} {a : Asg} : SatBy (A ++ B) a ↔ SatBy A a ∧ SatBy B a := by
  simp only [SatBy, List.mem_append]
  exact ⟨fun h => ⟨fun c hc => h c (Or.inl hc), fun c hc => h c (Or.inr hc)⟩,
         fun ⟨h1, h2⟩ c hc => hc.elim (h1 c) (h2 c)⟩

def TopGrew (r : Nat) (s s' : St) (B : List ZCon) : Prop :=
  ∃ f rest, (objAt s r).frames = f :: rest ∧ (objAt s' r).frames = (f ++ B) :: rest

theorem TopGrew.of_frames {r : Nat} {s s' : St} (hne : (objAt s r).frames ≠ [])
    (h : (objAt s' r).frames = (objAt s r).frames) : TopGrew r s s' [] := by
  obtain ⟨f, rest, hf⟩ := List.exists_cons_of_ne_nil hne
  exact ⟨f, rest, hf, by rw [h, hf, List.append_nil]⟩

theorem TopGrew.ne {r : Nat} {s s' : St} {B : List ZCon} (h : TopGrew r s s' B) : (objAt s' r).frames ≠ [] := by
  obtain ⟨f, rest, _, hg⟩ := h
  rw [hg]
  exact List.cons_ne_nil _ _

theorem TopGrew.asserted {r : Nat} {s s' : St} {B : List ZCon} (h : TopGrew r s s' B) :
    (objAt s' r).asserted = (objAt s r).asserted ++ B := by
  obtain ⟨f, rest, hf, hg⟩ := h
  simp [Z3Obj.asserted, hf, hg]

theorem TopGrew.trans {r : Nat} {s s' s'' : St} {B B' : List ZCon} (h1 : TopGrew r s s' B) (h2 : TopGrew r s' s'' B') :
    TopGrew r s s'' (B ++ B') := by
  obtain ⟨f, rest, hf, hg⟩ := h1
  obtain ⟨f', rest', hf', hg'⟩ := h2
  rw [hg] at hf'
  obtain ⟨rfl, rfl⟩ := List.cons.inj hf'
  exact ⟨f, rest, hf, by rw [hg', List.append_assoc]⟩

section
variable {E : Env} {hook : PModel → M Unit} {A : List ZCon} {P : Frontend → Prop}
  {H : List Nat → List Var → Frontend → Prop}

/-- the loop of `_batch_eval`.  That the model of every tuple is recorded holds from any state and for any oracle; what is said
of the tuples themselves needs an exact oracle and the object `r` with a frame to add the blocking clauses to. -/
theorem batchEvalLoop_run (hh : HookOk hook A P) (hr : HookRec hook H) (r : Nat) (exprs : List Exp) (extra : List ZCon) :
    ∀ (rem : Nat) (acc : List (List Nat)) (s : St),
      (batchEvalLoop E r exprs extra hook rem acc).wp
        (fun ts s' => ∃ new, ts = acc.reverse ++ new ∧
          (∀ t ∈ new, Recorded E H s'.fe (fun vals => t = exprs.map fun e => e.val (asgOf vals))) ∧
          HookStep H r s s' ∧
          (OracleExact E → r < s.objs.length → (objAt s r).frames ≠ [] → (∀ c ∈ A, c ∈ (objAt s r).asserted) → ∃ B,
            (∀ t ∈ new, Realises ((objAt s r).asserted ++ extra) exprs t) ∧ new.Nodup ∧ new.length ≤ rem ∧
            (new.length < rem → ∀ a, SatBy ((objAt s r).asserted ++ extra) a → exprs.map (·.val a) ∈ new) ∧
            (P s.fe → P s'.fe) ∧ TopGrew r s s' B ∧ (rem ≤ 1 → B = [])))
        (fun e s' => IsGiveUp E e ∧ HookStep H r s s' ∧
          (OracleExact E → r < s.objs.length → (objAt s r).frames ≠ [] → (∀ c ∈ A, c ∈ (objAt s r).asserted) → ∃ B,
            (P s.fe → P s'.fe) ∧ TopGrew r s s' B ∧ (rem ≤ 1 → B = []))) s := by
  intro rem
  induction rem with
  | zero =>
    intro acc s
    exact ⟨[], by simp, by simp, HookStep.refl r s, fun _ _ hne _ =>
      ⟨[], by simp, by simp, by simp, by simp, id, TopGrew.of_frames hne rfl, fun _ => rfl⟩⟩
  | succ rem ih =>
    intro acc s
    simp only [batchEvalLoop, M.wp_bind]
    refine wp_z3Check E r extra (fun core s1 hora hc => ?_) (fun vals keys s1 hora hc => ?_)
      fun e s1 he hc => ⟨he, hc.toHook, fun _ _ hne _ =>
        ⟨[], fun h => hc.fe ▸ h, TopGrew.of_frames hne hc.frames, fun _ => rfl⟩⟩
    · exact ⟨[], by simp, by simp, hc.toHook, fun hE _ hne _ =>
        ⟨[], by simp, by simp, by simp, fun _ a ha => absurd ha (hE.unsat hora a), fun h => hc.fe ▸ h,
          TopGrew.of_frames hne hc.frames, fun _ => rfl⟩⟩
    · simp only [M.wp_bind]
      refine wp_hookRec hh hr r vals keys fun s2 hst hobjs hrec hpres => ?_
      have hfr2 : (objAt s2 r).frames = (objAt s r).frames := by rw [objAt_of_objs_eq hobjs r, hc.frames]
      have hst2 : HookStep H r s s2 := hc.toHook.trans hst
      -- for an exact oracle the hook was given a partial model of `A`, so it kept `P`
      have hP2 : OracleExact E → (∀ c ∈ A, c ∈ (objAt s r).asserted) → P s.fe → P s2.fe := fun hE hA h =>
        hpres ((hE.sat hora).1.mono fun c hc' => List.mem_append_left _ (hA c hc')) (hc.fe ▸ h)
      -- the tuple of this round: recorded by the hook; realised by the assignment of an exact oracle
      have hrc : ∀ {fe}, (∀ v k, H v k s2.fe → H v k fe) →
          Recorded E H fe (fun vs => (exprs.map fun e => e.val (asgOf vals)) = exprs.map fun e => e.val (asgOf vs)) :=
        fun hk => ⟨vals, keys, _, _, hora, rfl, hk vals keys hrec⟩
      have hrv : OracleExact E → Realises ((objAt s r).asserted ++ extra) exprs (exprs.map fun e => e.val (asgOf vals)) :=
        fun hE => ⟨asgOf vals, (hE.sat hora).2, rfl⟩
      have hlen : (exprs.map fun e => e.val (asgOf vals)).length = exprs.length := List.length_map _
      generalize (exprs.map fun e => e.val (asgOf vals)) = rv at hrc hrv hlen ⊢
      by_cases hrem : rem = 0
      · -- last round: no blocking clause
        subst hrem
        simp only [ne_eq, not_true_eq_false, ↓reduceIte, batchEvalLoop, List.reverse_cons]
        refine ⟨[rv], by simp, ?_, hst2, fun hE _ hne hA =>
          ⟨[], ?_, by simp, by simp, by simp, hP2 hE hA, TopGrew.of_frames hne hfr2, fun _ => rfl⟩⟩
        · intro t ht
          rw [List.mem_singleton] at ht
          subst ht
          exact hrc fun _ _ h => h
        · intro t ht
          rw [List.mem_singleton] at ht
          subst ht
          exact hrv hE
      · simp only [ne_eq, hrem, not_false_eq_true, ↓reduceIte, M.wp_bind, wp_getObj, wp_setObj]
        -- the state after `solver.add(blocking)`
        generalize hs3 : ({ s2 with objs := s2.objs.set r ((objAt s2 r).addTop [blocking exprs rv]) } : St) = s3
        have hst3 : HookStep H r s s3 := hst2.trans (by rw [← hs3]; exact HookStep.setObj r _ s2)
        have hfe3 : s3.fe = s2.fe := by rw [← hs3]
        have grown : r < s.objs.length → (objAt s r).frames ≠ [] →
            r < s3.objs.length ∧ TopGrew r s s3 [blocking exprs rv] := by
          intro hlt hne
          have hr2 : r < s2.objs.length := by rw [hobjs, hc.len]; exact hlt
          obtain ⟨f, rest, hf⟩ := List.exists_cons_of_ne_nil hne
          refine ⟨by rw [← hs3]; simpa using hr2, f, rest, hf, ?_⟩
          rw [← hs3, objAt_set s2 r _ hr2]
          simp [Z3Obj.addTop, hfr2, hf]
        refine (ih (rv :: acc) s3).imp ?_ ?_
        · rintro ts s4 ⟨new, hts, hrec', hst4, hans⟩
          refine ⟨rv :: new, by simp [hts], ?_, hst3.trans hst4, fun hE hlt hne hA => ?_⟩
          · intro t ht
            rcases List.mem_cons.mp ht with rfl | ht
            · exact hrc fun v k h => hst4.keep v k (hfe3 ▸ h)
            · exact hrec' t ht
          · obtain ⟨hlt3, htop3⟩ := grown hlt hne
            obtain ⟨B, hreal, hnd, hlen', hcomp, hP4, htop, _⟩ := hans hE hlt3 htop3.ne
              fun c hc => by rw [htop3.asserted]; exact List.mem_append_left _ (hA c hc)
            -- the assignments the rest of the loop ranges over: those that do not give `rv` again
            have hsub : ∀ a, SatBy ((objAt s3 r).asserted ++ extra) a ↔
                SatBy ((objAt s r).asserted ++ extra) a ∧ exprs.map (·.val a) ≠ rv := by
              intro a
              rw [htop3.asserted, SatBy.append, SatBy.append, SatBy.append, ← blocking_sem exprs rv a hlen]
              simp only [SatBy, List.mem_singleton, forall_eq]
              exact ⟨fun ⟨⟨h1, h2⟩, h3⟩ => ⟨⟨h1, h3⟩, h2⟩, fun ⟨⟨h1, h3⟩, h2⟩ => ⟨⟨h1, h2⟩, h3⟩⟩
            refine ⟨blocking exprs rv :: B, ?_, ?_, by simp; omega, ?_, fun h => hP4 (hfe3 ▸ hP2 hE hA h),
              htop3.trans htop, fun h => by omega⟩
            · intro t ht
              rcases List.mem_cons.mp ht with rfl | ht
              · exact hrv hE
              · obtain ⟨a, ha, hat⟩ := hreal t ht
                exact ⟨a, ((hsub a).mp ha).1, hat⟩
            · refine List.nodup_cons.mpr ⟨fun hmem => ?_, hnd⟩
              obtain ⟨a, ha, hat⟩ := hreal rv hmem
              exact ((hsub a).mp ha).2 hat
            · intro hlt' a ha
              by_cases hav : exprs.map (·.val a) = rv
              · simp [hav]
              · exact List.mem_cons_of_mem _ (hcomp (by simp at hlt'; omega) a ((hsub a).mpr ⟨ha, hav⟩))
        · rintro e s4 ⟨he, hst4, hans⟩
          refine ⟨he, hst3.trans hst4, fun hE hlt hne hA => ?_⟩
          obtain ⟨hlt3, htop3⟩ := grown hlt hne
          obtain ⟨B, hP4, htop, _⟩ := hans hE hlt3 htop3.ne
            fun c hc => by rw [htop3.asserted]; exact List.mem_append_left _ (hA c hc)
          exact ⟨blocking exprs rv :: B, fun h => hP4 (hfe3 ▸ hP2 hE hA h), htop3.trans htop, fun h => by omega⟩

theorem batchEvalLoop_spec (hE : OracleExact E) (hh : HookOk hook A P) (r : Nat) (exprs : List Exp) (extra : List ZCon)
    (rem : Nat) (acc : List (List Nat)) (s : St) (hlt : r < s.objs.length) (hne : (objAt s r).frames ≠ [])
    (hA : ∀ c ∈ A, c ∈ (objAt s r).asserted) :
    (batchEvalLoop E r exprs extra hook rem acc).wp
      (fun ts s' => ∃ new B, ts = acc.reverse ++ new ∧
          (∀ t ∈ new, Realises ((objAt s r).asserted ++ extra) exprs t) ∧ new.Nodup ∧ new.length ≤ rem ∧
          (new.length < rem → ∀ a, SatBy ((objAt s r).asserted ++ extra) a → exprs.map (·.val a) ∈ new) ∧
          L1Step r P s s' ∧ TopGrew r s s' B ∧ (rem ≤ 1 → B = []))
      (fun e s' => IsGiveUp E e ∧ ∃ B, L1Step r P s s' ∧ TopGrew r s s' B ∧ (rem ≤ 1 → B = [])) s :=
  (batchEvalLoop_run hh hh.toRec r exprs extra rem acc s).imp
    (fun _ _ ⟨new, h1, _, hst, h⟩ =>
      let ⟨B, h2, h3, h4, h5, hp, h6⟩ := h hE hlt hne hA
      ⟨new, B, h1, h2, h3, h4, h5, ⟨hst.toObjStep, hp⟩, h6⟩)
    fun _ _ ⟨h1, hst, h⟩ =>
      let ⟨B, hp, h2⟩ := h hE hlt hne hA
      ⟨h1, B, ⟨hst.toObjStep, hp⟩, h2⟩

/-- `_batch_eval`: every tuple returned comes with a recorded model that Z3 evaluates to it; and over an exact oracle, if the
object exists with a frame, the tuples are feasible, pairwise distinct, complete when fewer than `n` exist — and the assertion
frames of the solver object are exactly what they were, whether the call returns or the backend gives up half-way (C17) -/
theorem z3BatchEval_run (hh : HookOk hook A P) (hr : HookRec hook H) (r : Nat) (exprs : List Exp) (n : Nat)
    (extra : List ZCon) (s : St) :
    (z3BatchEval E r exprs n extra hook).wp
      (fun ts s' =>
        (∀ t ∈ ts, Recorded E H s'.fe (fun vals => t = exprs.map fun e => e.val (asgOf vals))) ∧ HookStep H r s s' ∧
        (OracleExact E → r < s.objs.length → (objAt s r).frames ≠ [] → (∀ c ∈ A, c ∈ (objAt s r).asserted) →
          (∀ t ∈ ts, Realises ((objAt s r).asserted ++ extra) exprs t) ∧ ts.Nodup ∧ ts.length ≤ n ∧
          (ts.length < n → ∀ a, SatBy ((objAt s r).asserted ++ extra) a → exprs.map (·.val a) ∈ ts) ∧
          (P s.fe → P s'.fe) ∧ (objAt s' r).frames = (objAt s r).frames))
      (fun e s' => IsGiveUp E e ∧ HookStep H r s s' ∧
        (OracleExact E → r < s.objs.length → (objAt s r).frames ≠ [] → (∀ c ∈ A, c ∈ (objAt s r).asserted) →
          (P s.fe → P s'.fe) ∧ (objAt s' r).frames = (objAt s r).frames)) s := by
  unfold z3BatchEval
  by_cases hn : n > 1
  · simp only [hn, ↓reduceIte, M.wp_bind, wp_z3Push, M.wp_tryFinally, wp_z3Pop]
    generalize hsp : ({ s with objs := s.objs.set r { objAt s r with frames := [] :: (objAt s r).frames } } : St) = sp
    have hstp : HookStep H r s sp := by rw [← hsp]; exact HookStep.setObj r _ s
    have hfep : sp.fe = s.fe := by rw [← hsp]
    have pushed : r < s.objs.length → r < sp.objs.length ∧ (objAt sp r).frames = [] :: (objAt s r).frames ∧
        (objAt sp r).asserted = (objAt s r).asserted := by
      intro hlt
      rw [← hsp, objAt_set s r _ hlt]
      exact ⟨by simpa using hlt, rfl, Z3Obj.asserted_push _⟩
    -- the pop restores the frames, in both outcomes
    have popped : ∀ {s1 B}, r < s.objs.length → (objAt s r).frames ≠ [] → TopGrew r sp s1 B → HookStep H r sp s1 →
        (objAt { s1 with objs := s1.objs.set r { objAt s1 r with
          frames := match (objAt s1 r).frames with | [] => [] | [f] => [f] | _ :: rest => rest } } r).frames
          = (objAt s r).frames := by
      rintro s1 B hlt hne ⟨f', rest', hf', hg'⟩ hst1
      obtain ⟨hltp, hfp, _⟩ := pushed hlt
      obtain ⟨f, rest, hf⟩ := List.exists_cons_of_ne_nil hne
      rw [hfp, hf] at hf'
      obtain ⟨rfl, rfl⟩ := List.cons.inj hf'
      rw [objAt_set s1 r _ (by rw [hst1.len]; exact hltp), hg', hf]
    refine (batchEvalLoop_run hh hr r exprs extra n [] sp).imp ?_ ?_
    · rintro ts s1 ⟨new, hts, hrec, hst1, hans⟩
      simp only [List.reverse_nil, List.nil_append] at hts
      subst hts
      refine ⟨hrec, (hstp.trans hst1).trans (HookStep.setObj r _ s1), fun hE hlt hne hA => ?_⟩
      obtain ⟨hltp, hfp, hap⟩ := pushed hlt
      obtain ⟨B, hreal, hnd, hlen, hcomp, hp, hg, _⟩ := hans hE hltp (by rw [hfp]; simp) (by rw [hap]; exact hA)
      rw [hap] at hreal hcomp
      exact ⟨hreal, hnd, hlen, hcomp, fun h => hp (hfep ▸ h), popped hlt hne hg hst1⟩
    · rintro e s1 ⟨he, hst1, hans⟩
      refine ⟨he, (hstp.trans hst1).trans (HookStep.setObj r _ s1), fun hE hlt hne hA => ?_⟩
      obtain ⟨hltp, hfp, hap⟩ := pushed hlt
      obtain ⟨B, hp, hg, _⟩ := hans hE hltp (by rw [hfp]; simp) (by rw [hap]; exact hA)
      exact ⟨fun h => hp (hfep ▸ h), popped hlt hne hg hst1⟩
  · simp only [hn, ↓reduceIte, M.wp_tryFinally]
    have hfr : ∀ {s1 B}, TopGrew r s s1 B → B = [] → (objAt s1 r).frames = (objAt s r).frames := by
      rintro s1 B ⟨f', rest', hf', hg'⟩ rfl
      rw [hg', hf']; simp
    refine (batchEvalLoop_run hh hr r exprs extra n [] s).imp ?_ ?_
    · rintro ts s1 ⟨new, hts, hrec, hst1, hans⟩
      simp only [List.reverse_nil, List.nil_append] at hts
      subst hts
      refine ⟨hrec, hst1, fun hE hlt hne hA => ?_⟩
      obtain ⟨B, hreal, hnd, hlen, hcomp, hp, hg, hB⟩ := hans hE hlt hne hA
      exact ⟨hreal, hnd, hlen, hcomp, hp, hfr hg (hB (by omega))⟩
    · rintro e s1 ⟨he, hst1, hans⟩
      refine ⟨he, hst1, fun hE hlt hne hA => ?_⟩
      obtain ⟨B, hp, hg, hB⟩ := hans hE hlt hne hA
      exact ⟨hp, hfr hg (hB (by omega))⟩

end

theorem z3Push_eq (r : Nat) (s : St) :
    z3Push r s = (.ok (), { s with objs := s.objs.set r { objAt s r with frames := [] :: (objAt s r).frames } }) := rfl

end Claripy.Solver

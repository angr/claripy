import ClaripyProofs.Lemmas.GcGuard
/-! Preservation of the GC-guard invariant by every step, and the invariant implies safety. -/
namespace Claripy.GcGuard

theorem assert_of_crit (s : State) (i : Nat) (t : Thread) (hI : Inv s) (ht : s.threads[i]? = some t)
    (hc : inCrit t) : Assert t s := by
  have hl := (hI.crit i t ht).mp hc
  have := hI.shared
  rw [hl] at this
  obtain ⟨u, hu, ha⟩ := this
  rw [ht] at hu; cases hu; exact ha

theorem held_le_active (s : State) (i : Nat) (t : Thread) (hI : Inv s) (ht : s.threads[i]? = some t) :
    (t.held : Int) ≤ s.active := by
  rw [hI.sum]
  have : t.held ≤ heldSum s.threads := by
    have h := heldSum_set s.threads i t { t with held := 0 } ht
    simp at h; omega
  omega


theorem cons_of_free (s : State) (hI : Inv s) (h : s.lock = none) : Cons s := by
  have := hI.shared
  rwa [h] at this

theorem inv_stay (s s' : State) (i : Nat) (t t' : Thread) (hI : Inv s) (ht : s.threads[i]? = some t)
    (hth : s'.threads = s.threads.set i t') (hl : s.lock = some i) (hl' : s'.lock = s.lock) (hc' : inCrit t')
    (hact : s'.active + (t.held : Int) = s.active + (t'.held : Int)) (hloc : localOk t') (hA : Assert t' s') : Inv s' :=
  inv_update s s' i t t' hI ht hth hact hloc (by rw [if_pos hc', hl']; exact hl)
    (fun _ h => absurd ((hI.crit i t ht).mpr hl) h) (fun _ => hA) (fun h => absurd hc' h) (fun h => absurd hc' h)

/- Thread `i` of `s` moves from the thread of `ht` to that of the goal state: `inv_update`, its side conditions
simplified at the concrete program points with the facts in context; `stay` is the same with `inv_stay`, for a step
from one line inside the critical section (`hcr : s.lock = some i`) to another. -/
set_option hygiene false in
macro "upd" : tactic => `(tactic| (
  refine inv_update s _ i _ _ hI ht rfl ?_ ?_ ?_ ?_ ?_ ?_ ?_ <;> simp [localOk, inCrit, Assert, Cons, *]))

set_option hygiene false in
macro "stay" : tactic => `(tactic| (
  refine inv_stay s _ i _ _ hI ht rfl hcr rfl ?_ ?_ ?_ ?_ <;> simp [localOk, inCrit, Assert, Cons, *]))

/-- The proof outline `localOk`/`inCrit`/`Assert` is checked line by line: `localOk` gives the reachable
program points, and at each of them the assertion of the next line follows from that of the current one. -/
theorem step_run_inv (s s' : State) (i : Nat) (hI : Inv s) (hs : step stdProgs s i .run = some s') : Inv s' := by
  simp only [step] at hs
  cases ht : s.threads[i]? with
  | none => simp [ht] at hs
  | some t =>
    have hle := held_le_active s i t hI ht
    have hcr := hI.crit i t ht
    have hfree : s.lock = none → (s.active = 0 → s.gc = s.gc0) ∧ (s.active ≠ 0 → s.gc = false ∧ s.saved = s.gc0) :=
      cons_of_free s hI
    have hass := assert_of_crit s i t hI ht
    obtain ⟨fn, pc, held, depth⟩ := t
    simp only [ht] at hs
    simp only at hle
    rcases hI.loc i _ ht with ⟨hf, hp, hh⟩ | ⟨hf, hp, hh⟩ | ⟨hf, hp, hh⟩ | ⟨hf, hp, hh⟩ | ⟨hf, hp, hp', hh⟩ <;>
      simp only at hf hp hh <;> subst hf
    · simp at hs
    · -- `_enter_z3`, lines 0 to 5
      obtain rfl | rfl | rfl | rfl | rfl | rfl : pc = 0 ∨ pc = 1 ∨ pc = 2 ∨ pc = 3 ∨ pc = 4 ∨ pc = 5 := by omega
      all_goals simp [stdProgs, Progs.get, enterProg, setThread] at hs
      all_goals simp [inCrit, Assert, Cons] at hcr hass
      · obtain ⟨hl, rfl⟩ := hs; have hc := hfree hl; upd; exact hc
      · split at hs <;> (simp at hs; subst hs; stay)
      · subst hs; stay
      · split at hs <;> (simp at hs; subst hs; stay; grind)
      · subst hs; stay
      · subst hs; stay; omega
    · -- `_enter_z3`, lines 6 and 7
      obtain rfl | rfl := hp
      all_goals simp [stdProgs, Progs.get, enterProg, setThread] at hs
      all_goals simp [inCrit, Assert, Cons] at hcr hass
      · subst hs; upd; omega
      · subst hs; upd
    · -- `_exit_z3`, lines 0, 1 and 6; at line 1 the counter is not zero, so lines 2 to 5 are never reached
      obtain rfl | rfl | rfl : pc = 0 ∨ pc = 1 ∨ pc = 6 := by omega
      all_goals simp [stdProgs, Progs.get, exitProg, setThread] at hs
      all_goals simp [inCrit, Assert, Cons] at hcr hass
      · obtain ⟨hl, rfl⟩ := hs; have hc := hfree hl; upd; exact hc
      · split at hs <;> (simp at hs; subst hs; stay)
        all_goals omega
      · subst hs; stay; omega
    · -- `_exit_z3`, lines 7 to 12
      simp only at hp'
      obtain rfl | rfl | rfl | rfl | rfl | rfl : pc = 7 ∨ pc = 8 ∨ pc = 9 ∨ pc = 10 ∨ pc = 11 ∨ pc = 12 := by omega
      all_goals simp [stdProgs, Progs.get, exitProg, setThread] at hs
      all_goals simp [inCrit, Assert, Cons] at hcr hass
      · split at hs <;> (simp at hs; subst hs; stay)
      · split at hs <;> (simp at hs; subst hs; stay; grind)
      · subst hs; stay <;> grind
      · subst hs; stay
      · subst hs; upd <;> grind
      · subst hs; upd

theorem step_callEnter_inv (s s' : State) (i : Nat) (hI : Inv s) (hs : step stdProgs s i .callEnter = some s') : Inv s' := by
  unfold step at hs
  simp only at hs
  cases ht : s.threads[i]? with
  | none => simp [ht] at hs
  | some t =>
    simp only [ht] at hs
    have hloc := hI.loc i t ht
    have hcr := hI.crit i t ht
    obtain ⟨fn, pc, held, depth⟩ := t
    by_cases h : fn = 0
    · subst h
      simp [setThread] at hs
      simp [localOk, inCrit] at hloc hcr
      subst hs
      upd
    · simp [h] at hs

theorem step_callExit_inv (s s' : State) (i : Nat) (hI : Inv s) (hs : step stdProgs s i .callExit = some s') : Inv s' := by
  unfold step at hs
  simp only at hs
  cases ht : s.threads[i]? with
  | none => simp [ht] at hs
  | some t =>
    simp only [ht] at hs
    have hloc := hI.loc i t ht
    have hcr := hI.crit i t ht
    obtain ⟨fn, pc, held, depth⟩ := t
    by_cases h : fn = 0 ∧ 0 < depth
    · obtain ⟨h, hd⟩ := h
      subst h
      simp [setThread, hd] at hs
      simp [localOk, inCrit] at hloc hcr
      subst hs
      upd
      omega
    · simp [h] at hs

theorem quiescent_idle (s : State) (hq : quiescent s = true) (i : Nat) (t : Thread)
    (ht : s.threads[i]? = some t) : t.fn = 0 ∧ t.depth = 0 := by
  simp [quiescent] at hq
  exact hq t (List.mem_of_getElem? ht)

theorem heldSum_eq_zero (l : List Thread) (h : ∀ t ∈ l, t.held = 0) : heldSum l = 0 := by
  induction l with
  | nil => rfl
  | cons a l ih =>
    simp [heldSum] at *
    exact ⟨h.1, ih h.2⟩

theorem quiescent_facts (s : State) (hI : Inv s) (hq : quiescent s = true) :
    s.lock = none ∧ s.active = 0 := by
  constructor
  · cases hl : s.lock with
    | none => rfl
    | some j =>
      have := hI.shared; rw [hl] at this
      obtain ⟨u, hu, _⟩ := this
      have hc := (hI.crit j u hu).mpr hl
      have := quiescent_idle s hq j u hu
      simp [inCrit, this.1] at hc
  · rw [hI.sum]
    have : heldSum s.threads = 0 := by
      apply heldSum_eq_zero
      intro t ht
      obtain ⟨i, hi⟩ := List.getElem?_of_mem ht
      have := quiescent_idle s hq i t hi
      have hl := hI.loc i t hi
      simp [localOk, this.1] at hl
      omega
    omega

theorem step_envFlip_inv (s s' : State) (i : Nat) (hI : Inv s) (hs : step stdProgs s i .envFlip = some s') : Inv s' := by
  unfold step at hs
  simp only at hs
  by_cases hq : quiescent s = true
  · simp [hq] at hs
    subst hs
    obtain ⟨hl, ha⟩ := quiescent_facts s hI hq
    have hc := hI.shared
    rw [hl] at hc
    refine ⟨hI.sum, hI.loc, hI.crit, ?_⟩
    simp only [hl]
    simp [Cons, ha] at hc ⊢
    simp [hc]
  · simp [hq] at hs

theorem step_inv (s s' : State) (i : Nat) (a : Act) (hI : Inv s) (hs : step stdProgs s i a = some s') : Inv s' := by
  cases a with
  | callEnter => exact step_callEnter_inv s s' i hI hs
  | callExit => exact step_callExit_inv s s' i hI hs
  | run => exact step_run_inv s s' i hI hs
  | envFlip => exact step_envFlip_inv s s' i hI hs

theorem depthSum_pos_exists (l : List Thread) (h : 0 < depthSum l) : ∃ t ∈ l, 0 < t.depth := by
  induction l with
  | nil => simp [depthSum] at h
  | cons a l ih =>
    simp [depthSum] at h ⊢
    by_cases ha : 0 < a.depth
    · exact Or.inl ha
    · right
      have : 0 < depthSum l := by simp [depthSum]; omega
      exact ih this

theorem inv_safe (s : State) (hI : Inv s) : Safe s := by
  have hnonneg : 0 ≤ s.active := by rw [hI.sum]; omega
  refine ⟨?_, ?_, hnonneg⟩
  · intro hp
    obtain ⟨t, htm, hd⟩ := depthSum_pos_exists s.threads hp
    obtain ⟨i, hi⟩ := List.getElem?_of_mem htm
    have hle := held_le_active s i t hI hi
    have hl := hI.loc i t hi
    have hact : s.active ≠ 0 := by
      simp [localOk] at hl
      omega
    have hsh := hI.shared
    cases hlk : s.lock with
    | none => rw [hlk] at hsh; exact (hsh.2 hact).1
    | some j =>
      rw [hlk] at hsh
      obtain ⟨u, _, ha⟩ := hsh
      unfold Assert Cons at ha
      grind
  · intro hq
    obtain ⟨hl, ha⟩ := quiescent_facts s hI hq
    have hc := hI.shared
    rw [hl] at hc
    exact hc.1 ha

end Claripy.GcGuard

import Claripy.AST.Expr
/-!
The construction-time rewrite rules of claripy/simplifications.py and ast/bool.py:If, as a table of
schemas `lhs ⇒ rhs` under a decidable side condition.  `lhs p` is the node the caller asked for (its
arguments are arbitrary, already-built expressions — the metavariables `x y z c`), `rhs p` is the tree of
constructor calls the simplifier makes instead (raw: claripy re-enters its constructors on it).
Each schema has a soundness theorem in ClaripyProofs/Lemmas/AST/RulesSound.lean, RulesWidthSound.lean or RulesAllSound.lean, for every
width and constant.

`matchers` (bottom of the file) are untrusted glue for the correspondence check: they propose parameters
`p` for a concrete node `t`; the driver only reports a candidate after checking `lhs p == t ∧ side p`.
-/
namespace Claripy.AST

structure P where
  x : Expr := .boolv true
  y : Expr := .boolv true
  z : Expr := .boolv true
  c : Expr := .boolv true      -- a Boolean condition
  c1 : Nat := 0
  c2 : Nat := 0
  w : Nat := 0
  n : Nat := 0
  xs : List Expr := []
  deriving Repr, Inhabited

structure Schema where
  name : String
  lhs : P → Expr
  rhs : P → Expr
  side : P → Bool := fun _ => true

abbrev bv0 (w : Nat) : Expr := .bvv 0 w
abbrev ones (w : Nat) : Expr := .bvv (2 ^ w - 1) w
abbrev tt : Expr := .boolv true
abbrev ff : Expr := .boolv false

namespace R

/-! #### shifts -/
def shl_zero : Schema := { name := "L1.shl_zero", lhs := fun p => .app .shl [p.x, bv0 p.w], rhs := fun p => p.x }
def ashr_zero : Schema := { name := "R1.ashr_zero", lhs := fun p => .app .ashr [p.x, bv0 p.w], rhs := fun p => p.x }
def lshr_zero : Schema := { name := "R1.lshr_zero", lhs := fun p => .app .lshr [p.x, bv0 p.w], rhs := fun p => p.x }
/-- `(x << c1) << c2 ⇒ x << (c1 + c2)` when the sum cannot wrap (after the fix) -/
def shl_shl : Schema :=
  { name := "L2.shl_shl"
    lhs := fun p => .app .shl [.app .shl [p.x, .bvv p.c1 p.w], .bvv p.c2 p.w]
    rhs := fun p => .app .shl [p.x, .app .add [.bvv p.c1 p.w, .bvv p.c2 p.w]]
    side := fun p => decide (p.c1 < 2 ^ p.w ∧ p.c2 < 2 ^ p.w ∧ p.c1 + p.c2 < 2 ^ p.w) }

/-! #### subtraction / addition -/
def sub_zero : Schema := { name := "S1.sub_zero", lhs := fun p => .app .sub [p.x, bv0 p.w], rhs := fun p => p.x }
def sub_sub : Schema :=
  { name := "S2.sub_sub"
    lhs := fun p => .app .sub [.app .sub [p.x, .bvv p.c1 p.w], .bvv p.c2 p.w]
    rhs := fun p => .app .sub [p.x, .app .add [.bvv p.c1 p.w, .bvv p.c2 p.w]] }
def sub_add : Schema :=
  { name := "S3.sub_add"
    lhs := fun p => .app .sub [.app .add [p.x, .bvv p.c1 p.w], .bvv p.c2 p.w]
    rhs := fun p => .app .add [p.x, .app .sub [.bvv p.c1 p.w, .bvv p.c2 p.w]] }
def add_sub : Schema :=
  { name := "P1.add_sub"
    lhs := fun p => .app .add [.app .sub [p.x, .bvv p.c1 p.w], .bvv p.c2 p.w]
    rhs := fun p => .app .sub [p.x, .app .sub [.bvv p.c1 p.w, .bvv p.c2 p.w]] }

/-! #### bitwise identities (two-argument forms) -/
def xor_zero_l : Schema := { name := "X1.xor_zero_l", lhs := fun p => .app .bxor [bv0 p.w, p.x], rhs := fun p => p.x }
def xor_zero_r : Schema := { name := "X2.xor_zero_r", lhs := fun p => .app .bxor [p.x, bv0 p.w], rhs := fun p => p.x }
def or_zero_l : Schema := { name := "U1.or_zero_l", lhs := fun p => .app .bor [bv0 p.w, p.x], rhs := fun p => p.x }
def or_zero_r : Schema := { name := "U2.or_zero_r", lhs := fun p => .app .bor [p.x, bv0 p.w], rhs := fun p => p.x }
def or_self : Schema := { name := "U3.or_self", lhs := fun p => .app .bor [p.x, p.x], rhs := fun p => p.x }
def and_ones_l : Schema := { name := "D2.and_ones_l", lhs := fun p => .app .band [ones p.w, p.x], rhs := fun p => p.x }
def and_ones_r : Schema := { name := "D3.and_ones_r", lhs := fun p => .app .band [p.x, ones p.w], rhs := fun p => p.x }
def and_self : Schema := { name := "D4.and_self", lhs := fun p => .app .band [p.x, p.x], rhs := fun p => p.x }
def and_zero_l : Schema := { name := "D5.and_zero_l", lhs := fun p => .app .band [bv0 p.w, p.x], rhs := fun p => bv0 p.w }
def and_zero_r : Schema := { name := "D5.and_zero_r", lhs := fun p => .app .band [p.x, bv0 p.w], rhs := fun p => bv0 p.w }

/-! #### equality / disequality -/
def eq_self : Schema := { name := "E1.eq_self", lhs := fun p => .app .eq [p.x, p.x], rhs := fun _ => tt }
def ne_self : Schema := { name := "N1.ne_self", lhs := fun p => .app .ne [p.x, p.x], rhs := fun _ => ff }
def eq_true_r : Schema := { name := "E2.eq_true_r", lhs := fun p => .app .eq [p.c, tt], rhs := fun p => p.c }
def eq_true_l : Schema := { name := "E3.eq_true_l", lhs := fun p => .app .eq [tt, p.c], rhs := fun p => p.c }
def eq_false_r : Schema := { name := "E4.eq_false_r", lhs := fun p => .app .eq [p.c, ff], rhs := fun p => .app .not [p.c] }
def eq_false_l : Schema := { name := "E5.eq_false_l", lhs := fun p => .app .eq [ff, p.c], rhs := fun p => .app .not [p.c] }
def eq_swap : Schema :=
  { name := "E7.eq_swap", lhs := fun p => .app .eq [.bvv p.c1 p.w, p.x], rhs := fun p => .app .eq [p.x, .bvv p.c1 p.w] }
def ne_swap : Schema :=
  { name := "N7.ne_swap", lhs := fun p => .app .ne [.bvv p.c1 p.w, p.x], rhs := fun p => .app .ne [p.x, .bvv p.c1 p.w] }
def eq_sub : Schema :=
  { name := "E8.eq_sub"
    lhs := fun p => .app .eq [.app .sub [p.x, .bvv p.c1 p.w], .bvv p.c2 p.w]
    rhs := fun p => .app .eq [p.x, .app .add [.bvv p.c1 p.w, .bvv p.c2 p.w]] }
def eq_xor1_r : Schema :=
  { name := "E9.eq_xor1_r"
    lhs := fun p => .app .eq [.app .bxor [p.x, .bvv 1 p.w], bv0 p.w]
    rhs := fun p => .app .eq [p.x, .bvv 1 p.w] }
def eq_xor1_l : Schema :=
  { name := "E10.eq_xor1_l"
    lhs := fun p => .app .eq [.app .bxor [.bvv 1 p.w, p.x], bv0 p.w]
    rhs := fun p => .app .eq [p.x, .bvv 1 p.w] }
def ne_xor1_r : Schema :=
  { name := "N9.ne_xor1_r"
    lhs := fun p => .app .ne [.app .bxor [p.x, .bvv 1 p.w], bv0 p.w]
    rhs := fun p => .app .ne [p.x, .bvv 1 p.w] }
def ne_xor1_l : Schema :=
  { name := "N10.ne_xor1_l"
    lhs := fun p => .app .ne [.app .bxor [.bvv 1 p.w, p.x], bv0 p.w]
    rhs := fun p => .app .ne [p.x, .bvv 1 p.w] }
def eq_rev : Schema :=
  { name := "E6.eq_rev"
    lhs := fun p => .app .eq [.app .reverse [p.x], .app .reverse [p.y]], rhs := fun p => .app .eq [p.x, p.y] }

/-! #### Boolean negation -/
def not_not : Schema := { name := "N.not_not", lhs := fun p => .app .not [.app .not [p.c]], rhs := fun p => p.c }
def not_eq : Schema := { name := "N.not_eq", lhs := fun p => .app .not [.app .eq [p.x, p.y]], rhs := fun p => .app .ne [p.x, p.y] }
def not_ne : Schema := { name := "N.not_ne", lhs := fun p => .app .not [.app .ne [p.x, p.y]], rhs := fun p => .app .eq [p.x, p.y] }
def not_slt : Schema := { name := "N.not_slt", lhs := fun p => .app .not [.app .slt [p.x, p.y]], rhs := fun p => .app .sge [p.x, p.y] }
def not_sle : Schema := { name := "N.not_sle", lhs := fun p => .app .not [.app .sle [p.x, p.y]], rhs := fun p => .app .sgt [p.x, p.y] }
def not_sgt : Schema := { name := "N.not_sgt", lhs := fun p => .app .not [.app .sgt [p.x, p.y]], rhs := fun p => .app .sle [p.x, p.y] }
def not_sge : Schema := { name := "N.not_sge", lhs := fun p => .app .not [.app .sge [p.x, p.y]], rhs := fun p => .app .slt [p.x, p.y] }
def not_ult : Schema := { name := "N.not_ult", lhs := fun p => .app .not [.app .ult [p.x, p.y]], rhs := fun p => .app .uge [p.x, p.y] }
def not_ule : Schema := { name := "N.not_ule", lhs := fun p => .app .not [.app .ule [p.x, p.y]], rhs := fun p => .app .ugt [p.x, p.y] }
def not_ugt : Schema := { name := "N.not_ugt", lhs := fun p => .app .not [.app .ugt [p.x, p.y]], rhs := fun p => .app .ule [p.x, p.y] }
def not_uge : Schema := { name := "N.not_uge", lhs := fun p => .app .not [.app .uge [p.x, p.y]], rhs := fun p => .app .ult [p.x, p.y] }

/-! #### If (ast/bool.py) -/
def ite_true : Schema := { name := "I1.ite_true", lhs := fun p => .app .ite [tt, p.x, p.y], rhs := fun p => p.x }
def ite_false : Schema := { name := "I2.ite_false", lhs := fun p => .app .ite [ff, p.x, p.y], rhs := fun p => p.y }
def ite_same : Schema := { name := "I7.ite_same", lhs := fun p => .app .ite [p.c, p.x, p.x], rhs := fun p => p.x }
def ite_tf : Schema := { name := "I8.ite_tf", lhs := fun p => .app .ite [p.c, tt, ff], rhs := fun p => p.c }
def ite_ft : Schema := { name := "I9.ite_ft", lhs := fun p => .app .ite [p.c, ff, tt], rhs := fun p => .app .not [p.c] }
def ite_then_same : Schema :=
  { name := "I3.ite_then_same"
    lhs := fun p => .app .ite [p.c, .app .ite [p.c, p.x, p.y], p.z], rhs := fun p => .app .ite [p.c, p.x, p.z] }
def ite_then_neg : Schema :=
  { name := "I4.ite_then_neg"
    lhs := fun p => .app .ite [p.c, .app .ite [.app .not [p.c], p.x, p.y], p.z], rhs := fun p => .app .ite [p.c, p.y, p.z] }
def ite_else_same : Schema :=
  { name := "I5.ite_else_same"
    lhs := fun p => .app .ite [p.c, p.z, .app .ite [p.c, p.x, p.y]], rhs := fun p => .app .ite [p.c, p.z, p.y] }
def ite_else_neg : Schema :=
  { name := "I6.ite_else_neg"
    lhs := fun p => .app .ite [p.c, p.z, .app .ite [.app .not [p.c], p.x, p.y]], rhs := fun p => .app .ite [p.c, p.z, p.x] }

/-! #### misc -/
/-- `~If(c, 1, 0) ⇒ If(!c, 1, 0)`, 1-bit only (after the fix) -/
def invert_if : Schema :=
  { name := "J1.invert_if"
    lhs := fun p => .app .bnot [.app .ite [p.c, .bvv 1 1, .bvv 0 1]]
    rhs := fun p => .app .ite [.app .not [p.c], .bvv 1 1, .bvv 0 1] }
def zext_zero : Schema := { name := "Z1.zext_zero", lhs := fun p => .app (.zeroExt 0) [p.x], rhs := fun p => p.x }
def sext_zero : Schema := { name := "Y1.sext_zero", lhs := fun p => .app (.signExt 0) [p.x], rhs := fun p => p.x }
def rev_rev : Schema := { name := "V1.rev_rev", lhs := fun p => .app .reverse [.app .reverse [p.x]], rhs := fun p => p.x }
/-- `If(c0,1,0) & If(c1,1,0) ⇒ If(c0 && c1, 1, 0)` -/
def and_if : Schema :=
  { name := "D7.and_if"
    lhs := fun p => .app .band [.app .ite [p.c, .bvv 1 p.w, bv0 p.w], .app .ite [p.z, .bvv 1 p.w, bv0 p.w]]
    rhs := fun p => .app .ite [.app .and [p.c, p.z], .bvv 1 p.w, bv0 p.w] }
/-- `a >= c && a != c ⇒ a > c` -/
def and_uge_ne : Schema :=
  { name := "A3.and_uge_ne"
    lhs := fun p => .app .and [.app .uge [p.x, p.y], .app .ne [p.x, p.y]]
    rhs := fun p => .app .ugt [p.x, p.y] }

/-! #### rules that need the (reported) width of an operand -/
/-- `a - a ⇒ 0` -/
def sub_self : Schema :=
  { name := "S4.sub_self", lhs := fun p => .app .sub [p.x, p.x], rhs := fun p => bv0 p.w,
    side := fun p => p.x.width == some p.w }
/-- `a ^ a ⇒ 0` -/
def xor_self : Schema :=
  { name := "X3.xor_self", lhs := fun p => .app .bxor [p.x, p.x], rhs := fun p => bv0 p.w,
    side := fun p => p.x.width == some p.w }
/-- `LShR(ZeroExt(n, y), c) ⇒ 0` when `c > |y|` -/
def lshr_zext : Schema :=
  { name := "R3.lshr_zext", lhs := fun p => .app .lshr [.app (.zeroExt p.n) [p.y], .bvv p.c1 p.w], rhs := fun p => bv0 p.w,
    side := fun p => match p.y.width with
      | some wy => decide (p.w = wy + p.n ∧ wy < p.c1 ∧ p.c1 < 2 ^ p.w)
      | none => false }
/-- `ZeroExt(n, y) >> c ⇒ 0` (arithmetic shift) when `c > |y|` and at least one zero bit was added -/
def ashr_zext : Schema :=
  { name := "R3.ashr_zext", lhs := fun p => .app .ashr [.app (.zeroExt p.n) [p.y], .bvv p.c1 p.w], rhs := fun p => bv0 p.w,
    side := fun p => match p.y.width with
      | some wy => decide (p.w = wy + p.n ∧ wy < p.c1 ∧ p.c1 < 2 ^ p.w ∧ 0 < p.n)
      | none => false }
/-- `(x1 + … + xk + c1) - c2 ⇒ x1 + … + xk + (c1 - c2)` for an n-ary sum -/
def sub_addN : Schema :=
  { name := "S3.sub_addN"
    lhs := fun p => .app .sub [.app .add (p.xs ++ [.bvv p.c1 p.w]), .bvv p.c2 p.w]
    rhs := fun p => .app .add (p.xs ++ [.app .sub [.bvv p.c1 p.w, .bvv p.c2 p.w]])
    side := fun p => decide (1 ≤ p.xs.length) }

def base : List Schema :=
  [shl_zero, ashr_zero, lshr_zero, shl_shl, sub_zero, sub_sub, sub_add, add_sub,
   xor_zero_l, xor_zero_r, or_zero_l, or_zero_r, or_self, and_ones_l, and_ones_r, and_self, and_zero_l, and_zero_r,
   eq_self, ne_self, eq_true_r, eq_true_l, eq_false_r, eq_false_l, eq_swap, ne_swap, eq_sub,
   eq_xor1_r, eq_xor1_l, ne_xor1_r, ne_xor1_l,
   not_not, not_eq, not_ne, not_slt, not_sle, not_sgt, not_sge, not_ult, not_ule, not_ugt, not_uge,
   ite_true, ite_false, ite_same, ite_tf, ite_ft, ite_then_same, ite_then_neg, ite_else_same, ite_else_neg,
   invert_if, zext_zero, sext_zero, and_if, and_uge_ne]

/-- rules whose side condition mentions the reported width of an operand, and the n-ary sum rule -/
def widthy : List Schema := [sub_self, xor_self, lshr_zext, ashr_zext, sub_addN]

/-! #### comparing an `If` over two different literals with one of them (eq_simplifier / ne_simplifier) -/
def iteLits (p : P) : Expr := .app .ite [p.c, .bvv p.c1 p.w, .bvv p.c2 p.w]
def litsDiffer (p : P) : Bool := decide (p.c1 % 2 ^ p.w ≠ p.c2 % 2 ^ p.w)
/-- `If(c, k1, k2) == k1 ⇒ c` -/
def eq_ite_then : Schema := { name := "E13.eq_ite_then", lhs := fun p => .app .eq [iteLits p, .bvv p.c1 p.w], rhs := fun p => p.c, side := litsDiffer }
/-- `If(c, k1, k2) == k2 ⇒ !c` -/
def eq_ite_else : Schema := { name := "E13.eq_ite_else", lhs := fun p => .app .eq [iteLits p, .bvv p.c2 p.w], rhs := fun p => .app .not [p.c], side := litsDiffer }
/-- `If(c, k1, k2) != k2 ⇒ c` -/
def ne_ite_else : Schema := { name := "N13.ne_ite_else", lhs := fun p => .app .ne [iteLits p, .bvv p.c2 p.w], rhs := fun p => p.c, side := litsDiffer }
/-- `If(c, k1, k2) != k1 ⇒ !c` -/
def ne_ite_then : Schema := { name := "N13.ne_ite_then", lhs := fun p => .app .ne [iteLits p, .bvv p.c1 p.w], rhs := fun p => .app .not [p.c], side := litsDiffer }

def iteCmp : List Schema := [eq_ite_then, eq_ite_else, ne_ite_else, ne_ite_then]

/-! #### `ZeroExt(n, y) >= c` and `Concat(0, y) >= c` (zeroext_comparing_against_simplifier, unsigned) -/
def zextY (p : P) : Expr := .app (.zeroExt p.n) [p.y]
def cat0Y (p : P) : Expr := .app .concat [.bvv 0 p.n, p.y]
def ugeLowSide (p : P) : Bool := match p.y.width with
  | some wy => decide (p.w = wy + p.n ∧ 0 < p.n ∧ p.c1 % 2 ^ p.w < 2 ^ wy ∧ p.c2 = wy)
  | none => false
def ugeHighSide (p : P) : Bool := match p.y.width with
  | some wy => decide (p.w = wy + p.n ∧ 0 < p.n ∧ 2 ^ wy ≤ p.c1 % 2 ^ p.w)
  | none => false
/-- the high bits of the literal are zero: compare the narrow operand with the truncated literal (`p.c2` = width of `y`) -/
def uge_zext_low : Schema := { name := "E18.uge_zext_low", lhs := fun p => .app .uge [zextY p, .bvv p.c1 p.w],
                               rhs := fun p => .app .uge [p.y, .bvv (p.c1 % 2 ^ p.w) p.c2], side := ugeLowSide }
def uge_zext_high : Schema := { name := "E18.uge_zext_high", lhs := fun p => .app .uge [zextY p, .bvv p.c1 p.w],
                                rhs := fun _ => .boolv false, side := ugeHighSide }
def uge_cat0_low : Schema := { name := "E18.uge_cat0_low", lhs := fun p => .app .uge [cat0Y p, .bvv p.c1 p.w],
                               rhs := fun p => .app .uge [p.y, .bvv (p.c1 % 2 ^ p.w) p.c2], side := ugeLowSide }
def uge_cat0_high : Schema := { name := "E18.uge_cat0_high", lhs := fun p => .app .uge [cat0Y p, .bvv p.c1 p.w],
                                rhs := fun _ => .boolv false, side := ugeHighSide }
def ugeZext : List Schema := [uge_zext_low, uge_zext_high, uge_cat0_low, uge_cat0_high]

/-- byte reversal is an involution, hence injective -/
def revRules : List Schema := [rev_rev, eq_rev]

/-! #### `Extract` distributes over the bitwise operations (any number of operands) and over an `If` between literals
(extract_simplifier: `extract_distributable`, `val.op == "If"`) -/
def extr (p : P) (e : Expr) : Expr := .app (.extract p.c1 p.c2) [e]
def twoPlus (p : P) : Bool := decide (2 ≤ p.xs.length)
def isLit : Expr → Bool
  | .bvv _ _ => true
  | _ => false
def extract_and : Schema := { name := "T5.extract_and", lhs := fun p => extr p (.app .band p.xs), rhs := fun p => .app .band (p.xs.map (extr p)), side := twoPlus }
def extract_or : Schema := { name := "T5.extract_or", lhs := fun p => extr p (.app .bor p.xs), rhs := fun p => .app .bor (p.xs.map (extr p)), side := twoPlus }
def extract_xor : Schema := { name := "T5.extract_xor", lhs := fun p => extr p (.app .bxor p.xs), rhs := fun p => .app .bxor (p.xs.map (extr p)), side := twoPlus }
def extract_ite : Schema :=
  { name := "T6.extract_ite", lhs := fun p => extr p (.app .ite [p.c, p.x, p.y]), rhs := fun p => .app .ite [p.c, extr p p.x, extr p p.y]
    side := fun p => isLit p.x && isLit p.y }
def extractRules : List Schema := [extract_and, extract_or, extract_xor, extract_ite]

def all : List Schema := base ++ widthy ++ iteCmp ++ revRules ++ ugeZext ++ extractRules

/-- schemas transcribed from the code whose soundness theorem is not proved yet (used for matching only) -/
def unproved : List Schema := []

end R

/-! ### matchers (untrusted; their proposals are re-checked by `candidates`) -/

def bvvOf : Expr → Option (Nat × Nat)
  | .bvv v w => some (v, w)
  | _ => none

/-- proposals for `Extract` of an n-ary node -/
def proposalsExtract (t : Expr) : List P :=
  match t with
  | .app (.extract hi lo) [.app _ xs] =>
    [{ c1 := hi, c2 := lo, xs := xs }] ++
    (match xs with
     | [c, a, b] => [{ c := c, x := a, y := b, c1 := hi, c2 := lo }]
     | _ => [])
  | _ => []

/-- parameter proposals for a node: every sub-position that a schema may bind -/
def proposals (t : Expr) : List P :=
  proposalsExtract t ++
  match t with
  | .app _ [a] =>
    match a with
    | .app _ [b] => [{ x := a }, { x := b }, { c := b }, { c := a }]
    | .app _ [b, c] => [{ x := a }, { c := a }, { x := b, y := c }]
    | .app _ [c, b, d] => [{ x := a }, { c := c, x := b, y := d }]
    | _ => [{ x := a }, { c := a }]
  | .app _ [a, b] =>
    let base : List P := [{ x := a, y := b, c := a, z := b }, { x := b, y := a, c := b, z := a }]
    let withConst : List P :=
      (match bvvOf b with
       | some (v, w) =>
         [{ x := a, c := a, c1 := v, c2 := v, w := w }] ++
         (match a with
          | .app _ [i, j] =>
            (match bvvOf j with | some (v1, _) => [{ x := i, c1 := v1, c2 := v, w := w }] | none => []) ++
            (match bvvOf i with | some (v1, _) => [{ x := j, c1 := v1, c2 := v, w := w }] | none => [])
          | _ => [])
       | none => []) ++
      (match bvvOf a with
       | some (v, w) => [{ x := b, c := b, c1 := v, c2 := v, w := w }]
       | none => [])
    let nested : List P :=
      (match a, b with
       | .app _ [i], .app _ [j] => [{ x := i, y := j }]
       | .app .ite [c0, _, _], .app .ite [c1, t1, _] =>
         (match bvvOf t1 with | some (_, w) => [{ c := c0, z := c1, w := w }] | none => [])
       | .app _ [i, j], .app _ [_, _] => [{ x := i, y := j }]
       | _, _ => [])
    let widthy : List P :=
      (match a.width with | some w => [{ x := a, w := w }] | none => []) ++
      (match a, bvvOf b with
       | .app (.zeroExt n) [y], some (v, w) => [{ y := y, n := n, c1 := v, w := w }, { y := y, n := n, c1 := v, c2 := (y.width.getD 0), w := w }]
       | .app .add xs, some (v, w) =>
         (match xs.getLast?, xs.dropLast with
          | some (.bvv v1 _), init => [{ xs := init, c1 := v1, c2 := v, w := w }]
          | _, _ => [])
       | .app .ite [c0, .bvv k1 w, .bvv k2 _], some _ => [{ c := c0, c1 := k1, c2 := k2, w := w }]
       | .app .concat [.bvv 0 n, y], some (v, w) => [{ y := y, n := n, c1 := v, c2 := (y.width.getD 0), w := w }]
       | _, _ => [])
    base ++ withConst ++ nested ++ widthy
  | .app _ [c, a, b] =>
    let base : List P := [{ c := c, x := a, y := b }]
    let n1 : List P := match a with
      | .app .ite [c', x, y] =>
        [{ c := c, x := x, y := y, z := b }] ++
        (match c' with | .app .not [_] => [{ c := c, x := x, y := y, z := b }] | _ => [])
      | _ => []
    let n2 : List P := match b with
      | .app .ite [_, x, y] => [{ c := c, x := x, y := y, z := a }]
      | _ => []
    base ++ n1 ++ n2
  | _ => []

/-- every (schema, rhs) whose instantiated lhs IS the node `t` and whose side condition holds -/
def candidates (t : Expr) : List (String × Expr) :=
  (proposals t).foldl (fun acc p =>
    (R.all ++ R.unproved).foldl (fun acc s =>
      if (s.lhs p == t) && s.side p && !(acc.any fun (n, _) => n == s.name) then acc ++ [(s.name, s.rhs p)] else acc) acc) []

end Claripy.AST
